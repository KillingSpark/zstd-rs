import Zstd.Basic
import Zstd.Spec.Frame
import Zstd.Model.FrameDecoder
import Zstd.Props.C01
import Zstd.Props.C02
import Zstd.Props.C03
import Zstd.Props.C04
import Zstd.Props.C05
import Zstd.Props.C06
import Zstd.Props.C07
import Zstd.Props.C08
import Zstd.Props.C09
import Zstd.Props.C10
import Zstd.Props.C11
import Zstd.Props.C12
import Zstd.Props.C13
import Zstd.Props.C14
import Zstd.Props.C15
import Zstd.Props.C16
import Zstd.Props.C17
import Zstd.Props.C18
import Zstd.Props.C19
import Zstd.Props.C20
