import Zstd.Proofs.RingReserve
/-
Operations that write new data into the free region (`extend`, `push_back`, `extend_and_fill`), each a
chain of `Filled` steps ended by `Filled.sound`.
-/
namespace Zstd.Model
open Zstd

namespace RingBuffer

variable {r r' : RingBuffer}

theorem Filled.append (hI : r.Inv) (hc : 0 < r.cap) {m : Mem} {data : List Byte} {t : Nat}
    (hF : Filled r m data t) (site : String) {off : Nat} {l : List Byte}
    (hl : ∀ i, i < l.length → l.getD i 0 = data.getD (t + i) 0) (hs : Seg r (r.len + t) l.length off)
    (hin : r.len + t + l.length ≤ r.cap) (hoff : off + l.length ≤ r.cap) :
    ∃ m', Mem.writeL site m off l = .ok m' ∧ Filled r m' data (t + l.length) := by
  obtain ⟨m', hw, hsz, hcell⟩ := Mem.writeL_ok (site := site) (l := l) (m := m) (off := off)
    (by rw [hF.size, hI.alloc]; exact hoff)
  exact ⟨m', hw, hF.grow hI hc hs hin hsz (fun j hj => by rw [hcell j, if_neg hj]) (Nat.le_refl _) fun i hi => by
    rw [hcell, if_pos (by omega), Nat.add_sub_cancel_left, hl i hi]⟩

/-- a write that does not count: the zero-fill and the failed `read_exact` of `extend_from_reader` overwrite free cells
from the `t`-th on -/
theorem Filled.scribble (hI : r.Inv) (hc : 0 < r.cap) {m : Mem} {data : List Byte} {t : Nat}
    (hF : Filled r m data t) (site : String) {off n : Nat} {l : List Byte} (hn : l.length ≤ n)
    (hs : Seg r (r.len + t) n off) (hin : r.len + t + n ≤ r.cap) (hoff : off + n ≤ r.cap) :
    ∃ m', Mem.writeL site m off l = .ok m' ∧ Filled r m' data t := by
  obtain ⟨m', hw, hsz, hcell⟩ := Mem.writeL_ok (site := site) (l := l) (m := m) (off := off)
    (by rw [hF.size, hI.alloc]; omega)
  exact ⟨m', hw, hF.frame hI hc (k := l.length) (hs.sub fun _ => ⟨Nat.le_refl _, by omega, rfl⟩) (by omega) hsz
    fun j hj => by rw [hcell j, if_neg hj]⟩

/-- where the two pieces of a write of `n ≤ free` bytes go.  The conjuncts are the hypotheses of `Filled.append` and
`Filled.scribble` at `t = 0` resp. `off = 0` as those lemmas produce them, hence `r.len + 0` and `0 + (n - k)` -/
theorem Slices.pieces {s1 s2 f1 f2 n k : Nat} (hS : Slices r s1 s2 f1 f2) (hn : n ≤ r.free) (hk : k = min f1 n) :
    (Seg r (r.len + 0) k r.tail ∧ r.len + 0 + k ≤ r.cap ∧ r.tail + k ≤ r.cap) ∧
    (Seg r (r.len + k) (n - k) 0 ∧ r.len + k + (n - k) ≤ r.cap ∧ 0 + (n - k) ≤ r.cap) := by
  have hfr := hS.free; have hcp := hS.cap; have hbd := hS.bounds
  have hb : f1 + r.tail ≤ r.cap := by rcases hS.geom with g | g <;> omega
  exact ⟨⟨hS.free1.sub (by omega), by omega, by omega⟩, hS.free2.sub (by omega), by omega, by omega⟩

theorem writeFree_ok (hI : r.Inv) (hc : 0 < r.cap) {data : List Byte} (hf : data.length ≤ r.free)
    (w1 w2 : String) {s1 s2 f1 f2 k : Nat} (hS : Slices r s1 s2 f1 f2) (hk : k = min f1 data.length) :
    ∃ m1 m2, Mem.writeL w1 r.mem r.tail (data.take k) = .ok m1 ∧
      Mem.writeL w2 m1 0 (data.drop k) = .ok m2 ∧ Filled r m2 data data.length := by
  obtain ⟨⟨hg1, hin1, hoff1⟩, hg2, hin2, hoff2⟩ := hS.pieces hf hk
  have hl1 : (data.take k).length = k := by rw [List.length_take]; omega
  have hl2 : (data.drop k).length = data.length - k := List.length_drop
  obtain ⟨m1, hw1, hF1⟩ := (Filled.refl r data).append hI hc w1 (off := r.tail) (l := data.take k)
    (fun i hi => by rw [getD_take (by omega), Nat.zero_add]) (by rwa [hl1]) (by rwa [hl1]) (by rwa [hl1])
  rw [hl1, Nat.zero_add] at hF1
  obtain ⟨m2, hw2, hF2⟩ := hF1.append hI hc w2 (off := 0) (l := data.drop k) (fun i hi => getD_drop)
    (by rwa [hl2]) (by rwa [hl2]) (by rwa [hl2])
  rw [hl2, show k + (data.length - k) = data.length by omega] at hF2
  exact ⟨m1, m2, hw1, hw2, hF2⟩

theorem Reserved.grown {r r1 r' : RingBuffer} {n : Nat} {data : List Byte} (hR : Reserved r r1 n)
    (hc1 : 0 < r1.cap) (hdl : data.length = n) (hF : Filled r1 r'.mem data data.length)
    (hcap : r'.cap = r1.cap) (hhead : r'.head = r1.head)
    (htail : r'.tail = (r1.tail + data.length) % r1.cap) : Grown r r' (r.abs ++ data) n := by
  have hS := hF.sound hR.inv hc1 (by rw [hdl]; exact hR.free) hcap hhead htail
  exact ⟨hS.1, by rw [hS.2.1, hR.abs], by rw [hS.2.2, hR.len, hdl], hR.capStep.trans_eq hcap⟩

theorem writeL_nil (site : String) (m : Mem) (off : Nat) : Mem.writeL site m off [] = .ok m := rfl

/-- the `if n > 0` around a write of `n` bytes makes no difference -/
theorem writeL_guard {c : Prop} [Decidable c] {site : String} {m : Mem} {off : Nat} {l : List Byte}
    (h : ¬ c → l = []) : (if c then Mem.writeL site m off l else pure m) = Mem.writeL site m off l := by
  split
  · rfl
  · rw [h ‹_›]; rfl

theorem extend_ok (hI : r.Inv) (data : List Byte) :
    ∃ r', r.extend data = .ok r' ∧ Grown r r' (r.abs ++ data) data.length := by
  unfold extend
  simp only []
  by_cases hd : data.length = 0
  · simp only [hd, ↓reduceIte, pure_eq_ok]
    have : data = [] := List.eq_nil_of_length_eq_zero hd
    exact ⟨r, rfl, hI, by simp [this], by omega, CapStep.of_eq rfl _⟩
  · simp only [hd, ↓reduceIte]
    obtain ⟨r1, s1, s2, f1, f2, hres, hR, hc1, efs, hS, hroom⟩ := reserve_slices hI (Nat.pos_of_ne_zero hd)
    have hI1 := hR.inv
    have hf1 := hR.free
    have hlf := hI1.len_free hc1
    rw [hres, ok_bind, hI1.lenC_eq, ok_bind, check_bind (by omega), hI1.freeC_eq, ok_bind, check_bind hf1, efs, ok_bind,
      check_bind hroom, check_bind (by omega)]
    obtain ⟨m1, m2, hw1, hw2, hF⟩ := writeFree_ok hI1 hc1 hf1
      "ringbuffer.rs:extend:write-f1" "ringbuffer.rs:extend:write-f2" hS (k := min data.length f1)
      (Nat.min_comm _ _)
    rw [writeL_guard (fun h => by rw [show min data.length f1 = 0 by omega]; rfl), hw1, ok_bind,
      writeL_guard (fun h => List.drop_eq_nil_of_le (by omega)), hw2, ok_bind, umod_ok hc1, ok_bind, pure_eq_ok]
    exact ⟨_, rfl, hR.grown hc1 rfl hF rfl rfl rfl⟩

theorem pushBack_ok (hI : r.Inv) (b : Byte) :
    ∃ r', r.pushBack b = .ok r' ∧ Grown r r' (r.abs ++ [b]) 1 := by
  unfold pushBack
  obtain ⟨r1, s1, s2, f1, f2, hres, hR, hc1, -, hS, -⟩ := reserve_slices hI Nat.one_pos
  rw [hres, ok_bind]
  have hI1 := hR.inv
  have hcp := hS.cap; have hbd := hS.bounds; have := hR.free
  -- the byte goes to the first free cell, which is at `tail`
  obtain ⟨m, hw, hF⟩ := (Filled.refl r1 [b]).append hI1 hc1 "ringbuffer.rs:push_back:write" (l := [b])
    (off := r1.tail) (fun i hi => by rw [Nat.zero_add]) (hS.free1.sub (by show 0 < 1 → _ ∧ _ + 1 ≤ _ ∧ _; rcases hS.geom with g | g <;> omega))
    (by show _ + 1 ≤ _; omega) (by show _ + 1 ≤ _; omega)
  rw [Mem.writeL_singleton] at hw
  rw [hw, ok_bind, umod_ok hc1, ok_bind, pure_eq_ok]
  exact ⟨_, rfl, hR.grown hc1 rfl hF rfl rfl rfl⟩

theorem extendAndFill_ok (hI : r.Inv) (b : Byte) (n : Nat) :
    ∃ r', r.extendAndFill b n = .ok r' ∧ Grown r r' (r.abs ++ List.replicate n b) n := by
  unfold extendAndFill
  by_cases hn : n = 0
  · subst hn
    simp only [↓reduceIte, pure_eq_ok]
    exact ⟨r, rfl, hI, by simp, by omega, CapStep.of_eq rfl _⟩
  · simp only [hn, ↓reduceIte]
    obtain ⟨r1, s1, s2, f1, f2, hres, hR, hc1, efs, hS, hroom⟩ := reserve_slices hI (Nat.pos_of_ne_zero hn)
    have hI1 := hR.inv
    have hf1 := hR.free
    rw [hres, ok_bind, efs, ok_bind, check_bind hroom]
    have hf1' : (List.replicate n b).length ≤ r1.free := by simpa using hf1
    obtain ⟨m1, m2, hw1, hw2, hF⟩ := writeFree_ok hI1 hc1 hf1'
      "ringbuffer.rs:extend_and_fill:write1" "ringbuffer.rs:extend_and_fill:write2" hS
      (k := min f1 n) (by rw [List.length_replicate])
    rw [List.take_replicate, Nat.min_eq_left (Nat.min_le_right _ _)] at hw1
    rw [List.drop_replicate] at hw2
    rw [hw1, ok_bind, writeL_guard (fun h => by rw [show n - min f1 n = 0 by omega]; rfl), hw2, ok_bind,
      umod_ok hc1, ok_bind, pure_eq_ok]
    exact ⟨_, rfl, hR.grown hc1 List.length_replicate hF rfl rfl (by simp)⟩

end RingBuffer

end Zstd.Model
