import Zstd.Model.FrameDecoder
import Zstd.Proofs.FrameDecoderBlocks
import Zstd.Proofs.SeqCodes
/-
Sequence execution on a buffer that may have been drained, against the RFC: `DBuf.repeat` against `Spec.matchCopy`;
the two invariants that pass from block to block, `CounterOk` and `Retained`, carried by `Grows`; `executeSequences`
against `Spec.execSequences` (`executeSequences_sim`); and `repeatRust`, `DecodeBuffer::repeat` statement by statement.
Namespace `Zstd.Proofs.DictCopy`; the closed form and the inversion of `DBuf.repeat` (`DBuf.repeat_eq`, `DBuf.repeat_ok_cases`)
are in Proofs/FrameDecoderBuf.lean (`Zstd.Model`).
-/
namespace Zstd.Proofs.DictCopy
open Zstd Zstd.Model

theorem matchCopy_some_pos (dict : Array Nat) (n offset : Nat) (out out' : Array Nat)
    (hn : 0 < n) (h : Spec.matchCopy dict n offset out = some out') : 0 < offset :=
  (Spec.matchCopy_some_bounds dict n offset out out' hn h).1

theorem matchCopy_within (dict : Array Nat) : ∀ (n offset : Nat) (out : Array Nat),
    0 < offset → offset ≤ out.size →
    Spec.matchCopy dict n offset out = some (copyWithin n offset out) := by
  intro n
  induction n with
  | zero => intro offset out _ _; rfl
  | succ n ih =>
    intro offset out hpos hle
    rw [Spec.matchCopy_succ, Spec.histByte_within dict hpos hle, copyWithin]
    exact ih offset _ hpos (by simp; omega)

/-- straddling: `offset - out.size` bytes come from the end of the dictionary, the rest is an overlapping copy
inside the output at the SAME offset — by then the whole length of the output (the Rust code's
`self.repeat(self.buffer.len(), …)`) -/
theorem matchCopy_straddle (dict : Array Nat) (n offset : Nat) (out : Array Nat)
    (hlt : out.size < offset) (hle : offset - out.size ≤ dict.size) (hn : offset - out.size < n) :
    Spec.matchCopy dict n offset out =
      some (copyWithin (n - (offset - out.size)) offset
              (out ++ dict.extract (dict.size - (offset - out.size)) dict.size)) := by
  have hsz : (out ++ dict.extract (dict.size - (offset - out.size)) dict.size).size = offset := by
    rw [Array.size_append, dict_tail_size dict _ hle]; omega
  rw [show n = (offset - out.size) + (n - (offset - out.size)) by omega, Spec.matchCopy_add,
    Spec.matchCopy_fromDict dict _ offset out hlt hle (Nat.le_refl _), Option.bind_some,
    show dict.size - (offset - out.size) + (offset - out.size) = dict.size by omega,
    show offset - out.size + (n - (offset - out.size)) - (offset - out.size) = n - (offset - out.size) by omega]
  exact matchCopy_within dict _ offset _ (by omega) (by omega)

theorem repeat_ok_matchCopy (b b' : DBuf) (offset ml : Nat)
    (h : b.repeat offset ml = .ok b') (hpos : 0 < offset) :
    Spec.matchCopy b.dict ml offset b.content = some b'.content := by
  rcases DBuf.repeat_ok_cases h with ⟨h1, rfl⟩ | ⟨h1, -, h3, ⟨h4, rfl⟩ | ⟨h4, rfl⟩⟩
  · exact matchCopy_within b.dict ml offset b.content hpos h1
  · exact matchCopy_straddle b.dict ml offset b.content h1 h3 h4
  · exact Spec.matchCopy_fromDict b.dict ml offset b.content h1 h3 h4

theorem repeat_frame (b b' : DBuf) (offset ml : Nat) (h : b.repeat offset ml = .ok b') :
    b'.dict = b.dict ∧ b'.window = b.window ∧ b'.hashed = b.hashed ∧
    (b'.totalOut = b.totalOut + ml ∨ (b'.totalOut = b.totalOut ∧ b.content.size + ml ≤ offset)) := by
  rcases DBuf.repeat_ok_cases h with ⟨-, rfl⟩ | ⟨h1, -, -, ⟨-, rfl⟩ | ⟨h4, rfl⟩⟩
  · exact ⟨rfl, rfl, rfl, .inl rfl⟩
  · exact ⟨rfl, rfl, rfl, .inl rfl⟩
  · exact ⟨rfl, rfl, rfl, .inr ⟨rfl, by omega⟩⟩

theorem repeat_size (b b' : DBuf) (offset ml : Nat) (h : b.repeat offset ml = .ok b') :
    b'.content.size = b.content.size + ml := by
  obtain ⟨x, hx, hs⟩ := DBuf.repeat_extends h
  rw [hx.size, hs]

theorem repeat_isOk_iff (b : DBuf) (offset ml : Nat) :
    (∃ b', b.repeat offset ml = .ok b') ↔
      (offset > b.content.size → b.totalOut ≤ b.window ∧ offset ≤ b.content.size + b.dict.size) := by
  constructor
  · rintro ⟨b', h⟩ h1
    rcases DBuf.repeat_ok_cases h with ⟨h2, -⟩ | ⟨-, h2, h3, -⟩
    · omega
    · exact ⟨h2, by omega⟩
  · intro hc
    rw [DBuf.repeat_eq]
    by_cases h1 : offset > b.content.size
    · obtain ⟨h2, h3⟩ := hc h1
      rw [if_pos h1, if_pos h2, if_neg (by omega)]
      split <;> exact ⟨_, rfl⟩
    · rw [if_neg h1]
      exact ⟨_, rfl⟩

/-- what a block does to the buffer, sizes only: `DBuf.Extends` without the bytes appended (`DBuf.Extends.grows`), which
is all that `CounterOk` and `Retained` need to pass from block to block -/
structure Grows (b b' : DBuf) : Prop where
  hashed : b'.hashed = b.hashed
  window : b'.window = b.window
  dict : b'.dict = b.dict
  size : b.content.size ≤ b'.content.size
  count : b'.totalOut + b.content.size ≤ b.totalOut + b'.content.size

theorem Grows.refl (b : DBuf) : Grows b b := ⟨rfl, rfl, rfl, Nat.le_refl _, Nat.le_refl _⟩

theorem Grows.trans {a b c : DBuf} (h1 : Grows a b) (h2 : Grows b c) : Grows a c :=
  ⟨h2.hashed.trans h1.hashed, h2.window.trans h1.window, h2.dict.trans h1.dict,
   Nat.le_trans h1.size h2.size, by have := h1.count; have := h2.count; have := h1.size; omega⟩

theorem _root_.Zstd.Model.DBuf.Extends.grows {b b' : DBuf} {x : Array Nat} (h : DBuf.Extends b b' x) : Grows b b' :=
  ⟨h.hashed, h.window, h.dict, by rw [h.size]; omega, by rw [h.size]; have := h.count; omega⟩

theorem grows_push (b : DBuf) (data : Array Nat) : Grows b (b.push data) := (DBuf.push_extends b data).grows

theorem grows_repeat (b b' : DBuf) (offset ml : Nat) (h : b.repeat offset ml = .ok b') : Grows b b' :=
  have ⟨_, hx, _⟩ := DBuf.repeat_extends h
  hx.grows

/-- `seqCopy`, here and below: the guarded match copy of one sequence, `if match_length > 0 { repeat }` -/
theorem grows_seqCopy (b b' : DBuf) (offset ml : Nat)
    (h : (if ml > 0 then b.repeat offset ml else .ok b) = .ok b') : Grows b b' := by
  split at h
  · exact grows_repeat b b' offset ml h
  · cases h; exact Grows.refl b

theorem grows_decodeOneBlock {σ : Type} [BlockDec σ] [BlockContract σ] (st : FState σ) (s : Src) :
    Grows st.buf (decodeOneBlock st s).1.buf := by
  obtain ⟨hb, hc⟩ := decodeOneBlock_step_counted st s
  obtain ⟨x, hx, -⟩ := hb.appends
  exact ⟨hx.hashed, hx.window, hx.dict, by rw [hx.size]; omega, hc⟩

/-- `total_output_counter` (`totalOut`) never over-counts: the bytes a frame has really produced are those already
drained plus those still buffered, `hashed.size + content.size` (every drain goes through `DBuf.take`, which feeds the
hasher) -/
def CounterOk (b : DBuf) : Prop := b.totalOut ≤ b.hashed.size + b.content.size

theorem Grows.count_le {b b' : DBuf} (g : Grows b b') {k : Nat} (h : b.totalOut ≤ k + b.content.size) :
    b'.totalOut ≤ k + b'.content.size := by
  have := g.count; have := g.size; omega

theorem Grows.counterOk {b b' : DBuf} (g : Grows b b') (h : CounterOk b) : CounterOk b' := by
  simp only [CounterOk, g.hashed] at *; exact g.count_le h

theorem counterOk_reset (b : DBuf) (w : Nat) : CounterOk (b.reset w) := by
  simp [CounterOk, DBuf.reset]

theorem counterOk_push (b : DBuf) (data : Array Nat) (h : CounterOk b) : CounterOk (b.push data) :=
  (grows_push b data).counterOk h

theorem counterOk_repeat (b b' : DBuf) (offset ml : Nat) (hr : b.repeat offset ml = .ok b')
    (h : CounterOk b) : CounterOk b' :=
  (grows_repeat b b' offset ml hr).counterOk h

theorem counterOk_take (b : DBuf) (n : Nat) (h : CounterOk b) : CounterOk (b.take n).2 := by
  simp only [CounterOk, DBuf.take, Array.size_append, Array.size_extract] at *; omega

/-- what Raw and RLE blocks do (`extend_from_reader`, `extend_and_fill`): appended, not counted -/
theorem counterOk_append (b : DBuf) (data : Array Nat) (h : CounterOk b) :
    CounterOk { b with content := b.content ++ data } :=
  (DBuf.append_extends b data).grows.counterOk h

theorem counterOk_executeSequences (seqs : List Spec.Seq) (lits : List Nat) (h : Nat × Nat × Nat)
    (seqSum : Nat) (b : DBuf) (hb : CounterOk b) : CounterOk (executeSequences seqs lits h seqSum b).1.1 :=
  have ⟨_, hx, _⟩ := executeSequences_extends seqs lits h seqSum b
  hx.grows.counterOk hb

theorem repeat_eq_matchCopy (b : DBuf) (offset ml : Nat) (out' : Array Nat)
    (hpos : 0 < offset) (hml : 0 < ml ∨ offset ≤ b.content.size + b.dict.size)
    (h : Spec.matchCopy b.dict ml offset b.content = some out')
    (hw : offset > b.content.size → b.totalOut ≤ b.window) :
    ∃ b', b.repeat offset ml = .ok b' ∧ b'.content = out' ∧ b'.dict = b.dict ∧
      b'.window = b.window ∧ b'.hashed = b.hashed := by
  have hreach : offset ≤ b.content.size + b.dict.size :=
    hml.elim (fun hml => (Spec.matchCopy_some_bounds _ _ _ _ _ hml h).2) id
  obtain ⟨b', hb'⟩ := (repeat_isOk_iff b offset ml).mpr (fun h1 => ⟨hw h1, hreach⟩)
  have hc := repeat_ok_matchCopy b b' offset ml hb' hpos
  rw [h] at hc
  obtain ⟨hd, hwin, hh, _⟩ := repeat_frame b b' offset ml hb'
  exact ⟨b', hb', (Option.some.inj hc).symm, hd, hwin, hh⟩

theorem seqCopy_eq_matchCopy (b : DBuf) (offset ml : Nat) (out' : Array Nat)
    (hpos : 0 < offset)
    (h : Spec.matchCopy b.dict ml offset b.content = some out')
    (hw : offset > b.content.size → b.totalOut ≤ b.window) :
    ∃ b', (if ml > 0 then b.repeat offset ml else .ok b) = .ok b' ∧ b'.content = out' ∧
      b'.dict = b.dict ∧ b'.window = b.window ∧ b'.hashed = b.hashed := by
  by_cases hml : ml > 0
  · simp only [hml, ↓reduceIte]
    exact repeat_eq_matchCopy b offset ml out' hpos (.inl hml) h hw
  · have : ml = 0 := by omega
    subst this
    simp only [Spec.matchCopy, Option.some.injEq] at h
    exact ⟨b, by simp, h, rfl, rfl, rfl⟩

/-! ### a whole block: `executeSequences` refines `Spec.execSequences`, dictionary included

The Spec works on everything the frame has produced so far; the model's buffer holds only what has
not been drained yet.  The full output is `hashed ++ content` (drains move bytes from the front of
`content` to the hasher). -/

/-- enough history is retained: the buffer holds at least the last `window` bytes of the output —
or all of it.  (`drain_to_window_size`, the only drain before the frame is finished, keeps this.)  The same
predicate on a `Decoder` is `Retains` (Proofs/FrameDecoderTwin.lean: `hashed = #[] ∨ window ≤ content.size`); the field
`retains` of `Follows` / `Sim` is that disjunction with `window < out.size` added to its second half. -/
def Retained (b : DBuf) : Prop := min b.window (b.hashed.size + b.content.size) ≤ b.content.size

theorem Grows.retain_le {b b' : DBuf} (g : Grows b b') {k : Nat}
    (h : min b.window (k + b.content.size) ≤ b.content.size) : min b'.window (k + b'.content.size) ≤ b'.content.size := by
  have := g.size; rw [g.window]; omega

theorem Grows.retained {b b' : DBuf} (g : Grows b b') (h : Retained b) : Retained b' := by
  simp only [Retained, g.hashed] at *; exact g.retain_le h

theorem retained_reset (b : DBuf) (w : Nat) : Retained (b.reset w) := by
  simp [Retained, DBuf.reset]

/-- `hn`: what `can_drain_to_window_size` allows -/
theorem retained_take (b : DBuf) (n : Nat) (hn : n + b.window ≤ b.content.size) :
    Retained (b.take n).2 := by
  simp only [Retained, DBuf.take, Array.size_append, Array.size_extract] at *
  omega

/-- `d` = what is no longer buffered: the RFC copy runs on the whole output `d ++ b.content` -/
theorem seqCopy_refines (d : Array Nat) (b : DBuf) (offset ml : Nat) (out2 : Array Nat)
    (hpos : 0 < offset) (hinv : b.totalOut ≤ d.size + b.content.size)
    (hret : min b.window (d.size + b.content.size) ≤ b.content.size)
    (hspec : Spec.matchCopy b.dict ml offset (d ++ b.content) = some out2)
    (hwin : if offset > (d ++ b.content).size
              then (d ++ b.content).size ≤ b.window ∧ offset - (d ++ b.content).size ≤ b.dict.size
              else offset ≤ b.window) :
    ∃ b2, (if ml > 0 then b.repeat offset ml else .ok b) = .ok b2 ∧ d ++ b2.content = out2 ∧ Grows b b2 := by
  simp only [Array.size_append] at hwin
  split at hwin
  · -- reaching into the dictionary: the buffer still holds the whole output
    have hd : d = #[] := Array.eq_empty_of_size_eq_zero (by omega)
    subst hd
    rw [Array.empty_append] at hspec
    obtain ⟨b2, hb2, hc, -⟩ := seqCopy_eq_matchCopy b offset ml out2 hpos hspec (fun _ => by simp at hinv; omega)
    exact ⟨b2, hb2, by rw [Array.empty_append, hc], grows_seqCopy b b2 offset ml hb2⟩
  · have hle : offset ≤ b.content.size := by omega
    -- a match inside the retained part does not see what is in front of it
    rw [matchCopy_within b.dict ml offset _ hpos (by simp only [Array.size_append]; omega),
      copyWithin_drop ml offset d b.content hle] at hspec
    obtain ⟨b2, hb2, hc, -⟩ := seqCopy_eq_matchCopy b offset ml _ hpos
      (matchCopy_within b.dict ml offset b.content hpos hle) (fun h => by omega)
    exact ⟨b2, hb2, by rw [hc]; exact Option.some.inj hspec, grows_seqCopy b b2 offset ml hb2⟩

theorem offsetHistory_refines (ov ll : Nat) (h : Spec.OffHist) (hov : ov ≥ 1) :
    doOffsetHistory ov ll (h.r1, h.r2, h.r3) =
      .ok ((Spec.repeatOffsets ov (ll = 0) h).1,
           ((Spec.repeatOffsets ov (ll = 0) h).2.r1, (Spec.repeatOffsets ov (ll = 0) h).2.r2,
            (Spec.repeatOffsets ov (ll = 0) h).2.r3)) := by
  have := Zstd.Proofs.SeqCodes.doOffsetHistory_eq_rfc ov ll h hov
  rwa [show (ll == 0) = decide (ll = 0) by cases ll <;> rfl] at this

theorem litPush_grows (b : DBuf) (lits : List Nat) (ll : Nat) :
    (if ll > 0 then b.push (lits.take ll).toArray else b).content = b.content ++ (lits.take ll).toArray ∧
      Grows b (if ll > 0 then b.push (lits.take ll).toArray else b) := by
  split
  · exact ⟨rfl, grows_push _ _⟩
  · have : ll = 0 := by omega
    subst this
    exact ⟨by simp, Grows.refl b⟩

/-- A whole block against the RFC executor, the Spec's output being `d ++ b.content` for whatever `d` is no longer in the
buffer (nothing: a decoder that was never drained; `b.hashed`: one drained in any way).  `Grows` carries the two
hypotheses on the buffer over to the next block. -/
theorem executeSequences_sim (window : Nat) (dict d : Array Nat) :
    ∀ (seqs : List Spec.Seq) (lits : List Nat) (hist : Spec.OffHist) (out out' : Array Nat)
      (h' : Spec.OffHist) (seqSum : Nat) (b : DBuf),
      Spec.execSequences window dict seqs lits hist out = some (out', h') →
      (∀ s ∈ seqs, s.ov ≥ 1) →
      b.dict = dict → b.window = window → d ++ b.content = out →
      b.totalOut ≤ d.size + b.content.size → min b.window (d.size + b.content.size) ≤ b.content.size →
      seqSum + (out'.size - out.size) ≤ Gen.maxBlockSize →
      ∃ b', executeSequences seqs lits (hist.r1, hist.r2, hist.r3) seqSum b
              = ((b', (h'.r1, h'.r2, h'.r3)), .ok ()) ∧ Grows b b' ∧ d ++ b'.content = out' := by
  intro seqs
  induction seqs with
  | nil =>
    intro lits hist out out' h' seqSum b hs _ hd hw hout hinv hret hsum
    simp only [Spec.execSequences, Option.some.injEq, Prod.mk.injEq] at hs
    obtain ⟨rfl, rfl⟩ := hs
    unfold executeSequences
    split
    · rename_i hemp
      have : lits = [] := by simpa using hemp
      subst this
      exact ⟨b, rfl, Grows.refl b, by simpa using hout⟩
    · rw [if_neg (by simp only [Array.size_append, List.size_toArray] at hsum; omega)]
      exact ⟨_, rfl, grows_push b lits.toArray, by rw [← hout]; simp [DBuf.push]⟩
  | cons s rest ih =>
    intro lits hist out out' h' seqSum b hs hov hd hw hout hinv hret hsum
    subst hd hw hout
    obtain ⟨hll, hne, hwin, out2, hm, hrest⟩ := Spec.execSequences_cons hs
    have hsz2 := Spec.matchCopy_size _ _ _ _ _ hm
    have hmono2 := Spec.execSequences_size_le _ _ _ _ _ _ _ _ hrest
    have hlen : (lits.take s.ll).length = s.ll := by simp; omega
    simp only [Array.size_append, List.size_toArray, hlen] at hsz2
    obtain ⟨hc1, g1⟩ := litPush_grows b lits s.ll
    rw [executeSequences, if_neg (by simp only [Array.size_append] at hsum; omega), if_neg (by omega),
      offsetHistory_refines s.ov s.ll hist (hov s (by simp))]
    generalize (if s.ll > 0 then b.push (lits.take s.ll).toArray else b) = b1 at hc1 g1 ⊢
    generalize Spec.repeatOffsets s.ov (decide (s.ll = 0)) hist = ro at hne hwin hm hrest ⊢
    obtain ⟨offset, hist1⟩ := ro
    simp only [] at hne hwin hm hrest ⊢
    have hout1 : d ++ b1.content = d ++ b.content ++ (lits.take s.ll).toArray := by
      rw [hc1, Array.append_assoc]
    rw [← hout1, ← g1.dict] at hm hwin
    rw [← g1.window] at hwin
    obtain ⟨b2, hb2, hc2, g2⟩ :=
      seqCopy_refines d b1 offset s.ml out2 (by omega) (g1.count_le hinv) (g1.retain_le hret) hm hwin
    have g := g1.trans g2
    simp only [if_neg hne, hb2]
    obtain ⟨b', hb', g', hc'⟩ :=
      ih (lits.drop s.ll) hist1 out2 out' h' (seqSum + s.ml + s.ll) b2 hrest
        (fun t ht => hov t (by simp [ht])) g.dict g.window hc2
        (g.count_le hinv) (g.retain_le hret) (by simp only [Array.size_append] at hsum; omega)
    exact ⟨b', hb', g.trans g', hc'⟩

theorem executeSequences_refines (window : Nat) (dict : Array Nat) :
    ∀ (seqs : List Spec.Seq) (lits : List Nat) (hist : Spec.OffHist) (out out' : Array Nat)
      (h' : Spec.OffHist) (seqSum : Nat) (b : DBuf),
      Spec.execSequences window dict seqs lits hist out = some (out', h') →
      (∀ s ∈ seqs, s.ov ≥ 1) →
      b.dict = dict → b.window = window → b.hashed ++ b.content = out →
      CounterOk b → Retained b →
      seqSum + (out'.size - out.size) ≤ Gen.maxBlockSize →
      ∃ b', executeSequences seqs lits (hist.r1, hist.r2, hist.r3) seqSum b
              = ((b', (h'.r1, h'.r2, h'.r3)), .ok ()) ∧
        b'.hashed = b.hashed ∧ b.hashed ++ b'.content = out' ∧ b'.dict = dict ∧ b'.window = window ∧
        CounterOk b' ∧ Retained b' := by
  intro seqs lits hist out out' h' seqSum b hs hov hd hw hout hinv hret hsum
  obtain ⟨b', hb', g, hc⟩ :=
    executeSequences_sim window dict b.hashed seqs lits hist out out' h' seqSum b hs hov hd hw hout hinv hret hsum
  exact ⟨b', hb', g.hashed, hc, g.dict.trans hd, g.window.trans hw, g.counterOk hinv, g.retained hret⟩

/-! ### one level closer to the Rust: `extend_from_within`, `repeat_in_chunks`, the re-entry

`DBuf.repeat` describes the in-buffer copy as the byte-by-byte `copyWithin`.  The Rust code copies
slices: `extend_from_within_unchecked(start, len)` when source and destination do not overlap, and
`repeat_in_chunks` (chunks of `offset` bytes) when they do; the straddling case re-enters `repeat`
with `offset = self.buffer.len()`.  `repeatRust` below follows those statements one by one on the
abstract content; `repeatRust_eq` proves it equal to `DBuf.repeat` for every offset ≥ 1.  No model definition refers to
the four definitions. -/

/-- `RingBuffer::extend_from_within_unchecked(start, len)` on the abstract content
(pre: `start + len ≤ c.size`) -/
def extendFromWithin (c : Array Nat) (start len : Nat) : Array Nat := c ++ c.extract start (start + len)

/-- the `while copied_counter_left > 0` loop of `repeat_in_chunks`; fuel = an upper bound of the
number of iterations (`left` suffices when `offset ≥ 1`; with `offset = 0` the Rust loop does not
terminate) -/
def repeatInChunks (offset : Nat) : Nat → Nat → Nat → Array Nat → Array Nat
  | 0, _, _, c => c
  | fuel + 1, left, start, c =>
    if left > 0 then
      let chunk := min offset left
      repeatInChunks offset fuel (left - chunk) (start + chunk) (extendFromWithin c start chunk)
    else c

/-- the `else` branch of `DecodeBuffer::repeat` (`offset ≤ self.buffer.len()`) -/
def repeatWithin (b : DBuf) (offset ml : Nat) : DBuf :=
  let bufLen := b.content.size
  let startIdx := bufLen - offset
  let endIdx := startIdx + ml
  { b with
    content := if endIdx > bufLen then repeatInChunks offset ml ml startIdx b.content
               else extendFromWithin b.content startIdx ml,
    totalOut := b.totalOut + ml }

/-- `DecodeBuffer::repeat` + `repeat_from_dict`, statement by statement -/
def repeatRust (b : DBuf) (offset ml : Nat) : Except DErr DBuf :=
  if offset > b.content.size then
    if b.totalOut ≤ b.window then
      let fromDict := offset - b.content.size
      if fromDict > b.dict.size then .error .execNotEnoughDict
      else if fromDict < ml then
        let b1 := { b with content := b.content ++ b.dict.extract (b.dict.size - fromDict) b.dict.size,
                            totalOut := b.totalOut + fromDict }
        -- `return self.repeat(self.buffer.len(), match_length - bytes_from_dict)`:
        -- `offset > self.buffer.len()` is false there, so it is the `else` branch
        .ok (repeatWithin b1 b1.content.size (ml - fromDict))
      else
        let low := b.dict.size - fromDict
        .ok { b with content := b.content ++ b.dict.extract low (low + ml) }
    else .error .execOffsetTooBig
  else .ok (repeatWithin b offset ml)

theorem copyWithin_add (offset a k : Nat) (c : Array Nat) :
    copyWithin (a + k) offset c = copyWithin k offset (copyWithin a offset c) := by
  apply Array.toList_inj.mp
  rw [copyWithin_toList, copyWithin_toList, copyWithin_toList, overlapCopy_add]

theorem copyWithin_noOverlap (offset k : Nat) (c : Array Nat) (hle : offset ≤ c.size) (hk : k ≤ offset) :
    copyWithin k offset c = extendFromWithin c (c.size - offset) k := by
  apply Array.toList_inj.mp
  rw [copyWithin_toList, overlapCopy_le _ _ (by simpa using hle) _ hk]
  simp only [Queue.copyWithin, extendFromWithin, Array.toList_append, Array.toList_extract, Array.length_toList,
    List.extract_eq_take_drop, Nat.add_sub_cancel_left]

theorem repeatInChunks_eq (offset : Nat) : ∀ (fuel left : Nat) (c : Array Nat),
    0 < offset → offset ≤ c.size → left ≤ fuel →
    repeatInChunks offset fuel left (c.size - offset) c = copyWithin left offset c := by
  intro fuel
  induction fuel with
  | zero =>
    intro left c _ _ hl
    have : left = 0 := by omega
    subst this; rfl
  | succ fuel ih =>
    intro left c hpos hle hl
    unfold repeatInChunks
    split
    · rename_i hl0
      simp only []
      obtain ⟨m, hm, hchunk, hml, hm0⟩ : ∃ m, min offset left = m ∧ m ≤ offset ∧ m ≤ left ∧ 0 < m :=
        ⟨_, rfl, Nat.min_le_left _ _, Nat.min_le_right _ _, by omega⟩
      rw [hm, ← copyWithin_noOverlap offset m c hle hchunk]
      have hsz := copyWithin_size m offset c
      have hstart : c.size - offset + m = (copyWithin m offset c).size - offset := by rw [hsz, Nat.sub_add_comm hle]
      rw [hstart, ih _ _ hpos (by omega) (by omega), ← copyWithin_add]
      congr 1
      omega
    · have : left = 0 := by omega
      subst this; rfl

theorem repeatWithin_eq (b : DBuf) (offset ml : Nat) (hpos : 0 < offset) (hle : offset ≤ b.content.size) :
    repeatWithin b offset ml =
      { b with content := copyWithin ml offset b.content, totalOut := b.totalOut + ml } := by
  unfold repeatWithin
  simp only []
  split
  · rw [repeatInChunks_eq offset ml ml b.content hpos hle (Nat.le_refl _)]
  · rw [copyWithin_noOverlap offset ml b.content hle (by omega)]

theorem repeatRust_eq (b : DBuf) (offset ml : Nat) (hpos : 0 < offset) :
    repeatRust b offset ml = b.repeat offset ml := by
  rw [DBuf.repeat_eq]
  unfold repeatRust
  by_cases h1 : offset > b.content.size
  · by_cases h3 : offset - b.content.size > b.dict.size
    · simp only [h1, h3, if_true]
    · by_cases h4 : offset - b.content.size < ml
      · have hsz : (b.content ++ b.dict.extract (b.dict.size - (offset - b.content.size)) b.dict.size).size
            = offset := by
          rw [Array.size_append, dict_tail_size b.dict _ (by omega)]; omega
        simp only [h1, h3, h4, if_true, if_false, hsz]
        rw [repeatWithin_eq _ offset _ hpos (by simp only [hsz]; omega)]
        simp only [show b.totalOut + (offset - b.content.size) + (ml - (offset - b.content.size)) = b.totalOut + ml by omega]
      · simp only [h1, h3, h4, if_true, if_false]
  · simp only [h1, if_false, repeatWithin_eq b offset ml hpos (by omega)]

/-- with `offset = 0` every chunk is empty: the loop makes no progress whatever the fuel (the Rust
`while copied_counter_left > 0` spins forever); unreachable from `execute_sequences`, which
rejects offset 0 first (`execZeroOffset`) -/
theorem repeatInChunks_offset_zero_stuck : ∀ (fuel left start : Nat) (c : Array Nat),
    repeatInChunks 0 fuel left start c = c := by
  intro fuel
  induction fuel with
  | zero => intro left start c; rfl
  | succ fuel ih =>
    intro left start c
    unfold repeatInChunks
    split
    · simp only [Nat.zero_min, Nat.add_zero, Nat.sub_zero]
      rw [ih]
      simp only [extendFromWithin, Nat.add_zero]
      rw [Array.extract_empty_of_stop_le_start (Nat.le_refl _), Array.append_empty]
    · rfl

end Zstd.Proofs.DictCopy
