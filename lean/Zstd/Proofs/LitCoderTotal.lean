import Zstd.Proofs.LitCoder
/-
TOTALITY of the real `compress_literals` on what `compress_block`
can hand it from a reachable encoder state.

`compress_literals` is NOT total on arbitrary arguments of the model's types (see
`Props.C16.lit_coder_total_unrestricted_false`): the model's bytes are `Nat`s (a literal ≥ 256 has no
code), and a remembered table is an arbitrary code list (a garbage table faults in the bit writer).
What is true, and what the frame-level theorems need:

  for byte strings (`< 256`) of 1 … 128 Ki literals, from a remembered table that is canonical
  (`GoodTable`: it came out of `build_from_data`), `compress_literals` returns, and the table it
  returns is canonical again —

provided `write_table` does not hit `assert!(encoded_len < 128)` on the new table (`FseWeightsLt128`; by
`writeTable_canon_or_assert` that assert is the ONLY reachable panic site).  `FseWeightsLt128` holds
(`fseWeightsLt128_holds`, an instance of `writeTable_total`); the `_or_assert` theorems do not use it.
-/
namespace Zstd.Proofs.LitCoder
open Zstd Zstd.Model Zstd.Model.Huf Zstd.Model.Enc Zstd.Proofs.Huf Zstd.Proofs.Enc

/-- C13's `fse_weights_lt_128` in the form used here: `write_table` succeeds on every table `build_from_data`
returns for a byte string (`fseWeightsLt128_holds`) -/
def FseWeightsLt128 : Prop :=
  ∀ (lits : List Nat) (t : EncTable), (∀ b ∈ lits, b < 256) → buildFromData lits = .ok t →
    ∃ desc, writeTable Enc.fseWeights t = .ok desc

theorem fseWeightsLt128_holds : FseWeightsLt128 := by
  intro lits t _ hb
  exact writeTable_total (countsOf lits) t (buildFromCounts_two hb).1 hb

theorem canEncodeLoop_some : ∀ (os ss : List (Nat × Nat)) (sum r : Nat), canEncodeLoop os ss sum = some r →
    ∀ i (h : i < os.length) (h' : i < ss.length), os[i].2 ≠ 0 → ss[i].2 ≠ 0
  | [], _, _, _, _ => by intro i h; simp at h
  | _ :: _, [], _, _, _ => by intro i _ h'; simp at h'
  | (a, o) :: os, (b, s) :: ss, sum, r, hr => by
    simp only [canEncodeLoop] at hr
    by_cases hc : o ≠ 0 ∧ s = 0
    · rw [if_pos hc] at hr; cases hr
    · rw [if_neg hc] at hr
      intro i h h' hne
      cases i with
      | zero =>
        simp only [List.getElem_cons_zero] at hne ⊢
        intro h0; exact hc ⟨hne, h0⟩
      | succ i =>
        simp only [List.getElem_cons_succ] at hne ⊢
        exact canEncodeLoop_some os ss _ r hr i (by simpa using h) (by simpa using h') hne

theorem canEncode_some {self other : EncTable} {diff : Nat} (h : canEncode self other = some diff) :
    ∀ i (hi : i < other.codes.length), other.codes[i].2 ≠ 0 →
      ∃ h' : i < self.codes.length, self.codes[i].2 ≠ 0 := by
  unfold canEncode at h
  by_cases hl : other.codes.length > self.codes.length
  · rw [if_pos hl] at h; cases h
  · rw [if_neg hl] at h
    intro i hi hne
    have h' : i < self.codes.length := by omega
    exact ⟨h', canEncodeLoop_some _ _ _ _ h i hi h' hne⟩

theorem encodable_of_canEncode {tp newT : EncTable} {wd wd' : List Nat} {m m' diff : Nat}
    (c : CanonTable newT wd m) (c' : CanonTable tp wd' m') (h : canEncode tp newT = some diff)
    {lits : List Nat} (he : Encodable wd lits) : Encodable wd' lits := by
  intro s hs
  obtain ⟨hs1, hw⟩ := he s hs
  have ok := c.codesOk
  have hsc : s < newT.codes.length := by rw [ok.len]; exact hs1
  obtain ⟨_, q⟩ := c.code s newT.codes[s] (List.getElem?_eq_getElem hsc)
  have hwm := c.le wd[s] (List.getElem_mem _)
  have hne : newT.codes[s].2 ≠ 0 := by rw [q, if_neg (by omega)]; omega
  obtain ⟨hs2, hne'⟩ := canEncode_some h s hsc hne
  obtain ⟨hs3, q'⟩ := c'.code s tp.codes[s] (List.getElem?_eq_getElem hs2)
  refine ⟨hs3, ?_⟩
  apply Classical.byContradiction
  intro h0
  rw [q', if_pos (by omega)] at hne'
  exact hne' rfl

theorem litTail_total (lits : List Byte) (newT table : EncTable) (newTable : Bool) {wd : List Nat} {m : Nat}
    (c : CanonTable table wd m) (henc : Encodable wd lits) (hmax : lits.length ≤ 131072)
    (hwt : newTable = true → ∃ desc, writeTable fseWeights table = .ok desc) :
    ∃ bytes tret, litTail lits newT table newTable = .ok (bytes, tret) ∧ (tret = none ∨ tret = some newT) := by
  obtain ⟨sf, sb, hf⟩ := litSizeFormat_ok lits.length hmax
  obtain ⟨_, _, hsf0, _⟩ := litSizeFormat_arm hf
  have hdesc : ∃ desc, (if newTable then writeTable fseWeights table else .ok []) = .ok desc := by
    cases newTable with
    | true => obtain ⟨d, hd⟩ := hwt rfl; exact ⟨d, by simpa using hd⟩
    | false => exact ⟨[], rfl⟩
  obtain ⟨desc, hdesc⟩ := hdesc
  have hencoded : ∃ encoded, (if sf = 0 then Huf.encode fseWeights table lits newTable
      else Huf.encode4x fseWeights table lits newTable) = .ok encoded := by
    by_cases h0 : sf = 0
    · rw [if_pos h0]
      obtain ⟨stream, hs⟩ := encodeStream_ok c lits henc
      exact ⟨desc ++ stream, by simp only [encode, hdesc, hs]⟩
    · rw [if_neg h0]
      have h6 : 6 ≤ lits.length := Nat.le_of_not_lt fun hlt => h0 (hsf0.mpr hlt)
      obtain ⟨_, _, _, _, s1, s2, s3, s4, _, _, _, _, _, _, _, _, h4x⟩ :=
        encode4x_streams fseWeights c lits henc (by omega) (by omega) hmax
      exact ⟨_, h4x newTable desc hdesc⟩
  obtain ⟨encoded, hencoded⟩ := hencoded
  unfold litTail
  rw [hf]
  simp only
  rw [hencoded]
  simp only
  by_cases hg : Gen.litRawFallbackGuard ((4 + 2 * sb) / 8 + encoded.length) lits.length = true
  · rw [if_pos hg]
    obtain ⟨hdr, hraw, _⟩ := rawLiterals_decodes lits [] none (by omega)
    rw [hraw]
    exact ⟨_, none, rfl, Or.inl rfl⟩
  · rw [if_neg hg]
    refine ⟨_, _, rfl, ?_⟩
    cases newTable with
    | true => exact Or.inr rfl
    | false => exact Or.inl rfl

/-- the RLE branch for `n + 1` copies of one value, with `n` a variable (so that nothing tries to evaluate
the list when `n` is huge) -/
theorem rle_branch (b : Byte) (n : Nat) (prev : Option EncTable) :
    compressLiteralsReal (List.replicate (n + 1) b) prev =
      match rleLiterals b (n + 1) with
      | .error f => .error f
      | .ok bytes => .ok (bytes, none) := by
  have hall : (b :: List.replicate n b).all (fun x => x == b) = true := by
    rw [List.all_eq_true]
    intro x hx
    rcases List.mem_cons.mp hx with rfl | hx
    · simp
    · rw [List.eq_of_mem_replicate hx]; simp
  rw [List.replicate_succ]
  simp only [compressLiteralsReal, hall, if_true, List.length_cons, List.length_replicate]
  cases rleLiterals b (n + 1) <;> rfl

/-- the fault `write_table` raises when the FSE-compressed weights need 128 bytes or more, together with a
witness: a byte string whose `build_from_data` table makes `write_table` raise it -/
def WriteTableAssert (f : Fault) : Prop :=
  f = .assert "huff0_encoder.rs:write_table:encoded_len<128" ∧
    ∃ (lits : List Nat) (t : EncTable), (∀ b ∈ lits, b < 256) ∧ buildFromData lits = .ok t ∧
      writeTable Enc.fseWeights t = .error f

theorem not_writeTableAssert (hW : FseWeightsLt128) (f : Fault) : ¬ WriteTableAssert f := by
  rintro ⟨_, lits, t, hb, hbuild, herr⟩
  obtain ⟨desc, hd⟩ := hW lits t hb hbuild
  rw [hd] at herr; cases herr

theorem litTail_error_of_writeTable (lits : List Byte) (newT table : EncTable) (f : Fault)
    (h1 : 1 ≤ lits.length) (hmax : lits.length ≤ 131072) (hwt : writeTable fseWeights table = .error f) :
    litTail lits newT table true = .error f := by
  obtain ⟨sf, sb, hf⟩ := litSizeFormat_ok lits.length hmax
  obtain ⟨_, _, hsf0, _⟩ := litSizeFormat_arm hf
  unfold litTail
  rw [hf]
  simp only
  by_cases h0 : sf = 0
  · simp only [h0, if_true, encode, hwt]
  · have h6 : 6 ≤ lits.length := by
      rcases Nat.lt_or_ge lits.length 6 with hlt | hge
      · exact absurd (hsf0.mpr hlt) h0
      · exact hge
    have hok : Gen.hufEnc4LenOk lits.length Gen.hufEnc4MinLen = true := by
      simp only [Gen.hufEnc4LenOk, Gen.hufEnc4MinLen]; exact decide_eq_true (by omega)
    have hsplit : (lits.length + Gen.hufSplitDiv - 1) / Gen.hufSplitDiv = (lits.length + 3) / 4 := by
      simp only [Gen.hufSplitDiv]; omega
    simp only [h0, if_false, encode4x, hok, Bool.not_true, Bool.false_eq_true, hsplit, if_true, hwt]
    rw [if_neg (by omega)]

theorem compressLiterals_total_or_assert (lits : List Byte) (prev : Option EncTable)
    (hb : ∀ b ∈ lits, b < 256) (h1 : 1 ≤ lits.length) (hmax : lits.length ≤ 131072)
    (hprev : ∀ tp, prev = some tp → GoodTable tp) :
    (∃ bytes t, compressLiteralsReal lits prev = .ok (bytes, t) ∧ (∀ h, t = some h → GoodTable h)) ∨
      (∃ f, compressLiteralsReal lits prev = .error f ∧ WriteTableAssert f) := by
  cases lits with
  | nil => simp at h1
  | cons first tl =>
    by_cases hall : (first :: tl).all (fun x => x == first) = true
    · left
      obtain ⟨bytes, h, _⟩ := compressLiterals_single_value first tl prev hall (by omega) [] none
      exact ⟨bytes, none, h, fun h hh => by cases hh⟩
    · have hall' : (first :: tl).all (fun x => x == first) = false := by simpa using hall
      obtain ⟨x, hx, hne⟩ := List.all_eq_false.mp hall'
      obtain ⟨newT, hbuild⟩ := buildFromData_total hb (a := first) (b := x) List.mem_cons_self hx
        (fun h => hne (by simp [h]))
      obtain ⟨wd, m, c, henc⟩ := buildFromData_canon hb hbuild
      have hgood : ∀ {table nt}, (∃ bytes tret, litTail (first :: tl) newT table nt = .ok (bytes, tret) ∧
            (tret = none ∨ tret = some newT)) →
          ∃ bytes t, litTail (first :: tl) newT table nt = .ok (bytes, t) ∧ ∀ h, t = some h → GoodTable h := by
        rintro _ _ ⟨bytes, tret, h, rfl | rfl⟩
        · exact ⟨bytes, none, h, nofun⟩
        · exact ⟨bytes, some newT, h, fun _ hh => by cases hh; exact ⟨wd, m, c⟩⟩
      rcases compressLiteralsReal_cases first tl prev newT hall' hbuild with hcase | ⟨tp, diff, rfl, hcan, hcase⟩
      · rw [hcase]
        rcases writeTable_canon_or_assert c with ⟨desc, hdesc, _⟩ | ⟨_, _, _, hass⟩
        · exact .inl (hgood (litTail_total _ newT newT true c henc hmax fun _ => ⟨desc, hdesc⟩))
        · exact .inr ⟨_, litTail_error_of_writeTable _ newT newT _ h1 hmax hass, rfl, first :: tl, newT, hb, hbuild, hass⟩
      · rw [hcase]
        obtain ⟨wd', m', c'⟩ := hprev tp rfl
        exact .inl (hgood (litTail_total _ newT tp false c' (encodable_of_canEncode c c' hcan henc) hmax nofun))

theorem compressLiterals_total (hW : FseWeightsLt128) (lits : List Byte) (prev : Option EncTable)
    (hb : ∀ b ∈ lits, b < 256) (h1 : 1 ≤ lits.length) (hmax : lits.length ≤ 131072)
    (hprev : ∀ tp, prev = some tp → GoodTable tp) :
    ∃ bytes t, compressLiteralsReal lits prev = .ok (bytes, t) ∧ (∀ h, t = some h → GoodTable h) :=
  (compressLiterals_total_or_assert lits prev hb h1 hmax hprev).resolve_right
    fun ⟨f, _, hA⟩ => not_writeTableAssert hW f hA

end Zstd.Proofs.LitCoder
