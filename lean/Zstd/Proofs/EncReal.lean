import Zstd.Proofs.EncParse
import Zstd.Model.EncCoders
/-
Facts about the REAL entropy-coder instantiation (`Model/EncCoders.lean`) that need nothing of the
FSE / Huffman theorems: the RLE-literals path of `compress_literals` (literals of a single value; finding F10),
decoded by the strict Spec.
-/
namespace Zstd.Proofs.Enc
open Zstd Zstd.Model Zstd.Model.Enc

theorem rleLiterals_decodes (b : Byte) (n : Nat) (rest : List Byte) (prev : Option Spec.Huffman.Table)
    (h : n < 2 ^ 20) :
    ∃ hdr, rleLiterals b n = .ok (hdr ++ [b]) ∧ hdr.length = 3 ∧
      Spec.decodeLiterals (hdr ++ [b] ++ rest) prev = some (List.replicate n b, 3 + 1, prev) := by
  have hm : n % 2 ^ 32 = n := Nat.mod_eq_of_lt (by omega)
  have h1 : ¬ n ≥ 2 ^ (20 + 1) := by omega
  have h2 : ¬ n ≥ 2 ^ 20 := by omega
  refine ⟨leBytes 3 (1 + 3 * 4 + n * 16), ?_, leBytes_length _ _, ?_⟩
  · simp only [rleLiterals, hm, rawLitSizeBits_eq, h1, h2, ↓reduceIte]
  · rw [List.append_assoc]
    simp only [Spec.decodeLiterals, parseLitHeader_size3 1 _ _ (by omega) h, List.drop_left' (leBytes_length _ _),
      List.cons_append, List.nil_append, if_true, show ¬ (1 : Nat) = 0 by decide, if_false]

/-- the situation of finding F10: literals of ONE value.  `compress_literals` does not
reach the Huffman table builder (which asserts two distinct symbols): it writes RLE literals,
returns no table, and the strict Spec decodes the section to the literals. -/
theorem compressLiterals_single_value (b : Byte) (t : List Byte) (prev : Option Huf.EncTable)
    (hall : (b :: t).all (fun x => x == b) = true) (hlen : (b :: t).length < 2 ^ 20)
    (rest : List Byte) (dprev : Option Spec.Huffman.Table) :
    ∃ bytes, compressLiteralsReal (b :: t) prev = .ok (bytes, none) ∧
      Spec.decodeLiterals (bytes ++ rest) dprev = some (b :: t, bytes.length, dprev) := by
  obtain ⟨hdr, hr, hl, hdec⟩ := rleLiterals_decodes b (b :: t).length rest dprev hlen
  refine ⟨hdr ++ [b], ?_, ?_⟩
  · simp only [compressLiteralsReal, hall, ↓reduceIte, hr]
  · rw [hdec, ← all_eq_replicate b (b :: t) hall]
    simp [hl]

end Zstd.Proofs.Enc
