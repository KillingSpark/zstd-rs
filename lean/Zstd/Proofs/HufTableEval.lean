import Zstd.Proofs.HufShapeHist
import Zstd.Proofs.FseNormalize
/-
HOW the kernel evaluates `tableOk n` (Proofs/HufLt128Def): `tableFast`, a function that implies it
(`tableOk_of_tableFast`, the one fact Proofs/HufShape uses) in which `Huf.shape` is computed on the histogram
of the weights (`Huf.shapeH`, Proofs/HufShapeHist) and `Fse.normalize` and the sweep are replaced by versions
written for the kernel, each proved against the function it stands for.
Three facts about the kernel explain the shape of everything here (`shapeH` is written plainly: on thirty
buckets or so, once for each `n`, they matter little):
* it substitutes arguments and `let` values unevaluated and evaluates them again at every use; only a
  match on a numeral makes it evaluate one (`evalN`, `evalNs`);
* a function compiled from structural recursion (`brecOn` and a matcher) costs it more per step than the same
  function written with the recursor (`List.rec`, `Nat.rec`) itself;
* `Int`, `Decidable`, `cond` (`bif`), `max`/`min` and `+` through their instances cost unfolding steps at
  every use; `Nat.add`, `Nat.sub`, `Nat.ble`, … applied directly reduce on numerals in one step, `Bool.rec`
  (`sel`) reaches a branch in two.
The functions written with the recursors are not meant to be run: they are `noncomputable` (the code
generator does not take `List.rec`), the plain ones in HufLt128Def are what the compiler sees.
-/
namespace Zstd.Proofs.HufLt128
open Zstd Zstd.Model

/-! ### Evaluation marks

`evalN v k`, `evalNs l k` are `k v` / `k l` with the value evaluated first; the functions below carry these
marks on every value that is used more than once. -/

def evalN {α : Type} (x : Nat) (k : Nat → α) : α := Nat.rec (k 0) (fun m _ => k (Nat.succ m)) x

noncomputable def evalNs {α : Type} (l : List Nat) (k : List Nat → α) : α :=
  @List.rec Nat (fun _ => (List Nat → α) → α) (fun k => k [])
    (fun x _ ih k => ih fun ys => evalN x fun y => k (y :: ys)) l k

@[simp] theorem evalN_eq {α : Type} (x : Nat) (k : Nat → α) : evalN x k = k x := by cases x <;> rfl

@[simp] theorem evalNs_eq {α : Type} (l : List Nat) (k : List Nat → α) : evalNs l k = k l := by
  induction l generalizing k with
  | nil => rfl
  | cons x xs ih => exact (ih _).trans (evalN_eq x _)

theorem blt_true {a b : Nat} (h : a < b) : Nat.blt a b = true := Nat.blt_eq.mpr h

theorem blt_false {a b : Nat} (h : ¬ a < b) : Nat.blt a b = false :=
  Bool.eq_false_iff.2 fun ht => h (Nat.blt_eq.mp ht)

theorem ble_false {a b : Nat} (h : ¬ a ≤ b) : Nat.ble a b = false :=
  Bool.eq_false_iff.2 fun ht => h (Nat.le_of_ble_eq_true ht)

theorem beq_false {a b : Nat} (h : a ≠ b) : Nat.beq a b = false :=
  Bool.eq_false_iff.2 fun ht => h (Nat.eq_of_beq_eq_true ht)

noncomputable def sel {α : Type} (c : Bool) (t e : α) : α := @Bool.rec (fun _ => α) e t c

@[simp] theorem sel_eq {α : Type} (c : Bool) (t e : α) : sel c t e = bif c then t else e := by
  cases c <;> rfl

theorem cond_none_eq_some {α : Type} {c : Bool} {b : Option α} {a : α} :
    (bif c then none else b) = some a ↔ c = false ∧ b = some a := by
  cases c <;> simp

theorem not_lt_of_blt {a b : Nat} (h : Nat.blt a b = false) : ¬ a < b := fun hlt => by
  rw [blt_true hlt] at h
  cases h

/-! ### The normaliser on `Nat`, for the path the sweep takes

`Fse.normalize · 6 true` on lists of `Nat` in two halves: `preNorm` entry by entry (`entryN`,
`preNorm_entries`), and `tailFast` for the rest in the case that `sum < 2^al` (the total is raised to the
power of two; the decreasing loop never runs in the sweep), which answers `none` otherwise (`stepF` then asks
`Fse.normalize` itself).
Each list function is shown equal to the library function it stands for (`foldN_eq` … `costN_eq`); after
rewriting with those, `tailFast_ok` goes stage by stage (`raiseOrDecrease`, `avoidStep` of Proofs/FseNormalize)
through `q = p.map Int.ofNat`. -/

noncomputable def maxB (a b : Nat) : Nat := sel (Nat.ble a b) b a

noncomputable def minB (a b : Nat) : Nat := sel (Nat.ble a b) a b

noncomputable def foldN (f : Nat → Nat → Nat) (l : List Nat) (a : Nat) : Nat :=
  @List.rec Nat (fun _ => Nat → Nat) (fun a => a) (fun x _ ih a => ih (f a x)) l a

noncomputable def mapN (f : Nat → Nat) (l : List Nat) : List Nat :=
  @List.rec Nat (fun _ => List Nat) [] (fun x _ ih => f x :: ih) l

noncomputable def lenN (l : List Nat) : Nat := @List.rec Nat (fun _ => Nat) 0 (fun _ _ ih => Nat.succ ih) l

noncomputable def getN (l : List Nat) (i d : Nat) : Nat :=
  @List.rec Nat (fun _ => Nat → Nat) (fun _ => d) (fun x _ ih i => Nat.rec x (fun j _ => ih j) i) l i

noncomputable def modN (f : Nat → Nat) (l : List Nat) (i : Nat) : List Nat :=
  @List.rec Nat (fun _ => Nat → List Nat) (fun _ => [])
    (fun x xs ih i => Nat.rec (f x :: xs) (fun j _ => x :: ih j) i) l i

noncomputable def lastMaxN (l : List Nat) : Option Nat :=
  @List.rec Nat (fun _ => Option Nat) none (fun x xs ih =>
    Option.rec (some 0) (fun j => sel (Nat.ble x (getN xs j x)) (some (Nat.succ j)) (some 0)) ih) l

/-- the largest entry different from `half` -/
noncomputable def maxNeN (half : Nat) (l : List Nat) (m : Option Nat) : Option Nat :=
  @List.rec Nat (fun _ => Option Nat → Option Nat) (fun m => m) (fun p _ ih m =>
    ih (sel (Nat.beq p half) m (Option.rec (some p) (fun q => some (maxB q p)) m))) l m

noncomputable def findN (v : Nat) (l : List Nat) : Option Nat :=
  @List.rec Nat (fun _ => Option Nat) none (fun p _ ih =>
    sel (Nat.beq p v) (some 0) (Option.rec none (fun j => some (Nat.succ j)) ih)) l

noncomputable def costN (al : Nat) (cs ps : List Nat) (acc : Nat) : Nat :=
  @List.rec Nat (fun _ => List Nat → Nat → Nat) (fun _ acc => acc) (fun c _ ih ps acc =>
    @List.rec Nat (fun _ => Nat) acc
      (fun p ps _ => ih ps (Nat.add acc (Nat.mul c (Nat.sub al (Nat.log2 p))))) ps) cs ps acc

theorem foldN_eq (f : Nat → Nat → Nat) (l : List Nat) (a : Nat) : foldN f l a = l.foldl f a := by
  induction l generalizing a with
  | nil => rfl
  | cons x xs ih => exact ih _

theorem mapN_eq (f : Nat → Nat) (l : List Nat) : mapN f l = l.map f := by
  induction l with
  | nil => rfl
  | cons x xs ih => exact congrArg (f x :: ·) ih

theorem lenN_eq (l : List Nat) : lenN l = l.length := by
  induction l with
  | nil => rfl
  | cons x xs ih => exact congrArg Nat.succ ih

theorem getN_eq (l : List Nat) (i d : Nat) : getN l i d = l.getD i d := by
  induction l generalizing i with
  | nil => rfl
  | cons x xs ih => cases i with
    | zero => rfl
    | succ j => exact (ih j).trans (by simp)

theorem modN_eq (f : Nat → Nat) (l : List Nat) (i : Nat) : modN f l i = l.modify i f := by
  induction l generalizing i with
  | nil => cases i <;> rfl
  | cons x xs ih => cases i with
    | zero => rfl
    | succ j => exact (congrArg (x :: ·) (ih j)).trans (by simp)

section
open Fse Zstd.Proofs.FseNormalize

abbrev toZ (l : List Nat) : List Int := l.map Int.ofNat

theorem getD_toZ (l : List Nat) (i : Nat) : (toZ l).getD i 0 = Int.ofNat (l.getD i 0) :=
  getD_map_zero 0 l Int.ofNat rfl i

theorem modify_toZ (l : List Nat) (i : Nat) (f : Nat → Nat) (g : Int → Int)
    (h : ∀ x, g (Int.ofNat x) = Int.ofNat (f x)) : modifyAt (toZ l) i g = toZ (l.modify i f) := by
  unfold modifyAt toZ
  induction l generalizing i with
  | nil => cases i <;> rfl
  | cons x xs ih => cases i with
    | zero => simpa using h x
    | succ j => simp [ih j]

theorem lastMaxN_eq (l : List Nat) : lastMaxIdx (toZ l) = lastMaxN l := by
  induction l with
  | nil => rfl
  | cons x xs ih =>
    show (match lastMaxIdx (toZ xs) with
      | none => some 0
      | some j => if (toZ xs).getD j (Int.ofNat x) ≥ Int.ofNat x then some (j + 1) else some 0) = _
    rw [ih, show lastMaxN (x :: xs) = @Option.rec Nat (fun _ => Option Nat) (some 0)
      (fun j => sel (Nat.ble x (getN xs j x)) (some (Nat.succ j)) (some 0)) (lastMaxN xs) from rfl]
    cases lastMaxN xs with
    | none => rfl
    | some j =>
      have : (toZ xs).getD j (Int.ofNat x) = Int.ofNat (xs.getD j x) := by
        simp only [toZ, List.getD_eq_getElem?_getD, List.getElem?_map]; cases xs[j]? <;> rfl
      show (if (toZ xs).getD j (Int.ofNat x) ≥ Int.ofNat x then some (j + 1) else some 0) =
        sel (Nat.ble x (getN xs j x)) (some (Nat.succ j)) (some 0)
      rw [this, getN_eq, sel_eq]
      by_cases hle : x ≤ xs.getD j x
      · have h1 : Int.ofNat (xs.getD j x) ≥ Int.ofNat x := Int.ofNat_le.2 hle
        rw [if_pos h1, Nat.ble_eq_true_of_le hle]; rfl
      · have h1 : ¬ Int.ofNat (xs.getD j x) ≥ Int.ofNat x := fun h => hle (Int.ofNat_le.1 h)
        rw [if_neg h1, ble_false hle]; rfl

end

/-- one entry of `preNorm`: the count less the shift `s`, divided by `dv` but not down to 0 -/
noncomputable def entryN (s dv c : Nat) : Nat :=
  evalN (Nat.sub c s) fun q => sel (Nat.blt 0 q) (maxB (Nat.div q dv) 1) q

/-- the divisor of `preNorm`; 1 where it does not divide -/
noncomputable def dvN (len maxProb : Nat) : Nat := sel (Nat.blt len maxProb) (Nat.div maxProb len) 1

/-- the smaller of two numbers that is not 0: the step of `minCount` -/
noncomputable def minPosN (a b : Nat) : Nat := sel (Nat.beq a 0) b (sel (Nat.beq b 0) a (minB a b))

noncomputable def avoidN (probs : List Nat) (al : Nat) : Option (List Nat × Nat) :=
  (lastMaxN probs).bind fun i =>
    evalN (getN probs i 0) fun mx =>
    evalN (Nat.shiftLeft 1 (Nat.pred al)) fun half =>
    sel (Nat.beq al 0) none <| sel (Nat.blt half mx)
      (evalNs (modN (fun _ => half) probs i) fun probs =>
      (maxNeN half probs none).bind fun second =>
      (findN second probs).bind fun j =>
        evalNs (modN (fun p => Nat.add p (Nat.sub mx half)) probs j) fun probs =>
        sel (Nat.blt half (getN probs j 0)) none (some (probs, al)))
      (some (probs, al))

/-- the second half (`normTail · 6 true`) where the total is raised; `none` otherwise -/
noncomputable def tailFast (probs : List Nat) : Option (List Nat × Nat) :=
  evalN (foldN Nat.add probs 0) fun sum =>
  sel (Nat.beq sum 0) none <|
  evalN (minB (maxB (Nat.add (Nat.log2 sum) Gen.normLogAdd) Gen.normLogMin) 6) fun al =>
  sel (Nat.blt (Nat.shiftLeft 1 al) (Nat.succ sum)) none <|
    (lastMaxN probs).bind fun i =>
      evalNs (modN (fun p => Nat.add p (Nat.sub (Nat.shiftLeft 1 al) sum)) probs i) fun probs =>
      avoidN probs al

section
open Fse Zstd.Proofs.FseNormalize

theorem maxB_eq : maxB = Nat.max := by
  funext a b
  by_cases h : a ≤ b
  · rw [maxB, sel_eq, Nat.ble_eq_true_of_le h, cond_true]; exact (Nat.max_eq_right h).symm
  · rw [maxB, sel_eq, ble_false h, cond_false]
    exact (Nat.max_eq_left (Nat.le_of_not_le h)).symm

theorem minB_eq : minB = Nat.min := by
  funext a b
  by_cases h : a ≤ b
  · rw [minB, sel_eq, Nat.ble_eq_true_of_le h, cond_true]; exact (Nat.min_eq_left h).symm
  · rw [minB, sel_eq, ble_false h, cond_false]
    exact (Nat.min_eq_right (Nat.le_of_not_le h)).symm

theorem ofNat_max (a b : Nat) : max (Int.ofNat a) (Int.ofNat b) = Int.ofNat (Nat.max a b) := by
  show max (a : Int) (b : Int) = ((max a b : Nat) : Int)
  omega

theorem foldl_max_toZ (l : List Nat) (a : Nat) :
    (toZ l).foldl (fun m p => max m p) (Int.ofNat a) = Int.ofNat (l.foldl Nat.max a) := by
  induction l generalizing a with
  | nil => rfl
  | cons x xs ih => rw [toZ, List.map_cons, List.foldl_cons, ofNat_max]; exact ih _

theorem foldl_add_toZ (l : List Nat) (a : Nat) :
    (toZ l).foldl (· + ·) (Int.ofNat a) = Int.ofNat (l.foldl Nat.add a) := by
  induction l generalizing a with
  | nil => rfl
  | cons x xs ih => exact ih _

theorem foldl_max_sub (s : Nat) : ∀ (l : List Nat) (a : Nat),
    (l.map (· - s)).foldl Nat.max (a - s) = l.foldl Nat.max a - s
  | [], _ => rfl
  | c :: l, a => by
    rw [List.map_cons, List.foldl_cons, List.foldl_cons, ← foldl_max_sub s l]
    congr 1
    exact Nat.sub_max_sub_right a c s

theorem entryN_eq (s dv c : Nat) :
    entryN s dv c = if 0 < c - s then Nat.max ((c - s) / dv) 1 else c - s := by
  rw [entryN, evalN_eq, sel_eq, maxB_eq]
  show (bif Nat.blt 0 (c - s) then _ else _) = _
  by_cases h : 0 < c - s
  · rw [if_pos h, blt_true h]; rfl
  · rw [if_neg h, blt_false h]; rfl

theorem preNorm_entries (counts : List Nat) :
    preNorm counts = toZ (counts.map (entryN (minCount counts - 1)
      (dvN counts.length (counts.foldl Nat.max 0 - (minCount counts - 1))))) := by
  unfold preNorm
  simp only []
  have h0 : (counts.map fun (c : Nat) => if c > 0 then ((c : Nat) : Int) - ((minCount counts - 1 : Nat) : Int)
      else (0 : Int)) = toZ (counts.map (· - (minCount counts - 1))) := by
    rw [toZ, List.map_map]
    apply List.map_congr_left
    intro c hc
    show _ = ((c - (minCount counts - 1) : Nat) : Int)
    by_cases h : c > 0
    · have := minCount_le counts c hc h
      rw [if_pos h]; omega
    · rw [if_neg h]; omega
  rw [h0, show (toZ (counts.map (· - (minCount counts - 1)))).foldl (fun m p => max m p) 0 =
      Int.ofNat ((counts.map (· - (minCount counts - 1))).foldl Nat.max (0 - (minCount counts - 1))) from
        (Nat.zero_sub _).symm ▸ foldl_max_toZ _ 0,
    foldl_max_sub, List.length_map, List.length_map]
  generalize minCount counts - 1 = s
  generalize counts.foldl Nat.max 0 - s = M
  rw [toZ, List.map_map]
  by_cases hlt : counts.length < M
  · have hc : Int.ofNat M > 0 ∧ (Int.ofNat M).toNat > counts.length := ⟨by show (M : Int) > 0; omega, hlt⟩
    rw [if_pos hc, toZ, List.map_map, List.map_map, dvN, sel_eq, blt_true hlt, cond_true]
    apply List.map_congr_left
    intro c _
    show (if ((c - s : Nat) : Int) > 0 then max (((c - s : Nat) : Int) / ((M : Int) / (counts.length : Int))) 1
      else ((c - s : Nat) : Int)) = Int.ofNat (entryN s (M / counts.length) c)
    rw [entryN_eq, ← Int.natCast_ediv, ← Int.natCast_ediv]
    by_cases hp : 0 < c - s
    · rw [if_pos (by omega), if_pos hp]
      exact ofNat_max _ 1
    · rw [if_neg (by omega), if_neg hp]
      rfl
  · have hc : ¬ (Int.ofNat M > 0 ∧ (Int.ofNat M).toNat > counts.length) := fun h => hlt h.2
    rw [if_neg hc, dvN, sel_eq, blt_false hlt, cond_false, toZ, List.map_map, List.map_map]
    apply List.map_congr_left
    intro c _
    show Int.ofNat (c - s) = Int.ofNat (entryN s 1 c)
    rw [entryN_eq, Nat.div_one]
    split
    · exact congrArg Int.ofNat (Nat.max_eq_left ‹_›).symm
    · rfl

theorem minPosN_eq (a b : Nat) : minPosN a b = if a = 0 then b else if b = 0 then a else min a b := by
  rw [minPosN, sel_eq, sel_eq, minB_eq]
  by_cases ha : a = 0
  · rw [if_pos ha, ha]; rfl
  rw [if_neg ha, beq_false ha, cond_false]
  by_cases hb : b = 0
  · rw [if_pos hb, hb]; rfl
  · rw [if_neg hb, beq_false hb]; rfl

theorem minPosN_assoc (a b c : Nat) : minPosN (minPosN a b) c = minPosN a (minPosN b c) := by
  simp only [minPosN_eq]
  -- 0 is the unit; on the others it is `min`
  by_cases ha : a = 0
  · simp [ha]
  by_cases hb : b = 0
  · simp [ha, hb]
  by_cases hc : c = 0
  · simp [ha, hb, hc]
  · simp [ha, hb, hc]

theorem minCount_eq_foldl (l : List Nat) : minCount l = l.foldl minPosN 0 := by
  unfold minCount
  congr 1
  funext m c
  rw [minPosN_eq]
  by_cases hm : m = 0
  · rw [if_pos hm, hm]
    split <;> omega
  by_cases hc : c = 0
  · rw [if_neg hm, if_pos hc, hc]
    exact if_neg (by omega)
  · rw [if_neg hm, if_neg hc]
    split <;> omega

theorem minCount_cons (x : Nat) (u : List Nat) : minCount (x :: u) = minPosN x (minCount u) := by
  rw [minCount_eq_foldl, minCount_eq_foldl, List.foldl_cons, show minPosN 0 x = minPosN x 0 by cases x <;> rfl]
  exact @List.foldl_assoc _ minPosN ⟨minPosN_assoc⟩ u x 0

theorem foldl_max_cons (x : Nat) (u : List Nat) :
    (x :: u).foldl Nat.max 0 = Nat.max x (u.foldl Nat.max 0) := by
  rw [List.foldl_cons, show Nat.max 0 x = Nat.max x 0 from Nat.max_comm 0 x]
  exact @List.foldl_assoc _ Nat.max ⟨Nat.max_assoc⟩ u x 0

theorem maxNeN_eq (f : Option Int → Int → Option Int)
    (hf : ∀ m p, f m p = match m with | none => some p | some q => some (max q p))
    (half : Nat) (l : List Nat) (m : Option Nat) :
    ((toZ l).filter (· ≠ Int.ofNat half)).foldl f (m.map Int.ofNat) = (maxNeN half l m).map Int.ofNat := by
  induction l generalizing m with
  | nil => rfl
  | cons p ps ih =>
    rw [show maxNeN half (p :: ps) m = maxNeN half ps (sel (Nat.beq p half) m
      (@Option.rec Nat (fun _ => Option Nat) (some p) (fun q => some (maxB q p)) m)) from rfl, ← ih,
      toZ, List.map_cons, List.filter_cons]
    by_cases hp : p = half
    · subst hp
      rw [if_neg (by simp), Nat.beq_refl]; rfl
    · rw [if_pos (by simpa using fun h => hp (Int.ofNat.inj h)), beq_false hp, List.foldl_cons, hf]
      cases m with
      | none => rfl
      | some q => show List.foldl _ (some (max (Int.ofNat q) (Int.ofNat p))) _ = _; rw [ofNat_max, ← maxB_eq]; rfl

theorem findN_eq (v : Nat) (l : List Nat) : (toZ l).findIdx? (· = Int.ofNat v) = findN v l := by
  induction l with
  | nil => rfl
  | cons p ps ih =>
    rw [show findN v (p :: ps) = sel (Nat.beq p v) (some 0)
      (@Option.rec Nat (fun _ => Option Nat) none (fun j => some (Nat.succ j)) (findN v ps)) from rfl, ← ih,
      toZ, List.map_cons, List.findIdx?_cons]
    by_cases hp : p = v
    · subst hp; rw [Nat.beq_refl]; simp
    · rw [beq_false hp, if_neg (by simpa using fun h => hp (Int.ofNat.inj h))]
      cases List.findIdx? (fun x => decide (x = Int.ofNat v)) (List.map Int.ofNat ps) <;> rfl

theorem avoidN_ok (P : List Nat) (al : Nat) (r : List Nat × Nat) (h : avoidN P al = some r) :
    avoidStep (toZ P) al true = .ok (toZ r.1, r.2) := by
  simp only [avoidN, evalN_eq, evalNs_eq, getN_eq, modN_eq, sel_eq] at h
  obtain ⟨i, hl, h⟩ := Option.bind_eq_some_iff.mp h
  unfold avoidStep
  rw [lastMaxN_eq, hl]
  simp only []
  rw [getD_toZ]
  generalize hH : Nat.shiftLeft 1 al.pred = H at h
  rw [show ((1 <<< (al - 1) : Nat) : Int) = Int.ofNat H from congrArg Int.ofNat hH]
  generalize P.getD i 0 = mx at h ⊢
  obtain ⟨h0, h⟩ := cond_none_eq_some.mp h
  rw [if_neg (fun hc => Nat.ne_of_beq_eq_false h0 hc.2)]
  by_cases hgt : H < mx
  · rw [blt_true hgt, cond_true] at h
    rw [if_pos ⟨trivial, Int.ofNat_lt.2 hgt⟩,
      modify_toZ P i (fun _ => H) (fun _ => Int.ofNat H) (fun _ => rfl)]
    generalize P.modify i (fun _ => H) = P1 at h ⊢
    obtain ⟨second, hm, h⟩ := Option.bind_eq_some_iff.mp h
    obtain ⟨j, hj, h⟩ := Option.bind_eq_some_iff.mp h
    rw [show (none : Option Int) = (none : Option Nat).map Int.ofNat from rfl,
      maxNeN_eq _ (fun m p => by cases m <;> rfl), hm]
    simp only [Option.map_some]
    rw [findN_eq, hj]
    simp only []
    rw [modify_toZ P1 j (fun p => Nat.add p (Nat.sub mx H)) (fun x => x + (Int.ofNat mx - Int.ofNat H))
      (fun x => by show (x : Int) + ((mx : Int) - (H : Int)) = ((x + (mx - H) : Nat) : Int); omega),
      getD_toZ]
    generalize P1.modify j (fun p => Nat.add p (Nat.sub mx H)) = P2 at h ⊢
    obtain ⟨hover, h⟩ := cond_none_eq_some.mp h
    have hn : ¬ Int.ofNat (P2.getD j 0) > Int.ofNat H := fun hc => not_lt_of_blt hover (Int.ofNat_lt.1 hc)
    rw [if_neg hn]
    cases h
    rfl
  · rw [blt_false hgt, cond_false] at h
    rw [if_neg (fun hc => hgt (Int.ofNat_lt.1 hc.2))]
    cases h
    rfl

theorem normalize_cons {x : Nat} {u : List Nat} (hlen : u.length + 1 ≤ 256) (hm : minCount (x :: u) ≠ 0) :
    Fse.normalize (x :: u) 6 true =
      normTail (toZ ((x :: u).map (entryN (minCount (x :: u) - 1)
        (dvN (u.length + 1) (Nat.max x (u.foldl Nat.max 0) - (minCount (x :: u) - 1)))))) 6 true := by
  rw [normalize_eq _ 6 true (by rw [List.length_cons]; exact hlen) hm, preNorm_entries, foldl_max_cons]
  rfl

theorem tailFast_ok {P p : List Nat} {al : Nat} (hf : tailFast P = some (p, al)) :
    normTail (toZ P) 6 true = .ok (toZ p, al) := by
  simp only [tailFast, evalN_eq, evalNs_eq, foldN_eq, modN_eq, sel_eq, maxB_eq, minB_eq] at hf
  unfold normTail
  simp only [] at hf ⊢
  rw [show (toZ P).foldl (· + ·) 0 = Int.ofNat (P.foldl Nat.add 0) from foldl_add_toZ P 0]
  generalize P.foldl Nat.add 0 = S at hf ⊢
  obtain ⟨hS, hf⟩ := cond_none_eq_some.mp hf
  have hS := Nat.ne_of_beq_eq_false hS
  rw [if_neg (fun hn => hn (by show (S : Int) > 0; omega)), show (Int.ofNat S).toNat = S from rfl]
  generalize hA : Nat.min (Nat.max (Nat.add (Nat.log2 S) Gen.normLogAdd) Gen.normLogMin) 6 = A at hf
  rw [show min (max (Nat.log2 S + Gen.normLogAdd) Gen.normLogMin) 6 = A from hA]
  obtain ⟨hlt, hf⟩ := cond_none_eq_some.mp hf
  have hlt : S < 1 <<< A := Nat.lt_of_not_le fun hle => not_lt_of_blt hlt (Nat.lt_succ_of_le hle)
  obtain ⟨i, hl, hf⟩ := Option.bind_eq_some_iff.mp hf
  unfold raiseOrDecrease
  rw [if_pos hlt, lastMaxN_eq, hl]
  simp only []
  rw [modify_toZ P i (fun p => Nat.add p (Nat.sub (Nat.shiftLeft 1 A) S))
    (fun x => x + ((1 <<< A - S : Nat) : Int))
    (fun x => by show (x : Int) + ((1 <<< A - S : Nat) : Int) = ((x + (1 <<< A - S) : Nat) : Int); omega)]
  exact avoidN_ok _ _ (p, al) hf

theorem costN_eq (al : Nat) (cs ps : List Nat) (acc : Nat) :
    costN al cs ps acc = costSum al cs (toZ ps) acc := by
  induction cs generalizing ps acc with
  | nil => cases ps <;> rfl
  | cons c cs ih =>
    cases ps with
    | nil => rfl
    | cons q qs => exact ih qs _

end

theorem costSum_acc (al : Nat) : ∀ (h : List Nat) (p : List Int) (acc : Nat),
    costSum al h p acc = acc + costSum al h p 0
  | [], _, acc => by simp [costSum]
  | _ :: _, [], acc => by simp [costSum]
  | c :: cs, q :: ps, acc => by
    simp only [costSum]
    rw [costSum_acc al cs ps (acc + _), costSum_acc al cs ps (0 + _)]
    omega

/-! ### The sweep as the kernel runs it

The histograms `x :: u` of one `sweepHead` differ in `x` only, and `x` enters the normaliser's second half in
three numbers (`normalize_cons`): the shift `s`, the divisor `dv` and its own entry `p0`; the least positive
and the largest entry of `u` and the length of `x :: u`, which `s` and `dv` need, are found once (`mU`, `MU`,
`len`).  As long as the three stay what they were the normalised distribution `(q0 :: qs, al)` is the same,
and the bound is `x * c0 + K` with `c0 = al - log2 q0` bits for every zero and `K` for the rest: `stepF`
carries `s dv p0 c0 K` from one `x` to the next (`Memo`) and runs the normaliser only when one of the three
changes.  The first `K` is 1024, which no `x` passes.
`trim` of `x :: t` is `x ::` the rest trimmed once (`trim_cons`; `dropZ` removes the trailing zeros in one
pass from the right). -/

section
open Zstd.Proofs.FseNormalize (minCount)

/-- what `stepF` carries gives the bound for every `x` with these `s`, `dv`, `p0` -/
def Memo (u : List Nat) (s dv p0 c0 K : Nat) : Prop :=
  ∀ x, minCount (x :: u) ≠ 0 → minCount (x :: u) - 1 = s →
    dvN (u.length + 1) (Nat.max x (u.foldl Nat.max 0) - s) = dv → entryN s dv x = p0 →
    x * c0 + K ≤ 1023 → boundOf (x :: u) ≤ 1023

noncomputable def stepF (u : List Nat) (mU MU len x s dv p0 c0 K : Nat)
    (cont : Nat → Nat → Nat → Nat → Nat → Bool) : Bool :=
  evalN (minPosN x mU) fun m =>
  sel (Nat.beq m 0) (decide (boundOf (x :: u) ≤ 1023) && cont s dv p0 c0 K) <|
  evalN (Nat.sub m 1) fun s' =>
  evalN (dvN len (Nat.sub (maxB x MU) s')) fun dv' =>
  evalN (entryN s' dv' x) fun p0' =>
  sel (Nat.beq s' s && (Nat.beq dv' dv && Nat.beq p0' p0))
    (Nat.ble (Nat.add (Nat.mul x c0) K) 1023 && cont s dv p0 c0 K)
    (evalNs (mapN (entryN s' dv') u) fun ps =>
      match tailFast (p0' :: ps) with
      | some (q0 :: qs, al) =>
        evalN (Nat.sub al (Nat.log2 q0)) fun c0' =>
        evalN (Nat.add (Nat.add (Nat.add (Nat.mul (Nat.add al 3) (Nat.succ (lenN qs))) (costN al u qs 0))
          (Nat.mul 2 al)) 19) fun K' =>
        Nat.ble (Nat.add (Nat.mul x c0') K') 1023 && cont s' dv' p0' c0' K'
      | _ => decide (boundOf (x :: u) ≤ 1023) && cont s dv p0 c0 K)

/-- `sweepHead` for the histograms `x :: u`, from the largest `x` down -/
noncomputable def sweepHeadF (u : List Nat) (lo k : Nat) : Bool :=
  evalN (foldN minPosN u 0) fun mU => evalN (foldN maxB u 0) fun MU => evalN (Nat.succ (lenN u)) fun len =>
  sel (Nat.ble len 256)
    (Nat.rec (fun _ _ _ _ _ => true)
      (fun j ih s dv p0 c0 K => evalN (Nat.add lo j) fun x => stepF u mU MU len x s dv p0 c0 K ih) k 0 0 0 0 1024)
    false

theorem stepF_ok {u : List Nat} {x s dv p0 c0 K : Nat} {cont : Nat → Nat → Nat → Nat → Nat → Bool}
    (hlen : u.length + 1 ≤ 256) (hmemo : Memo u s dv p0 c0 K)
    (h : stepF u (minCount u) (u.foldl Nat.max 0) (u.length + 1) x s dv p0 c0 K cont = true) :
    boundOf (x :: u) ≤ 1023 ∧
      ∃ s' dv' p0' c0' K', Memo u s' dv' p0' c0' K' ∧ cont s' dv' p0' c0' K' = true := by
  simp only [stepF, evalN_eq, evalNs_eq, mapN_eq, lenN_eq, sel_eq, maxB_eq, ← minCount_cons] at h
  by_cases hm : minCount (x :: u) = 0
  · rw [hm, Nat.beq_refl, cond_true, Bool.and_eq_true] at h
    exact ⟨of_decide_eq_true h.1, _, _, _, _, _, hmemo, h.2⟩
  rw [beq_false hm, cond_false] at h
  generalize hs : Nat.sub (minCount (x :: u)) 1 = s' at h
  generalize hdv : dvN (u.length + 1) (Nat.sub (Nat.max x (u.foldl Nat.max 0)) s') = dv' at h
  generalize hp0 : entryN s' dv' x = p0' at h
  cases hk : (Nat.beq s' s && (Nat.beq dv' dv && Nat.beq p0' p0)) with
  | true =>
    rw [hk, cond_true, Bool.and_eq_true] at h
    simp only [Bool.and_eq_true] at hk
    obtain ⟨rfl, rfl, rfl⟩ : s' = s ∧ dv' = dv ∧ p0' = p0 :=
      ⟨Nat.eq_of_beq_eq_true hk.1, Nat.eq_of_beq_eq_true hk.2.1, Nat.eq_of_beq_eq_true hk.2.2⟩
    exact ⟨hmemo x hm hs hdv hp0 (Nat.le_of_ble_eq_true h.1), _, _, _, _, _, hmemo, h.2⟩
  | false =>
    rw [hk, cond_false] at h
    split at h
    · rename_i q0 qs al ht
      rw [Bool.and_eq_true] at h
      -- the bound of `x' :: u` for every `x'` with the same three numbers
      have hnew : Memo u s' dv' p0' (Nat.sub al (Nat.log2 q0)) (Nat.add (Nat.add (Nat.add
          (Nat.mul (Nat.add al 3) (Nat.succ qs.length)) (costN al u qs 0)) (Nat.mul 2 al)) 19) := by
        intro x' hm' es ed ep hb
        rw [boundOf, normalize_cons hlen hm', es, ed, List.map_cons, ep, tailFast_ok ht]
        show 4 + (al + 3) * (toZ (q0 :: qs)).length + 7 +
          costSum al u (toZ qs) (0 + x' * (al - Nat.log2 q0)) + 2 * al + 8 ≤ 1023
        rw [costSum_acc, List.length_map, List.length_cons]
        rw [costN_eq] at hb
        have hb : x' * (al - Nat.log2 q0) + ((al + 3) * (qs.length + 1) + costSum al u (toZ qs) 0 + 2 * al + 19)
          ≤ 1023 := hb
        omega
      exact ⟨hnew x hm hs hdv hp0 (Nat.le_of_ble_eq_true h.1), _, _, _, _, _, hnew, h.2⟩
    · rw [Bool.and_eq_true] at h
      exact ⟨of_decide_eq_true h.1, _, _, _, _, _, hmemo, h.2⟩

theorem sweepHeadF_ok {u : List Nat} {lo k : Nat} (h : sweepHeadF u lo k = true) :
    ∀ x, lo ≤ x → x < lo + k → boundOf (x :: u) ≤ 1023 := by
  simp only [sweepHeadF, evalN_eq, foldN_eq, lenN_eq, sel_eq, maxB_eq, ← minCount_eq_foldl] at h
  cases hl : Nat.ble (Nat.succ u.length) 256 with
  | false => rw [hl] at h; cases h
  | true =>
    rw [hl, cond_true] at h
    have hlen : u.length + 1 ≤ 256 := Nat.le_of_ble_eq_true hl
    have loop : ∀ (k s dv p0 c0 K : Nat), Memo u s dv p0 c0 K →
        (Nat.rec (fun _ _ _ _ _ => true) (fun j ih s dv p0 c0 K =>
          stepF u (minCount u) (u.foldl Nat.max 0) (Nat.succ u.length) (Nat.add lo j) s dv p0 c0 K ih) k :
          Nat → Nat → Nat → Nat → Nat → Bool) s dv p0 c0 K = true →
        ∀ x, lo ≤ x → x < lo + k → boundOf (x :: u) ≤ 1023 := by
      intro k
      induction k with
      | zero => intro _ _ _ _ _ _ _ x h1 h2; omega
      | succ k ih =>
        intro s dv p0 c0 K hmemo hr x h1 h2
        obtain ⟨hb, s', dv', p0', c0', K', hmemo', hc⟩ := stepF_ok hlen hmemo hr
        by_cases hx : x = lo + k
        · rw [hx]; exact hb
        · exact ih s' dv' p0' c0' K' hmemo' hc x h1 (by omega)
    exact loop k 0 0 0 0 1024 (fun x _ _ _ _ hb => by omega) h

end

noncomputable def dropZ (l : List Nat) : List Nat :=
  @List.rec Nat (fun _ => List Nat) [] (fun x _ ih =>
    @List.rec Nat (fun _ => List Nat) (sel (Nat.beq x 0) [] [x]) (fun y ys _ => x :: y :: ys) ih) l

/-- `trim` for all but the first entry of a histogram -/
noncomputable def trimTail (l : List Nat) : List Nat :=
  match dropZ l with
  | [] => [0]
  | l => l

theorem trimRev_snoc (r : List Nat) (x : Nat) :
    trimRev (r ++ [x]) = if trimRev r = [] then (if x = 0 then [] else [x]) else trimRev r ++ [x] := by
  induction r with
  | nil => cases x <;> rfl
  | cons a r ih =>
    cases a with
    | zero => exact ih
    | succ a =>
      show (a + 1) :: (r ++ [x]) = if (a + 1) :: r = [] then _ else (a + 1) :: r ++ [x]
      rw [if_neg (List.cons_ne_nil _ _)]; rfl

theorem dropZ_eq (l : List Nat) : dropZ l = (trimRev l.reverse).reverse := by
  induction l with
  | nil => rfl
  | cons x xs ih =>
    rw [show dropZ (x :: xs) = @List.rec Nat (fun _ => List Nat) (sel (Nat.beq x 0) [] [x])
      (fun y ys _ => x :: y :: ys) (dropZ xs) from rfl, List.reverse_cons, trimRev_snoc]
    by_cases he : trimRev xs.reverse = []
    · rw [ih, he, if_pos rfl]
      by_cases hx : x = 0
      · rw [if_pos hx, hx]; rfl
      · rw [if_neg hx, beq_false hx]; rfl
    · rw [if_neg he, List.reverse_append, ← ih]
      have : dropZ xs ≠ [] := fun h0 => he (by rw [ih] at h0; simpa using h0)
      cases hd : dropZ xs with
      | nil => exact absurd hd this
      | cons y ys => rfl

theorem trim_cons (x : Nat) (l : List Nat) : trim (x :: l) = x :: trimTail l := by
  rw [trim, ← dropZ_eq, trimTail, show dropZ (x :: l) = @List.rec Nat (fun _ => List Nat)
    (sel (Nat.beq x 0) [] [x]) (fun y ys _ => x :: y :: ys) (dropZ l) from rfl]
  cases dropZ l with
  | nil => cases x <;> rfl
  | cons y ys => rfl

theorem sweepHead_of_F {t : List Nat} {lo k : Nat} (h : sweepHeadF (trimTail t) lo k = true) :
    sweepHead t lo k = true := by
  rw [sweepHead, List.all_eq_true]
  intro x hx
  rw [List.mem_range'_1] at hx
  rw [decide_eq_true_eq, trim_cons]
  exact sweepHeadF_ok h x hx.1 hx.2

/-- `tableOk n` with the shape computed on the histogram (`Huf.shapeH`: the buckets are the value histogram
without its first entry) -/
noncomputable def tableFast (n : Nat) : Bool :=
  match Huf.shapeH n with
  | some ((c + 1) :: t) =>
    evalNs ((c + 1) :: t) fun b =>
    (b.sum == n && Huf.isPow2 (Huf.kraftH b) && decide (Nat.log2 (Huf.kraftH b) ≤ Gen.hufMaxNumBits)) &&
      evalNs ((List.range 11).map fun x => b.getD x 0) fun g =>
      (evalNs (trimTail g) fun u => sweepHeadF u (148 - n) (256 - n - (148 - n))) &&
        (List.range 11).all fun d =>
          Nat.beq (getN g d 0) 0 || evalNs (trimTail (modN Nat.pred g d)) fun u =>
            sweepHeadF u (149 - n) (257 - n - (149 - n))
  | _ => false

theorem tableOk_of_tableFast {n : Nat} (h : tableFast n = true) : tableOk n = true := by
  unfold tableFast at h
  split at h
  · rename_i c t hs
    simp only [evalNs_eq, getN_eq, modN_eq, Bool.and_eq_true, beq_iff_eq, decide_eq_true_eq, List.all_eq_true,
      Bool.or_eq_true] at h
    obtain ⟨⟨⟨hn, hp⟩, hl⟩, hz, hd⟩ := h
    have htail : (valueCounts (Huf.expandFrom 1 ((c + 1) :: t))).tail =
        (List.range 11).map fun x => ((c + 1) :: t).getD x 0 := by
      rw [Huf.valueCounts_expandFrom, List.range_succ_eq_map, List.map_cons, List.tail_cons, List.map_map]
      rfl
    rw [tableOk, Huf.shapeOk_of_hist hs hn hp hl, Huf.shapeH_ok hs]
    simp only [Bool.true_and, Bool.and_eq_true, List.all_eq_true, Bool.or_eq_true, beq_iff_eq]
    rw [htail]
    exact ⟨sweepHead_of_F hz, fun d hd' => (hd d hd').imp Nat.eq_of_beq_eq_true sweepHead_of_F⟩
  · cases h

end Zstd.Proofs.HufLt128
