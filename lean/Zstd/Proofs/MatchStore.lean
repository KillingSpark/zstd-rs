import Zstd.Proofs.MatchBasics
/-
The match finder: the suffix stores and the candidate lookup.  Under the invariant on the content of the
stores (`StoreOk`, `IdxOk`) the only way to fault is a hash that leaves the slot array; so one `Sat` statement
per function (`P := KeyOk key`) gives what is reported, the preservation of the invariant for EVERY hash, and
the absence of panics for a hash that stays in range.
-/
namespace Zstd.Proofs.MG
open Zstd Zstd.Model.MG

/-- partial and total correctness in one: what `x` returns satisfies `Q`; `x` returns when `P` holds.  No fault
of the match generator is ever allowed, so a fault only refutes `P` (the compressor's `Enc.ReturnsOr` also says
WHICH fault may occur). -/
def Sat {α : Type} (x : Except Fault α) (P : Prop) (Q : α → Prop) : Prop :=
  match x with
  | .ok a => Q a
  | .error _ => ¬ P

namespace Sat
variable {α : Type} {x : Except Fault α} {P P' : Prop} {Q Q' : α → Prop}

theorem of_ok (h : Sat x P Q) {a : α} (e : x = .ok a) : Q a := by subst e; exact h

theorem returns (h : Sat x P Q) (hp : P) : ∃ a, x = .ok a ∧ Q a := by
  cases x with
  | ok a => exact ⟨a, rfl, h⟩
  | error f => exact absurd hp h

theorem mono (h : Sat x P Q) (hp : P' → P) (hq : ∀ a, Q a → Q' a) : Sat x P' Q' := by
  cases x with
  | ok a => exact hq a h
  | error f => exact fun p => h (hp p)

end Sat

/-- the hash stays inside the slot array (for stores with `len_log > 0` and at least one slot —
all stores the driver ever creates, see `StoreOk`) -/
def KeyOk (key : KeyFn) : Prop :=
  ∀ lenLog n (kb : List Byte), 0 < lenLog → 0 < n → kb.length = minMatchLen → key lenLog n kb < n

/-- a store on which `SuffixStore::key` does not panic by itself: `len_log > 0` (no shift by 64) and at least one
slot (no `% 0`) -/
def StoreOk (st : SuffixStore) : Prop := 0 < st.lenLog ∧ 0 < st.slots.size

/-- the content of the store of an entry whose data has `len` bytes: every stored index is the start of a full key
inside the data and lies below `bound` (`suffix_idx` for the entry being matched, `len` for an older one), so the
slices `next_sequence` takes at a stored index are in range -/
def IdxOk (st : SuffixStore) (bound len : Nat) : Prop :=
  ∀ k (h : k < st.slots.size) idx, st.slots[k] = some idx → idx < bound ∧ idx + minMatchLen ≤ len

/-- a store fresh from `with_capacity` or recycled into the pool -/
def StoreEmpty (st : SuffixStore) : Prop := ∀ k (h : k < st.slots.size), st.slots[k] = none

theorem idxOk_of_empty {st : SuffixStore} (h : StoreEmpty st) (b len : Nat) : IdxOk st b len := by
  intro k hk idx hs
  rw [h k hk] at hs
  cases hs

theorem idxOk_mono {st : SuffixStore} {b b' len : Nat} (h : IdxOk st b len) (hb : b ≤ b') : IdxOk st b' len := by
  intro k hk idx hs
  obtain ⟨h1, h2⟩ := h k hk idx hs
  exact ⟨by omega, h2⟩

theorem keyAt_length (data : Array Byte) (p : Nat) (h : p + minMatchLen ≤ data.size) :
    (keyAt data p).length = minMatchLen := by
  simp [keyAt]; omega

theorem get_sat (key : KeyFn) (st : SuffixStore) (hst : StoreOk st) (kb : List Byte) (hkb : kb.length = minMatchLen) :
    Sat (st.get key kb) (KeyOk key) fun r => ∀ idx, r = some idx → ∃ k, ∃ h : k < st.slots.size, st.slots[k] = some idx := by
  unfold SuffixStore.get
  simp only []
  split
  · exact fun idx h => ⟨_, ‹_›, h⟩
  · exact fun hk => ‹¬ _› (hk _ _ _ hst.1 hst.2 hkb)

theorem insertIfAbsent_sat (key : KeyFn) (st : SuffixStore) (hst : StoreOk st) (kb : List Byte)
    (hkb : kb.length = minMatchLen) (idx b len : Nat) (hi : IdxOk st b len) (h1 : idx < b) (h2 : idx + minMatchLen ≤ len) :
    Sat (st.insertIfAbsent key kb idx) (KeyOk key) fun st' => StoreOk st' ∧ IdxOk st' b len := by
  unfold SuffixStore.insertIfAbsent
  simp only []
  split
  · split
    · exact ⟨hst, hi⟩
    · refine ⟨⟨hst.1, by simp; exact hst.2⟩, ?_⟩
      intro k hk' idx' hs
      simp only [Array.size_set] at hk'
      simp only [Array.getElem_set] at hs
      split at hs
      · cases hs; exact ⟨h1, h2⟩
      · exact hi k hk' idx' hs
  · exact fun hk => ‹¬ _› (hk _ _ _ hst.1 hst.2 hkb)

theorem addSuffixLoop_sat (key : KeyFn) (data : Array Byte) :
    ∀ (n p : Nat) (st : SuffixStore) (b : Nat), StoreOk st → IdxOk st b data.size → p + n ≤ b →
      (n = 0 ∨ p + n - 1 + minMatchLen ≤ data.size) →
      Sat (addSuffixLoop key data n p st) (KeyOk key) fun st' => StoreOk st' ∧ IdxOk st' b data.size := by
  intro n
  induction n with
  | zero => intro p st b h1 h2 _ _; exact ⟨h1, h2⟩
  | succ n ih =>
    intro p st b h1 h2 h3 h4
    have hp : p + minMatchLen ≤ data.size := by omega
    have h := insertIfAbsent_sat key st h1 (keyAt data p) (keyAt_length data p hp) p b data.size h2 (by omega) hp
    unfold addSuffixLoop
    generalize st.insertIfAbsent key (keyAt data p) p = r at h ⊢
    cases r with
    | error f => exact h
    | ok st1 => exact ih (p + 1) st1 b h.1 h.2 (by omega) (by omega)

theorem addSuffixesTill_sat (key : KeyFn) (data : Array Byte) (st : SuffixStore) (s idx : Nat)
    (h1 : StoreOk st) (h2 : IdxOk st s data.size) (h3 : s ≤ idx) (h4 : idx ≤ data.size) :
    Sat (addSuffixesTill key data st s idx) (KeyOk key) fun st' => StoreOk st' ∧ IdxOk st' idx data.size := by
  unfold addSuffixesTill
  split
  · exact ⟨h1, idxOk_mono h2 h3⟩
  · rw [if_neg (by omega)]
    have := minMatchLen_pos
    exact addSuffixLoop_sat key data _ s st idx h1 (idxOk_mono h2 h3) (by omega) (by omega)

/-- what the candidate lookup needs of an older (not last) window entry -/
def OlderOk (older : List Entry) : Prop :=
  ∀ e ∈ older, StoreOk e.suffixes ∧ IdxOk e.suffixes e.data.size e.data.size ∧ e.data.size ≤ e.baseOffset

/-- the lookup in one entry: every stored index lies below a bound `b` that is inside the slice searched
(`data[mi..hi]`) and at most `base_offset + s` (the offset subtraction) -/
theorem candOf_sat (key : KeyFn) (cur : Array Byte) (s : Nat) (hs : s ≤ cur.size) (kb : List Byte)
    (hkb : kb.length = minMatchLen) (e : Entry) (isLast : Bool) (b : Nat)
    (h1 : StoreOk e.suffixes) (h2 : IdxOk e.suffixes b e.data.size)
    (hb : b ≤ (if isLast then s else e.data.size)) (hhi : (if isLast then s else e.data.size) ≤ e.data.size)
    (hoff : b ≤ e.baseOffset + s) :
    Sat (candOf key cur s kb e isLast) (KeyOk key) fun r => ∀ c, r = some c → GoodCand cur s e.data e.baseOffset isLast c := by
  have hg := get_sat key e.suffixes h1 kb hkb
  unfold candOf
  generalize e.suffixes.get key kb = r at hg ⊢
  match r with
  | .error f => exact hg
  | .ok none => exact fun c h => nomatch h
  | .ok (some mi) =>
    obtain ⟨k, hk', hsl⟩ := hg mi rfl
    obtain ⟨g1, _⟩ := h2 k hk' mi hsl
    simp only [Zstd.Gen.mgCandLenOk, decide_eq_true_eq]
    unfold GoodCand
    generalize (if isLast = true then s else e.data.size) = hi at hb hhi ⊢
    rw [if_neg (by omega)]
    split
    · rename_i hlen
      rw [if_neg (by omega)]
      rintro c ⟨⟩
      obtain ⟨m1, m2, m3, _⟩ := mismatchChunks_isMax 8 e.data mi hi cur s cur.size (by omega) (Nat.le_refl _) (by omega) hs
      exact ⟨mi, rfl, by omega, hlen, m1, by omega, m2, m3⟩
    · exact fun c h => nomatch h

theorem findCandidate_sat (key : KeyFn) (cur : Array Byte) (s : Nat) (hs : s ≤ cur.size) (kb : List Byte)
    (hkb : kb.length = minMatchLen) (lastE : Entry)
    (h1 : StoreOk lastE.suffixes) (h2 : IdxOk lastE.suffixes s lastE.data.size) (h3 : s ≤ lastE.data.size) :
    ∀ (older : List Entry) (cand : Option (Nat × Nat)), OlderOk older →
      Sat (findCandidate key cur s kb (older ++ [lastE]) cand) (KeyOk key) fun r =>
        ∀ c, r = some c → cand = some c ∨ GoodIn cur s (shape (older ++ [lastE])) c := by
  -- the candidate of the entry at the head, if it is kept to the end
  have keep : ∀ (e : Entry) (rest : List Entry) (cand : Option (Nat × Nat)) (c0 c : Nat × Nat),
      GoodCand cur s e.data e.baseOffset rest.isEmpty c0 → better cand c0 = some c →
      cand = some c ∨ GoodIn cur s (shape (e :: rest)) c := by
    intro e rest cand c0 c hc0 hb
    rcases better_cases cand c0 with hb' | ⟨hb', _⟩
    · obtain rfl : c0 = c := by simpa [hb'] using hb
      exact .inr ⟨[], e.data, e.baseOffset, shape rest, rfl, by simpa [shape] using hc0⟩
    · exact .inl (hb' ▸ hb)
  intro older
  induction older with
  | nil =>
    intro cand _
    have hc := candOf_sat key cur s hs kb hkb lastE true s h1 h2 (by simp) (by simpa using h3) (by omega)
    simp only [List.nil_append, findCandidate, List.isEmpty_nil]
    generalize candOf key cur s kb lastE true = r at hc ⊢
    match r with
    | .error f => exact hc
    | .ok none => exact fun c h => .inl h
    | .ok (some c0) => exact fun c h => keep lastE [] cand c0 c (hc c0 rfl) h
  | cons e rest ih =>
    intro cand ho
    obtain ⟨he1, he2, he3⟩ := ho e (by simp)
    have hrest : OlderOk rest := fun x hx => ho x (by simp [hx])
    have hne : (rest ++ [lastE]).isEmpty = false := by cases rest <;> simp
    have hc := candOf_sat key cur s hs kb hkb e false e.data.size he1 he2 (by simp) (by simp) (by omega)
    simp only [List.cons_append, findCandidate, hne]
    generalize candOf key cur s kb e false = r at hc ⊢
    match r with
    | .error f => exact hc
    | .ok none => exact (ih cand hrest).mono id fun r hr c h => (hr c h).imp_right (.cons _)
    | .ok (some c0) =>
      refine (ih (better cand c0) hrest).mono id fun r hr c h => ?_
      rcases hr c h with hb | hg
      · exact keep e (rest ++ [lastE]) cand c0 c (by simpa [hne] using hc c0 rfl) hb
      · exact .inr (hg.cons _)

end Zstd.Proofs.MG
