import Zstd.Proofs.MatchSeq
/-
The match finder: from the index-level meaning of a candidate (`GoodIn`) and the
base-offset invariant (`BaseOk`) to statements about the BYTES of the retained window
(`flat w`); from the recursive description `Parse` of the reported
sequences to statements per sequence index, and to the decoder's view (`execSeqs`).
-/
namespace Zstd.Proofs.MG
open Zstd Zstd.Model.MG

/-- the `concat_window` of the debug build: the data of all window entries, oldest first -/
def flat (w : Shape) : List Byte := w.flatMap (fun e => e.1.toList)

@[simp] theorem flat_nil : flat [] = [] := rfl
@[simp] theorem flat_cons (e : Array Byte × Nat) (w : Shape) : flat (e :: w) = e.1.toList ++ flat w := by
  simp [flat]
@[simp] theorem flat_append (a b : Shape) : flat (a ++ b) = flat a ++ flat b := by
  simp [flat]
@[simp] theorem flat_length (w : Shape) : (flat w).length = total w := by
  induction w with
  | nil => rfl
  | cons e r ih => simp [ih]

theorem flat_eq_of_getLast? {w : Shape} {x : Array Byte × Nat} (h : w.getLast? = some x) :
    flat w = flat w.dropLast ++ x.1.toList := by
  conv => lhs; rw [eq_dropLast_append_of_getLast? w x h]
  simp

theorem total_dropLast_add_last (w : Shape) (x : Array Byte × Nat) (h : w.getLast? = some x) :
    total w.dropLast + x.1.size = total w := by
  rw [← flat_length w, flat_eq_of_getLast? h, List.length_append, flat_length, Array.length_toList]

theorem baseOk_tail : ∀ (pre post : Shape), BaseOk (pre ++ post) → BaseOk post := by
  intro pre
  induction pre with
  | nil => intro post h; exact h
  | cons p pre ih => intro post h; exact ih post h.2

theorem baseOk_at (pre : Shape) (e : Array Byte × Nat) (post : Shape) (h : BaseOk (pre ++ e :: post)) :
    e.2 = total (e :: post).dropLast :=
  (baseOk_tail pre (e :: post) h).1

theorem flat_getElem?_entry (pre : Shape) (e : Array Byte × Nat) (post : Shape) (i : Nat) (h : i < e.1.size) :
    (flat (pre ++ e :: post))[total pre + i]? = e.1[i]? := by
  rw [flat_append, flat_cons, ← flat_length, List.getElem?_append_right (Nat.le_add_right _ _), Nat.add_sub_cancel_left,
    List.getElem?_append_left (by simpa using h), Array.getElem?_toList]

theorem flat_getElem?_last (w : Shape) (x : Array Byte × Nat) (h : w.getLast? = some x) (i : Nat) :
    (flat w)[total w.dropLast + i]? = x.1[i]? := by
  rw [flat_eq_of_getLast? h, ← flat_length, List.getElem?_append_right (Nat.le_add_right _ _), Nat.add_sub_cancel_left,
    Array.getElem?_toList]

/-- The bridge from indices to bytes: a candidate that is `GoodIn` a window with correct base offsets is a true,
non-overlapping match in the bytes `flat w` of that window, at distance `off` within what is retained
(`total w.dropLast` = number of bytes retained in front of the current block `cur`). -/
theorem goodIn_bytes (w : Shape) (cur : Array Byte) (b : Nat) (s off ml : Nat)
    (hb : BaseOk w) (hlast : w.getLast? = some (cur, b)) (hg : GoodIn cur s w (off, ml)) :
    minMatchLen ≤ ml ∧ ml ≤ off ∧ off ≤ total w.dropLast + s ∧ s + ml ≤ cur.size ∧
    ∀ k, k < ml → (flat w)[total w.dropLast + s + k - off]? = (flat w)[total w.dropLast + s + k]? := by
  obtain ⟨pre, ed, eb, post, rfl, mi, h1, h2, h3, h4, h5, h6, h7⟩ := hg
  have hbase := baseOk_at pre (ed, eb) post hb
  -- the entry of the source starts `eb` bytes before the current block
  have hP : total (pre ++ (ed, eb) :: post).dropLast = total pre + eb := by
    rw [List.dropLast_append_cons, total_append, ← hbase]
  -- so the source slice ends before the match position: in the block itself by construction, and an
  -- older entry lies in front of the block as a whole
  have hhi : (if post.isEmpty then s else ed.size) ≤ eb + s := by
    cases post with
    | nil => simp
    | cons p ps =>
      simp only [List.dropLast_cons_cons, total_cons] at hbase
      simp only [List.isEmpty_cons, Bool.false_eq_true, if_false]
      omega
  generalize (if post.isEmpty then s else ed.size) = hi at h4 h5 hhi
  refine ⟨h3, by omega, by omega, h6, ?_⟩
  intro k hk
  rw [show total (pre ++ (ed, eb) :: post).dropLast + s + k - off = total pre + (mi + k) by omega,
    flat_getElem?_entry pre (ed, eb) post _ (show mi + k < ed.size by omega), Nat.add_assoc, flat_getElem?_last _ _ hlast]
  exact h7 k hk

theorem lits_length (data : Array Byte) (a b : Nat) : (lits data a b).length = min b data.size - a := by
  rw [lits, Array.length_toList, Array.size_extract]

theorem lits_eq (data : Array Byte) (a b : Nat) : lits data a b = (data.toList.drop a).take (b - a) := by
  simp [lits, List.extract_eq_take_drop]

theorem take_append_lits (w : Shape) (x : Array Byte × Nat) (hlast : w.getLast? = some x) (pos e : Nat) (h : pos ≤ e) :
    (flat w).take (total w.dropLast + pos) ++ lits x.1 pos e = (flat w).take (total w.dropLast + e) := by
  rw [lits_eq, flat_eq_of_getLast? hlast, ← flat_length, List.take_length_add_append, List.take_length_add_append,
    List.append_assoc, ← List.take_add, Nat.add_sub_of_le h]

theorem startOf_zero (seqs : List Seq) : startOf seqs 0 = 0 := by simp [startOf]
theorem startOf_succ (sq : Seq) (seqs : List Seq) (i : Nat) :
    startOf (sq :: seqs) (i + 1) = sq.span + startOf seqs i := by simp [startOf]

theorem parse_cons {data : Array Byte} {w : Shape} {pos : Nat} {sq : Seq} {rest : List Seq}
    (h : Parse data w pos (sq :: rest)) :
    sq.lits = lits data pos (pos + sq.lits.length) ∧ pos + sq.span ≤ data.size ∧
    (∀ l off ml, sq = .triple l off ml → GoodIn data (pos + l.length) w (off, ml)) ∧
    (∀ l, sq = .literals l → rest = [] ∧ l ≠ []) ∧
    Parse data w (pos + sq.span) rest := by
  cases sq with
  | literals l =>
    obtain ⟨h1, h2, h3⟩ := h
    have hlen : l.length = data.size - pos := by rw [h1, lits_length]; omega
    have e : pos + l.length = data.size := by omega
    simp only [Seq.lits, Seq.span, Seq.matchLen, Nat.add_zero, e]
    refine ⟨h1, Nat.le_refl _, by simp, ?_, by rw [h3]; rfl⟩
    rintro l' ⟨⟩
    exact ⟨h3, fun hn => by rw [hn] at hlen; simp at hlen; omega⟩
  | triple l off ml =>
    obtain ⟨s', h1, h2, h3, h4, h5⟩ := h
    have hlen : l.length = s' - pos := by rw [h2, lits_length]; omega
    have e : pos + l.length = s' := by omega
    simp only [Seq.lits, Seq.span, Seq.matchLen, ← Nat.add_assoc, e]
    refine ⟨h2, h3, ?_, by simp, h5⟩
    rintro _ _ _ ⟨⟩
    rw [e]
    exact h4

theorem parse_index (data : Array Byte) (w : Shape) : ∀ (seqs : List Seq) (pos : Nat), Parse data w pos seqs →
    pos + (seqs.map Seq.span).sum = data.size ∧
    ∀ i sq, seqs[i]? = some sq →
      sq.lits = lits data (pos + startOf seqs i) (pos + startOf seqs i + sq.lits.length) ∧
      pos + startOf seqs i + sq.span ≤ data.size ∧
      (∀ l off ml, sq = .triple l off ml → GoodIn data (pos + startOf seqs i + l.length) w (off, ml)) ∧
      (∀ l, sq = .literals l → i + 1 = seqs.length ∧ l ≠ []) := by
  intro seqs
  induction seqs with
  | nil => intro pos h; simp only [Parse] at h; simp [h]
  | cons sq rest ih =>
    intro pos h
    obtain ⟨c1, c2, c3, c4, c5⟩ := parse_cons h
    obtain ⟨ih1, ih2⟩ := ih _ c5
    refine ⟨by simp only [List.map_cons, List.sum_cons]; omega, ?_⟩
    intro i sq' hi
    cases i with
    | zero =>
      obtain rfl := Option.some.inj hi
      simp only [startOf_zero, Nat.add_zero]
      exact ⟨c1, c2, c3, fun l hl => ⟨by rw [(c4 l hl).1]; rfl, (c4 l hl).2⟩⟩
    | succ i =>
      obtain ⟨g1, g2, g3, g4⟩ := ih2 i sq' hi
      rw [startOf_succ, ← Nat.add_assoc]
      exact ⟨g1, g2, g3, fun l hl => ⟨by simpa using (g4 l hl).1, (g4 l hl).2⟩⟩

/-- any bytes `X` may stand in front of `C`: the copy never reaches them (`off ≤ p`) -/
theorem copyMatch_spec (X C : List Byte) (off : Nat) : ∀ (ml p : Nat), 1 ≤ off → off ≤ p → p + ml ≤ C.length →
    (∀ k, k < ml → C[p + k - off]? = C[p + k]?) →
    copyMatch (X ++ C.take p) off ml = some (X ++ C.take (p + ml)) := by
  intro ml
  induction ml with
  | zero => intro p _ _ _ _; rfl
  | succ ml ih =>
    intro p h1 h2 h3 h4
    have hp : p < C.length := by omega
    have hlen : (X ++ C.take p).length = X.length + p := by
      rw [List.length_append, List.length_take, Nat.min_eq_left (by omega)]
    have hget : (X ++ C.take p)[X.length + p - off]? = some C[p] := by
      rw [List.getElem?_append_right (by omega), show X.length + p - off - X.length = p - off by omega,
        List.getElem?_take_of_lt (by omega), ← List.getElem?_eq_getElem hp]
      exact h4 0 (by omega)
    rw [copyMatch, hlen, if_neg (by omega), hget]
    dsimp only
    rw [List.append_assoc, List.take_append_getElem hp, ih (p + 1) h1 (by omega) (by omega), Nat.add_right_comm,
      Nat.add_assoc]
    intro k hk
    have := h4 (k + 1) (by omega)
    rwa [show p + (k + 1) - off = p + 1 + k - off by omega, show p + (k + 1) = p + 1 + k by omega] at this

theorem goodIn_copy (X : List Byte) (w : Shape) (cur : Array Byte) (b : Nat) (s off ml : Nat)
    (hb : BaseOk w) (hlast : w.getLast? = some (cur, b)) (hg : GoodIn cur s w (off, ml)) :
    copyMatch (X ++ (flat w).take (total w.dropLast + s)) off ml
      = some (X ++ (flat w).take (total w.dropLast + (s + ml))) := by
  obtain ⟨g1, _, g3, g4, g5⟩ := goodIn_bytes w cur b s off ml hb hlast hg
  have htot : total w.dropLast + cur.size = total w := total_dropLast_add_last w (cur, b) hlast
  have hpos := minMatchLen_pos
  rw [← Nat.add_assoc]
  exact copyMatch_spec X (flat w) off ml _ (by omega) g3 (by rw [flat_length]; omega) g5

theorem parse_exec (X : List Byte) (w : Shape) (cur : Array Byte) (b : Nat) (hb : BaseOk w)
    (hlast : w.getLast? = some (cur, b)) : ∀ (seqs : List Seq) (pos : Nat), Parse cur w pos seqs →
      execSeqs (X ++ (flat w).take (total w.dropLast + pos)) seqs = some (X ++ flat w) := by
  have htot : total w.dropLast + cur.size = total w := total_dropLast_add_last w (cur, b) hlast
  intro seqs
  induction seqs with
  | nil =>
    intro pos h
    simp only [Parse] at h
    rw [execSeqs, List.take_of_length_le (by simp; omega)]
  | cons sq rest ih =>
    intro pos h
    cases sq with
    | literals l =>
      obtain ⟨h1, h2, rfl⟩ := h
      rw [execSeqs, execSeqs, h1, List.append_assoc, take_append_lits w _ hlast pos cur.size (by omega),
        List.take_of_length_le (by simp; omega)]
    | triple l off ml =>
      obtain ⟨s', h1, h2, _, h4, h5⟩ := h
      rw [execSeqs, h2, List.append_assoc, take_append_lits w _ hlast pos s' h1, goodIn_copy X w cur b s' off ml hb hlast h4]
      exact ih (s' + ml) h5

end Zstd.Proofs.MG
