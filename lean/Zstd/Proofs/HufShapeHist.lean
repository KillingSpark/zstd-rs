import Zstd.Proofs.HufLt128Def
/-
`Huf.shape n` computed on the HISTOGRAM of the weights (`shapeH`, `shapeH_ok`), for the finite table of
Proofs/HufTableEval.  The weight vector is ascending at every stage of `distribute_weights` and
`redistribute_weights`, so a list of bucket counts (thirty entries or so) stands for the up to 256
weights (`expandFrom`), every pass of the model is a pass over the buckets, and what `shapeOk` and the sweep
ask of the result is read off the buckets (`shapeOk_of_hist`, `valueCounts_expandFrom`).
First what each pass of the model computes on any list, then the buckets.
-/
namespace Zstd.Proofs.HufShape

theorem allGe1_iff : ∀ l : List Nat, allGe1 l = true ↔ ∀ w ∈ l, 1 ≤ w
  | [] => by simp [allGe1]
  | x :: xs => by simp [allGe1, allGe1_iff xs]

end Zstd.Proofs.HufShape

namespace Zstd.Proofs.Huf
open Zstd Zstd.Model Zstd.Model.Huf Zstd.Proofs.HufShape
open Zstd.Proofs.HufLt128 (trimRev valueCounts)

theorem pushN_eq : ∀ (n x : Nat) (acc : List Nat), pushN n x acc = List.replicate n x ++ acc
  | 0, _, _ => rfl
  | n + 1, x, acc => by
    rw [pushN, pushN_eq n, List.replicate_succ', List.append_assoc]
    rfl

theorem sumPow2_eq : ∀ (ws : List Nat) (acc : Nat), (∀ w ∈ ws, w < 64) →
    acc + (ws.map (2 ^ ·)).sum < 2 ^ 64 → sumPow2 ws acc = .ok (acc + (ws.map (2 ^ ·)).sum)
  | [], _, _, _ => rfl
  | w :: ws, acc, hw, hs => by
    rw [List.map_cons, List.sum_cons, ← Nat.add_assoc] at hs ⊢
    have := Nat.le_add_right (acc + 2 ^ w) (ws.map (2 ^ ·)).sum
    rw [sumPow2, if_neg (by have := hw w List.mem_cons_self; omega), if_neg (by omega)]
    exact sumPow2_eq ws _ (fun x hx => hw x (List.mem_cons_of_mem _ hx)) hs

theorem raiseLoop_eq (d : Nat) : ∀ (ws : List Nat) (added : Nat) (acc : List Nat),
    raiseLoop d ws added acc =
      ((ws.map (max d)).reverse ++ acc, added + (ws.map fun w => 2 ^ d - 2 ^ w).sum)
  | [], _, _ => rfl
  | w :: ws, added, acc => by
    rw [raiseLoop, List.map_cons, List.map_cons, List.sum_cons, List.reverse_cons, List.append_assoc,
      ← Nat.add_assoc]
    by_cases h : w < d
    · rw [if_pos h, raiseLoop_eq d ws, Nat.max_eq_left (Nat.le_of_lt h)]
      rfl
    · rw [if_neg h, raiseLoop_eq d ws, Nat.max_eq_right (Nat.le_of_not_lt h),
        Nat.sub_eq_zero_of_le (Nat.pow_le_pow_right (by omega) (Nat.le_of_not_lt h))]
      rfl

theorem subAll_eq (off : Nat) : ∀ ws : List Nat, (∀ w ∈ ws, off ≤ w) → subAll off ws = .ok (ws.map (· - off))
  | [], _ => rfl
  | w :: ws, h => by
    rw [subAll, if_neg (by have := h w List.mem_cons_self; omega),
      subAll_eq off ws fun x hx => h x (List.mem_cons_of_mem _ hx)]
    rfl

theorem weightSum_eq : ∀ ws : List Nat, weightSum ws = (ws.map fun w => if w > 0 then 2 ^ (w - 1) else 0).sum
  | [] => rfl
  | w :: ws => by rw [weightSum, weightSum_eq ws]; rfl

theorem scanLoop_prefix {added w : Nat} (hw : 1 ≤ w) (hq : 2 ^ (w - 1) ≤ added) (post : List Nat) :
    ∀ (pre : List Nat) (idx curIdx curW : Nat), (∀ x ∈ pre, 1 ≤ x ∧ x < w) → curW < w →
      scanLoop added (pre ++ w :: post) idx curIdx curW =
        scanLoop added post (idx + pre.length + 1) (idx + pre.length) w
  | [], idx, curIdx, curW, _, hc => by
    rw [List.nil_append, scanLoop, if_neg (by omega), if_neg (by omega), if_pos hc]
    rfl
  | x :: pre, idx, curIdx, curW, hpre, hc => by
    have hx := hpre x List.mem_cons_self
    have hpre' := fun y hy => hpre y (List.mem_cons_of_mem _ hy)
    have : 2 ^ (x - 1) ≤ 2 ^ (w - 1) := Nat.pow_le_pow_right (by omega) (by omega)
    rw [List.cons_append, scanLoop, if_neg (by omega), if_neg (by omega), List.length_cons,
      show idx + (pre.length + 1) = idx + 1 + pre.length by omega]
    split
    · exact scanLoop_prefix hw hq post pre _ _ _ hpre' hx.2
    · exact scanLoop_prefix hw hq post pre _ _ _ hpre' hc

theorem scanLoop_suffix {added w : Nat} (hw : 1 ≤ w) (hq : 2 ^ (w - 1) ≤ added) (curIdx : Nat) :
    ∀ (post : List Nat) (idx : Nat), (∀ y ∈ post, y = w ∨ added < 2 ^ (y - 1)) →
      scanLoop added post idx curIdx w = .ok (curIdx, w)
  | [], _, _ => rfl
  | y :: post, idx, hpost => by
    have h1 : 1 ≤ added := Nat.le_trans Nat.one_le_two_pow hq
    rw [scanLoop]
    rcases hpost y List.mem_cons_self with rfl | hy
    · rw [if_neg (by omega), if_neg (by omega), if_neg (Nat.lt_irrefl _)]
      exact scanLoop_suffix hw hq curIdx post _ fun z hz => hpost z (List.mem_cons_of_mem _ hz)
    · rw [if_neg (by rintro rfl; simp at hy; omega), if_pos hy]

theorem decAt_append_cons (w : Nat) (hw : w ≠ 0) (post : List Nat) :
    ∀ pre : List Nat, decAt (pre ++ w :: post) pre.length = .ok (pre ++ (w - 1) :: post)
  | [] => by rw [List.nil_append, List.length_nil, decAt, if_neg hw]; rfl
  | x :: pre => by rw [List.cons_append, List.length_cons, decAt, decAt_append_cons w hw post pre]; rfl

theorem reduceLoop_round (fuel a w : Nat) (pre post : List Nat) (hw : 1 ≤ w) (hq : 2 ^ (w - 1) ≤ a + 1)
    (hpre : ∀ x ∈ pre, 1 ≤ x ∧ x < w) (hpost : ∀ y ∈ post, y = w ∨ a + 1 < 2 ^ (y - 1)) :
    reduceLoop (fuel + 1) (pre ++ w :: post) (a + 1) =
      reduceLoop fuel (pre ++ (w - 1) :: post) (a + 1 - 2 ^ (w - 1)) := by
  rw [reduceLoop, scanLoop_prefix hw hq post pre 0 0 0 hpre (by omega), scanLoop_suffix hw hq _ post _ hpost]
  simp only [Nat.zero_add]
  rw [if_neg (by omega), decAt_append_cons w (by omega)]

theorem reduceLoop_zero (fuel : Nat) (ws : List Nat) : reduceLoop fuel ws 0 = .ok ws := by
  cases fuel <;> rfl

/-- nothing above `w` can be taken, so each of the `k` rounds takes the first remaining copy of `w` -/
theorem reduceLoop_rounds {w : Nat} (hw : 2 ≤ w) (post : List Nat) :
    ∀ (k c : Nat) (pre : List Nat) (fuel added : Nat), (∀ x ∈ pre, 1 ≤ x ∧ x < w) →
    (∀ y ∈ post, added < 2 ^ (y - 1)) → k ≤ c → k * 2 ^ (w - 1) ≤ added → added ≤ fuel →
    reduceLoop fuel (pre ++ (List.replicate c w ++ post)) added =
      reduceLoop (fuel - k) (pre ++ (List.replicate k (w - 1) ++ (List.replicate (c - k) w ++ post)))
        (added - k * 2 ^ (w - 1))
  | 0, c, pre, fuel, added, _, _, _, _, _ => by
    rw [Nat.zero_mul, Nat.sub_zero, Nat.sub_zero, Nat.sub_zero]
    rfl
  | k + 1, c, pre, fuel, added, hpre, hpost, hk, hadd, hfuel => by
    have hp : 1 ≤ 2 ^ (w - 1) := Nat.one_le_two_pow
    rw [Nat.succ_mul] at hadd
    obtain ⟨c, rfl⟩ : ∃ c', c = c' + 1 := ⟨c - 1, by omega⟩
    obtain ⟨a, rfl⟩ : ∃ a, added = a + 1 := ⟨added - 1, by omega⟩
    obtain ⟨fuel, rfl⟩ : ∃ f, fuel = f + 1 := ⟨fuel - 1, by omega⟩
    rw [List.replicate_succ, List.cons_append,
      reduceLoop_round fuel a w pre _ (by omega) (by omega) hpre fun y hy => by
        rcases List.mem_append.mp hy with h | h
        · exact Or.inl (List.eq_of_mem_replicate h)
        · exact Or.inr (hpost y h),
      ← List.singleton_append, ← List.append_assoc,
      reduceLoop_rounds hw post k c (pre ++ [w - 1]) fuel (a + 1 - 2 ^ (w - 1))
        (fun x hx => by
          rcases List.mem_append.mp hx with h | h
          · exact hpre x h
          · rw [List.mem_singleton.mp h]; omega)
        (fun y hy => by have := hpost y hy; omega) (by omega) (by omega) (by omega),
      List.append_assoc, List.singleton_append, List.replicate_succ, List.cons_append, Nat.succ_mul,
      Nat.add_sub_add_right, Nat.add_sub_add_right, Nat.sub_sub, Nat.add_comm (2 ^ (w - 1))]

/-- the ascending weight list with `h[i]` copies of `v + i` -/
def expandFrom (v : Nat) : List Nat → List Nat
  | [] => []
  | c :: h => List.replicate c v ++ expandFrom (v + 1) h

theorem expandFrom_append : ∀ (a b : List Nat) (v : Nat),
    expandFrom v (a ++ b) = expandFrom v a ++ expandFrom (v + a.length) b
  | [], _, _ => rfl
  | c :: a, b, v => by
    rw [List.cons_append, expandFrom, expandFrom, expandFrom_append a b, List.append_assoc, List.length_cons,
      Nat.add_assoc, Nat.add_comm 1]

theorem expandFrom_zeros (h : List Nat) : ∀ (k v : Nat), expandFrom v (List.replicate k 0 ++ h) = expandFrom (v + k) h
  | 0, _ => rfl
  | k + 1, v => by
    rw [List.replicate_succ, List.cons_append, expandFrom, expandFrom_zeros h k, Nat.add_assoc, Nat.add_comm 1]
    rfl

theorem mem_expandFrom : ∀ (h : List Nat) (v x : Nat), x ∈ expandFrom v h → v ≤ x ∧ x < v + h.length
  | [], _, _, hx => by cases hx
  | c :: h, v, x, hx => by
    rw [List.length_cons]
    rcases List.mem_append.mp hx with hx | hx
    · rw [List.eq_of_mem_replicate hx]; omega
    · have := mem_expandFrom h (v + 1) x hx; omega

theorem length_expandFrom : ∀ (h : List Nat) (v : Nat), (expandFrom v h).length = h.sum
  | [], _ => rfl
  | c :: h, v => by rw [expandFrom, List.length_append, List.length_replicate, length_expandFrom h, List.sum_cons]

/-- `Σ f w` over the weights `expandFrom v h` -/
def sumOver (f : Nat → Nat) (v : Nat) : List Nat → Nat
  | [] => 0
  | c :: h => c * f v + sumOver f (v + 1) h

theorem sum_map_expandFrom (f : Nat → Nat) : ∀ (h : List Nat) (v : Nat),
    ((expandFrom v h).map f).sum = sumOver f v h
  | [], _ => rfl
  | c :: h, v => by
    rw [expandFrom, List.map_append, List.sum_append, List.map_replicate, List.sum_replicate_nat,
      sum_map_expandFrom f h]
    rfl

/-! ### `distribute_weights` on the histogram

The loop pushes onto the reversed vector only at the largest weight, so its histogram is kept with the
largest weight first (`hr`, of length `target + 1`). -/

def distLoopH : Nat → Nat → Nat → Nat → Nat → List Nat → Option (List Nat)
  | 0, amount, len, _, _, hr => if len < amount then none else some hr
  | fuel + 1, amount, len, target, counter, hr =>
    if len < amount then
      if counter - target ≥ 64 then none
      else if 2 ^ (counter - target) > amount - len then
        distLoopH fuel amount (len + 1) counter (counter + 1)
          (1 :: (List.replicate (counter - target - 1) 0 ++ hr))
      else
        match hr with
        | c :: t =>
          distLoopH fuel amount (len + 2 ^ (counter - target)) target (counter + 1) ((c + 2 ^ (counter - target)) :: t)
        | [] => none
    else some hr

theorem expand_reverse_cons (c : Nat) (t : List Nat) :
    expandFrom 0 (c :: t).reverse = expandFrom 0 t.reverse ++ List.replicate c t.length := by
  rw [List.reverse_cons, expandFrom_append, List.length_reverse, Nat.zero_add, expandFrom, expandFrom,
    List.append_nil]

theorem expand_reverse_zeros (k : Nat) (t : List Nat) :
    expandFrom 0 (List.replicate k 0 ++ t).reverse = expandFrom 0 t.reverse := by
  have := expandFrom_zeros [] k (0 + t.reverse.length)
  rw [List.append_nil] at this
  rw [List.reverse_append, List.reverse_replicate, expandFrom_append, this, expandFrom, List.append_nil]

theorem distLoopH_ok : ∀ (fuel amount len target counter : Nat) (hr accRev h' : List Nat),
    hr.length = target + 1 → target < counter → accRev.reverse = expandFrom 0 hr.reverse →
    distLoopH fuel amount len target counter hr = some h' →
    ∃ accRev', distLoop fuel amount len target counter accRev = .ok accRev' ∧
      accRev'.reverse = expandFrom 0 h'.reverse
  | 0, amount, len, target, counter, hr, accRev, h', _, _, hacc, hd => by
    rw [distLoopH] at hd
    rw [distLoop]
    by_cases h1 : len < amount
    · rw [if_pos h1] at hd; cases hd
    · rw [if_neg h1] at hd ⊢; cases hd; exact ⟨accRev, rfl, hacc⟩
  | _ + 1, _, _, _, _, [], _, _, hlen, _, _, _ => nomatch hlen
  | fuel + 1, amount, len, target, counter, c :: t, accRev, h', hlen, htc, hacc, hd => by
    have ht : t.length = target := by simpa using hlen
    rw [distLoopH] at hd
    rw [distLoop]
    by_cases h1 : len < amount
    · rw [if_pos h1] at hd ⊢
      by_cases h2 : counter - target ≥ 64
      · rw [if_pos h2] at hd; cases hd
      · rw [if_neg h2] at hd ⊢
        dsimp only
        by_cases h3 : 2 ^ (counter - target) > amount - len
        · rw [if_pos h3] at hd ⊢
          refine distLoopH_ok fuel amount _ counter _ _ _ h' ?_ (Nat.lt_succ_self _) ?_ hd
          · simp only [List.length_cons, List.length_append, List.length_replicate, ht]; omega
          · rw [List.reverse_cons, hacc, expand_reverse_cons 1, expand_reverse_zeros, List.length_append,
              List.length_replicate, hlen, show counter - target - 1 + (target + 1) = counter by omega]
            rfl
        · rw [if_neg h3] at hd ⊢
          refine distLoopH_ok fuel amount _ target _ _ _ h' (by simpa using ht) (by omega) ?_ hd
          rw [pushN_eq, List.reverse_append, List.reverse_replicate, hacc, expand_reverse_cons,
            expand_reverse_cons, ht, List.append_assoc, List.replicate_append_replicate]
    · rw [if_neg h1] at hd ⊢; cases hd; exact ⟨accRev, rfl, hacc⟩

/-- `distribute_weights` on histograms: the buckets of the weights `0, 1, …` -/
def distH (amount : Nat) : Option (List Nat) :=
  if !Gen.hufAmountLoOk amount Gen.hufAmountLo then none
  else if !Gen.hufAmountHiOk amount Gen.hufAmountHi then none
  else (distLoopH amount amount 2 1 2 [2, 0]).bind fun hr => if hr.sum = amount then some hr.reverse else none

theorem distH_ok {n : Nat} {h : List Nat} (hd : distH n = some h) :
    distributeWeights n = .ok (expandFrom 0 h) ∧ (expandFrom 0 h).length = n := by
  rw [distH, Option.ite_none_left_eq_some, Option.ite_none_left_eq_some] at hd
  obtain ⟨hlo, hhi, hd⟩ := hd
  rw [distributeWeights, if_neg hlo, if_neg hhi]
  obtain ⟨hr, hq, hd⟩ := Option.bind_eq_some_iff.mp hd
  obtain ⟨hsum, hh⟩ := Option.ite_none_right_eq_some.mp hd
  cases hh
  obtain ⟨accRev, hdl, hacc⟩ := distLoopH_ok n n 2 1 2 [2, 0] [1, 1] hr rfl (by omega) rfl hq
  have hlen : accRev.length = n := by
    rw [← List.length_reverse, hacc, length_expandFrom, List.sum_reverse, hsum]
  rw [hdl]
  simp only []
  rw [if_pos hlen, hacc]
  exact ⟨rfl, by rw [← hacc, List.length_reverse, hlen]⟩

/-! ### the reduction loop on the histogram

A round of the loop lowers the FIRST copy of the largest weight `w` with `2^(w-1) ≤ added`, which keeps the
list ascending: on the histogram it moves one unit from bucket `w` to bucket `w - 1`.  The bucket chosen
never rises from round to round, so the whole loop is one pass from the top: each bucket passes down as many
units as `added` still pays for. -/

/-- the pass over the buckets `h` of the weights `v, v + 1, …`: the buckets afterwards, the units that
left bucket `v` for `v - 1`, and what is left of `added` -/
def reducePass (v : Nat) : List Nat → Nat → List Nat × Nat × Nat
  | [], added => ([], 0, added)
  | c :: h, added =>
    match reducePass (v + 1) h added with
    | (h', cin, a) =>
      let k := min (c + cin) (a / 2 ^ (v - 1))
      ((c + cin - k) :: h', k, a - k * 2 ^ (v - 1))

/-- `pre`: the weights below `v`, which no round of this pass touches.  Every round of `reduceLoop` spends one unit of fuel
and at least one unit of `added`, so the pass is an equation between two runs of the loop, the second on whatever fuel
`fuel' ≥ a` is left. -/
theorem reducePass_spec : ∀ (h : List Nat) (v : Nat) (pre : List Nat) (added fuel : Nat) (h' : List Nat)
    (cin a : Nat), 2 ≤ v → (∀ x ∈ pre, 1 ≤ x ∧ x < v) → added ≤ fuel →
    reducePass v h added = (h', cin, a) →
    a ≤ added ∧ (∀ y ∈ expandFrom v h', a < 2 ^ (y - 1)) ∧
      ∃ fuel', a ≤ fuel' ∧ reduceLoop fuel (pre ++ expandFrom v h) added =
        reduceLoop fuel' (pre ++ (List.replicate cin (v - 1) ++ expandFrom v h')) a
  | [], v, pre, added, fuel, h', cin, a, _, _, hfuel, hr => by
    obtain ⟨rfl, rfl, rfl⟩ : [] = h' ∧ 0 = cin ∧ added = a := by simpa [reducePass] using hr
    exact ⟨Nat.le_refl _, (fun y hy => nomatch hy), fuel, hfuel, rfl⟩
  | c :: h, v, pre, added, fuel, h', cin, a, hv, hpre, hfuel, hr => by
    rw [reducePass] at hr
    rcases hq : reducePass (v + 1) h added with ⟨h1, cin1, a1⟩
    rw [hq] at hr
    obtain ⟨rfl, rfl, rfl⟩ : (c + cin1 - min (c + cin1) (a1 / 2 ^ (v - 1))) :: h1 = h' ∧
        min (c + cin1) (a1 / 2 ^ (v - 1)) = cin ∧ a1 - min (c + cin1) (a1 / 2 ^ (v - 1)) * 2 ^ (v - 1) = a := by
      simpa using hr
    obtain ⟨hle, hfail, fuel1, hfuel1, heq⟩ := reducePass_spec h (v + 1) (pre ++ List.replicate c v) added fuel
      h1 cin1 a1 (by omega) (fun x hx => by
        rcases List.mem_append.mp hx with hx | hx
        · have := hpre x hx; omega
        · rw [List.eq_of_mem_replicate hx]; omega) hfuel hq
    have hp : 0 < 2 ^ (v - 1) := Nat.two_pow_pos _
    generalize hk : min (c + cin1) (a1 / 2 ^ (v - 1)) = k
    have hkc : k ≤ c + cin1 := by omega
    have hka : k * 2 ^ (v - 1) ≤ a1 := by
      have : k ≤ a1 / 2 ^ (v - 1) := by omega
      exact (Nat.le_div_iff_mul_le hp).mp this
    refine ⟨by omega, ?_, fuel1 - k, by have := Nat.le_mul_of_pos_right k hp; omega, ?_⟩
    · intro y hy
      rcases List.mem_append.mp hy with hy | hy
      · -- a copy of `v` is left: then `added` did not pay for one more
        have hlt : k < c + cin1 := by
          rcases Nat.eq_zero_or_pos (c + cin1 - k) with h0 | h0
          · rw [h0] at hy; cases hy
          · omega
        have hk' : k = a1 / 2 ^ (v - 1) := by omega
        rw [List.eq_of_mem_replicate hy, hk', Nat.mul_comm, ← Nat.mod_eq_sub_mul_div]
        exact Nat.mod_lt _ hp
      · have := hfail y hy; omega
    · rw [List.append_assoc, List.append_assoc, Nat.add_sub_cancel] at heq
      rw [expandFrom, expandFrom, heq, ← List.append_assoc (List.replicate c v), List.replicate_append_replicate,
        reduceLoop_rounds hv _ k (c + cin1) pre fuel1 a1 hpre hfail hkc hka hfuel1]

/-- the reduction loop on the histogram `h` of the weights `0, 1, …`; `none` where the loop would go on to
the weights 1 and 0 -/
def reduceH : List Nat → Nat → Option (List Nat)
  | 0 :: c1 :: t, added =>
    match reducePass 2 t added with
    | (t', cin, 0) => some (0 :: (c1 + cin) :: t')
    | _ => none
  | _, _ => none

theorem reduceH_ok {h h' : List Nat} {added fuel : Nat} (hr : reduceH h added = some h') (hfuel : added ≤ fuel) :
    reduceLoop fuel (expandFrom 0 h) added = .ok (expandFrom 0 h') := by
  match h, hr with
  | 0 :: c1 :: t, hr =>
    rw [reduceH] at hr
    rcases hq : reducePass 2 t added with ⟨t', cin, a⟩
    rw [hq] at hr
    match a, hq, hr with
    | 0, hq, hr =>
      obtain rfl : 0 :: (c1 + cin) :: t' = h' := by simpa using hr
      obtain ⟨_, _, fuel', _, heq⟩ := reducePass_spec t 2 (List.replicate c1 1) added fuel t' cin 0 (Nat.le_refl 2)
        (fun x hx => by rw [List.eq_of_mem_replicate hx]; omega) hfuel hq
      show reduceLoop fuel (List.replicate c1 1 ++ expandFrom 2 t) added =
        .ok (List.replicate (c1 + cin) 1 ++ expandFrom 2 t')
      rw [heq, reduceLoop_zero, ← List.append_assoc, List.replicate_append_replicate]

/-- every weight below `d` raised to `d` -/
def raiseH (d : Nat) (h : List Nat) : List Nat :=
  List.replicate d 0 ++ ((h.take (d + 1)).sum :: h.drop (d + 1))

theorem map_max_expand (d : Nat) (h : List Nat) : (expandFrom 0 h).map (max d) = expandFrom 0 (raiseH d h) := by
  rw [raiseH, expandFrom_zeros, expandFrom, Nat.zero_add]
  conv => lhs; rw [← List.take_append_drop (d + 1) h, expandFrom_append, List.map_append, Nat.zero_add]
  have hlow : (expandFrom 0 (h.take (d + 1))).map (max d) = List.replicate (h.take (d + 1)).sum d :=
    List.eq_replicate_iff.mpr ⟨by rw [List.length_map, length_expandFrom], fun b hb => by
      obtain ⟨x, hx, rfl⟩ := List.mem_map.mp hb
      have := mem_expandFrom _ _ _ hx
      rw [List.length_take] at this
      omega⟩
  rw [hlow]
  by_cases hl : h.length ≤ d + 1
  · rw [List.drop_eq_nil_of_le hl]; rfl
  · rw [List.length_take, Nat.min_eq_left (by omega)]
    congr 1
    conv => rhs; rw [← List.map_id (expandFrom (d + 1) _)]
    exact List.map_congr_left fun x hx => by
      have := mem_expandFrom _ _ _ hx
      show max d x = x
      omega

theorem map_sub_expandFrom (off : Nat) : ∀ (g : List Nat) (v : Nat),
    (expandFrom (v + off) g).map (· - off) = expandFrom v g
  | [], _ => rfl
  | c :: g, v => by
    rw [expandFrom, expandFrom, List.map_append, List.map_replicate, Nat.add_sub_cancel, Nat.add_right_comm,
      map_sub_expandFrom off g]

theorem trimRev_spec : ∀ l : List Nat, ∃ k, l = List.replicate k 0 ++ trimRev l
  | [] => ⟨0, rfl⟩
  | 0 :: r => by
    obtain ⟨k, hk⟩ := trimRev_spec r
    exact ⟨k + 1, by rw [trimRev, List.replicate_succ, List.cons_append, ← hk]⟩
  | (x + 1) :: r => ⟨0, rfl⟩

/-- `redistribute_weights` on the histogram `h` of the weights `0, 1, …`; the result holds the weights
`1, 2, …` and its first bucket is occupied -/
def redistH (h : List Nat) (maxNumBits : Nat) : Option (List Nat) :=
  let sum := sumOver (2 ^ ·) 0 h
  if h.length ≤ 64 ∧ sum < 2 ^ 64 ∧ sum ≠ 0 then
    if Nat.log2 sum < maxNumBits then
      match h with
      | 0 :: g => some g
      | _ => none
    else
      let d := Nat.log2 sum - maxNumBits + 1
      (reduceH (raiseH d h) (sumOver (fun w => 2 ^ d - 2 ^ w) 0 h)).bind fun
        | 0 :: r =>
          match trimRev r with
          | (c + 1) :: t => some ((c + 1) :: t)
          | _ => none
        | _ => none
  else none

theorem redistH_ok {h g : List Nat} {m : Nat} (hr : redistH h m = some g) :
    redistributeWeights (expandFrom 0 h) m = .ok (expandFrom 1 g) := by
  unfold redistH at hr
  simp only [Option.ite_none_right_eq_some] at hr
  obtain ⟨⟨hlen, hlt, hne⟩, hr⟩ := hr
  unfold redistributeWeights
  rw [sumPow2_eq _ 0 (fun w hw => by have := mem_expandFrom _ _ _ hw; omega)
    (by rw [sum_map_expandFrom]; omega), sum_map_expandFrom, Nat.zero_add]
  simp only []
  rw [if_neg hne]
  split at hr
  · rw [if_pos ‹_›]
    match h, hr with
    | 0 :: g', hr => cases hr; rfl
  · rw [if_neg ‹_›, raiseLoop_eq]
    simp only [List.append_nil, List.reverse_reverse, Nat.zero_add]
    rw [map_max_expand, sum_map_expandFrom]
    generalize Nat.log2 (sumOver (2 ^ ·) 0 h) - m + 1 = d at hr ⊢
    obtain ⟨hD, hq, hr⟩ := Option.bind_eq_some_iff.mp hr
    rw [reduceH_ok hq (Nat.le_refl _)]
    match hD, hr with
    | 0 :: r, hr =>
      simp only [] at hr
      obtain ⟨k, hk⟩ := trimRev_spec r
      match htr : trimRev r, hr with
      | (c + 1) :: t, hr =>
        cases hr
        -- the lowest weight is `1 + k`
        have he : expandFrom 0 (0 :: r) = expandFrom (1 + k) ((c + 1) :: t) := by
          rw [hk, htr]; exact expandFrom_zeros _ k 1
        rw [he]
        show (if 1 + k > 1 then subAll (1 + k - 1) (expandFrom (1 + k) ((c + 1) :: t)) else _) = _
        split
        · rw [Nat.add_sub_cancel_left, subAll_eq _ _ fun w hw => by have := mem_expandFrom _ _ _ hw; omega,
            map_sub_expandFrom]
        · obtain rfl : k = 0 := by omega
          rfl

/-- `Huf.shape` on histograms: the buckets of the weights `1, 2, …` -/
def shapeH (n : Nat) : Option (List Nat) :=
  (distH n).bind fun h => redistH h (Nat.log2 n + Gen.hufLimitAdd)

theorem shapeH_ok {n : Nat} {g : List Nat} (hs : shapeH n = some g) : shape n = .ok (expandFrom 1 g) := by
  obtain ⟨h, hd, hs⟩ := Option.bind_eq_some_iff.mp hs
  obtain ⟨hdw, hlen⟩ := distH_ok hd
  rw [shape, hdw]
  simp only []
  rw [hlen]
  exact redistH_ok hs

theorem isSortedAsc_cons (a : Nat) : ∀ l : List Nat, (∀ x ∈ l, a ≤ x) → isSortedAsc l = true →
    isSortedAsc (a :: l) = true
  | [], _, _ => rfl
  | b :: r, h, hs => by rw [isSortedAsc, hs, decide_eq_true (h b List.mem_cons_self)]; rfl

theorem isSortedAsc_expandFrom : ∀ (g : List Nat) (v : Nat), isSortedAsc (expandFrom v g) = true
  | [], _ => rfl
  | c :: g, v => by
    rw [expandFrom]
    induction c with
    | zero => exact isSortedAsc_expandFrom g (v + 1)
    | succ c ih =>
      refine isSortedAsc_cons v _ (fun x hx => ?_) ih
      rcases List.mem_append.mp hx with hx | hx
      · rw [List.eq_of_mem_replicate hx]; exact Nat.le_refl _
      · have := mem_expandFrom _ _ _ hx; omega

theorem count_expandFrom : ∀ (g : List Nat) (v x : Nat),
    (expandFrom v g).count x = if v ≤ x then g.getD (x - v) 0 else 0
  | [], _, _ => by split <;> rfl
  | c :: g, v, x => by
    rw [expandFrom, List.count_append, List.count_replicate, count_expandFrom g]
    rcases Nat.lt_trichotomy x v with h | rfl | h
    · rw [if_neg (by simpa using Nat.ne_of_gt h), if_neg (by omega), if_neg (by omega)]
    · rw [if_pos (by simp), if_neg (by omega), if_pos (Nat.le_refl _), Nat.sub_self]; rfl
    · rw [if_neg (by simpa using Nat.ne_of_lt h), if_pos (by omega), if_pos (by omega),
        show x - v = x - (v + 1) + 1 by omega, Nat.zero_add]
      rfl

theorem valueCounts_expandFrom (g : List Nat) :
    valueCounts (expandFrom 1 g) = (List.range 12).map fun x => (0 :: g).getD x 0 :=
  List.map_congr_left fun x _ => by
    rw [count_expandFrom]
    cases x <;> rfl

/-- `Σ 2^(w-1)` over the weights `1, 2, …` with buckets `g` -/
def kraftH (g : List Nat) : Nat := sumOver (fun w => if w > 0 then 2 ^ (w - 1) else 0) 1 g

/-- what `shapeOk n` asks, on the buckets of `shapeH n` (ascending, from 1 and at least 1 by construction) -/
theorem shapeOk_of_hist {n c : Nat} {t : List Nat} (hs : shapeH n = some ((c + 1) :: t))
    (hn : ((c + 1) :: t).sum = n) (hp : isPow2 (kraftH ((c + 1) :: t)) = true)
    (hl : Nat.log2 (kraftH ((c + 1) :: t)) ≤ Gen.hufMaxNumBits) : shapeOk n = true := by
  rw [shapeOk, shapeH_ok hs]
  simp only [Bool.and_eq_true, beq_iff_eq, decide_eq_true_eq]
  rw [weightSum_eq, sum_map_expandFrom]
  exact ⟨⟨⟨⟨⟨(length_expandFrom _ _).trans hn,
    (allGe1_iff _).mpr fun w hw => (mem_expandFrom _ _ _ hw).1⟩, isSortedAsc_expandFrom _ _⟩, rfl⟩, hp⟩, hl⟩

end Zstd.Proofs.Huf
