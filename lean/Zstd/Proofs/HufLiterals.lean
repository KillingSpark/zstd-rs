import Zstd.Model.Huffman
/-
`decompress_literals` cut into its three phases — the table (`litStep1`), one or four streams
(`litStreams`, over `streamsFold`), the count check (`litFinish`) — and tied to the model once
(`decompressLiterals_eq`).
-/
namespace Zstd.Proofs.Huf
open Zstd Zstd.Model.Huf Zstd.Model.Huf.Bits

theorem six_of_length {l : List Nat} (h : 6 ≤ l.length) :
    ∃ b0 b1 b2 b3 b4 b5 rest, l = b0 :: b1 :: b2 :: b3 :: b4 :: b5 :: rest := by
  match l, h with
  | b0 :: b1 :: b2 :: b3 :: b4 :: b5 :: rest, _ => exact ⟨b0, b1, b2, b3, b4, b5, rest, rfl⟩

def litStep1 (sec : LitSection) (t : DecTable) (source : List Nat) : DecTable × DRes LitErr Nat :=
  match sec.lsType with
  | .compressed =>
    match buildDecoder t source with
    | (t', .ok used) => (t', .ok used)
    | (t', .error (.err e)) => (t', .error (.err (.huf e)))
    | (t', .error (.fault f)) => (t', .error (.fault f))
  | .treeless => if t.maxNumBits = 0 then (t, .error (.err .uninitializedHuffmanTable)) else (t, .ok 0)
  | _ => (t, .ok 0)

/-- the streams `ss` decoded one after the other, each pushing onto the output of the one before,
then `k` on the final output: the nest of `match`es of `decompress_literals`, as a recursion -/
def streamsFold {α : Type} (t : DecTable) (check : Bool) (k : List Nat → DRes LitErr α) :
    List (List Nat) → List Nat → DRes LitErr α
  | [], o => k o
  | s :: ss, o =>
    match decodeOneStream t s check o with
    | .error e => .error e
    | .ok o' => streamsFold t check k ss o'

/-- `source` is what follows the table description -/
def litStreams (t : DecTable) (nstreams bytesRead : Nat) (source target : List Nat) : DRes LitErr (List Nat × Nat) :=
  if nstreams = 4 then
    if Gen.hufJumpHeaderMissing source.length Gen.hufJumpHeaderLen then
      .error (.err (.missingBytesForJumpHeader source.length))
    else
      match source with
      | b0 :: b1 :: b2 :: b3 :: b4 :: b5 :: src =>
        let jump1 := b0 + b1 * 256
        let jump2 := jump1 + b2 + b3 * 256
        let jump3 := jump2 + b4 + b5 * 256
        if Gen.hufJumpTooFar src.length jump3 then .error (.err (.missingBytesForLiterals src.length jump3))
        else
          streamsFold t true (fun o => .ok (o.reverse, bytesRead + 6 + src.length))
            [src.take jump1, (src.drop jump1).take (jump2 - jump1), (src.drop jump2).take (jump3 - jump2),
              src.drop jump3]
            target.reverse
      | _ => .error (.fault (.index "literals_section_decoder.rs:source[0..6]"))
  else if nstreams ≠ 1 then .error (.fault (.assert "literals_section_decoder.rs:num_streams==1"))
  else streamsFold t false (fun o => .ok (o.reverse, bytesRead + source.length)) [source] target.reverse

/-- the four-stream layout in terms of the three stream sizes of the jump table (the code keeps
their running sums) -/
theorem litStreams_four (t : DecTable) (br : Nat) {b0 b1 b2 b3 b4 b5 j1 j2 j3 : Nat} (src target : List Nat)
    (h1 : b0 + b1 * 256 = j1) (h2 : b2 + b3 * 256 = j2) (h3 : b4 + b5 * 256 = j3)
    (hfit : j1 + j2 + j3 ≤ src.length) :
    litStreams t 4 br (b0 :: b1 :: b2 :: b3 :: b4 :: b5 :: src) target =
      streamsFold t true (fun o => .ok (o.reverse, br + 6 + src.length))
        [src.take j1, (src.drop j1).take j2, (src.drop (j1 + j2)).take j3, src.drop (j1 + j2 + j3)]
        target.reverse := by
  have k2 : j1 + b2 + b3 * 256 = j1 + j2 := by omega
  have k3 : j1 + j2 + b4 + b5 * 256 = j1 + j2 + j3 := by omega
  have hmiss : Gen.hufJumpHeaderMissing (b0 :: b1 :: b2 :: b3 :: b4 :: b5 :: src).length Gen.hufJumpHeaderLen = false :=
    decide_eq_false (by simp only [List.length_cons, Gen.hufJumpHeaderLen]; omega)
  have hfar : Gen.hufJumpTooFar src.length (j1 + j2 + j3) = false := decide_eq_false (by omega)
  simp only [litStreams, if_true, hmiss, h1, k2, k3, hfar, Nat.add_sub_cancel_left, Bool.false_eq_true, if_false]

def litFinish (regen : Nat) (t : DecTable) (res : DRes LitErr (List Nat × Nat)) :
    DecTable × DRes LitErr (List Nat × Nat) :=
  match res with
  | .error e => (t, .error e)
  | .ok (target', n) =>
    if target'.length ≠ regen then (t, .error (.err (.decodedLiteralCountMismatch target'.length regen)))
    else (t, .ok (target', n))

-- the two functions that head the scrutinees stay folded, or `rfl` evaluates them under every `match`
attribute [local irreducible] decodeOneStream buildDecoder in
theorem decompressLiterals_eq (sec : LitSection) (t : DecTable) (source target : List Nat) :
    decompressLiterals sec t source target =
      match sec.compressedSize with
      | none => (t, .error (.err .missingCompressedSize))
      | some csize =>
        match sec.numStreams with
        | none => (t, .error (.err .missingNumStreams))
        | some nstreams =>
          if source.length < csize then (t, .error (.fault (.index "literals_section_decoder.rs:source[0..compressed_size]")))
          else
            match litStep1 sec t (source.take csize) with
            | (t, .error e) => (t, .error e)
            | (t, .ok bytesRead) =>
              litFinish sec.regeneratedSize t (litStreams t nstreams bytesRead ((source.take csize).drop bytesRead) target) :=
  rfl

theorem decodeLiterals_huffman {sec : LitSection} (h : sec.lsType = .compressed ∨ sec.lsType = .treeless)
    (t : DecTable) (src target : List Nat) :
    decodeLiterals sec t src target = decompressLiterals sec t src target := by
  unfold decodeLiterals
  rcases h with h | h <;> rw [h]

end Zstd.Proofs.Huf
