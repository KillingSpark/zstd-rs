import Zstd.Proofs.BlkCoupled
import Zstd.Proofs.FseReader
import Zstd.Proofs.Spec.Block
/-
C01 (refinement Spec ⇒ Model), block level, the sequence BITSTREAM: whenever the RFC semantics
(`Spec.decodeSeqBits`: `Spec.backwardStream`, three `Spec.Fse.initState`, `Spec.decodeSeqLoop`, nothing left
over) accepts the bitstream with tables coupled to the model's scratch (`ChanCoupled`), the faithful model
`Blk.decodeSeqStream` returns the same sequences.
-/
namespace Zstd.Proofs.Blk
open Zstd Zstd.Model Zstd.Model.BitIO Zstd.Model.Fse Zstd.Model.Blk Zstd.Proofs.BitIO

theorem init_strict {maxLog : Nat} {t : DTable} (hb : FseBuilt maxLog t) (hml : maxLog ≤ 9) (d : Fse.Decoder)
    {src : Array Nat} {br : BitReaderRev} {bits rest : List Bool} {st : Nat}
    (hr : Rem src br bits) (hi : Spec.Fse.initState (specOf t) bits = some (st, rest)) :
    ∃ d' br', d.initState t br = .ok (d', br') ∧ Rem src br' rest ∧ t.decode[st]? = some d'.state := by
  obtain ⟨pos, hinv, hp, rfl⟩ := hr
  obtain ⟨hlen, rfl, rfl⟩ := readBE_some (show Spec.readBE t.accuracyLog _ = some (st, rest) from hi)
  obtain ⟨d', br', e, hinv', hd'⟩ := initState_at hb hml hinv d
  rw [List.length_drop, length_stream] at hlen
  exact ⟨d', br', e, ⟨pos + t.accuracyLog, hinv', by omega, by rw [List.drop_drop]⟩, hd'⟩

/-- strict read: the sequence loop never reads past the start of the stream (the padded read of the Huffman weights is
`upd_padded`, `Proofs/BlkHufWeightsRefines`) -/
theorem upd_strict {maxLog : Nat} {t : DTable} (hb : FseBuilt maxLog t) (hml : maxLog ≤ 9) {d : Fse.Decoder}
    {src : Array Nat} {br : BitReaderRev} {bits rest : List Bool} {v : Nat}
    (hd : d.state ∈ t.decode.toList) (hr : Rem src br bits)
    (hu : Spec.readBE d.state.numBits bits = some (v, rest)) :
    ∃ d' br', d.updateState t br = .ok (d', br') ∧ Rem src br' rest ∧
      t.decode[d.state.baseLine + v]? = some d'.state := by
  obtain ⟨pos, hinv, hp, rfl⟩ := hr
  obtain ⟨hlen, rfl, rfl⟩ := readBE_some hu
  obtain ⟨d', br', e, hinv', hd'⟩ := updateState_at hb hml hinv d hd
  rw [List.length_drop, length_stream] at hlen
  exact ⟨d', br', e, ⟨pos + d.state.numBits, hinv', by omega, by rw [List.drop_drop]⟩, hd'⟩

/-- the Spec's state index `st` of one channel names the entry the model's decoder `d` holds; in RLE mode the model has
no decoder state and the Spec's one-state table is in state 0 -/
def ChanState (t : DTable) (rle : Option Nat) (d : Fse.Decoder) (st : Nat) : Prop :=
  match rle with
  | some _ => st = 0
  | none => t.decode[st]? = some d.state

theorem chan_symbol {maxLog maxCode : Nat} {T : Spec.Fse.Table} {t : DTable} {rle : Option Nat}
    {d : Fse.Decoder} {st : Nat}
    (hc : ChanCoupled maxLog maxCode T t rle) (hs : ChanState t rle d st) :
    Spec.Fse.symbolOf T st = some (rle.getD d.decodeSymbol) ∧ rle.getD d.decodeSymbol ≤ maxCode := by
  cases rle with
  | some b =>
    obtain ⟨rfl, hb⟩ := hc
    have h0 : st = 0 := hs
    subst h0
    exact ⟨rfl, hb⟩
  | none =>
    obtain ⟨hb, hm, rfl⟩ := hc
    have hs' : t.decode[st]? = some d.state := hs
    refine ⟨?_, ?_⟩
    · simp only [Spec.Fse.symbolOf, specOf, Array.getElem?_map, hs', Option.map_some,
        FseDecTable.toSpecEntry, Option.getD_none, Decoder.decodeSymbol]
    · have := (hb.entries _ (mem_of_getElem? hs')).1
      simp only [Option.getD_none, Decoder.decodeSymbol]; omega

theorem readBE_zero {bits : List Bool} {v : Nat} {rest : List Bool}
    (h : Spec.readBE 0 bits = some (v, rest)) : v = 0 ∧ rest = bits := by
  obtain ⟨_, hv, hr⟩ := readBE_some h
  refine ⟨?_, by simpa using hr⟩
  rw [hv, readBEPad_def]
  simp [Spec.valBE]

theorem chan_init {maxLog maxCode : Nat} {T : Spec.Fse.Table} {t : DTable} {rle : Option Nat}
    (d : Fse.Decoder) (hml : maxLog ≤ 9) (hc : ChanCoupled maxLog maxCode T t rle)
    {src : Array Nat} {br : BitReaderRev} {bits rest : List Bool} {st : Nat}
    (hr : Rem src br bits) (hi : Spec.Fse.initState T bits = some (st, rest)) :
    ∃ d' br', chanInit rle.isNone d t br = .ok (d', br') ∧ Rem src br' rest ∧ ChanState t rle d' st := by
  cases rle with
  | some b =>
    obtain ⟨rfl, _⟩ := hc
    obtain ⟨rfl, rfl⟩ := readBE_zero (show Spec.readBE 0 bits = some (st, rest) from hi)
    exact ⟨d, br, rfl, hr, rfl⟩
  | none =>
    obtain ⟨hb, hm, rfl⟩ := hc
    obtain ⟨d', br', e, hr', hd'⟩ := init_strict hb hml d hr hi
    refine ⟨d', br', ?_, hr', hd'⟩
    simp only [chanInit, Option.isNone_none, if_true, e, liftFse]

theorem chan_upd {maxLog maxCode : Nat} {T : Spec.Fse.Table} {t : DTable} {rle : Option Nat}
    {d : Fse.Decoder} (hml : maxLog ≤ 9) (hc : ChanCoupled maxLog maxCode T t rle)
    {src : Array Nat} {br : BitReaderRev} {bits rest : List Bool} {st st' : Nat}
    (hs : ChanState t rle d st)
    (hr : Rem src br bits) (hu : Spec.Fse.updateState T st bits = some (st', rest)) :
    ∃ d' br', chanUpd rle.isNone d t br = .ok (d', br') ∧ Rem src br' rest ∧ ChanState t rle d' st' := by
  cases rle with
  | some b =>
    obtain ⟨rfl, _⟩ := hc
    cases (show st = 0 from hs)
    have hu' : (match Spec.readBE 0 bits with
        | none => none
        | some (v, rest) => some (0 + v, rest)) = some (st', rest) := hu
    split at hu'
    · cases hu'
    rename_i v rest' hrd
    obtain ⟨rfl, rfl⟩ := readBE_zero hrd
    cases hu'
    exact ⟨d, br, rfl, hr, rfl⟩
  | none =>
    obtain ⟨hb, hm, rfl⟩ := hc
    have hs' : t.decode[st]? = some d.state := hs
    simp only [Spec.Fse.updateState, specOf, Array.getElem?_map, hs', Option.map_some,
      FseDecTable.toSpecEntry] at hu
    split at hu
    · cases hu
    rename_i v rest' hrd
    cases hu
    obtain ⟨d', br', e, hr', hd'⟩ := upd_strict hb hml (mem_of_getElem? hs') hr hrd
    refine ⟨d', br', ?_, hr', hd'⟩
    simp only [chanUpd, Option.isNone_none, if_true, e, liftFse]

theorem seqLoop_refines {s : FseScratch} {llT ofT mlT : Spec.Fse.Table}
    (hll : ChanCoupled Gen.llMaxLog Gen.maxLiteralLengthCode llT s.literalLengths s.llRle)
    (hof : ChanCoupled Gen.ofMaxLog Gen.maxOffsetCode ofT s.offsets s.ofRle)
    (hml : ChanCoupled Gen.mlMaxLog Gen.maxMatchLengthCode mlT s.matchLengths s.mlRle)
    (total : Nat) {src : Array Nat} :
    ∀ (n sLL sOF sML : Nat) (bits : List Bool) (acc : List Spec.Seq)
      (llD mlD ofD : Fse.Decoder) (br : BitReaderRev) (seqs : List Spec.Seq) (left : List Bool),
      ChanState s.literalLengths s.llRle llD sLL →
      ChanState s.matchLengths s.mlRle mlD sML →
      ChanState s.offsets s.ofRle ofD sOF →
      Rem src br bits → acc.length + n = total →
      Spec.decodeSeqLoop llT ofT mlT n sLL sOF sML bits acc = some (seqs, left) →
      ∃ br', seqLoop s total n llD mlD ofD br acc = .ok (seqs, br') ∧ Rem src br' left := by
  intro n
  induction n with
  | zero =>
    intro sLL sOF sML bits acc llD mlD ofD br seqs left _ _ _ hr _ h
    rw [Spec.decodeSeqLoop] at h
    simp only [Option.some.injEq, Prod.mk.injEq] at h
    obtain ⟨rfl, rfl⟩ := h
    rw [seqLoop]
    exact ⟨br, rfl, hr⟩
  | succ n ih =>
    intro sLL sOF sML bits acc llD mlD ofD br seqs left cll cml cof hr hlen h
    obtain ⟨esLL, hllc⟩ := chan_symbol hll cll
    obtain ⟨esML, hmlc⟩ := chan_symbol hml cml
    obtain ⟨esOF, hofc⟩ := chan_symbol hof cof
    obtain ⟨llV, llB, etLL, ell, hllB⟩ := llCode_lookup hllc
    obtain ⟨mlV, mlB, etML, eml, hmlB⟩ := mlCode_lookup hmlc
    have hofc' : s.ofRle.getD ofD.decodeSymbol ≤ 31 := hofc
    rw [Spec.decodeSeqLoop] at h
    rw [esLL, esOF, esML] at h
    dsimp only at h
    rw [etLL, etML] at h
    dsimp only at h
    rw [if_neg (by omega)] at h
    split at h
    · cases h
    rename_i ofx b1 hr1
    split at h
    · cases h
    rename_i mlx b2 hr2
    split at h
    · cases h
    rename_i llx b3 hr3
    obtain ⟨br1, etr, hofx, hmlx, hllx, hrd1⟩ := hr.getBitsTriple (by omega) (by omega) (by omega) hr1 hr2 hr3
    have hp16l : 2 ^ llB ≤ 2 ^ 16 := Nat.pow_le_pow_right (by omega) hllB
    have hp16m : 2 ^ mlB ≤ 2 ^ 16 := Nat.pow_le_pow_right (by omega) hmlB
    have hov : ofx + 2 ^ (s.ofRle.getD ofD.decodeSymbol) = Spec.offsetValue (s.ofRle.getD ofD.decodeSymbol) ofx := by
      unfold Spec.offsetValue; omega
    rw [seqLoop_succ s total n llD mlD ofD acc ell eml hofc' etr hofx,
      Nat.mod_eq_of_lt (by omega : llx < 2 ^ 32), Nat.mod_eq_of_lt (by omega : mlx < 2 ^ 32), hov]
    by_cases hn0 : n = 0
    · subst hn0
      simp only [if_true, Option.some.injEq, Prod.mk.injEq] at h
      obtain ⟨rfl, rfl⟩ := h
      have hbr := hrd1.bitsRemaining
      rw [if_neg (by omega)]
      dsimp only
      rw [if_neg (by omega), seqLoop]
      exact ⟨br1, rfl, hrd1⟩
    · rw [if_neg hn0] at h
      rw [if_pos (by omega)]
      split at h
      · cases h
      rename_i sLL' b4 hu1
      split at h
      · cases h
      rename_i sML' b5 hu2
      split at h
      · cases h
      rename_i sOF' b6 hu3
      obtain ⟨llD', br2, e1, hrd2, cll'⟩ := chan_upd (by decide) hll cll hrd1 hu1
      rw [e1]; dsimp only
      obtain ⟨mlD', br3, e2, hrd3, cml'⟩ := chan_upd (by decide) hml cml hrd2 hu2
      rw [e2]; dsimp only
      obtain ⟨ofD', br4, e3, hrd4, cof'⟩ := chan_upd (by decide) hof cof hrd3 hu3
      rw [e3]; dsimp only
      have hbr := hrd4.bitsRemaining
      rw [if_neg (by omega)]
      exact ih sLL' sOF' sML' b6 _ llD' mlD' ofD' br4 seqs left cll' cml' cof' hrd4
        (by simp only [List.length_cons]; omega) h

theorem decodeSeqStream_refines {s : FseScratch} {llT ofT mlT : Spec.Fse.Table}
    (hll : ChanCoupled Gen.llMaxLog Gen.maxLiteralLengthCode llT s.literalLengths s.llRle)
    (hof : ChanCoupled Gen.ofMaxLog Gen.maxOffsetCode ofT s.offsets s.ofRle)
    (hml : ChanCoupled Gen.mlMaxLog Gen.maxMatchLengthCode mlT s.matchLengths s.mlRle)
    {src : Array Nat} (hb : Bytes src.toList) {n : Nat} {seqs : List Spec.Seq}
    (h : Spec.decodeSeqBits llT ofT mlT n src.toList = some seqs) :
    decodeSeqStream n s src = .ok seqs := by
  obtain ⟨bits, sLL, b1, sOF, b2, sML, b3, left, h0, h1, h2, h3, h4, h5⟩ := Spec.decodeSeqBits_eq_some.mp h
  obtain ⟨br0, e0, hr0⟩ := FseStream.skipEndMark_backwardStream hb h0
  unfold decodeSeqStream
  simp only [chanInit_eq]
  rw [e0]
  dsimp only
  obtain ⟨llD, br1, e1, hr1, cll⟩ := chan_init (Fse.Decoder.new s.literalLengths) (by decide) hll hr0 h1
  rw [e1]; dsimp only
  obtain ⟨ofD, br2, e2, hr2, cof⟩ := chan_init (Fse.Decoder.new s.offsets) (by decide) hof hr1 h2
  rw [e2]; dsimp only
  obtain ⟨mlD, br3, e3, hr3, cml⟩ := chan_init (Fse.Decoder.new s.matchLengths) (by decide) hml hr2 h3
  rw [e3]; dsimp only
  obtain ⟨brE, eL, hrE⟩ := seqLoop_refines hll hof hml n n sLL sOF sML b3 [] llD mlD ofD br3 seqs left
    cll cml cof hr3 (by simp) h4
  rw [eL]; dsimp only
  have hbr := hrE.bitsRemaining
  have hl : left = [] := List.isEmpty_iff.mp h5
  subst hl
  rw [if_neg (by simp only [List.length_nil] at hbr; omega)]

/-- non-vacuity: three RLE channels (codes 0), one sequence, the stream is just the end mark -/
example : decodeSeqStream 1 { llRle := some 0, ofRle := some 0, mlRle := some 0 } #[1] = .ok [⟨0, 3, 1⟩] :=
  decodeSeqStream_refines (s := { llRle := some 0, ofRle := some 0, mlRle := some 0 })
    (llT := Spec.Fse.rleTable 0) (ofT := Spec.Fse.rleTable 0) (mlT := Spec.Fse.rleTable 0)
    (show _ ∧ _ from ⟨rfl, by decide⟩) (show _ ∧ _ from ⟨rfl, by decide⟩) (show _ ∧ _ from ⟨rfl, by decide⟩)
    (by intro x hx; simp at hx; omega) (by decide)

end Zstd.Proofs.Blk
