import Zstd.Model.Fse
import Zstd.Proofs.BitIO
import Zstd.Proofs.Spec.Bits
/-
What the FSE decoders do with the reversed reader, on the bit list that is left (`BitIO.Rem`): the padding loop
(`Fse.skipEndMark`) leaves the reader in front of `Spec.backwardStream` — for a stream that ends in the writer's end
mark that is the reversed stream without the mark — and `FSEDecoder::{init_state, update_state}` are a strict read
followed by a table lookup.
-/
namespace Zstd.Proofs.FseStream
open Zstd Zstd.Spec Zstd.Model.Fse Zstd.Model.BitIO Zstd.Proofs.BitIO

theorem bitsOfLE_mark (m : Nat) (hm : 1 ≤ m) : bitsOfLE m 1 = [true] ++ List.replicate (m - 1) false := by
  apply List.ext_getElem
  · simp; omega
  · intro i h1 h2
    rw [getElem_bitsOfLE]
    cases i with
    | zero => simp
    | succ i =>
      simp only [List.cons_append, List.nil_append, List.getElem_cons_succ, List.getElem_replicate]
      simp [Nat.testBit_succ]

theorem backwardStream_of_mark {bytes : List Nat} {F : List Bool} {m : Nat} (hm1 : 1 ≤ m) (hm8 : m ≤ 8)
    (hbits : bitsLE bytes = F ++ bitsOfLE m 1) : backwardStream bytes = some F.reverse := by
  have hrev : (bitsLE bytes).reverse = List.replicate (m - 1) false ++ true :: F.reverse := by
    rw [hbits, bitsOfLE_mark m hm1]
    simp [List.reverse_append]
  exact backwardStream_of_marker (by omega) hrev

/-- the model's padding loop counts its reads and gives up after the ninth: through `k ≤ 7` zeros and the mark -/
theorem skipPadding_rem {src : Array Nat} {bits : List Bool} :
    ∀ (k fuel skipped : Nat) (r : BitReaderRev), Rem src r (List.replicate k false ++ true :: bits) →
      skipped + k + 1 ≤ 8 → k + 1 ≤ fuel →
      ∃ r', Model.Fse.skipPadding fuel skipped r = .ok (some r') ∧ Rem src r' bits := by
  intro k
  induction k with
  | zero =>
    intro fuel skipped r h hs hf
    obtain ⟨f, rfl⟩ : ∃ f, fuel = f + 1 := ⟨fuel - 1, by omega⟩
    obtain ⟨r', hr', hrem⟩ := h.getBit
    refine ⟨r', ?_, hrem⟩
    simp only [Model.Fse.skipPadding, hr', if_true, true_or]
    rw [if_neg (by omega)]
  | succ k ih =>
    intro fuel skipped r h hs hf
    obtain ⟨f, rfl⟩ : ∃ f, fuel = f + 1 := ⟨fuel - 1, by omega⟩
    rw [List.replicate_succ, List.cons_append] at h
    obtain ⟨r1, hr1, hrem1⟩ := h.getBit
    obtain ⟨r', hr', hrem⟩ := ih f (skipped + 1) r1 hrem1 (by omega) (by omega)
    refine ⟨r', ?_, hrem⟩
    simp only [Model.Fse.skipPadding, hr1, Bool.false_eq_true, if_false]
    rw [if_neg (by omega)]
    exact hr'

theorem skipEndMark_backwardStream {src : Array Nat} (hb : Bytes src.toList) {bits : List Bool}
    (h0 : backwardStream src.toList = some bits) :
    ∃ br, skipEndMark (BitReaderRev.new src) = .ok (some br) ∧ Rem src br bits := by
  obtain ⟨k, hk, hrev⟩ := (backwardStream_eq_some hb).mp h0
  exact skipPadding_rem k 9 0 _ (hrev ▸ Rem.new hb) (by omega) (by omega)

theorem skipEndMark_written {src : Array Nat} {F : List Bool} {m : Nat} (hm1 : 1 ≤ m) (hm8 : m ≤ 8)
    (hb : Bytes src.toList) (hbits : bitsLE src.toList = F ++ bitsOfLE m 1) :
    ∃ br, skipEndMark (BitReaderRev.new src) = .ok (some br) ∧ Rem src br F.reverse :=
  skipEndMark_backwardStream hb (backwardStream_of_mark hm1 hm8 hbits)

theorem initState_rem {t : DTable} {src : Array Nat} {br : BitReaderRev} {bits rest : List Bool} {s : Nat}
    {e : DEntry} (hr : Rem src br bits) (h1 : 1 ≤ t.accuracyLog) (h56 : t.accuracyLog ≤ 56)
    (hi : readBE t.accuracyLog bits = some (s, rest)) (he : t.decode[s]? = some e) (d : Decoder) :
    ∃ br', d.initState t br = .ok (⟨e⟩, br') ∧ Rem src br' rest := by
  obtain ⟨br', eg, _, hr'⟩ := hr.readBE h56 hi
  exact ⟨br', by simp only [Decoder.initState, if_neg (show ¬ t.accuracyLog = 0 by omega), eg, he], hr'⟩

/-- hypotheses `h32`, `he`: `base_line + bits` stays below `2^32` (the `u32` addition of `fse_decoder.rs:47`) and
inside the table -/
theorem updateState_rem {t : DTable} {src : Array Nat} {br : BitReaderRev} {bits rest : List Bool} {v : Nat}
    {e : DEntry} {d : Decoder} (hr : Rem src br bits) (h56 : d.state.numBits ≤ 56)
    (hu : readBE d.state.numBits bits = some (v, rest)) (h32 : d.state.baseLine + v < 2 ^ 32)
    (he : t.decode[d.state.baseLine + v]? = some e) :
    ∃ br', d.updateState t br = .ok (⟨e⟩, br') ∧ Rem src br' rest := by
  obtain ⟨br', eg, _, hr'⟩ := hr.readBE h56 hu
  exact ⟨br', by simp only [Decoder.updateState, eg, if_neg (show ¬ d.state.baseLine + v ≥ 2 ^ 32 by omega), he], hr'⟩

end Zstd.Proofs.FseStream
