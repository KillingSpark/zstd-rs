import Zstd.Proofs.DictParse
import Zstd.Proofs.FrameDecoderToVec
/-
C03 over the EXECUTABLE instance: the decoder states reachable by legal call sequences of the public
API (`Legal`), and the invariant they satisfy.

"Legal" = what the documentation allows: any calls in any order with any byte arguments, except
decoding on (`decode_blocks`, `decode_from_to`, `StreamingDecoder::read`) in a frame whose last decode
call ended in `err literals` / `err sequences` — after those the caller may drain, query, `reset`,
`decode_all`, register dictionaries.  The flag of `Legal d ok` says whether decoding on is allowed.
`reset` sets it when it succeeds (a fresh frame state) and keeps it otherwise (a failed `reset` keeps the
frame state); `decode_all` can only clear it, although it resets inside: a `false` flag stays `false`, which
forbids more than necessary.
-/
namespace Zstd.Model
open Zstd Zstd.Proofs.DictCopy
open Zstd.Proofs.BitIO (Bytes)

def Out.isClean {α : Type} : Out α → Bool
  | .err .literals => false
  | .err .sequences => false
  | _ => true

theorem Out.isClean_iff {α : Type} (o : Out α) : o.isClean = true ↔ o.clean := by
  cases o with
  | ok a => simp [Out.isClean, Out.clean]
  | fault f => simp [Out.isClean, Out.clean]
  | err e => cases e <;> simp [Out.isClean, Out.clean]

/-- `Legal d true`: decoding on is allowed; `Legal d false`: the current frame failed with a poisoning error -/
inductive Legal : DecB → Bool → Prop
  | new : Legal {} true
  | setMax {d b} (w : Nat) : Legal d b → Legal (d.setMaxWindowSize w) b
  /-- `add_dict(Dictionary::decode_dict(raw)?)` with ANY bytes the parser accepts -/
  | addDict {d b} (raw : List Nat) (dict : Dict Blk.Scratch) : Legal d b → Bytes raw →
      Blk.decodeDict raw = .ok (some dict) → Legal (d.addDict dict) b
  | forceDict {d b} (id : Nat) : Legal d b → Legal (d.forceDict id).1 b
  | reset {d b} (s : Src) : Legal d b → Bytes s → Legal (d.reset s).1 (b || (d.reset s).2.isOk)
  | drain {d b} (op : DrainOp) : Legal d b → Legal (applyDrain d op).1 b
  | blocks {d} (s : Src) (strat : Strategy) : Legal d true → Bytes s →
      Legal (d.decodeBlocks s strat).1 (d.decodeBlocks s strat).2.isClean
  | fromTo {d} (s : Src) (n : Nat) : Legal d true → Bytes s →
      Legal (d.decodeFromTo s n).1 (d.decodeFromTo s n).2.isClean
  | sread {d} (s : Src) (n : Nat) : Legal d true → Bytes s →
      Legal (streamingRead d s n).1 (streamingRead d s n).2.isClean
  | all {d b} (s : Src) (room : Nat) : Legal d b → Bytes s →
      Legal (d.decodeAll s room).1 (b && (d.decodeAll s room).2.isClean)
  /-- the flag is `decode_all`'s: `decode_all_to_vec` leaves the same decoder state with the same outcome class
  (`Decoder.decodeAllToVec_eq`) -/
  | allToVec {d b} (s : Src) (vec : Array Nat) (room : Nat) : Legal d b → Bytes s →
      Legal (d.decodeAllToVec s vec room).1 (b && (d.decodeAll s room).2.isClean)

theorem Decoder.forceDict_entWF (d : DecB) (id : Nat) :
    (d.dictsWF → (d.forceDict id).1.dictsWF) ∧ (d.entWF → (d.forceDict id).1.entWF) := by
  unfold Decoder.forceDict
  cases hst : d.state with
  | none => exact ⟨fun h => h, fun h => h⟩
  | some st =>
    simp only
    cases hf : d.dicts.find? (fun x => x.id = id) with
    | none => exact ⟨fun h => h, fun h => h⟩
    | some dict =>
      refine ⟨fun h => h, fun h => Decoder.entWF.setState h.2 _ ?_⟩
      exact h.2 dict (List.mem_of_find?_eq_some hf)

theorem Legal.inv {d : DecB} {b : Bool} (h : Legal d b) : d.dictsWF ∧ (b = true → d.entWF) := by
  induction h with
  | new => exact ⟨fun _ h => (nomatch h), fun _ => ⟨fun _ h => (nomatch h), fun _ h => (nomatch h)⟩⟩
  | setMax w _ ih => exact ⟨ih.1, fun hb => ⟨(ih.2 hb).1, ih.1⟩⟩
  | addDict raw dict _ hb hd ih =>
    exact ⟨Decoder.addDict_dictsWF _ dict ih.1 (decodeDict_wf hb hd),
      fun hbt => Decoder.addDict_entWF _ dict (ih.2 hbt) (decodeDict_wf hb hd)⟩
  | forceDict id _ ih => exact ⟨(Decoder.forceDict_entWF _ id).1 ih.1, fun hb => (Decoder.forceDict_entWF _ id).2 (ih.2 hb)⟩
  | @reset d b s _ hs ih =>
    have hr := Decoder.reset_noFault d s ih.1
    refine ⟨hr.dictsWF, fun hb => ?_⟩
    cases hbb : b with
    | true => exact hr.keeps (ih.2 hbb)
    | false =>
      rw [hbb] at hb
      simp only [Bool.false_or] at hb
      cases ho : (d.reset s).2 with
      | ok rest => exact hr.fresh rest ho
      | err e => rw [ho] at hb; cases hb
      | fault f => rw [ho] at hb; cases hb
  | drain op _ ih => exact ⟨applyDrain_dictsWF _ op ih.1, fun hb => applyDrain_entWF _ op (ih.2 hb)⟩
  | @blocks d s strat _ hs ih =>
    have h := (Decoder.decodeBlocks_noFault d s strat (ih.2 rfl) hs).1
    exact ⟨h.always, fun hb => h.clean ((Out.isClean_iff _).mp hb)⟩
  | @fromTo d s n _ hs ih =>
    have h := Decoder.decodeFromTo_noFault d s n (ih.2 rfl) hs
    exact ⟨h.always, fun hb => h.clean ((Out.isClean_iff _).mp hb)⟩
  | @sread d s n _ hs ih =>
    have h := streamingRead_noFault d s n (ih.2 rfl) hs
    exact ⟨h.always, fun hb => h.clean ((Out.isClean_iff _).mp hb)⟩
  | @all d b s room _ hs ih =>
    have h := decodeAllLoop_noFault (s.length + 1) d s room #[] ih.1 hs
    refine ⟨h.always, fun hb => ?_⟩
    simp only [Bool.and_eq_true] at hb
    exact h.clean ((Out.isClean_iff _).mp hb.2) (ih.2 hb.1)
  | @allToVec d b s vec room _ hs ih =>
    have h := decodeAllLoop_noFault (s.length + 1) d s room #[] ih.1 hs
    have e : (d.decodeAllToVec s vec room).1 = (d.decodeAll s room).1 := by
      rw [Decoder.decodeAllToVec_eq]
      cases hd : d.decodeAll s room with
      | mk d' o => cases o <;> rfl
    rw [e]
    refine ⟨h.always, fun hb => ?_⟩
    simp only [Bool.and_eq_true] at hb
    exact h.clean ((Out.isClean_iff _).mp hb.2) (ih.2 hb.1)

end Zstd.Model
