import Zstd.Proofs.HufDec
import Zstd.Spec.Huffman
/-
The canonical table of a weight vector (RFC 8878 §4.2.1): symbol `s` of weight `w ≥ 1` owns the `2^(w−1)` cells
from `canonAt ws (ws.take s) w` on, each holding `(s, m + 1 − w)` (`Canonical`).  The blocks cover the table and
do not overlap (`canon_cover`, `canonAt_inj`), so a canonical table is determined (`Canonical.eq_specCells`).  The Spec's
`buildTable`, a concatenation of blocks, is canonical, and so is the table the fill loop of `build_table_from_weights`
leaves; hence the two agree cell by cell on the weights the Spec accepts, which are the weights the model's checks
accept.
-/
namespace Zstd.Proofs.Huf
open Zstd Zstd.Model.Huf

theorem flatMap_index {κ β : Type} (f : κ → List β) : ∀ (l : List κ) (i : Nat), i < (l.flatMap f).length →
    ∃ l1 k l2 j, l = l1 ++ k :: l2 ∧ j < (f k).length ∧ i = (l1.flatMap f).length + j ∧
      (l.flatMap f)[i]? = (f k)[j]? := by
  intro l
  induction l with
  | nil => intro i h; simp at h
  | cons x xs ih =>
    intro i h
    rw [List.flatMap_cons] at h ⊢
    by_cases hi : i < (f x).length
    · exact ⟨[], x, xs, i, rfl, hi, by simp, by rw [List.getElem?_append_left hi]⟩
    · rw [List.length_append] at h
      obtain ⟨l1, k, l2, j, h1, h2, h3, h4⟩ := ih (i - (f x).length) (by omega)
      refine ⟨x :: l1, k, l2, j, by rw [h1]; rfl, h2, ?_, ?_⟩
      · rw [List.flatMap_cons, List.length_append]; omega
      · rw [List.getElem?_append_right (by omega), h4]

theorem foldl_append_toList {α β : Type} (F : β → List α) (g : Array α → β → Array α)
    (hg : ∀ acc x, (g acc x).toList = acc.toList ++ F x) (l : List β) (init : Array α) :
    (l.foldl g init).toList = init.toList ++ l.flatMap F := by
  induction l generalizing init with
  | nil => simp
  | cons x xs ih => rw [List.foldl_cons, ih, hg, List.flatMap_cons, List.append_assoc]

/-- symbols (numbered from `k`) whose weight is `w`, ascending -/
def symsOf (w : Nat) : List Nat → Nat → List Nat
  | [], _ => []
  | x :: xs, k => if x = w then k :: symsOf w xs (k + 1) else symsOf w xs (k + 1)

theorem symbolsOfWeight_eq (ws : List Nat) (w : Nat) : Spec.Huffman.symbolsOfWeight ws w = symsOf w ws 0 := by
  unfold Spec.Huffman.symbolsOfWeight
  have : ∀ k, ((ws.zipIdx k).filter (fun p => decide (p.1 = w))).map (·.2) = symsOf w ws k := by
    induction ws with
    | nil => intro k; rfl
    | cons x xs ih =>
      intro k
      rw [List.zipIdx_cons, List.filter_cons, symsOf]
      by_cases hx : x = w
      · simp only [hx, decide_true, if_true, List.map_cons]; rw [← ih (k + 1)]
      · simp only [hx, decide_false, if_false]; rw [← ih (k + 1)]; simp
  exact this 0

theorem symsOf_length (w : Nat) (ws : List Nat) (k : Nat) : (symsOf w ws k).length = countBits w ws := by
  induction ws generalizing k with
  | nil => rfl
  | cons x xs ih =>
    simp only [symsOf, countBits]
    split
    · simp [ih]; omega
    · simp [ih]

theorem symsOf_split (w : Nat) : ∀ (ws : List Nat) (k : Nat) (l1 : List Nat) (sym : Nat) (l2 : List Nat),
    symsOf w ws k = l1 ++ sym :: l2 →
    k ≤ sym ∧ ws[sym - k]? = some w ∧ l1.length = countBits w (ws.take (sym - k)) := by
  intro ws
  induction ws with
  | nil => intro k l1 sym l2 h; simp [symsOf] at h
  | cons x xs ih =>
    intro k l1 sym l2 h
    -- `sym` is this symbol, or the split goes on in the tail, `l1` shorter by this symbol if it has weight `w`
    obtain ⟨rfl, rfl, rfl⟩ | ⟨l1', h2, hl1⟩ : (l1 = [] ∧ sym = k ∧ x = w) ∨
        ∃ l1', symsOf w xs (k + 1) = l1' ++ sym :: l2 ∧ l1.length = (if x = w then 1 else 0) + l1'.length := by
      simp only [symsOf] at h
      split at h
      · cases l1 with
        | nil => exact Or.inl ⟨rfl, (List.cons.inj h).1.symm, ‹_›⟩
        | cons a l1' => exact Or.inr ⟨l1', (List.cons.inj h).2, by simp [*]; omega⟩
      · exact Or.inr ⟨l1, h, by simp [*]⟩
    · simp [countBits]
    · obtain ⟨i1, i2, i3⟩ := ih (k + 1) l1' sym l2 h2
      have e : sym - k = (sym - (k + 1)) + 1 := by omega
      refine ⟨by omega, by rw [e, List.getElem?_cons_succ]; exact i2, ?_⟩
      rw [e, List.take_succ_cons, countBits, hl1, i3]

/-- the cells of the symbols of weight `w0 + 1`, as (symbol, number of bits) -/
def specInner (m : Nat) (all : List Nat) (w0 : Nat) : List (Nat × Nat) :=
  (symsOf (w0 + 1) all 0).flatMap fun sym => List.replicate (2 ^ w0) (sym, m - w0)

/-- the cells of the Spec's table (`spec_entries_eq`) -/
def specCells (m : Nat) (all : List Nat) : List (Nat × Nat) :=
  (List.range m).flatMap (specInner m all)

theorem spec_entries_eq (m : Nat) (all : List Nat) :
    (Spec.Huffman.buildTable m all).entries.toList.map (fun e => (e.symbol, e.nbBits)) = specCells m all := by
  unfold Spec.Huffman.buildTable
  simp only
  have inner : ∀ (acc : Array Spec.Huffman.Entry) (w0 : Nat),
      ((Spec.Huffman.symbolsOfWeight all (w0 + 1)).foldl
          (fun acc sym => acc ++ Array.replicate (2 ^ (w0 + 1 - 1))
            ({ symbol := sym, nbBits := m + 1 - (w0 + 1) } : Spec.Huffman.Entry)) acc).toList
        = acc.toList ++ (symsOf (w0 + 1) all 0).flatMap fun sym =>
            List.replicate (2 ^ w0) ({ symbol := sym, nbBits := m - w0 } : Spec.Huffman.Entry) := by
    intro acc w0
    rw [symbolsOfWeight_eq]
    apply foldl_append_toList
    intro acc x
    simp only [Array.toList_append, Array.toList_replicate, Nat.add_sub_cancel]
    have : m + 1 - (w0 + 1) = m - w0 := by omega
    rw [this]
  rw [foldl_append_toList _ _ inner]
  simp only [List.nil_append, specCells, List.map_flatMap, List.map_replicate]
  rfl

theorem flatMap_replicate_length {α β : Type} (n : Nat) (f : α → β) (l : List α) :
    (l.flatMap fun a => List.replicate n (f a)).length = l.length * n := by
  induction l with
  | nil => simp
  | cons x xs ih => rw [List.flatMap_cons, List.length_append, ih]; simp [Nat.add_mul]; omega

theorem specInner_length (m : Nat) (all : List Nat) (w0 : Nat) :
    (specInner m all w0).length = countBits (w0 + 1) all * 2 ^ w0 := by
  rw [specInner, flatMap_replicate_length, symsOf_length]

theorem flatMap_specInner_length (m : Nat) (all : List Nat) (k : Nat) :
    ((List.range k).flatMap (specInner m all)).length = specOff all k := by
  induction k with
  | zero => rfl
  | succ k ih =>
    rw [List.range_succ, List.flatMap_append, List.length_append, ih]
    simp [specInner_length, specOff]

theorem range_split {m : Nat} {l1 l2 : List Nat} {k : Nat} (h : List.range m = l1 ++ k :: l2) :
    l1 = List.range k ∧ k < m := by
  have hlen : (List.range m).length = l1.length + 1 + l2.length := by rw [h]; simp; omega
  rw [List.length_range] at hlen
  have hk : (List.range m)[l1.length]? = some k := by rw [h]; simp
  rw [List.getElem?_range (by omega)] at hk
  have hk' : l1.length = k := by simpa using hk
  constructor
  · have : l1 = (List.range m).take l1.length := by rw [h]; simp
    rw [this, hk', List.take_range]
    congr 1; omega
  · omega

theorem specCells_index (m : Nat) (all : List Nat) (i : Nat) (hi : i < (specCells m all).length) :
    ∃ w0 sym j, w0 < m ∧ all[sym]? = some (w0 + 1) ∧ j < 2 ^ w0 ∧
      i = specOff all w0 + countBits (w0 + 1) (all.take sym) * 2 ^ w0 + j ∧
      (specCells m all)[i]? = some (sym, m - w0) := by
  obtain ⟨l1, w0, l2, j, h1, h2, h3, h4⟩ := flatMap_index (specInner m all) (List.range m) i hi
  obtain ⟨hl1, hw0⟩ := range_split h1
  subst hl1
  rw [flatMap_specInner_length] at h3
  obtain ⟨s1, sym, s2, j', g1, g2, g3, g4⟩ :=
    flatMap_index (fun sym => List.replicate (2 ^ w0) (sym, m - w0)) (symsOf (w0 + 1) all 0) j h2
  obtain ⟨_, q2, q3⟩ := symsOf_split (w0 + 1) all 0 s1 sym s2 g1
  simp only [Nat.sub_zero] at q2 q3
  simp only [List.length_replicate] at g2
  refine ⟨w0, sym, j', hw0, q2, g2, ?_, ?_⟩
  · rw [h3, g3, flatMap_replicate_length, q3]; omega
  · unfold specCells
    rw [h4]
    show (specInner m all w0)[j]? = _
    unfold specInner
    rw [g4, List.getElem?_replicate]
    simp [g2]

theorem specCells_length (m : Nat) (all : List Nat) : (specCells m all).length = specOff all m := by
  unfold specCells; exact flatMap_specInner_length m all m

/-- `cell` (index ↦ (symbol, number of bits)) is the canonical table of depth `m` of the weights `ws` -/
def Canonical (m : Nat) (ws : List Nat) (cell : Nat → Option (Nat × Nat)) : Prop :=
  ∀ s w, ws[s]? = some w → 1 ≤ w → ∀ j, j < 2 ^ (w - 1) → cell (canonAt ws (ws.take s) w + j) = some (s, m + 1 - w)

/-- the cells of a decoder table / of a Spec table as (symbol, number of bits) -/
def decCell (dec : Array Entry) (i : Nat) : Option (Nat × Nat) := dec[i]?.map fun e => (e.symbol, e.numBits)
def specCell (T : Spec.Huffman.Table) (i : Nat) : Option (Nat × Nat) := T.entries[i]?.map fun e => (e.symbol, e.nbBits)

theorem decCell_eq_some {dec : Array Entry} {i s nb : Nat} (h : decCell dec i = some (s, nb)) :
    dec[i]? = some { symbol := s, numBits := nb } := by
  obtain ⟨⟨es, eb⟩, he, hp⟩ := Option.map_eq_some_iff.mp h
  cases hp; exact he

theorem specCell_eq_some {T : Spec.Huffman.Table} {i s nb : Nat} (h : specCell T i = some (s, nb)) :
    T.entries[i]? = some { symbol := s, nbBits := nb } := by
  obtain ⟨⟨es, eb⟩, he, hp⟩ := Option.map_eq_some_iff.mp h
  cases hp; exact he

theorem specCell_buildTable (m : Nat) (ws : List Nat) (i : Nat) :
    specCell (Spec.Huffman.buildTable m ws) i = (specCells m ws)[i]? := by
  rw [← spec_entries_eq, List.getElem?_map, Array.getElem?_toList]; rfl

theorem canon_cover (m : Nat) (ws : List Nat) (i : Nat) (hi : i < specOff ws m) :
    ∃ s w j, ws[s]? = some w ∧ 1 ≤ w ∧ w ≤ m ∧ j < 2 ^ (w - 1) ∧ i = canonAt ws (ws.take s) w + j ∧
      (specCells m ws)[i]? = some (s, m + 1 - w) := by
  obtain ⟨w0, s, j, h1, h2, h3, h4, h5⟩ := specCells_index m ws i (by rw [specCells_length]; exact hi)
  exact ⟨s, w0 + 1, j, h2, by omega, by omega, h3, h4, by rw [h5]; congr 2; omega⟩

theorem canonAt_inj {ws : List Nat} {s s' w w' j j' : Nat} (hs : ws[s]? = some w) (hs' : ws[s']? = some w')
    (hw : 1 ≤ w) (hw' : 1 ≤ w') (hj : j < 2 ^ (w - 1)) (hj' : j' < 2 ^ (w' - 1))
    (h : canonAt ws (ws.take s) w + j = canonAt ws (ws.take s') w' + j') : s = s' ∧ w = w' := by
  by_cases hss : s = s'
  · subst hss; rw [hs] at hs'; exact ⟨rfl, Option.some.inj hs'⟩
  · exfalso
    by_cases hord : w < w' ∨ (w = w' ∧ s < s')
    · have := block_le_block hs hs' hw hord; omega
    · have := block_le_block hs' hs hw' (by omega); omega

theorem Canonical.eq_specCells {m : Nat} {ws : List Nat} {cell : Nat → Option (Nat × Nat)} (h : Canonical m ws cell)
    {i : Nat} (hi : i < specOff ws m) : cell i = (specCells m ws)[i]? := by
  obtain ⟨s, w, j, h1, h2, _, h4, rfl, h6⟩ := canon_cover m ws i hi
  rw [h6, h s w h1 h2 j h4]

theorem spec_canonical (m : Nat) {ws : List Nat} (hle : ∀ w ∈ ws, w ≤ m) :
    Canonical m ws (specCell (Spec.Huffman.buildTable m ws)) := by
  intro s w hs hw j hj
  rw [specCell_buildTable]
  have hlt : canonAt ws (ws.take s) w + j < specOff ws m := by
    have := block_le_region hs hw (hle w (List.mem_of_getElem? hs)); omega
  obtain ⟨s', w', j', h1, h2, _, h4, h5, h6⟩ := canon_cover m ws _ hlt
  obtain ⟨rfl, rfl⟩ := canonAt_inj hs h1 hw h2 hj h4 h5
  exact h6

/-- `all.length ≤ 256`: symbols are stored as `u8` -/
theorem FillInv.canonical {m : Nat} {all ri : List Nat} {dec : Array Entry} (hlen : all.length ≤ 256)
    (inv : FillInv m all all ri dec) : Canonical m all (decCell dec) := by
  intro s w hs hw j hj
  have hlt := (List.getElem?_eq_some_iff.mp hs).1
  have := inv.cells s w hlt hs hw j hj
  rw [Nat.mod_eq_of_lt (by omega)] at this
  unfold decCell
  rw [this]; rfl

theorem table_eq_canonical (m : Nat) (all : List Nat) (hlen : all.length ≤ 256)
    (ri : List Nat) (dec : Array Entry) (inv : FillInv m all all ri dec) (htotal : specOff all m = 2 ^ m) :
    dec.toList.map (fun e => (e.symbol, e.numBits)) = specCells m all := by
  apply List.ext_getElem?
  intro i
  rw [List.getElem?_map, Array.getElem?_toList]
  by_cases hi : i < specOff all m
  · exact (inv.canonical hlen).eq_specCells hi
  · rw [List.getElem?_eq_none (by rw [specCells_length]; omega), Array.getElem?_eq_none (by rw [inv.size]; omega)]
    rfl

theorem spec_complete_iff (ws : List Nat) (m : Nat) (all : List Nat) :
    Spec.Huffman.completeWeights ws = some (m, all) ↔
      GoodWeights ws ∧ m = maxBitsOf ws ∧ all = ws ++ [lastWeightOf ws] := by
  have hsum : (ws.map Spec.Huffman.weightMass).sum = weightSum ws := by
    induction ws with
    | nil => rfl
    | cons w ws ih =>
      simp only [List.map_cons, List.sum_cons, weightSum, ih, Spec.Huffman.weightMass]
      by_cases h : w = 0 <;> simp [h, Nat.pos_iff_ne_zero]
  have hany : ws.any (fun w => decide (w > Spec.Huffman.maxBitsLimit)) = true ↔ ¬ ∀ w ∈ ws, w ≤ 11 := by
    simp [List.any_eq_true, Spec.Huffman.maxBitsLimit]
  unfold Spec.Huffman.completeWeights
  simp only [hsum]
  -- each guard of the Spec is one field of `GoodWeights`
  by_cases h1 : ∀ w ∈ ws, w ≤ 11
  case neg => rw [if_pos (hany.mpr h1)]; exact ⟨nofun, fun h => absurd h.1.le11 h1⟩
  rw [if_neg (mt hany.mp (not_not_intro h1))]
  by_cases h2 : weightSum ws = 0
  · rw [if_pos h2]; exact ⟨nofun, fun h => absurd h2 h.1.pos⟩
  rw [if_neg h2]
  cases h3 : Spec.Huffman.isPow2 (2 ^ (Nat.log2 (weightSum ws) + 1) - weightSum ws) with
  | false =>
    rw [if_pos (by rfl : (!false) = true)]
    exact ⟨nofun, fun h => by have := (show Spec.Huffman.isPow2 _ = true from h.1.pow); rw [h3] at this; cases this⟩
  | true =>
    rw [if_neg (by simp)]
    by_cases h4 : Nat.log2 (weightSum ws) + 1 > Spec.Huffman.maxBitsLimit
    · rw [if_pos h4]; exact ⟨nofun, fun h => absurd h.1.maxBits (Nat.not_le.mpr h4)⟩
    · rw [if_neg h4]
      simp only [Option.some.injEq, Prod.mk.injEq]
      exact ⟨fun h => ⟨⟨h1, h2, h3, Nat.le_of_not_gt h4⟩, h.1.symm, h.2.symm⟩,
        fun ⟨_, hm, ha⟩ => ⟨hm.symm, ha.symm⟩⟩

theorem spec_tableOfWeights_some {ws : List Nat} {T : Spec.Huffman.Table}
    (h : Spec.Huffman.tableOfWeights ws = some T) :
    GoodWeights ws ∧ ws.length ≤ 255 ∧ T = Spec.Huffman.buildTable (maxBitsOf ws) (ws ++ [lastWeightOf ws]) := by
  unfold Spec.Huffman.tableOfWeights at h
  cases hc : Spec.Huffman.completeWeights ws with
  | none => rw [hc] at h; cases h
  | some p =>
    obtain ⟨m, all⟩ := p
    obtain ⟨g, rfl, rfl⟩ := (spec_complete_iff _ _ _).mp hc
    rw [hc] at h
    simp only [List.length_append, List.length_singleton] at h
    by_cases hl : ws.length + 1 > 256
    · rw [if_pos hl] at h; cases h
    · rw [if_neg hl] at h
      exact ⟨g, by omega, (Option.some.inj h).symm⟩

theorem huf_table_eq_canonical (t : DecTable) (T : Spec.Huffman.Table)
    (hspec : Spec.Huffman.tableOfWeights t.weights = some T) :
    ∃ t', buildTableFromWeights t = (t', .ok ()) ∧ t'.maxNumBits = T.maxBits ∧ t'.weights = t.weights ∧
      t'.bits = allBitsOf t.weights ∧
      t'.decode.toList.map (fun e => (e.symbol, e.numBits)) = T.entries.toList.map (fun e => (e.symbol, e.nbBits)) := by
  obtain ⟨g, hlen, rfl⟩ := spec_tableOfWeights_some hspec
  obtain ⟨ri, dec, hbuild, hinv⟩ := buildTable_good t (by omega) g
  refine ⟨_, hbuild, by simp [Spec.Huffman.buildTable], rfl, rfl, ?_⟩
  rw [spec_entries_eq]
  exact table_eq_canonical (maxBitsOf t.weights) (t.weights ++ [lastWeightOf t.weights])
    (by rw [List.length_append, List.length_singleton]; omega) ri dec hinv g.total

end Zstd.Proofs.Huf
