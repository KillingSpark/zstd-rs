import Zstd.Proofs.FrameDecoderRefine
import Zstd.Proofs.BitIO.Bridge
import Zstd.Proofs.Spec.Frame
/-
C01 at the block and frame level, the parts before the simulation (Proofs/FrameDecoderFollows.lean).  The stand-in
`decompress_block` refines `Spec.decodeCompressedBlock`; the contract `RefinesSpec` for every block decoder that does;
one block of the Spec's `decodeBlocks` (`specBlockStep`, Proofs/Spec/Frame.lean) read in the model's terms; the frame
header; and what `Spec.decodeFrame f = some r` says about `reset` (`decodeFrame_setup`).
-/
set_option linter.unusedSectionVars false
namespace Zstd.Model
open Zstd Zstd.Proofs.DictCopy

theorem execSequences_lits_le (window : Nat) (dict : Array Nat) (seqs : List Spec.Seq) (lits : List Nat)
    (h h' : Spec.OffHist) (out out' : Array Nat)
    (hs : Spec.execSequences window dict seqs lits h out = some (out', h')) :
    lits.length ≤ finalSeqSum seqs lits 0 := by
  induction seqs generalizing lits h out with
  | nil => simp [finalSeqSum]
  | cons s rest ih =>
    obtain ⟨hll, -, -, out2, -, hrec⟩ := Spec.execSequences_cons hs
    have := ih _ _ _ hrec
    rw [List.length_drop] at this
    rw [finalSeqSum, finalSeqSum_shift]
    omega

theorem decodeLiteralsM_of_spec (bytes : List Nat) (prev : Option Spec.Huffman.Table) (lits : List Nat) (used : Nat)
    (huf : Option Spec.Huffman.Table) (hlit : Spec.decodeLiterals bytes prev = some (lits, used, huf))
    (hsz : lits.length ≤ Gen.maxBlockSize) :
    ∃ hd, decodeLiteralsM bytes prev = .ok (lits, used, huf, hd) := by
  obtain ⟨hd, hhd, hused, hul, htake⟩ := Spec.decodeLiterals_take bytes prev lits used huf hlit
  obtain ⟨hd', hhd', hlen⟩ := Spec.decodeLiterals_length _ _ _ _ _ hlit
  rw [hhd] at hhd'; cases hhd'
  refine ⟨hd, ?_⟩
  simp only [decodeLiteralsM, hhd]
  rw [if_neg (by omega)]
  rw [if_neg (by rw [List.length_drop]; omega), ← hused, htake used (Nat.le_refl _)]

/-- the Spec's size test bounds what the sequences regenerate, hence the literals, by the block maximum.  (It is here, on
the regenerated size, that `min window blockMaxSize` is tested for a Compressed block: its `Block_Size` is the compressed
size, which `Spec.decodeBlocks` tests against `blockMaxSize` alone.) -/
theorem decodeCompressedBlock_some {window : Nat} {dict : Array Nat} {bytes : List Nat} {e e' : Spec.Entropy}
    {out out' : Array Nat} (hs : Spec.decodeCompressedBlock window dict bytes e out = some (out', e')) :
    ∃ lits used huf seqs e1 h2, Spec.decodeLiterals bytes e.huf = some (lits, used, huf) ∧
      Spec.decodeSequences (bytes.drop used) { e with huf := huf } = some (seqs, e1) ∧
      Spec.execSequences window dict seqs lits e1.hist out = some (out', h2) ∧ e' = { e1 with hist := h2 } ∧
      finalSeqSum seqs lits 0 ≤ Gen.maxBlockSize ∧ lits.length ≤ Gen.maxBlockSize := by
  obtain ⟨lits, used, huf, seqs, e1, h2, hlit, hseq, hexec, hsize, rfl⟩ := Spec.decodeCompressedBlock_eq_some.mp hs
  have hsz := execSequences_size _ _ _ _ _ _ _ _ hexec
  have hle := execSequences_lits_le _ _ _ _ _ _ _ _ hexec
  have e1' : Spec.blockMaxSize = 131072 := by decide
  have e2' : Gen.maxBlockSize = 131072 := by decide
  have := Nat.min_le_right window Spec.blockMaxSize
  exact ⟨lits, used, huf, seqs, e1, h2, hlit, hseq, hexec, rfl, by omega, by omega⟩

theorem decompressBlock_refines (bytes : List Nat) (e e' : Spec.Entropy) (b : DBuf) (out' : Array Nat)
    (htot : b.totalOut ≤ b.content.size)
    (hs : Spec.decodeCompressedBlock b.window b.dict bytes e b.content = some (out', e')) :
    ∃ b', decompressBlock bytes e b = ((b', e'), .ok ()) ∧ RefinesOut b b' out' := by
  obtain ⟨lits, used, huf, seqs, e1, h2, hlit, hseq, hexec, rfl, hfin, hll⟩ := decodeCompressedBlock_some hs
  obtain ⟨hd, hlitM⟩ := decodeLiteralsM_of_spec bytes e.huf lits used huf hlit hll
  simp only [decompressBlock, hlitM]
  cases Spec.decodeSequences_eq_some.mp hseq with
  | empty u hcnt hlu =>
    have hu := Spec.parseSeqCount_zero _ _ hcnt
    simp only [hcnt, if_true]
    rw [if_neg (by rw [← hu]; omega)]
    simp only [Spec.execSequences, Option.some.injEq, Prod.mk.injEq] at hexec
    obtain ⟨rfl, rfl⟩ := hexec
    refine ⟨b.push lits.toArray, rfl, rfl, rfl, rfl, rfl, ?_⟩
    simp only [DBuf.push, Array.size_append]; omega
  | coded n u _ _ _ _ _ _ _ _ _ hcnt hn =>
    simp only [hcnt, hn, if_false, decodeSequencesM, hseq]
    have hov := Spec.decodeSequences_ov _ _ _ _ hseq
    obtain ⟨b', he, hr⟩ := executeSequences_refines_aux _ lits _ h2 0 b out' hov htot hexec (by omega)
    rw [he]
    exact ⟨b', rfl, hr⟩

theorem parseBlockHeader_refines (b0 b1 b2 : Nat) :
    let s := Spec.parseBlockHeader b0 b1 b2
    (s.btype ≠ 3 ∧ s.size ≤ Spec.blockMaxSize →
      Model.parseBlockHeader b0 b1 b2 = .ok
        { last := s.last, btype := s.btype,
          decompressedSize := if s.btype = 2 then 0 else s.size,
          contentSize := if s.btype = 1 then 1 else s.size }) ∧
    (s.btype = 3 → Model.parseBlockHeader b0 b1 b2 = .error .reservedBlock) ∧
    (s.btype ≠ 3 ∧ s.size > Spec.blockMaxSize →
      Model.parseBlockHeader b0 b1 b2 = .error (.blockSizeTooLarge s.size)) := by
  have hsz : (b0 + 256 * b1 + 65536 * b2) / 8 = b0 / 8 + b1 * 32 + b2 * 8192 := by omega
  have hty : (b0 + 256 * b1 + 65536 * b2) / 2 % 4 = b0 / 2 % 4 := by omega
  have hla : (b0 + 256 * b1 + 65536 * b2) % 2 = b0 % 2 := by omega
  -- the type table extracted from the source is the identity on the two type bits (so the default `3` = reserved of the
  -- model's lookup is never taken)
  have hmap : ∀ t < 4, (lookupNat Gen.blockTypeMap t).getD 3 = t := by decide
  have hmax : Gen.maxBlockSize = Spec.blockMaxSize := by decide
  simp only [Spec.parseBlockHeader, Model.parseBlockHeader, hsz, hty, hla,
    hmap _ (Nat.mod_lt _ (by decide : 0 < 4)), Gen.blockSizeTooLarge, decide_eq_true_eq, hmax]
  generalize b0 / 2 % 4 = t
  generalize b0 / 8 + b1 * 32 + b2 * 8192 = sz
  exact ⟨fun ⟨h1, h2⟩ => by rw [if_neg h1, if_neg (Nat.not_lt.mpr h2)], fun h => if_pos h,
    fun ⟨h1, h2⟩ => by rw [if_neg h1, if_pos h2]⟩

/-- `Spec ok ⇒ the block decoder returns the same bytes`, with the entropy states related by `coupled`
(equality for the stand-in; "same tables / offset history" for the faithful decoder).  `refines` speaks of the buffer
that was never drained (`b.totalOut ≤ b.content.size`, the Spec running on `b.content`); a drained buffer is reached from
it through `BlockContract.twin`, whose hypothesis on the block's offsets is what `offsets_le` supplies (`run_sim`). -/
class RefinesSpec (σ : Type) [BlockDec σ] where
  coupled : σ → Spec.Entropy → Prop
  coupled_fresh : coupled (BlockDec.fresh : σ) {}
  refines : ∀ (bytes : List Nat) (s : σ) (e e' : Spec.Entropy) (b : DBuf) (out' : Array Nat),
    Proofs.BitIO.Bytes bytes → coupled s e → b.totalOut ≤ b.content.size →
    Spec.decodeCompressedBlock b.window b.dict bytes e b.content = some (out', e') →
    ∃ b' s', BlockDec.run bytes s b = ((b', s'), .ok ()) ∧ RefinesOut b b' out' ∧ coupled s' e'
  /-- once the output exceeds the window, the (ghost) offsets of a block the Spec accepts are within
  the window -/
  offsets_le : ∀ (window : Nat) (dict : Array Nat) (bytes : List Nat) (s : σ) (e e' : Spec.Entropy)
    (out out' : Array Nat), Proofs.BitIO.Bytes bytes → coupled s e →
    Spec.decodeCompressedBlock window dict bytes e out = some (out', e') → window < out.size →
    ∀ o ∈ BlockDec.offsets bytes s, o ≤ window

variable {σ : Type} [BlockDec σ] [BlockContract σ] [RefinesSpec σ]

/-- the decoder's registered dictionaries are the Spec's: same ids and contents, coupled entropy — position by position,
which is what `Decoder.addDict` and `registerDicts` keep (Proofs/DictParse.lean); used through `DictsCoupled.find` -/
inductive DictsCoupled : List (Dict σ) → List Spec.Dict → Prop
  | nil : DictsCoupled [] []
  | cons {d : Dict σ} {sd : Spec.Dict} {l1 : List (Dict σ)} {l2 : List Spec.Dict} :
      sd.id = d.id → sd.content = d.content → RefinesSpec.coupled d.entropy sd.entropy →
      DictsCoupled l1 l2 → DictsCoupled (d :: l1) (sd :: l2)

theorem DictsCoupled.find {dicts : List (Dict σ)} {sdicts : List Spec.Dict} (h : DictsCoupled dicts sdicts) (id : Nat) :
    (dicts.find? (fun x => x.id = id) = none ∧ sdicts.find? (fun x => x.id = id) = none) ∨
    ∃ d sd, dicts.find? (fun x => x.id = id) = some d ∧ sdicts.find? (fun x => x.id = id) = some sd ∧
      sd.content = d.content ∧ RefinesSpec.coupled d.entropy sd.entropy := by
  induction h with
  | nil => exact Or.inl ⟨rfl, rfl⟩
  | @cons a b l1 l2 h1 h2 h3 _ ih =>
    by_cases hid : a.id = id
    · right
      exact ⟨a, b, by simp [List.find?, hid], by simp [List.find?, h1, hid], h2, h3⟩
    · have hid' : ¬ b.id = id := by rw [h1]; exact hid
      simp only [List.find?, hid, hid', decide_false]
      exact ih

/-- the states the refinement relates: buffer = the Spec's output so far, entropy = the Spec's -/
structure SpecState (st : FState σ) (e : Spec.Entropy) (out : Array Nat) : Prop where
  content : st.buf.content = out
  entropy : RefinesSpec.coupled st.entropy e
  totalOut : st.buf.totalOut ≤ st.buf.content.size

/-- one block the Spec accepts, on a decoder that was never drained: `Sim #[]` together with `FollowStep`
(Proofs/FrameDecoderFollows.lean) in the vocabulary of `SpecState`; produced only by `decodeOneBlock_refines`, consumed by nothing -/
structure BlockRefines (st st1 : FState σ) (e1 : Spec.Entropy) (out1 : Array Nat) (n : Nat) : Prop where
  spec : SpecState st1 e1 out1
  bytesRead : st1.bytesRead = st.bytesRead + n
  header : st1.header = st.header
  finished : st1.finished = st.finished
  checksum : st1.checksum = st.checksum
  hashed : st1.buf.hashed = st.buf.hashed
  window : st1.buf.window = st.buf.window
  dict : st1.buf.dict = st.buf.dict

/-- `specBlockStep_eq_some` in the model's terms -/
theorem specBlockStep_some {window : Nat} {dict : Array Nat} {bytes : List Nat}
    {e e1 : Spec.Entropy} {out out1 : Array Nat} {n : Nat} {last : Bool}
    (hs : specBlockStep window dict bytes e out = some (out1, e1, n, last)) :
    ∃ bh, 3 ≤ bytes.length ∧ parseBlockHeader (bytes.getD 0 0) (bytes.getD 1 0) (bytes.getD 2 0) = .ok bh ∧
      bh.last = last ∧ n = 3 + bh.contentSize ∧ n ≤ bytes.length ∧
      ((bh.btype = 0 ∧ e1 = e ∧ out1 = out ++ ((bytes.drop 3).take bh.contentSize).toArray) ∨
       (bh.btype = 1 ∧ e1 = e ∧
          out1 = out ++ Array.replicate bh.decompressedSize (((bytes.drop 3).take bh.contentSize).headD 0)) ∨
       (bh.btype ≠ 1 ∧ bh.btype ≠ 0 ∧
          Spec.decodeCompressedBlock window dict ((bytes.drop 3).take bh.contentSize) e out = some (out1, e1))) := by
  obtain ⟨b0, b1, b2, body, H, rfl, hH, rfl, ht3, hsz, hc⟩ := specBlockStep_eq_some hs
  -- the model's parse, for a header the Spec accepts
  have hp := (parseBlockHeader_refines b0 b1 b2).1 (hH ▸ ⟨ht3, hsz⟩)
  rw [← hH] at hp
  refine ⟨_, by simp, hp, rfl, ?_⟩
  show n = 3 + (if H.btype = 1 then 1 else H.size) ∧ n ≤ (b0 :: b1 :: b2 :: body).length ∧ _
  simp only [List.length_cons, List.drop_succ_cons, List.drop_zero]
  rcases hc with ⟨ht0, hl, rfl, rfl, rfl⟩ | ⟨ht1, hl, rfl, rfl, rfl⟩ | ⟨ht0, ht1, hl, rfl, hcb⟩
  · rw [if_neg (by omega)]
    exact ⟨rfl, by omega, .inl ⟨ht0, rfl, rfl⟩⟩
  · rw [if_pos ht1]
    refine ⟨rfl, by omega, .inr (.inl ⟨ht1, rfl, ?_⟩)⟩
    cases body with
    | nil => simp at hl
    | cons b rest => simp [ht1]
  · rw [if_neg ht1]
    exact ⟨rfl, by omega, .inr (.inr ⟨ht1, ht0, hcb⟩)⟩

theorem take1_headD (l : List Nat) (n : Nat) (h : n < l.length) : ((l.drop n).take 1).headD 0 = l.getD n 0 := by
  induction l generalizing n with
  | nil => simp at h
  | cons a l ih =>
    cases n with
    | zero => simp
    | succ n => simp only [List.drop_succ_cons, List.getD_cons_succ]; exact ih n (by simpa using h)

theorem readExact_drop (n : Nat) {k : Nat} {s : Src} (hk : k ≤ s.length) :
    readExact n (s.drop k) = if s.length < k + n then none else some ((s.drop k).take n, s.drop (k + n)) := by
  simp only [readExact, List.length_take, List.length_drop, List.drop_drop]
  by_cases h : s.length < k + n
  · rw [if_pos h, if_pos (by omega)]
  · rw [if_neg h, if_neg (by omega)]

theorem dictIdBytes_eq (d : Nat) : dictIdBytes d = Spec.didFieldSize (Spec.parseFrameDesc d) := by
  have h : d % 4 < 4 := Nat.mod_lt _ (by decide)
  simp only [dictIdBytes, Spec.didFieldSize, Spec.parseFrameDesc]
  generalize d % 4 = t at h
  have : t = 0 ∨ t = 1 ∨ t = 2 ∨ t = 3 := by omega
  rcases this with rfl | rfl | rfl | rfl <;> simp [lookupNat, Gen.dictIdBytes]

theorem fcsBytes_eq (d w fc : Nat) (di : Option Nat) (hd : d < 256) :
    fcsBytes ⟨d, w, di, fc⟩ = Spec.fcsFieldSize (Spec.parseFrameDesc d) := by
  have h : d / 64 < 4 := by omega
  simp only [fcsBytes, Spec.fcsFieldSize, Spec.parseFrameDesc, FHeader.singleSegment]
  generalize d / 64 = t at h
  have : t = 0 ∨ t = 1 ∨ t = 2 ∨ t = 3 := by omega
  rcases this with rfl | rfl | rfl | rfl <;> simp [lookupNat, Gen.fcsBytes, Gen.fcsBytesFlag0]

/-- Both sides read the descriptor at offset 4 and then three fields of `wlen`,
`dlen`, `flen` bytes at offsets `5`, `5 + wlen`, `5 + wlen + dlen`; the proof names the three lengths and the
window `W`, shows each `readExact` of the model (`r0`, `r4`, `rw5`, `rd`, `rf`) returns the Spec's slice, and has
arithmetic only where the window descriptor is checked against the legal range. -/
theorem readFrameHeader_refines (bytes : List Nat) (hb : ∀ x ∈ bytes, x < 256) (h : Spec.FrameHeader)
    (hs : Spec.parseFrameHeader bytes = some h) :
    ∃ fh, readFrameHeader bytes = .ok (fh, h.hdrLen, bytes.drop h.hdrLen) ∧
      fh.windowSize = .ok h.window ∧ fh.dictId = h.dictId ∧ fh.checksumFlag = h.desc.checksum ∧
      5 ≤ h.hdrLen ∧ h.hdrLen ≤ bytes.length := by
  simp only [Spec.parseFrameHeader] at hs
  generalize hd : bytes.getD 4 0 = d at hs
  have hsg : (Spec.parseFrameDesc d).singleSegment = decide (d / 32 % 2 = 1) := rfl
  simp only [hsg, decide_eq_true_eq] at hs
  generalize hdl : Spec.didFieldSize (Spec.parseFrameDesc d) = dlen at hs
  generalize hfl : Spec.fcsFieldSize (Spec.parseFrameDesc d) = flen at hs
  generalize hwl : (if d / 32 % 2 = 1 then 0 else 1) = wlen at hs
  generalize hW : (if d / 32 % 2 = 1 then _ else Spec.windowSize _) = W at hs
  by_cases hc1 : bytes.length < 5 ∨ leNat (bytes.take 4) ≠ Spec.magic
  · rw [if_pos hc1] at hs
    cases hs
  rw [if_neg hc1] at hs
  by_cases hres : d / 8 % 2 = 1
  · rw [if_pos hres] at hs
    cases hs
  rw [if_neg hres] at hs
  by_cases htot : bytes.length < 5 + wlen + dlen + flen
  · rw [if_pos htot] at hs
    cases hs
  rw [if_neg htot] at hs
  by_cases hwin : ¬ d / 32 % 2 = 1 ∧ (W < Spec.windowMin ∨ W > Spec.windowMax)
  · rw [if_pos hwin] at hs
    cases hs
  rw [if_neg hwin] at hs
  cases hs
  have hmag : leNat (bytes.take 4) = Spec.magic := Decidable.by_contra fun hm => hc1 (.inr hm)
  have hd256 : d < 256 := by
    rw [← hd, List.getD_eq_getElem?_getD, List.getElem?_eq_getElem (by omega)]
    exact hb _ (List.getElem_mem _)
  have hw5 : 5 + wlen ≤ bytes.length := by omega
  -- the model's five reads, at the Spec's offsets
  have r0 := readExact_drop 4 (Nat.zero_le bytes.length)
  rw [List.drop_zero, Nat.zero_add, if_neg (by omega)] at r0
  have r4 := readExact_drop 1 (show 4 ≤ bytes.length by omega)
  rw [if_neg (by omega)] at r4
  have rw5 : (if d / 32 % 2 = 1 then some ([0], bytes.drop (4 + 1)) else readExact 1 (bytes.drop (4 + 1))) =
      some (if d / 32 % 2 = 1 then [0] else (bytes.drop 5).take 1, bytes.drop (5 + wlen)) := by
    by_cases hsi : d / 32 % 2 = 1
    · rw [if_pos hsi, if_pos hsi, ← hwl, if_pos hsi]
    · rw [if_neg hsi] at hwl
      rw [if_neg hsi, if_neg hsi, readExact_drop 1 (show 4 + 1 ≤ bytes.length by omega), if_neg (by omega), ← hwl]
  have rd := readExact_drop dlen hw5
  rw [if_neg (by omega)] at rd
  have rf := readExact_drop flen (show 5 + wlen + dlen ≤ bytes.length by omega)
  rw [if_neg (by omega)] at rf
  have hflen : ∀ w di, fcsBytes ⟨d, w, di, 0⟩ = flen := fun w di => by rw [fcsBytes_eq d w 0 di hd256, hfl]
  simp only [readFrameHeader, r0, hmag, (by decide : ¬ (Gen.skipMagicLo ≤ Spec.magic ∧ Spec.magic ≤ Gen.skipMagicHi)),
    (by decide : ¬ Spec.magic ≠ Gen.magicNum), if_false, r4, take1_headD bytes 4 (by omega), hd, rw5,
    dictIdBytes_eq, hdl, rd, hflen, rf, hwl]
  refine ⟨_, rfl, ?_, rfl, rfl, by omega, by omega⟩
  by_cases hsi : d / 32 % 2 = 1
  · -- single segment: the window is the content size, which neither side range-checks (`FrameHeader::window_size`)
    rw [if_pos hsi] at hW
    simp only [FHeader.windowSize, FHeader.singleSegment, hsi, decide_true, if_true, ← hW]
    by_cases hf0 : flen = 0
    · subst hf0
      simp [leNat]
    · simp only [hf0, if_false]
  · rw [if_neg hsi] at hW hwl
    rw [if_neg hsi, if_neg hsi, take1_headD bytes 5 (by omega)]
    have hwv : Spec.windowMin ≤ W ∧ W ≤ Spec.windowMax := by
      constructor
      · exact Nat.le_of_not_lt fun h => hwin ⟨hsi, .inl h⟩
      · exact Nat.le_of_not_lt fun h => hwin ⟨hsi, .inr h⟩
    have e1 : Spec.windowMin = 1024 := by decide
    have e2 : Spec.windowMax = 4123168604160 := by decide
    simp only [FHeader.windowSize, FHeader.singleSegment, hsi, decide_false, Bool.false_eq_true, if_false,
      Gen.windowMinOk, Gen.windowMaxOk, Gen.minWindowSize, Gen.maxWindowSize]
    simp only [Spec.windowSize] at hW
    rw [hW]
    have a : W ≥ 1024 := by omega
    have b : W ≤ 4123168604160 := by omega
    simp [a, b]

/-- what `Spec.decodeFrame f = some r` says, in the model's terms; the state `st0` that `resetCore` installs is a
`FreshFrame` (`resetCore_replace`).  It is `Spec.decodeFrame_some` without the equation "stored checksum = `checksum32`
of the content", which the frame decoder does not test. -/
theorem decodeFrame_setup (d : Decoder σ) (sdicts : List Spec.Dict) (hdc : DictsCoupled d.dicts sdicts)
    (f : List Nat) (hb : ∀ x ∈ f, x < 256) (r : Spec.FrameResult)
    (hs : Spec.decodeFrame f sdicts = some r) (hlim : r.header.window ≤ d.maxWindow) :
    ∃ (st0 : FState σ) (e0 : Spec.Entropy) (consumed : Nat) (out : Array Nat),
      resetCore d.dicts d.maxWindow f = .replace st0 (.ok (f.drop st0.bytesRead)) ∧
      RefinesSpec.coupled st0.entropy e0 ∧
      Spec.decodeBlocks st0.buf.window st0.buf.dict (f.length + 1) (f.drop st0.bytesRead) e0 #[] st0.bytesRead
        = some (out, consumed) ∧
      r.content = out.toList ∧
      ((st0.header.checksumFlag = true ∧ 4 ≤ (f.drop consumed).length ∧ r.consumed = consumed + 4 ∧
          r.checksum = some (leNat ((f.drop consumed).take 4))) ∨
       (st0.header.checksumFlag = false ∧ r.consumed = consumed ∧ r.checksum = none)) := by
  obtain ⟨dsel, out, consumed, hh, hsel, hblocks, hrc, hrk⟩ := Spec.decodeFrame_some hs
  generalize r.header = h at hh hsel hblocks hrk hlim
  obtain ⟨fh, hrf, hws, hdid, hck, -, -⟩ := readFrameHeader_refines f hb h hh
  have hlim' : Gen.windowOverLimit h.window d.maxWindow = false := by
    simp only [Gen.windowOverLimit, decide_eq_false_iff_not]; omega
  -- the model's `reset`: the state, and the Spec's entropy and dictionary content, for either dictionary choice
  obtain ⟨st0, e0, hreset, hh0, hbr0, hent, hblocks'⟩ : ∃ (st0 : FState σ) (e0 : Spec.Entropy),
      resetCore d.dicts d.maxWindow f = .replace st0 (.ok (f.drop h.hdrLen)) ∧
      st0.header = fh ∧ st0.bytesRead = h.hdrLen ∧ RefinesSpec.coupled st0.entropy e0 ∧
      Spec.decodeBlocks st0.buf.window st0.buf.dict (f.length + 1) (f.drop h.hdrLen) e0 #[] h.hdrLen
        = some (out, consumed) := by
    cases hdi : h.dictId with
    | none =>
      rw [hdi] at hsel
      cases hsel
      refine ⟨freshState fh h.hdrLen h.window, {}, ?_, rfl, rfl, RefinesSpec.coupled_fresh, hblocks⟩
      simp only [resetCore_of_header hrf hws hlim', applyDictChoice, freshState, hdid, hdi]
    | some id =>
      rw [hdi] at hsel
      rcases hdc.find id with ⟨-, hn⟩ | ⟨dict, sd, hfd, hfs, hc1, hc2⟩
      · simp [hn] at hsel
      · simp only [hfs, Option.map_some, Option.some.injEq] at hsel
        subst hsel
        refine ⟨(freshState fh h.hdrLen h.window).withDict dict, sd.entropy, ?_, rfl, rfl, hc2, ?_⟩
        · simp only [resetCore_of_header hrf hws hlim', applyDictChoice, freshState, hdid, hdi, hfd]
        · simp only at hblocks
          rw [hc1] at hblocks
          exact hblocks
  rw [← hbr0] at hreset hblocks'
  exact ⟨st0, e0, consumed, out, hreset, hent, hblocks', hrc,
    hrk.imp (fun ⟨a, b, c, e, _⟩ => ⟨by rw [hh0, hck, a], b, c, e⟩) (fun ⟨a, b, c⟩ => ⟨by rw [hh0, hck, a], b, c⟩)⟩

end Zstd.Model
