import Zstd.Proofs.BitIO.Writer
import Zstd.Proofs.BitIO.Forward
import Zstd.Proofs.BitIO.Reverse
import Zstd.Proofs.BitIO.Rem
/-
Fields written with `writeAll` and dumped are read back by both readers: by the forward reader in order
(`reader_inverts_writer_fwd`), by the reversed reader in reverse order and down to the first bit of the buffer
(`reader_inverts_writer_rev`).  Both rest on `writeAll_dump`: the dumped bytes are `fieldsBits` of the fields.
-/
namespace Zstd.Proofs.BitIO
open Zstd Zstd.Spec Zstd.Model.BitIO

theorem readLE_bitsOfLE_append {n v : Nat} (hv : v < 2 ^ n) (rest : List Bool) :
    readLE n (bitsOfLE n v ++ rest) = some (v, rest) := by
  rw [readLE_def]
  rw [if_neg (by simp)]
  rw [List.take_left' (length_bitsOfLE n v), List.drop_left' (length_bitsOfLE n v), valLE_bitsOfLE hv]

theorem runFwdSpec_fields (fs : List (Nat × Nat)) :
    ∀ (pre post : List Bool), (∀ f ∈ fs, f.1 < 2 ^ f.2 ∧ 0 < f.2 ∧ f.2 ≤ 64) →
      runFwdSpec (pre ++ fieldsBits fs ++ post) pre.length (fs.map (fun f => FwdOp.get f.2))
        = .ok (fs.map (·.1), pre.length + (fieldsBits fs).length) := by
  induction fs with
  | nil => intro pre post _; simp [runFwdSpec, fieldsBits]
  | cons f fs ih =>
    intro pre post hf
    obtain ⟨v, n⟩ := f
    obtain ⟨hv, hpos, hn⟩ := hf (v, n) List.mem_cons_self
    simp only at hv hpos hn
    rw [List.map_cons, runFwdSpec, if_neg (by omega), if_neg (by omega)]
    have hdrop : (pre ++ fieldsBits ((v, n) :: fs) ++ post).drop pre.length
        = bitsOfLE n v ++ (fieldsBits fs ++ post) := by
      rw [List.append_assoc, List.drop_left' rfl, fieldsBits, List.append_assoc]
    rw [hdrop, readLE_bitsOfLE_append hv]
    simp only []
    have := ih (pre ++ bitsOfLE n v) post (fun f hfm => hf f (List.mem_cons_of_mem _ hfm))
    rw [List.length_append, length_bitsOfLE] at this
    rw [show pre ++ fieldsBits ((v, n) :: fs) ++ post = pre ++ bitsOfLE n v ++ fieldsBits fs ++ post by
      simp [fieldsBits], this]
    simp only [List.map_cons, fieldsBits, List.length_append, length_bitsOfLE]
    rw [Nat.add_assoc]

theorem writeAll_dump {fs : List (Nat × Nat)} {w' : BitWriter} {out : Array Nat}
    (hf : ∀ f ∈ fs, f.1 < 2 ^ f.2 ∧ f.2 ≤ 63)
    (hw : writeAll BitWriter.new fs = .ok w') (hd : w'.dump = .ok out) :
    bitsLE out.toList = fieldsBits fs ∧ Bytes out.toList := by
  obtain ⟨w1, hw1, hinv⟩ := bitWriter_writeAll WInv_new hf
  rw [hw] at hw1
  cases hw1
  rw [List.nil_append] at hinv
  by_cases hal : (fieldsBits fs).length % 8 = 0
  · obtain ⟨out', ho, hbits, hbytes⟩ := bitWriter_dump hinv hal
    rw [hd] at ho
    cases ho
    exact ⟨hbits, hbytes⟩
  · rw [bitWriter_dump_misaligned_faults hinv hal] at hd
    cases hd

/-- Every width must be positive: `get_bits(0)` at the very end of the source panics
(`bitReader_getBits_zero_at_end_faults`), so a trailing zero-width field is not readable. -/
theorem reader_inverts_writer_fwd {fs : List (Nat × Nat)} {w' : BitWriter} {out : Array Nat}
    (hf : ∀ f ∈ fs, f.1 < 2 ^ f.2 ∧ 0 < f.2 ∧ f.2 ≤ 63)
    (hw : writeAll BitWriter.new fs = .ok w') (hd : w'.dump = .ok out) :
    runFwd (BitReader.new out) (fs.map (fun f => FwdOp.get f.2))
      = .ok (fs.map (·.1), { src := out, idx := 8 * out.size }) := by
  obtain ⟨hbits, hbytes⟩ := writeAll_dump (fun f hfm => ⟨(hf f hfm).1, (hf f hfm).2.2⟩) hw hd
  rw [BitReader.new, runFwd_refines out hbytes _ 0 (by omega), hbits]
  have := runFwdSpec_fields fs [] [] (fun f hfm => ⟨(hf f hfm).1, (hf f hfm).2.1, by have := (hf f hfm).2.2; omega⟩)
  rw [List.nil_append, List.append_nil, List.length_nil, Nat.zero_add] at this
  rw [this]
  simp only []
  rw [← hbits, length_bitsLE, Array.length_toList]

theorem runRev_append (a b : List Nat) :
    ∀ (r : BitReaderRev), runRev r (a ++ b) =
      (match runRev r a with
       | .error f => .error f
       | .ok (va, r1) =>
         match runRev r1 b with
         | .error f => .error f
         | .ok (vb, r2) => .ok (va ++ vb, r2)) := by
  induction a with
  | nil =>
    intro r
    simp only [List.nil_append, runRev]
    cases runRev r b with
    | error f => rfl
    | ok p => rfl
  | cons n ns ih =>
    intro r
    rw [List.cons_append, runRev, runRev]
    cases r.getBits n with
    | error f => rfl
    | ok p =>
      obtain ⟨v, r1⟩ := p
      simp only []
      rw [ih r1]
      cases runRev r1 ns with
      | error f => rfl
      | ok q =>
        obtain ⟨va, r2⟩ := q
        simp only []
        cases runRev r2 b with
        | error f => rfl
        | ok q2 => rfl

theorem runRev_fields {src : Array Nat} (fs : List (Nat × Nat)) :
    ∀ (rest : List Bool) (r : BitReaderRev), (∀ f ∈ fs, f.1 < 2 ^ f.2 ∧ f.2 ≤ 56) →
      Rem src r ((fieldsBits fs).reverse ++ rest) →
      ∃ r', runRev r (fs.reverse.map (·.2)) = .ok (fs.reverse.map (·.1), r') ∧ Rem src r' rest := by
  induction fs with
  | nil => intro rest r _ h; exact ⟨r, rfl, h⟩
  | cons f fs ih =>
    intro rest r hf h
    obtain ⟨v, n⟩ := f
    obtain ⟨hv, hn⟩ := hf (v, n) List.mem_cons_self
    rw [fieldsBits, List.reverse_append, List.append_assoc] at h
    obtain ⟨r1, hr1, h1⟩ := ih _ r (fun f hfm => hf f (List.mem_cons_of_mem _ hfm)) h
    obtain ⟨r2, hr2, h2⟩ := h1.getField hv hn
    refine ⟨r2, ?_, h2⟩
    rw [List.reverse_cons, List.map_append, List.map_append, runRev_append, hr1]
    simp only [List.map_cons, List.map_nil, runRev]
    rw [hr2]

theorem reader_inverts_writer_rev {fs : List (Nat × Nat)} {w' : BitWriter} {out : Array Nat}
    (hf : ∀ f ∈ fs, f.1 < 2 ^ f.2 ∧ f.2 ≤ 56)
    (hw : writeAll BitWriter.new fs = .ok w') (hd : w'.dump = .ok out) :
    ∃ r', runRev (BitReaderRev.new out) (fs.reverse.map (·.2)) = .ok (fs.reverse.map (·.1), r') ∧
      r'.bitsRemaining = 0 := by
  obtain ⟨hbits, hbytes⟩ := writeAll_dump (fun f hfm => ⟨(hf f hfm).1, by have := (hf f hfm).2; omega⟩) hw hd
  obtain ⟨r', hr', h⟩ := runRev_fields (src := out) fs [] (BitReaderRev.new out) hf
    (by rw [List.append_nil, ← hbits]; exact Rem.new hbytes)
  exact ⟨r', hr', by simpa using h.bitsRemaining⟩

end Zstd.Proofs.BitIO
