import Zstd.Proofs.BitIO.Writer
/-
`change_bits(idx, v, n)` overwrites bits `[idx, idx+n)` of the written bit string (`bitWriter_changeBits`).  The output
array is followed byte by byte through `Patched`; `patch_list` turns the final `Patched` into the statement on bit lists.
-/
namespace Zstd.Proofs.BitIO
open Zstd Zstd.Spec Zstd.Model.BitIO

def bitAt (out : Array Nat) (i : Nat) : Bool := (out[i / 8]?.getD 0).testBit (i % 8)

theorem getElem_bitsLE (l : List Nat) : ∀ (i : Nat) (h : i < (bitsLE l).length),
    (bitsLE l)[i] = (l[i / 8]?.getD 0).testBit (i % 8) := by
  induction l with
  | nil => intro i h; simp [bitsLE] at h
  | cons b bs ih =>
    intro i h
    simp only [bitsLE]
    rw [List.getElem_append]
    split
    · rename_i hlt
      have hi : i < 8 := by simpa [byteBitsLE] using hlt
      have h1 : i / 8 = 0 := by omega
      have h2 : i % 8 = i := by omega
      simp only [byteBitsLE_eq, getElem_bitsOfLE, h1, h2, List.getElem?_cons_zero, Option.getD_some]
    · rename_i hge
      have h8 : (byteBitsLE b).length = 8 := rfl
      have hi : 8 ≤ i := by rw [h8] at hge; omega
      simp only [h8]
      rw [ih (i - 8) (by simp only [bitsLE, List.length_append, h8] at h; omega)]
      have h1 : i / 8 = (i - 8) / 8 + 1 := by omega
      have h2 : (i - 8) % 8 = i % 8 := by omega
      rw [h1, h2, List.getElem?_cons_succ]

theorem getElem_bitsLE_toList (out : Array Nat) (i : Nat) (h : i < (bitsLE out.toList).length) :
    (bitsLE out.toList)[i] = bitAt out i := by
  rw [getElem_bitsLE, bitAt, Array.getElem?_toList]

/-- `out` is `out0` with bits `[idx, cur)` replaced by the low bits of `v` -/
structure Patched (out0 out : Array Nat) (idx cur v : Nat) : Prop where
  size_eq : out.size = out0.size
  bytes : Bytes out.toList
  bit : ∀ i, bitAt out i = if idx ≤ i ∧ i < cur then v.testBit (i - idx) else bitAt out0 i

theorem Patched_refl {out0 : Array Nat} (hb : Bytes out0.toList) (idx v : Nat) :
    Patched out0 out0 idx idx v :=
  ⟨rfl, hb, fun i => by rw [if_neg (by omega)]⟩

theorem Bytes_set {l : List Nat} (h : Bytes l) (k x : Nat) (hx : x < 256) : Bytes (l.set k x) := by
  intro b hb
  rcases List.mem_or_eq_of_mem_set hb with hm | rfl
  · exact h b hm
  · exact hx

theorem getElem?_lt256 {out : Array Nat} (hb : Bytes out.toList) {k b : Nat} (h : out[k]? = some b) :
    b < 256 := by
  apply hb
  rw [Array.mem_toList_iff]
  exact Array.mem_of_getElem? h

theorem Patched.byte {out0 out : Array Nat} {idx cur v : Nat} (h : Patched out0 out idx cur v)
    {k b : Nat} (hb : out[k]? = some b) (j : Nat) (hj : j < 8) :
    b.testBit j = if idx ≤ 8 * k + j ∧ 8 * k + j < cur then v.testBit (8 * k + j - idx)
                  else bitAt out0 (8 * k + j) := by
  have h1 := h.bit (8 * k + j)
  rw [bitAt, show (8 * k + j) / 8 = k by omega, show (8 * k + j) % 8 = j by omega, hb] at h1
  exact h1

/-- One step of `change_bits`: byte `k`, which holds `b`, is replaced by `x`, whose bits `[lo, hi)` are
the next bits of `v` and whose other bits are those of `b`; the patched range grows from `8k + lo` to
`8k + hi`.  The unaligned head, every full byte and the tail are instances. -/
theorem Patched.merge {out0 out : Array Nat} {idx cur v : Nat} (h : Patched out0 out idx cur v)
    {k lo hi b x : Nat} (hcur : cur = 8 * k + lo) (hidx : idx ≤ cur) (hlh : lo ≤ hi) (hhi : hi ≤ 8)
    (hb : out[k]? = some b) (hx256 : x < 256)
    (hx : ∀ j, j < 8 → x.testBit j = if lo ≤ j ∧ j < hi then v.testBit (cur - idx + (j - lo)) else b.testBit j) :
    Patched out0 (out.set! k x) idx (8 * k + hi) v := by
  have hk : k < out.size := (Array.getElem?_eq_some_iff.1 hb).1
  rw [Array.set!_eq_setIfInBounds]
  refine ⟨by rw [Array.size_setIfInBounds, h.size_eq], ?_, ?_⟩
  · rw [Array.toList_setIfInBounds]; exact Bytes_set h.bytes k x hx256
  · intro i
    by_cases hik : i / 8 = k
    · have e : 8 * k + i % 8 = i := by omega
      have hbj := h.byte hb (i % 8) (by omega)
      rw [e] at hbj
      rw [bitAt, Array.getElem?_setIfInBounds, if_pos hik.symm, if_pos hk, Option.getD_some, hx _ (by omega), hbj]
      by_cases hin : lo ≤ i % 8 ∧ i % 8 < hi
      · rw [if_pos hin, if_pos (by omega)]; congr 1; omega
      · rw [if_neg hin]
        by_cases hlt : idx ≤ i ∧ i < cur
        · rw [if_pos hlt, if_pos (by omega)]
        · rw [if_neg hlt, if_neg (by omega)]
    · have h1 := h.bit i
      rw [bitAt] at h1
      rw [bitAt, Array.getElem?_setIfInBounds, if_neg (fun e => hik e.symm), h1]
      by_cases hc : idx ≤ i ∧ i < cur
      · rw [if_pos hc, if_pos (by omega)]
      · rw [if_neg hc, if_neg (by omega)]

theorem changeFull_ok {out0 : Array Nat} {idx v r : Nat} (hr : r < 8) :
    ∀ (q fuel : Nat) (out : Array Nat) (k bits cur : Nat), Patched out0 out idx cur v →
      cur = 8 * k → idx ≤ cur → bits = v >>> (cur - idx) → cur + (8 * q + r) ≤ 8 * out0.size → q ≤ fuel →
      ∃ out', BitWriter.changeFull fuel out k bits (8 * q + r) = .ok (out', k + q, v >>> (cur + 8 * q - idx), r) ∧
        Patched out0 out' idx (cur + 8 * q) v := by
  intro q
  induction q with
  | zero =>
    intro fuel out k bits cur h _ _ hbits _ _
    simp only [Nat.mul_zero, Nat.zero_add, Nat.add_zero]
    refine ⟨out, ?_, h⟩
    rw [← hbits]
    cases fuel with
    | zero => rfl
    | succ fuel => rw [BitWriter.changeFull, if_neg (by omega)]
  | succ q ih =>
    intro fuel out k bits cur h hcur hidx hbits hsz hfuel
    obtain ⟨fuel, rfl⟩ : ∃ f, fuel = f + 1 := ⟨fuel - 1, by omega⟩
    have hk : k < out.size := by rw [h.size_eq]; omega
    rw [BitWriter.changeFull, if_pos (by omega), if_pos hk, show 8 * (q + 1) + r - 8 = 8 * q + r by omega]
    have hp : Patched out0 (out.set! k (bits % 256)) idx (8 * k + 8) v :=
      h.merge (lo := 0) hcur hidx (Nat.zero_le 8) (Nat.le_refl 8) (Array.getElem?_eq_getElem hk)
        (Nat.mod_lt _ (by omega)) (fun j hj => by
          rw [if_pos (by omega), hbits, show (256 : Nat) = 2 ^ 8 by rfl, Nat.testBit_mod_two_pow,
            Nat.testBit_shiftRight, decide_eq_true hj, Bool.true_and, Nat.sub_zero])
    obtain ⟨out', ho, hp'⟩ := ih fuel (out.set! k (bits % 256)) (k + 1) (bits >>> 8) (8 * k + 8) hp
      (by omega) (by omega) (by rw [hbits, ← Nat.shiftRight_add]; congr 1; omega) (by omega) (by omega)
    have e : 8 * k + 8 + 8 * q = cur + 8 * (q + 1) := by omega
    rw [e] at ho hp'
    exact ⟨out', by rw [ho, Nat.add_assoc, Nat.add_comm 1 q], hp'⟩

theorem patch_list (L L' : List Bool) (idx n v : Nat) (hlen : L'.length = L.length)
    (hle : idx + n ≤ L.length)
    (hbit : ∀ i (h : i < L.length), L'[i]'(by omega) =
      if idx ≤ i ∧ i < idx + n then v.testBit (i - idx) else L[i]) :
    L' = L.take idx ++ bitsOfLE n v ++ L.drop (idx + n) := by
  apply List.ext_getElem
  · simp; omega
  · intro i h1 h2
    rw [hbit i (by omega)]
    by_cases ha : i < idx
    · rw [if_neg (by omega), List.getElem_append_left (by simp; omega),
        List.getElem_append_left (by simp; omega), List.getElem_take]
    · by_cases hb : i < idx + n
      · rw [if_pos (by omega), List.getElem_append_left (by simp; omega),
          List.getElem_append_right (by simp; omega), getElem_bitsOfLE]
        congr 1; simp; omega
      · rw [if_neg (by omega), List.getElem_append_right (by simp; omega), List.getElem_drop]
        congr 1; simp; omega

/-- the model's expression for the unaligned first byte, `idx % 8 = c` and `first = 8 - c` -/
theorem head_byte (b v c j : Nat) (hc : c < 8) (hj : j < 8) :
    ((b &&& ((2 ^ 8 - 1) >>> (8 - c))) ||| (u64 (v <<< (8 - (8 - c))) % 2 ^ 8)).testBit j
      = if c ≤ j then v.testBit (j - c) else b.testBit j := by
  unfold u64
  simp only [Nat.testBit_or, Nat.testBit_and, Nat.testBit_shiftRight, Nat.testBit_shiftLeft, Nat.testBit_mod_two_pow,
    Nat.testBit_two_pow_sub_one]
  grind

/-- the model's expression for the last byte, `nb < 8` bits of the field left -/
theorem tail_byte (b bits nb j : Nat) (hnb : nb < 8) (hj : j < 8)
    (hbits : ∀ t, nb ≤ t → bits.testBit t = false) :
    ((b &&& (((2 ^ 8 - 1) <<< nb) % 2 ^ 8)) ||| (bits % 2 ^ 8)).testBit j
      = if j < nb then bits.testBit j else b.testBit j := by
  have := hbits j
  simp only [Nat.testBit_or, Nat.testBit_and, Nat.testBit_shiftLeft, Nat.testBit_mod_two_pow, Nat.testBit_two_pow_sub_one]
  grind

/-- `change_bits(idx, v, n)` under its asserted preconditions (aligned writer, range strictly
inside the written bits, and — when `idx` is not byte aligned — the field reaches at least the
next byte boundary). -/
theorem bitWriter_changeBits {w : BitWriter} {L : List Bool} {idx v n : Nat} (h : WInv w L)
    (hal : L.length % 8 = 0) (hv : v < 2 ^ n) (hlt : idx + n < L.length)
    (hmid : idx % 8 = 0 ∨ 8 - idx % 8 ≤ n) :
    ∃ w', w.changeBits idx v n = .ok w' ∧
      WInv w' (L.take idx ++ bitsOfLE n v ++ L.drop (idx + n)) := by
  obtain ⟨wf, hf, hinv, hbip, hpart, hout⟩ := bitWriter_flush h hal
  have hLlen : L.length = 8 * wf.output.size := by rw [← hout]; simp
  have hvbit : ∀ t, n ≤ t → v.testBit t = false := fun t ht =>
    Nat.testBit_lt_two_pow (Nat.lt_of_lt_of_le hv (Nat.pow_le_pow_right (by omega) ht))
  -- what remains to be shown once the patched output is known
  have hfinal : ∀ out', Patched wf.output out' idx (idx + n) v →
      WInv { wf with output := out' } (L.take idx ++ bitsOfLE n v ++ L.drop (idx + n)) := by
    intro out' hp
    constructor
    · simp only [hbip, bitsOfLE_zero, List.append_nil]
      apply patch_list L _ idx n v (by rw [hLlen]; simp [hp.size_eq]) (by omega)
      intro i hi
      rw [getElem_bitsLE_toList, hp.bit i]
      simp only [← hout, getElem_bitsLE_toList]
    · simp only [hbip]; omega
    · simp only [hbip, hpart]; omega
    · simp only []; rw [hinv.bitIdx_eq, hp.size_eq]
    · exact hp.bytes
  unfold BitWriter.changeBits
  rw [hf]
  simp only []
  have hindex : wf.index = L.length := WInv_index hinv
  rw [if_neg (by rw [hindex]; omega), if_neg (by rw [hindex, hbip]; omega)]
  -- every `omega` below reads the whole context: the hypotheses it has no use for are cleared
  clear hal hv hindex hbip hpart
  -- the unaligned head, if any: afterwards bits `[idx, cur)` are patched and `cur` is byte aligned
  generalize hhd : (if idx % 8 ≠ 0 then _ else _ : Except Fault (Array Nat × Nat × Nat × Nat)) = head
  obtain ⟨out1, cur, rfl, hp1, hc8, hic, hcn⟩ : ∃ out1 cur, head = .ok (out1, cur, v >>> (cur - idx), idx + n - cur) ∧
      Patched wf.output out1 idx cur v ∧ cur % 8 = 0 ∧ idx ≤ cur ∧ cur ≤ idx + n := by
    subst hhd
    by_cases ha : idx % 8 = 0
    · rw [if_neg (by omega)]
      exact ⟨_, idx, by rw [Nat.sub_self, Nat.shiftRight_zero, Nat.add_sub_cancel_left],
        Patched_refl hinv.bytes idx v, ha, Nat.le_refl _, Nat.le_add_right _ _⟩
    · rw [if_pos ha, if_neg (by omega)]
      have hklt : idx / 8 < wf.output.size := by omega
      obtain ⟨b, hb⟩ : ∃ b, wf.output[idx / 8]? = some b := ⟨wf.output[idx / 8], Array.getElem?_eq_getElem hklt⟩
      rw [hb]
      simp only []
      generalize hc : idx % 8 = c at *
      refine ⟨_, idx + (8 - c), by rw [Nat.add_sub_cancel_left, Nat.sub_add_eq, Nat.add_sub_cancel_left], ?_, by omega, by omega, by omega⟩
      rw [show idx + (8 - c) = 8 * (idx / 8) + 8 by omega]
      refine (Patched_refl hinv.bytes idx v).merge (lo := c) (by omega) (Nat.le_refl _) (by omega) (Nat.le_refl _) hb ?_ ?_
      · exact Nat.or_lt_two_pow (n := 8) (Nat.lt_of_le_of_lt Nat.and_le_left (getElem?_lt256 hinv.bytes hb))
          (Nat.mod_lt _ (by omega))
      · intro j hj
        rw [show (255 : Nat) = 2 ^ 8 - 1 by rfl, show (256 : Nat) = 2 ^ 8 by rfl,
          head_byte b v c j (by omega) hj, Nat.sub_self, Nat.zero_add]
        simp only [hj, and_true]
  simp only []
  clear hmid
  -- `cur` and the place of the last byte as multiples of 8 (with `cur / 8` every `omega` below has to divide)
  obtain ⟨k, rfl⟩ : ∃ k, cur = 8 * k := ⟨cur / 8, by omega⟩
  obtain ⟨q, nb, hnb8, hqr⟩ : ∃ q r, r < 8 ∧ idx + n - 8 * k = 8 * q + r :=
    ⟨_, _, Nat.mod_lt _ (by decide), (Nat.div_add_mod _ 8).symm⟩
  rw [hqr, Nat.mul_div_cancel_left k (by decide : 0 < 8)]
  obtain ⟨out2, ho2, hp2⟩ := changeFull_ok hnb8 q ((8 * q + nb) / 8 + 1) out1 k (v >>> (8 * k - idx))
    (8 * k) hp1 rfl hic rfl (by omega) (by omega)
  rw [ho2]
  simp only []
  by_cases hpos : nb > 0
  · rw [if_pos hpos]
    have hklt : k + q < out2.size := by rw [hp2.size_eq]; omega
    obtain ⟨b, hb⟩ : ∃ b, out2[k + q]? = some b := ⟨out2[k + q], Array.getElem?_eq_getElem hklt⟩
    rw [hb]
    refine ⟨_, rfl, hfinal _ ?_⟩
    rw [show idx + n = 8 * (k + q) + nb by omega]
    refine hp2.merge (lo := 0) (by omega) (by omega) (Nat.zero_le _) (by omega) hb ?_ ?_
    · exact Nat.or_lt_two_pow (n := 8) (Nat.lt_of_le_of_lt Nat.and_le_left (getElem?_lt256 hp2.bytes hb))
        (Nat.mod_lt _ (by omega))
    · intro j hj
      rw [show (255 : Nat) = 2 ^ 8 - 1 by rfl, show (256 : Nat) = 2 ^ 8 by rfl,
        tail_byte b _ nb j (by omega) hj (by
          intro t ht; rw [Nat.testBit_shiftRight]; exact hvbit _ (by omega)),
        Nat.testBit_shiftRight]
      simp only [Nat.zero_le, true_and, Nat.sub_zero]
  · rw [if_neg hpos]
    refine ⟨_, rfl, hfinal _ ?_⟩
    rw [show idx + n = 8 * k + 8 * q by omega]
    exact hp2

end Zstd.Proofs.BitIO
