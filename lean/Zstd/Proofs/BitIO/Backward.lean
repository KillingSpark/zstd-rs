import Zstd.Proofs.BitIO.Rem
import Zstd.Proofs.Spec.Bits
/-
Skipping the padding and the marker bit with single-bit reads leaves exactly `Spec.backwardStream`: reversed, the
bits of the source are at most seven zeros, the mark, and the stream (`Spec.backwardStream_eq_some`), and the loop
reads the zeros and the mark.
-/
namespace Zstd.Proofs.BitIO
open Zstd Zstd.Spec Zstd.Model.BitIO

/-- `loop { let v = br.get_bits(1); if v == 1 { break } }` with a bound on the number of reads;
`none` when no `1` was seen within `fuel` reads.  The loop is written out here and belongs to no model: the decoders
that start with it have it in their models with their own limit on the skipped bits (`Model.Fse.skipPadding`). -/
def skipPadding : Nat → BitReaderRev → Except Fault (Option BitReaderRev)
  | 0, _ => .ok none
  | fuel + 1, r =>
    match r.getBits 1 with
    | .error f => .error f
    | .ok (v, r') => if v = 1 then .ok (some r') else skipPadding fuel r'

theorem Rem.skipZeros {src : Array Nat} {bits : List Bool} :
    ∀ (k fuel : Nat) (r : BitReaderRev), Rem src r (List.replicate k false ++ true :: bits) → k + 1 ≤ fuel →
      ∃ r', skipPadding fuel r = .ok (some r') ∧ Rem src r' bits := by
  intro k
  induction k with
  | zero =>
    intro fuel r h hf
    obtain ⟨f, rfl⟩ : ∃ f, fuel = f + 1 := ⟨fuel - 1, by omega⟩
    obtain ⟨r', hr', hrem⟩ := h.getBit
    exact ⟨r', by simp only [BitIO.skipPadding, hr', if_true], hrem⟩
  | succ k ih =>
    intro fuel r h hf
    obtain ⟨f, rfl⟩ : ∃ f, fuel = f + 1 := ⟨fuel - 1, by omega⟩
    rw [List.replicate_succ, List.cons_append] at h
    obtain ⟨r1, hr1, hrem1⟩ := h.getBit
    obtain ⟨r', hr', hrem⟩ := ih f r1 hrem1 (by omega)
    exact ⟨r', by simp only [BitIO.skipPadding, hr1, Bool.false_eq_true, if_false, hr']; rfl, hrem⟩

theorem Rem.of_backwardStream {src : Array Nat} (hb : Bytes src.toList) {bits : List Bool}
    (h0 : backwardStream src.toList = some bits) :
    ∃ r', skipPadding 8 (BitReaderRev.new src) = .ok (some r') ∧ Rem src r' bits := by
  obtain ⟨k, hk, hrev⟩ := (backwardStream_eq_some hb).mp h0
  exact Rem.skipZeros k 8 _ (hrev ▸ Rem.new hb) (by omega)

theorem skipPadding_backwardStream {src : Array Nat} (hb : Bytes src.toList) {last : Nat}
    (hlast : src.toList.getLast? = some last) (hnz : last ≠ 0) :
    ∃ r' k, k ≤ 8 ∧ skipPadding 8 (BitReaderRev.new src) = .ok (some r') ∧ RevInv src r' k ∧
      backwardStream src.toList = some ((stream src).drop k) := by
  obtain ⟨bits, h0⟩ : ∃ bits, backwardStream src.toList = some bits := by
    unfold backwardStream
    rw [hlast]
    exact ⟨_, if_neg hnz⟩
  obtain ⟨k0, hk0, hrev⟩ := (backwardStream_eq_some hb).mp h0
  obtain ⟨r', hs, pos, hinv, hpos, hdrop⟩ := Rem.of_backwardStream hb h0
  refine ⟨r', pos, ?_, hs, hinv, by rw [hdrop]; exact h0⟩
  -- the position is the number of bits in front of the stream
  have h1 := congrArg List.length hrev
  have h2 := congrArg List.length hdrop
  simp only [List.length_reverse, length_bitsLE, Array.length_toList, List.length_append, List.length_replicate,
    List.length_cons] at h1
  rw [List.length_drop, length_stream] at h2
  omega

end Zstd.Proofs.BitIO
