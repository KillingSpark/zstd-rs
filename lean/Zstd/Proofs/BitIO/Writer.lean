import Zstd.Proofs.BitIO.Bridge
namespace Zstd.Proofs.BitIO
open Zstd Zstd.Spec Zstd.Model.BitIO

/-- the writer holds exactly the bit string `L`.  `bip_lt`: `write_bits` takes the cold path, which empties the partial
buffer, whenever it would reach 64 bits; so the `bits << (64 - free)` of that path is never a shift by 64. -/
structure WInv (w : BitWriter) (L : List Bool) : Prop where
  bits : bitsLE w.output.toList ++ bitsOfLE w.bitsInPartial w.partialBits = L
  bip_lt : w.bitsInPartial < 64
  partial_lt : w.partialBits < 2 ^ w.bitsInPartial
  bitIdx_eq : w.bitIdx = 8 * w.output.size
  bytes : Bytes w.output.toList

theorem pushBytes_toList (out : Array Nat) (bs : List Nat) :
    (BitWriter.pushBytes out bs).toList = out.toList ++ bs := by
  induction bs generalizing out with
  | nil => simp [BitWriter.pushBytes]
  | cons b bs ih =>
    have := ih (out.push b)
    simp only [BitWriter.pushBytes, List.foldl_cons] at this ⊢
    rw [this]; simp

theorem pushBytes_size (out : Array Nat) (bs : List Nat) :
    (BitWriter.pushBytes out bs).size = out.size + bs.length := by
  rw [← Array.length_toList, pushBytes_toList]; simp

theorem pushBytes_cons (out : Array Nat) (b : Nat) (bs : List Nat) :
    BitWriter.pushBytes out (b :: bs) = BitWriter.pushBytes (out.push b) bs := rfl

theorem pushBytes_nil (out : Array Nat) : BitWriter.pushBytes out [] = out := rfl

theorem WInv.length {w : BitWriter} {L : List Bool} (h : WInv w L) :
    L.length = 8 * w.output.size + w.bitsInPartial := by
  rw [← h.bits]; simp

theorem or_u64_shiftLeft_lt {p b v n : Nat} (hp : p < 2 ^ b) (hv : v < 2 ^ n) :
    p ||| u64 (v <<< b) < 2 ^ (b + n) := by
  apply Nat.or_lt_two_pow
  · exact Nat.lt_of_lt_of_le hp (Nat.pow_le_pow_right (by omega) (by omega))
  · unfold u64
    apply Nat.lt_of_le_of_lt (Nat.mod_le _ _)
    rw [Nat.shiftLeft_eq, Nat.pow_add, Nat.mul_comm]
    exact (Nat.mul_lt_mul_left (Nat.two_pow_pos b)).2 hv

theorem bitsOfLE_or_u64 (k p x : Nat) (hk : k ≤ 64) : bitsOfLE k (p ||| u64 x) = bitsOfLE k (p ||| x) :=
  bitsOfLE_congr (fun i hi => by
    unfold u64
    rw [Nat.testBit_or, Nat.testBit_or, Nat.testBit_mod_two_pow, decide_eq_true (Nat.lt_of_lt_of_le hi hk), Bool.true_and])

theorem WInv_new : WInv BitWriter.new [] := by
  constructor <;> simp [BitWriter.new, bitsLE, bitsOfLE, Bytes]

theorem WInv_ofOutput {out : Array Nat} (h : Bytes out.toList) :
    WInv (BitWriter.ofOutput out) (bitsLE out.toList) := by
  constructor <;> simp [BitWriter.ofOutput, bitsOfLE, h] ; omega

theorem WInv_index {w : BitWriter} {L : List Bool} (h : WInv w L) : w.index = L.length := by
  rw [h.length, BitWriter.index, h.bitIdx_eq]

theorem WInv_misaligned {w : BitWriter} {L : List Bool} (h : WInv w L) :
    w.misaligned = (8 - L.length % 8) % 8 := by
  rw [BitWriter.misaligned, WInv_index h]
  split <;> omega

theorem coldBytes_eq {r : Nat} (hr : r < 8) : ∀ (q fuel : Nat) (out : Array Nat) (bits idx : Nat), q ≤ fuel →
    BitWriter.coldBytes fuel out (8 * q + r) bits idx =
      (BitWriter.pushBytes out (leBytes q bits), r, bits >>> (8 * q), idx + 8 * q) := by
  intro q
  induction q with
  | zero =>
    intro fuel out bits idx _
    rw [Nat.mul_zero, Nat.zero_add, Nat.add_zero, Nat.shiftRight_zero, leBytes, pushBytes_nil]
    cases fuel with
    | zero => rfl
    | succ fuel => rw [BitWriter.coldBytes, if_neg (by omega)]
  | succ q ih =>
    intro fuel out bits idx hq
    obtain ⟨fuel, rfl⟩ : ∃ f, fuel = f + 1 := ⟨fuel - 1, by omega⟩
    rw [BitWriter.coldBytes, if_pos (by omega), show 8 * (q + 1) + r - 8 = 8 * q + r by omega, ih _ _ _ _ (by omega),
      leBytes, pushBytes_cons, ← Nat.shiftRight_add, Nat.shiftRight_eq_div_pow bits 8, Nat.add_assoc idx,
      show 8 + 8 * q = 8 * (q + 1) by omega]

theorem writeBitsCold_ok {w : BitWriter} {L : List Bool} {v n : Nat} (h : WInv w L)
    (hn : n ≤ 64) (hcold : ¬ (n + w.bitsInPartial < 64)) (hp : w.bitsInPartial ≠ 0) :
    ∃ w', w.writeBitsCold v n = .ok w' ∧ WInv w' (L ++ bitsOfLE n v) := by
  have hbip := h.bip_lt
  unfold BitWriter.writeBitsCold
  rw [if_neg (by omega)]
  simp only []
  rw [if_neg (by omega), if_neg (by omega)]
  obtain ⟨q, r, hr8, hqr⟩ : ∃ q r, r < 8 ∧ n - (64 - w.bitsInPartial) = 8 * q + r :=
    ⟨_, _, Nat.mod_lt _ (by decide), (Nat.div_add_mod _ 8).symm⟩
  rw [hqr, coldBytes_eq hr8 q _ _ _ _ (by omega)]
  simp only []
  have hsub : 64 - (64 - w.bitsInPartial) = w.bitsInPartial := by omega
  rw [hsub]
  generalize hfree : 64 - w.bitsInPartial = free at *
  -- the abstract string, split the way the cold path writes it
  have hL : L ++ bitsOfLE n v =
      bitsLE (w.output.toList ++ leBytes 8 (w.partialBits ||| u64 (v <<< w.bitsInPartial)) ++ leBytes q (v >>> free))
        ++ bitsOfLE r (v >>> free >>> (8 * q)) := by
    rw [bitsLE_append, bitsLE_append, bitsLE_leBytes, bitsLE_leBytes, List.append_assoc, List.append_assoc,
      ← bitsOfLE_split, ← h.bits, List.append_assoc]
    have hn' : n = free + (8 * q + r) := by omega
    rw [show bitsOfLE n v = bitsOfLE (free + (8 * q + r)) v by rw [← hn'], bitsOfLE_split free, ← List.append_assoc (bitsOfLE _ _),
      bitsOfLE_append_of_lt _ _ h.partial_lt]
    congr 2
    rw [show w.bitsInPartial + free = 8 * 8 by omega]
    exact (bitsOfLE_or_u64 _ _ _ (by decide)).symm
  have hbytes : Bytes (w.output.toList ++ leBytes 8 (w.partialBits ||| u64 (v <<< w.bitsInPartial)) ++ leBytes q (v >>> free)) :=
    Bytes_append.2 ⟨Bytes_append.2 ⟨h.bytes, Bytes_leBytes _ _⟩, Bytes_leBytes _ _⟩
  split
  · rename_i hpos
    refine ⟨_, rfl, ?_⟩
    constructor
    · simp only [pushBytes_toList]
      rw [hL, Nat.and_two_pow_sub_one_eq_mod, bitsOfLE_mod]
    · simp only []; omega
    · simp only []; rw [Nat.and_two_pow_sub_one_eq_mod]; exact Nat.mod_lt _ (Nat.two_pow_pos _)
    · simp only [pushBytes_size, leBytes_length]; rw [h.bitIdx_eq]; omega
    · simp only [pushBytes_toList]; exact hbytes
  · rename_i hpos
    have hr0 : r = 0 := by omega
    refine ⟨_, rfl, ?_⟩
    constructor
    · simp only [pushBytes_toList]
      rw [hL, hr0, bitsOfLE_zero, bitsOfLE_zero]
    · simp only []; omega
    · simp only []; omega
    · simp only [pushBytes_size, leBytes_length]; rw [h.bitIdx_eq]; omega
    · simp only [pushBytes_toList]; exact hbytes

theorem bitWriter_refines_gen {w : BitWriter} {L : List Bool} {v n : Nat} (h : WInv w L) (hv : v < 2 ^ n)
    (hn : n ≤ 64) (h64 : n = 64 → w.bitsInPartial ≠ 0) :
    ∃ w', w.writeBits v n = .ok w' ∧ WInv w' (L ++ bitsOfLE n v) := by
  unfold BitWriter.writeBits
  by_cases h0 : n = 0
  · subst h0
    rw [if_pos rfl, bitsOfLE_zero, List.append_nil]
    exact ⟨w, rfl, h⟩
  · rw [if_neg h0]
    have hlog : ¬ (v > 0 ∧ Nat.log2 v > n) := by
      rintro ⟨hpos, hl⟩
      have := (Nat.log2_lt (by omega : v ≠ 0)).2 hv
      omega
    rw [if_neg hlog]
    by_cases hfast : n + w.bitsInPartial < 64
    · rw [if_pos hfast]
      refine ⟨_, rfl, ?_⟩
      constructor
      · simp only []
        rw [← h.bits, List.append_assoc, bitsOfLE_append_of_lt _ _ h.partial_lt]
        congr 1
        exact bitsOfLE_or_u64 _ _ _ (by omega)
      · simp only []; omega
      · exact or_u64_shiftLeft_lt h.partial_lt hv
      · exact h.bitIdx_eq
      · exact h.bytes
    · rw [if_neg hfast]
      have hbip := h.bip_lt
      exact writeBitsCold_ok h hn hfast (by
        intro hz
        exact h64 (by omega) hz)

theorem bitWriter_refines {w : BitWriter} {L : List Bool} {v n : Nat} (h : WInv w L) (hv : v < 2 ^ n)
    (hn : n ≤ 63) : ∃ w', w.writeBits v n = .ok w' ∧ WInv w' (L ++ bitsOfLE n v) :=
  bitWriter_refines_gen h hv (by omega) (by omega)

theorem bitWriter_refines_64 {w : BitWriter} {L : List Bool} {v : Nat} (h : WInv w L) (hv : v < 2 ^ 64)
    (hp : w.bitsInPartial ≠ 0) : ∃ w', w.writeBits v 64 = .ok w' ∧ WInv w' (L ++ bitsOfLE 64 v) :=
  bitWriter_refines_gen h hv (by omega) (fun _ => hp)

/-- `write_bits(v, 64)` panics (`bits >> 64`, bit_writer.rs:149) when the partial buffer is empty, e.g. on a fresh
writer or right after `flush`.  (No hypothesis on `v` other than the `u64` range.) -/
theorem bitWriter_write64_empty_faults {w : BitWriter} {v : Nat} (hv : v < 2 ^ 64)
    (hp : w.bitsInPartial = 0) :
    w.writeBits v 64 = .error (.overflow "bit_writer.rs:149:write_bits_64_cold:shr") := by
  unfold BitWriter.writeBits
  rw [if_neg (by omega)]
  have hlog : ¬ (v > 0 ∧ Nat.log2 v > 64) := by
    rintro ⟨hpos, hl⟩
    have := (Nat.log2_lt (by omega : v ≠ 0)).2 hv
    omega
  rw [if_neg hlog, if_neg (by omega)]
  unfold BitWriter.writeBitsCold
  rw [if_neg (by omega)]
  simp only [hp]
  rw [if_neg (by omega), if_pos (by omega)]

/-- The `debug_assert!(bits.ilog2() <= num_bits)` of `write_bits_64` (bit_writer.rs:176) is weaker
than the documented precondition `bits < 2^num_bits`: it admits one extra bit.  `write_bits(2, 1)`
passes the assertion, and the stray bit is OR-ed into the following field (the abstract string
would be eight zero bits, i.e. the byte 0). -/
theorem writeBits_wide_value_corrupts :
    (do let w ← BitWriter.new.writeBits 2 1
        let w ← w.writeBits 0 7
        w.dump : Except Fault (Array Nat)) = .ok #[2] := by decide

theorem bitWriter_flush {w : BitWriter} {L : List Bool} (h : WInv w L) (hal : L.length % 8 = 0) :
    ∃ w', w.flush = .ok w' ∧ WInv w' L ∧ w'.bitsInPartial = 0 ∧ w'.partialBits = 0 ∧
      bitsLE w'.output.toList = L := by
  have hbip := h.bip_lt
  have hlen := h.length
  have hfull : w.bitsInPartial / 8 * 8 = w.bitsInPartial := by omega
  have hp0 : w.partialBits >>> w.bitsInPartial = 0 := by
    rw [Nat.shiftRight_eq_div_pow, Nat.div_eq_of_lt h.partial_lt]
  have hout : bitsLE (w.output.toList ++ (leBytes 8 w.partialBits).take (w.bitsInPartial / 8)) = L := by
    rw [take_leBytes, bitsLE_append, bitsLE_leBytes, Nat.min_eq_left (by omega),
      show 8 * (w.bitsInPartial / 8) = w.bitsInPartial by omega, h.bits]
  unfold BitWriter.flush
  rw [if_neg (by omega)]
  simp only []
  rw [if_neg (by omega), if_neg (by omega)]
  refine ⟨_, rfl, ?_, ?_, ?_, ?_⟩
  · constructor
    · simp only [pushBytes_toList, hfull, Nat.sub_self, bitsOfLE_zero, List.append_nil]
      exact hout
    · simp only []; omega
    · simp only [hfull, hp0, Nat.sub_self]; omega
    · simp only [pushBytes_size, List.length_take, leBytes_length]; rw [h.bitIdx_eq]; omega
    · simp only [pushBytes_toList]
      exact Bytes_append.2 ⟨h.bytes, Bytes_take (Bytes_leBytes _ _) _⟩
  · simp only []; omega
  · simp only [hfull, hp0]
  · simp only [pushBytes_toList]; exact hout

theorem bitWriter_dump {w : BitWriter} {L : List Bool} (h : WInv w L) (hal : L.length % 8 = 0) :
    ∃ out, w.dump = .ok out ∧ bitsLE out.toList = L ∧ Bytes out.toList := by
  obtain ⟨w', hf, hw', _, hp, hout⟩ := bitWriter_flush h hal
  unfold BitWriter.dump
  rw [WInv_misaligned h, if_neg (by omega), hf]
  simp only []
  rw [if_neg (by omega)]
  exact ⟨_, rfl, hout, hw'.bytes⟩

theorem bitWriter_dump_misaligned_faults {w : BitWriter} {L : List Bool} (h : WInv w L)
    (hal : L.length % 8 ≠ 0) : w.dump = .error (.assert "bit_writer.rs:197:dump") := by
  unfold BitWriter.dump
  rw [WInv_misaligned h, if_pos (by omega)]

theorem bitWriter_appendBytes {w : BitWriter} {L : List Bool} {data : List Nat} (h : WInv w L)
    (hal : L.length % 8 = 0) (hd : Bytes data) :
    ∃ w', w.appendBytes data = .ok w' ∧ WInv w' (L ++ bitsLE data) := by
  obtain ⟨w', hf, hw', hb, hp, hout⟩ := bitWriter_flush h hal
  unfold BitWriter.appendBytes
  rw [WInv_misaligned h, if_neg (by omega), hf]
  refine ⟨_, rfl, ?_⟩
  constructor
  · simp only [pushBytes_toList, hb, bitsOfLE_zero, List.append_nil]
    rw [bitsLE_append, hout]
  · simp only []; rw [hb]; omega
  · simp only []; rw [hb, hp]; omega
  · simp only [pushBytes_size]; rw [hw'.bitIdx_eq]; omega
  · simp only [pushBytes_toList]; exact Bytes_append.2 ⟨hw'.bytes, hd⟩

theorem bitWriter_resetTo {w : BitWriter} {L : List Bool} {index : Nat} (h : WInv w L)
    (hal : index % 8 = 0) (hle : index ≤ 8 * w.output.size) :
    ∃ w', w.resetTo index = .ok w' ∧ WInv w' (L.take index) := by
  unfold BitWriter.resetTo
  rw [if_neg (by omega)]
  simp only []
  rw [if_pos (by omega)]
  refine ⟨_, rfl, ?_⟩
  have hlist : (w.output.extract 0 (index / 8)).toList = w.output.toList.take (index / 8) := by
    simp
  constructor
  · simp only [bitsOfLE_zero, List.append_nil]
    rw [hlist, bitsLE_take, ← h.bits, List.take_append_of_le_length (by simp; omega)]
    congr 1; omega
  · simp only []; omega
  · simp only []; omega
  · simp only [Array.size_extract]; omega
  · rw [hlist]; exact Bytes_take h.bytes _

/-- `reset_to(index)` beyond the flushed output: `Vec::resize` zero-fills, the partial buffer is
discarded, so pending (unflushed) bits are replaced by zeroes. -/
theorem bitWriter_resetTo_beyond {w : BitWriter} {L : List Bool} {index : Nat} (h : WInv w L)
    (hal : index % 8 = 0) (hgt : 8 * w.output.size < index) :
    ∃ w', w.resetTo index = .ok w' ∧
      WInv w' (bitsLE w.output.toList ++ List.replicate (index - 8 * w.output.size) false) := by
  unfold BitWriter.resetTo
  rw [if_neg (by omega)]
  simp only []
  rw [if_neg (by omega)]
  refine ⟨_, rfl, ?_⟩
  constructor
  · simp only [bitsOfLE_zero, List.append_nil, pushBytes_toList]
    rw [bitsLE_append, bitsLE_replicate_zero]
    congr 2; omega
  · simp only []; omega
  · simp only []; omega
  · simp only [pushBytes_size, List.length_replicate]; omega
  · simp only [pushBytes_toList]; exact Bytes_append.2 ⟨h.bytes, Bytes_replicate_zero _⟩

/-- `write_bits(v, n)` for each field `(v, n)` of the list in turn: the writer's side of the statements that a reader
reads back what was written (`reader_inverts_writer_fwd`, `_rev`) -/
def writeAll : BitWriter → List (Nat × Nat) → Except Fault BitWriter
  | w, [] => .ok w
  | w, (v, n) :: fs =>
    match w.writeBits v n with
    | .error f => .error f
    | .ok w' => writeAll w' fs

/-- the bit string of a list of fields `(value, width)`: their `bitsOfLE`, first field first (what `writeAll` leaves in
the writer, `bitWriter_writeAll`) -/
def fieldsBits : List (Nat × Nat) → List Bool
  | [] => []
  | (v, n) :: fs => bitsOfLE n v ++ fieldsBits fs

theorem length_fieldsBits (fs : List (Nat × Nat)) :
    (fieldsBits fs).length = (fs.map (·.2)).sum := by
  induction fs with
  | nil => rfl
  | cons f fs ih => obtain ⟨v, n⟩ := f; simp [fieldsBits, ih]

theorem bitWriter_writeAll {w : BitWriter} {L : List Bool} {fs : List (Nat × Nat)} (h : WInv w L)
    (hf : ∀ f ∈ fs, f.1 < 2 ^ f.2 ∧ f.2 ≤ 63) :
    ∃ w', writeAll w fs = .ok w' ∧ WInv w' (L ++ fieldsBits fs) := by
  induction fs generalizing w L with
  | nil => exact ⟨w, rfl, by simpa [fieldsBits] using h⟩
  | cons f fs ih =>
    obtain ⟨v, n⟩ := f
    have hvn := hf (v, n) (List.mem_cons_self)
    obtain ⟨w1, hw1, hinv1⟩ := bitWriter_refines h hvn.1 hvn.2
    obtain ⟨w2, hw2, hinv2⟩ := ih hinv1 (fun f hfm => hf f (List.mem_cons_of_mem _ hfm))
    refine ⟨w2, ?_, ?_⟩
    · rw [writeAll, hw1]; exact hw2
    · rw [fieldsBits, ← List.append_assoc]; exact hinv2

end Zstd.Proofs.BitIO
