import Zstd.Proofs.BitIO.Reverse
/-
The reversed reader seen as "what is left to read": a bit list, next bit first.  One predicate (`Rem`) and one
lemma per way of reading; the users (FSE and sequence decoders) then reason about bit lists exactly as the
specification does, without positions.
-/
namespace Zstd.Proofs.BitIO
open Zstd Zstd.Spec Zstd.Model.BitIO

/-- `r` stands in front of `bits` (next bit first), which are the last bits of the stream of `src` -/
def Rem (src : Array Nat) (r : BitReaderRev) (bits : List Bool) : Prop :=
  ∃ pos, RevInv src r pos ∧ pos ≤ 8 * src.size ∧ (stream src).drop pos = bits

theorem Rem.new {src : Array Nat} (hb : Bytes src.toList) : Rem src (BitReaderRev.new src) (bitsLE src.toList).reverse :=
  ⟨0, RevInv_new hb, Nat.zero_le _, rfl⟩

theorem Rem.bitsRemaining {src : Array Nat} {r : BitReaderRev} {bits : List Bool} (h : Rem src r bits) :
    r.bitsRemaining = (bits.length : Int) := by
  obtain ⟨pos, hi, hp, rfl⟩ := h
  rw [RevInv_bitsRemaining hi, List.length_drop, length_stream]
  omega

theorem Rem.readBEPad_lt {src : Array Nat} {r : BitReaderRev} {bits : List Bool} (h : Rem src r bits) (n : Nat) :
    (readBEPad n bits).1 < 2 ^ n := by
  obtain ⟨pos, hi, _, rfl⟩ := h
  rw [readBEPad_stream hi.bytes]
  exact win_lt _ _ _ _

theorem Rem.getBitsPad {src : Array Nat} {r : BitReaderRev} {bits : List Bool} {n : Nat} (h : Rem src r bits)
    (hn : n ≤ 56) :
    ∃ r', r.getBits n = .ok ((readBEPad n bits).1, r') ∧ r'.bitsRemaining = (bits.length : Int) - n ∧
      (n ≤ bits.length → Rem src r' (bits.drop n)) := by
  obtain ⟨pos, hi, hp, rfl⟩ := h
  obtain ⟨r', hr', hi'⟩ := bitReaderRev_refines hi hn
  refine ⟨r', hr', ?_, fun hlen => ⟨pos + n, hi', ?_, by rw [List.drop_drop]⟩⟩
  · rw [RevInv_bitsRemaining hi', List.length_drop, length_stream]; omega
  · rw [List.length_drop, length_stream] at hlen; omega

theorem Rem.getBits {src : Array Nat} {r : BitReaderRev} {bits : List Bool} {n : Nat} (h : Rem src r bits)
    (hn : n ≤ 56) (hlen : n ≤ bits.length) :
    ∃ r', r.getBits n = .ok (valBE (bits.take n), r') ∧ Rem src r' (bits.drop n) := by
  obtain ⟨r', hr', -, hrem⟩ := h.getBitsPad hn
  rw [readBEPad_def, if_neg (by omega)] at hr'
  exact ⟨r', hr', hrem hlen⟩

theorem readBE_some {n : Nat} {bits : List Bool} {v : Nat} {rest : List Bool}
    (h : readBE n bits = some (v, rest)) :
    n ≤ bits.length ∧ v = (readBEPad n bits).1 ∧ rest = bits.drop n := by
  rw [readBE_def] at h
  split at h
  · cases h
  · cases h
    exact ⟨by omega, by rw [readBEPad_def, if_neg (by omega)], rfl⟩

theorem Rem.readBE {src : Array Nat} {r : BitReaderRev} {bits : List Bool} {n v : Nat} {rest : List Bool}
    (h : Rem src r bits) (hn : n ≤ 56) (hr : readBE n bits = some (v, rest)) :
    ∃ r', r.getBits n = .ok (v, r') ∧ v < 2 ^ n ∧ Rem src r' rest := by
  obtain ⟨hlen, rfl, rfl⟩ := readBE_some hr
  obtain ⟨r', hr', -, hrem⟩ := h.getBitsPad hn
  exact ⟨r', hr', h.readBEPad_lt n, hrem hlen⟩

theorem readBE_field {n v : Nat} (hv : v < 2 ^ n) (rest : List Bool) :
    readBE n ((bitsOfLE n v).reverse ++ rest) = some (v, rest) := by
  have hlen : ((bitsOfLE n v).reverse).length = n := by simp
  rw [readBE_def, if_neg (by simp), List.take_left' hlen, List.drop_left' hlen, valBE_reverse_bitsOfLE hv]

theorem Rem.getField {src : Array Nat} {r : BitReaderRev} {rest : List Bool} {n v : Nat}
    (h : Rem src r ((bitsOfLE n v).reverse ++ rest)) (hv : v < 2 ^ n) (hn : n ≤ 56) :
    ∃ r', r.getBits n = .ok (v, r') ∧ Rem src r' rest := by
  obtain ⟨r', hr', -, hrem⟩ := h.readBE hn (readBE_field hv rest)
  exact ⟨r', hr', hrem⟩

theorem Rem.getBitsTriple {src : Array Nat} {r : BitReaderRev} {bits b1 b2 b3 : List Bool} {n1 n2 n3 v1 v2 v3 : Nat}
    (h : Rem src r bits) (h1 : n1 ≤ 56) (h2 : n2 ≤ 56) (h3 : n3 ≤ 56)
    (r1 : Spec.readBE n1 bits = some (v1, b1)) (r2 : Spec.readBE n2 b1 = some (v2, b2))
    (r3 : Spec.readBE n3 b2 = some (v3, b3)) :
    ∃ r', r.getBitsTriple n1 n2 n3 = .ok ((v1, v2, v3), r') ∧ v1 < 2 ^ n1 ∧ v2 < 2 ^ n2 ∧ v3 < 2 ^ n3 ∧
      Rem src r' b3 := by
  obtain ⟨pos, hi, hp, rfl⟩ := h
  have hlt : ∀ p n, (readBEPad n ((stream src).drop p)).1 < 2 ^ n := fun p n => by
    rw [readBEPad_stream hi.bytes]
    exact win_lt _ _ _ _
  obtain ⟨l1, rfl, rfl⟩ := readBE_some r1
  obtain ⟨l2, rfl, rfl⟩ := readBE_some r2
  obtain ⟨l3, rfl, rfl⟩ := readBE_some r3
  obtain ⟨r', e, hi'⟩ := getBitsTriple_eq_three_gets hi h1 h2 h3
  simp only [List.drop_drop] at l2 l3 ⊢
  simp only [List.length_drop, length_stream] at l1 l2 l3
  exact ⟨r', e, hlt _ _, hlt _ _, hlt _ _, pos + n1 + n2 + n3, hi', by omega, rfl⟩

theorem Rem.getBit {src : Array Nat} {r : BitReaderRev} {b : Bool} {rest : List Bool} (h : Rem src r (b :: rest)) :
    ∃ r', r.getBits 1 = .ok (if b then 1 else 0, r') ∧ Rem src r' rest := by
  obtain ⟨r', hr', hrem⟩ := h.getBits (n := 1) (by omega) (by simp)
  exact ⟨r', by rw [hr']; cases b <;> rfl, hrem⟩

end Zstd.Proofs.BitIO
