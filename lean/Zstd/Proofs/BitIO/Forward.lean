import Zstd.Proofs.BitIO.Bridge
/-
The forward `BitReader` refines `Spec.readLE` on `Spec.bitsLE`, call by call and over whole sequences of requests.
-/
namespace Zstd.Proofs.BitIO
open Zstd Zstd.Spec Zstd.Model.BitIO

theorem getElem?_eq_leNat {src : Array Nat} (h : Bytes src.toList) {k : Nat} (hk : k < src.size) :
    src[k]? = some (leNat src.toList / 2 ^ (8 * k) % 2 ^ 8) := by
  rw [Array.getElem?_eq_getElem hk, ← Array.getElem_toList (h := by simpa using hk),
    getElem_eq_leNat h (by simpa using hk)]

theorem or_u64_shiftLeft {a x s k : Nat} (ha : a < 2 ^ s) (hx : x < 2 ^ k) (h : s + k ≤ 64) :
    a ||| u64 (x <<< s) = a + 2 ^ s * x := by
  have : x <<< s < 2 ^ 64 := by
    rw [Nat.shiftLeft_eq]
    exact Nat.lt_of_lt_of_le (Nat.mul_lt_mul_of_pos_right hx (Nat.two_pow_pos s))
      (by rw [← Nat.pow_add]; exact Nat.pow_le_pow_right (by decide) (by omega))
  rw [u64, Nat.mod_eq_of_lt this, or_shiftLeft_eq_add ha, Nat.mul_comm]

theorem or_step (N idx s k : Nat) (h : s + k ≤ 64) :
    (N / 2 ^ idx) % 2 ^ s ||| u64 ((N / 2 ^ (idx + s) % 2 ^ k) <<< s) = (N / 2 ^ idx) % 2 ^ (s + k) := by
  rw [or_u64_shiftLeft (Nat.mod_lt _ (Nat.two_pow_pos s)) (Nat.mod_lt _ (Nat.two_pow_pos k)) h, field_concat]

theorem collectFull_eq {src : Array Nat} (hb : Bytes src.toList) (idx : Nat) :
    ∀ (k byteIdx shift value : Nat), value = leNat src.toList / 2 ^ idx % 2 ^ shift →
      8 * byteIdx = idx + shift → shift + 8 * k ≤ 64 → byteIdx + k ≤ src.size →
      BitReader.collectFull src k byteIdx shift value =
        .ok (leNat src.toList / 2 ^ idx % 2 ^ (shift + 8 * k), byteIdx + k, shift + 8 * k) := by
  intro k
  induction k with
  | zero => intro byteIdx shift value hv _ _ _; rw [BitReader.collectFull, hv]; rfl
  | succ k ih =>
    intro byteIdx shift value hv h8 hs hsz
    rw [BitReader.collectFull, getElem?_eq_leNat hb (by omega : byteIdx < src.size)]
    simp only []
    rw [ih (byteIdx + 1) (shift + 8) _ _ (by omega) (by omega) (by omega)]
    · rw [show shift + 8 + 8 * k = shift + 8 * (k + 1) by omega,
        show byteIdx + 1 + k = byteIdx + (k + 1) by omega]
    · rw [hv, h8, or_step _ _ _ _ (by omega)]

theorem first_byte (N a c n : Nat) (hc : c < 8) (hn : n ≤ 8 - c) :
    ((N / 2 ^ (8 * a) % 2 ^ 8) >>> c) &&& (2 ^ n - 1) = N / 2 ^ (8 * a + c) % 2 ^ n := by
  rw [shiftRight_and_mask, field_of_field _ _ _ _ _ (by omega)]

theorem first_byte' (N a c : Nat) (hc : c < 8) :
    (N / 2 ^ (8 * a) % 2 ^ 8) >>> c = N / 2 ^ (8 * a + c) % 2 ^ (8 - c) := by
  have := field_shift N (8 * a) c (8 - c)
  rw [show c + (8 - c) = 8 by omega] at this
  rw [Nat.shiftRight_eq_div_pow, this]

theorem last_byte (N idx s last : Nat) (h : s + last ≤ 64) (hl : last ≤ 8) :
    (N / 2 ^ idx) % 2 ^ s ||| u64 (((N / 2 ^ (idx + s) % 2 ^ 8) &&& (2 ^ last - 1)) <<< s)
      = (N / 2 ^ idx) % 2 ^ (s + last) := by
  rw [Nat.and_two_pow_sub_one_eq_mod, mod_pow_mod_pow _ hl, or_step N idx s last h]

theorem bitReader_getBits_ok (r : BitReader) (n : Nat) (hb : Bytes r.src.toList) (hn : n ≤ 64)
    (hle : r.idx + n ≤ 8 * r.src.size) (h0 : 0 < n ∨ r.idx < 8 * r.src.size) :
    r.getBits n = .ok (leNat r.src.toList / 2 ^ r.idx % 2 ^ n, { r with idx := r.idx + n }) := by
  obtain ⟨src, idx⟩ := r
  simp only at hb hle h0 ⊢
  have hidx : idx < 8 * src.size := by omega
  generalize hN : leNat src.toList = N at *
  unfold BitReader.getBits BitReader.bitsLeft
  simp only []
  rw [if_neg (by omega), if_neg (by omega)]
  simp only []
  rw [if_neg (by omega), getElem?_eq_leNat hb (by omega : idx / 8 < src.size), hN]
  simp only []
  obtain ⟨a, c, hc, rfl⟩ : ∃ a c, c < 8 ∧ idx = 8 * a + c := ⟨idx / 8, idx % 8, by omega, by omega⟩
  have h1 : (8 * a + c) / 8 = a := by omega
  have h2 : (8 * a + c) % 8 = c := by omega
  have h3 : 8 - (8 - c) = c := by omega
  rw [h1, h2, h3]
  split
  · rename_i hin
    rw [first_byte N a c n hc (by omega)]
  · rename_i hin
    generalize hfull : (n - (8 - c)) / 8 = full
    have h4 : (8 * a + c + (8 - c)) / 8 = a + 1 := by omega
    rw [h4, first_byte' N a c hc]
    rw [collectFull_eq hb (8 * a + c) full (a + 1) (8 - c) _ (by rw [hN]) (by omega) (by omega) (by omega)]
    simp only [hN]
    split
    · rename_i hlast
      rw [getElem?_eq_leNat hb (by omega : a + 1 + full < src.size), hN]
      simp only []
      rw [show 8 * (a + 1 + full) = 8 * a + c + (8 - c + 8 * full) by omega,
        last_byte N _ _ _ (by omega) (by omega),
        show 8 - c + 8 * full + (n - (8 - c) - full * 8) = n by omega]
    · rename_i hlast
      rw [show 8 - c + 8 * full = n by omega]

theorem bitReader_getBits_tooMany (r : BitReader) (n : Nat) (hn : n > 64) :
    r.getBits n = .error (.tooManyBits n 64) := by
  unfold BitReader.getBits
  rw [if_pos hn]

theorem bitReader_getBits_notEnough (r : BitReader) (n : Nat) (hn : n ≤ 64)
    (hidx : r.idx ≤ 8 * r.src.size) (hlt : 8 * r.src.size - r.idx < n) :
    r.getBits n = .error (.notEnoughRemainingBits n (8 * r.src.size - r.idx)) := by
  unfold BitReader.getBits BitReader.bitsLeft
  rw [if_neg (by omega), if_neg (by omega)]
  simp only []
  rw [Nat.mul_comm, if_pos hlt]

/-- `get_bits(0)` when all bits have been read: `self.source[self.idx / 8]` is out of bounds
(bit_reader.rs:48) — a panic, not an `Err`. -/
theorem bitReader_getBits_zero_at_end_faults (r : BitReader) (hidx : r.idx = 8 * r.src.size) :
    r.getBits 0 = .error (.fault (.index "bit_reader.rs:48:get_bits")) := by
  unfold BitReader.getBits BitReader.bitsLeft
  rw [if_neg (by omega), if_neg (by omega)]
  simp only []
  rw [if_neg (by omega), Array.getElem?_eq_none (by omega)]

/-- `idx` beyond the end (not reachable through the API) makes `bits_left` underflow -/
theorem bitReader_getBits_idx_beyond_faults (r : BitReader) (n : Nat) (hn : n ≤ 64)
    (hidx : r.idx > 8 * r.src.size) :
    r.getBits n = .error (.fault (.overflow "bit_reader.rs:14:bits_left")) := by
  unfold BitReader.getBits BitReader.bitsLeft
  rw [if_neg (by omega), if_pos (by omega)]

theorem bitReader_refines (r : BitReader) (n : Nat) (hb : Bytes r.src.toList)
    (hidx : r.idx ≤ 8 * r.src.size) (hn : n ≤ 64) (h0 : 0 < n ∨ r.idx < 8 * r.src.size) :
    r.getBits n =
      (match readLE n ((bitsLE r.src.toList).drop r.idx) with
       | some (v, _) => .ok (v, { r with idx := r.idx + n })
       | none => .error (.notEnoughRemainingBits n (8 * r.src.size - r.idx))) := by
  rw [readLE_def]
  have hlen : ((bitsLE r.src.toList).drop r.idx).length = 8 * r.src.size - r.idx := by simp
  rw [hlen]
  by_cases hlt : 8 * r.src.size - r.idx < n
  · rw [if_pos hlt]
    exact bitReader_getBits_notEnough r n hn hidx hlt
  · rw [if_neg hlt]
    simp only []
    rw [bitReader_getBits_ok r n hb hn (by omega) h0, valLE_take_drop, valLE_bitsLE hb]

theorem bitReader_returnBits (r : BitReader) (n : Nat) (h : n ≤ r.idx) :
    r.returnBits n = .ok { r with idx := r.idx - n } := by
  unfold BitReader.returnBits
  rw [if_neg (by omega)]

theorem bitReader_returnBits_faults (r : BitReader) (n : Nat) (h : n > r.idx) :
    r.returnBits n = .error (.assert "bit_reader.rs:23:return_bits") := by
  unfold BitReader.returnBits
  rw [if_pos h]

theorem bitReader_bitsLeft (r : BitReader) (h : r.idx ≤ 8 * r.src.size) :
    r.bitsLeft = .ok (((bitsLE r.src.toList).drop r.idx).length) := by
  unfold BitReader.bitsLeft
  rw [if_neg (by omega)]
  simp; omega

theorem bitReader_bitsRead (r : BitReader) : r.bitsRead = r.idx := rfl

/-- a request to the forward reader: `get_bits(n)` or `return_bits(n)` -/
inductive FwdOp where
  | get (n : Nat)
  | ret (n : Nat)
  deriving Repr, DecidableEq

/-- the model's reader run over a list of requests: the values of the `get`s in order and the reader left, or the
first error -/
def runFwd : BitReader → List FwdOp → Except BitErr (List Nat × BitReader)
  | r, [] => .ok ([], r)
  | r, .get n :: ops =>
    match r.getBits n with
    | .error e => .error e
    | .ok (v, r') =>
      match runFwd r' ops with
      | .error e => .error e
      | .ok (vs, r'') => .ok (v :: vs, r'')
  | r, .ret n :: ops =>
    match r.returnBits n with
    | .error f => .error (.fault f)
    | .ok r' => runFwd r' ops

/-- The same run on the Spec side: a position in the bit list in place of the reader, `Spec.readLE` for `get`, and the
errors of the Rust code by their conditions on the position: the two `Err` values of `get_bits`, the explicit `panic!`
of `return_bits`, and the out-of-bounds index of `get_bits(0)` at the very end. -/
def runFwdSpec (bits : List Bool) : Nat → List FwdOp → Except BitErr (List Nat × Nat)
  | pos, [] => .ok ([], pos)
  | pos, .get n :: ops =>
    if n > 64 then .error (.tooManyBits n 64)
    else if n = 0 ∧ pos = bits.length then .error (.fault (.index "bit_reader.rs:48:get_bits"))
    else
      match readLE n (bits.drop pos) with
      | none => .error (.notEnoughRemainingBits n (bits.length - pos))
      | some (v, _) =>
        match runFwdSpec bits (pos + n) ops with
        | .error e => .error e
        | .ok (vs, pos') => .ok (v :: vs, pos')
  | pos, .ret n :: ops =>
    if n > pos then .error (.fault (.assert "bit_reader.rs:23:return_bits"))
    else runFwdSpec bits (pos - n) ops

theorem runFwd_refines (src : Array Nat) (hb : Bytes src.toList) (ops : List FwdOp) :
    ∀ (idx : Nat), idx ≤ 8 * src.size →
      runFwd { src := src, idx := idx } ops =
        (match runFwdSpec (bitsLE src.toList) idx ops with
         | .error e => .error e
         | .ok (vs, pos) => .ok (vs, { src := src, idx := pos })) := by
  induction ops with
  | nil => intro idx _; rfl
  | cons op ops ih =>
    intro idx hidx
    cases op with
    | get n =>
      rw [runFwd, runFwdSpec]
      by_cases hn : n > 64
      · rw [bitReader_getBits_tooMany _ _ hn, if_pos hn]
      · rw [if_neg hn]
        by_cases hz : n = 0 ∧ idx = (bitsLE src.toList).length
        · rw [if_pos hz]
          obtain ⟨rfl, hz⟩ := hz
          rw [bitReader_getBits_zero_at_end_faults _ (by simpa using hz)]
        · rw [if_neg hz]
          have hz' : 0 < n ∨ idx < 8 * src.size := by
            simp only [length_bitsLE, Array.length_toList] at hz; omega
          rw [bitReader_refines _ n hb hidx (by omega) hz']
          simp only [length_bitsLE, Array.length_toList]
          cases hrd : readLE n ((bitsLE src.toList).drop idx) with
          | none => rfl
          | some p =>
            obtain ⟨v, rest⟩ := p
            simp only []
            have hle : idx + n ≤ 8 * src.size := by
              rw [readLE_def] at hrd
              split at hrd
              · cases hrd
              · rename_i h; simp at h; omega
            rw [ih (idx + n) hle]
            cases runFwdSpec (bitsLE src.toList) (idx + n) ops with
            | error e => rfl
            | ok q => rfl
    | ret n =>
      rw [runFwd, runFwdSpec]
      by_cases hn : n > idx
      · rw [bitReader_returnBits_faults _ _ hn, if_pos hn]
      · rw [bitReader_returnBits _ _ (by simpa using hn), if_neg hn]
        simp only []
        exact ih (idx - n) (by omega)

end Zstd.Proofs.BitIO
