import Zstd.Proofs.BitIO.Bridge
/-
The reversed reader `BitReaderRev` refines `Spec.readBEPad` on the reversed bit list (`stream`).  `RevInv src r pos`
ties a reader state to the number of bits it has consumed; the container is compared with the Spec through the numeric
window `win`.
-/
namespace Zstd.Proofs.BitIO
open Zstd Zstd.Spec Zstd.Model.BitIO

/-- the abstract stream of the reversed reader: it starts at the most significant bit of the last
byte and walks towards the first byte -/
def stream (src : Array Nat) : List Bool := (bitsLE src.toList).reverse

theorem length_stream (src : Array Nat) : (stream src).length = 8 * src.size := by
  simp [stream]

/-- Numeric window: the `m` bits at positions `[pos, pos+m)` of the reversed, zero-padded bit
string of the `T`-bit number `N`, as a big-endian number: `pos + m` zero bits are put below `N`
(enough for any window), the lowest `T` bits dropped, `m` bits kept. -/
def win (N T pos m : Nat) : Nat := N * 2 ^ (pos + m) / 2 ^ T % 2 ^ m

theorem win_lt (N T pos m : Nat) : win N T pos m < 2 ^ m := Nat.mod_lt _ (Nat.two_pow_pos m)

theorem win_zero (N T pos : Nat) : win N T pos 0 = 0 := by simp [win, Nat.mod_one]

theorem win_prefix (N T pos m n : Nat) (h : n ≤ m) :
    win N T pos m / 2 ^ (m - n) % 2 ^ n = win N T pos n := by
  unfold win
  rw [field_of_field _ _ _ _ _ (by omega),
    show N * 2 ^ (pos + m) = N * 2 ^ (pos + n) * 2 ^ (m - n) by
      rw [Nat.mul_assoc, ← Nat.pow_add, show pos + n + (m - n) = pos + m by omega],
    mul_pow_div_pow]

theorem win_suffix (N T pos m n : Nat) (h : n ≤ m) :
    win N T pos m % 2 ^ (m - n) = win N T (pos + n) (m - n) := by
  unfold win
  rw [mod_pow_mod_pow _ (by omega), show pos + n + (m - n) = pos + m by omega]

theorem readBEPad_fst (n : Nat) (l : List Bool) :
    (readBEPad n l).1 = valLE l.reverse * 2 ^ n / 2 ^ l.length % 2 ^ n := by
  rw [readBEPad_def]
  split
  · rename_i hlt
    obtain ⟨d, rfl⟩ : ∃ d, n = l.length + d := ⟨n - l.length, by omega⟩
    simp only []
    rw [← valBE_eq_valLE_reverse, mul_pow_add_div_pow, Nat.add_sub_cancel_left, Nat.mod_eq_of_lt]
    rw [Nat.pow_add]
    exact (Nat.mul_lt_mul_right (Nat.two_pow_pos _)).2 (valBE_lt l)
  · rename_i hge
    obtain ⟨d, hd⟩ : ∃ d, l.length = d + n := ⟨l.length - n, by omega⟩
    simp only []
    rw [hd, mul_pow_div_pow, valBE_eq_valLE_reverse, List.reverse_take, valLE_drop, hd, Nat.add_sub_cancel,
      Nat.mod_eq_of_lt]
    have := valLE_lt (l.reverse.drop d)
    rw [List.length_drop, List.length_reverse, hd, Nat.add_sub_cancel_left, valLE_drop] at this
    exact this

theorem readBEPad_stream {src : Array Nat} (hb : Bytes src.toList) (pos n : Nat) :
    (readBEPad n ((stream src).drop pos)).1 = win (leNat src.toList) (8 * src.size) pos n := by
  rw [readBEPad_fst, stream, List.reverse_drop, List.reverse_reverse, valLE_take, valLE_bitsLE hb,
    List.length_drop]
  simp only [List.length_reverse, length_bitsLE, Array.length_toList]
  rw [mod_pow_mul_div_mod, win]
  by_cases hp : pos ≤ 8 * src.size
  · obtain ⟨L, hL⟩ : ∃ L, 8 * src.size = L + pos := ⟨8 * src.size - pos, by omega⟩
    rw [hL, Nat.add_sub_cancel, Nat.add_comm pos n, Nat.pow_add 2 n pos, ← Nat.mul_assoc, mul_pow_div_pow]
  · obtain ⟨e, rfl⟩ : ∃ e, pos = 8 * src.size + e := ⟨pos - 8 * src.size, by omega⟩
    rw [show 8 * src.size - (8 * src.size + e) = 0 by omega, Nat.pow_zero, Nat.div_one, Nat.mul_mod_left,
      Nat.add_assoc, mul_pow_add_div_pow, Nat.pow_add, ← Nat.mul_assoc, Nat.mul_mod_left]

/-- `r` is a state of the reversed reader over `src` that has consumed `pos` bits.
`content` says: the unread part of the container is the next `64 - bitsConsumed` bits of the
zero-padded stream. `shape` lists the three kinds of states: initial; window inside the source;
window at (or shifted beyond) the first byte.  `index + 8 ≤ src.size` is what lets `refill` read eight bytes at `index`;
`extraBits` (Rust: bits consumed past the end of the input) is 0 away from `index = 0`, so that `pos_eq` gives `pos`. -/
structure RevInv (src : Array Nat) (r : BitReaderRev) (pos : Nat) : Prop where
  hsrc : r.src = src
  bytes : Bytes src.toList
  bc_le : r.bitsConsumed ≤ 64
  cont_lt : r.container < 2 ^ 64
  shape : (r.index = src.size ∧ r.bitsConsumed = 64 ∧ r.extraBits = 0)
        ∨ (r.index + 8 ≤ src.size ∧ r.extraBits = 0)
        ∨ r.index = 0
  pos_eq : (pos : Int) = 8 * (src.size : Int) - r.bitsRemaining
  content : r.container % 2 ^ (64 - r.bitsConsumed)
              = (readBEPad (64 - r.bitsConsumed) ((stream src).drop pos)).1

theorem RevInv.content' {src : Array Nat} {r : BitReaderRev} {pos : Nat} (h : RevInv src r pos) :
    r.container % 2 ^ (64 - r.bitsConsumed)
      = win (leNat src.toList) (8 * src.size) pos (64 - r.bitsConsumed) := by
  rw [h.content, readBEPad_stream h.bytes]

theorem RevInv.pos_eq' {src : Array Nat} {r : BitReaderRev} {pos : Nat} (h : RevInv src r pos) :
    pos + 8 * r.index + 64 = 8 * src.size + r.bitsConsumed + r.extraBits := by
  have := h.pos_eq
  have := h.bc_le
  unfold BitReaderRev.bitsRemaining at *
  omega

theorem RevInv.of_win {src : Array Nat} {r : BitReaderRev} {pos : Nat} (hsrc : r.src = src) (hb : Bytes src.toList)
    (hbc : r.bitsConsumed ≤ 64) (hc : r.container < 2 ^ 64)
    (hshape : (r.index = src.size ∧ r.bitsConsumed = 64 ∧ r.extraBits = 0)
        ∨ (r.index + 8 ≤ src.size ∧ r.extraBits = 0) ∨ r.index = 0)
    (hpos : pos + 8 * r.index + 64 = 8 * src.size + r.bitsConsumed + r.extraBits)
    (hcont : r.container % 2 ^ (64 - r.bitsConsumed)
      = win (leNat src.toList) (8 * src.size) pos (64 - r.bitsConsumed)) :
    RevInv src r pos :=
  ⟨hsrc, hb, hbc, hc, hshape, by unfold BitReaderRev.bitsRemaining; omega, by rw [readBEPad_stream hb]; exact hcont⟩

theorem RevInv_new {src : Array Nat} (hb : Bytes src.toList) : RevInv src (BitReaderRev.new src) 0 := by
  constructor
  · rfl
  · exact hb
  · simp [BitReaderRev.new]
  · simp [BitReaderRev.new]
  · left; simp [BitReaderRev.new]
  · simp only [BitReaderRev.new, BitReaderRev.bitsRemaining]; omega
  · simp [BitReaderRev.new, readBEPad_def, valBE]

theorem RevInv_bitsRemaining {src : Array Nat} {r : BitReaderRev} {pos : Nat} (h : RevInv src r pos) :
    r.bitsRemaining = 8 * (src.size : Int) - pos := by
  have := h.pos_eq; omega

theorem le64At_eq {src : Array Nat} (hb : Bytes src.toList) {i : Nat} (hi : i + 8 ≤ src.size) :
    le64At src i = some (leNat src.toList / 2 ^ (8 * i) % 2 ^ 64) := by
  unfold le64At
  rw [if_pos hi]
  congr 1
  rw [Array.toList_extract, List.extract_eq_take_drop, leNat_take (Bytes_drop hb _), leNat_drop hb,
    show i + 8 - i = 8 by omega]

theorem first8_eq {src : Array Nat} (hb : Bytes src.toList) :
    (if src.size ≥ 8 then leNat ((src.extract 0 8).toList) else leNat src.toList)
      = leNat src.toList % 2 ^ 64 := by
  split
  · rw [Array.toList_extract, List.extract_eq_take_drop, List.drop_zero, leNat_take hb]
  · rename_i h
    have h1 := leNat_lt hb
    have h2 : 2 ^ (8 * src.toList.length) ≤ 2 ^ 64 :=
      Nat.pow_le_pow_right (by omega) (by simp only [Array.length_toList]; omega)
    rw [Nat.mod_eq_of_lt (by omega)]

/-- `win_case1`–`4`: what each branch of `refill` puts into the container is the window of the state it leaves.  `N` is
the source as a number, `T = 8 * src.size`, and `h` is `RevInv.pos_eq'` of that state.  Here the window stays inside the
source: eight bytes from byte `i` (the `index` left), of which `b` bits (the `bits_consumed` left) are read. -/
theorem win_case1 (N T pos i b : Nat) (h : pos + 8 * i + 64 = T + b) (hb : b ≤ 64) :
    (N / 2 ^ (8 * i) % 2 ^ 64) % 2 ^ (64 - b) = win N T pos (64 - b) := by
  obtain rfl : T = 8 * i + (pos + (64 - b)) := by omega
  rw [mod_pow_mod_pow _ (by omega), win, mul_pow_div_pow]

theorem win_case2 (N T pos b : Nat) (h : pos + 64 = T + b) :
    u64 ((N % 2 ^ 64) <<< b) % 2 ^ 64 = win N T pos 64 := by
  rw [win, h, mul_pow_add_div_pow, u64, Nat.mod_mod, Nat.shiftLeft_eq, Nat.mul_mod, Nat.mod_mod, ← Nat.mul_mod]

theorem shl_mod (c b : Nat) (hb : b ≤ 64) : u64 (c <<< b) = (c % 2 ^ (64 - b)) <<< b := by
  have h64 : (2 : Nat) ^ 64 = 2 ^ (64 - b) * 2 ^ b := by rw [← Nat.pow_add, Nat.sub_add_cancel hb]
  rw [u64, Nat.shiftLeft_eq, Nat.shiftLeft_eq, h64, Nat.mul_mod_mul_right]

theorem win_case3 (N T pos b e : Nat) (h : pos + 64 = T + b + e) (hb : b ≤ 64) :
    (win N T pos (64 - b)) <<< b = win N T pos 64 := by
  have h64 : (2 : Nat) ^ 64 = 2 ^ (64 - b) * 2 ^ b := by rw [← Nat.pow_add, Nat.sub_add_cancel hb]
  rw [win, win, show pos + (64 - b) = T + e by omega, show pos + 64 = T + (e + b) by omega, mul_pow_add_div_pow,
    mul_pow_add_div_pow, Nat.shiftLeft_eq, Nat.pow_add, ← Nat.mul_assoc, h64, Nat.mul_mod_mul_right]

theorem win_case4 (N T pos e : Nat) (h : pos = T + e) : 0 = win N T pos 64 := by
  rw [win, h, show T + e + 64 = T + (e + 64) by omega, mul_pow_add_div_pow, Nat.pow_add, ← Nat.mul_assoc,
    Nat.mul_mod_left]

theorem u64_lt (x : Nat) : u64 x < 2 ^ 64 := Nat.mod_lt _ (by omega)

/-- what `refill` leaves in `bits_consumed`: `bits_consumed & 7` in case 1 of the Rust function, `0` in
cases 2–4 -/
theorem refill_ok {src : Array Nat} {r : BitReaderRev} {pos : Nat} (h : RevInv src r pos) :
    ∃ r', r.refill = .ok r' ∧ RevInv src r' pos ∧
      r'.bitsConsumed = (if r.bitsConsumed / 8 ≤ r.index then r.bitsConsumed % 8 else 0) := by
  have hpos := h.pos_eq'
  have hcont := h.content'
  have hb := h.bytes
  have hbc := h.bc_le
  have hshape := h.shape
  obtain ⟨src', index, bc, ex, cont⟩ := r
  obtain rfl : src' = src := h.hsrc
  simp only at hbc hshape hpos hcont ⊢
  generalize hN : leNat src'.toList = N at *
  unfold BitReaderRev.refill
  simp only []
  by_cases hz : bc / 8 = 0
  · rw [if_pos hz]
    exact ⟨_, rfl, h, by simp only []; rw [if_pos (by omega)]; omega⟩
  · rw [if_neg hz]
    by_cases h1 : index ≥ bc / 8
    · -- case 1: the window slides down inside the source
      have hsz : index - bc / 8 + 8 ≤ src'.size := by omega
      rw [if_pos h1, le64At_eq hb hsz, hN]
      exact ⟨_, rfl, RevInv.of_win rfl hb (show bc % 8 ≤ 64 by omega) (Nat.mod_lt _ (by omega))
        (Or.inr (Or.inl ⟨hsz, show ex = 0 by omega⟩)) (show pos + 8 * (index - bc / 8) + 64 = 8 * src'.size + bc % 8 + ex by omega)
        (hN ▸ win_case1 N (8 * src'.size) pos (index - bc / 8) (bc % 8) (by omega) (by omega)),
        (if_pos h1).symm⟩
    · rw [if_neg h1]
      by_cases h2 : index > 0
      · -- case 2: the first eight bytes, shifted up by the bits already read
        rw [if_pos h2, first8_eq hb, hN, if_neg (by omega), if_neg (by omega)]
        exact ⟨_, rfl, RevInv.of_win rfl hb (Nat.zero_le _) (u64_lt _) (Or.inr (Or.inr rfl))
          (show pos + 8 * 0 + 64 = 8 * src'.size + 0 + (ex + (bc - 8 * index)) by omega)
          (hN ▸ win_case2 N (8 * src'.size) pos (bc - 8 * index) (by omega)),
          (if_neg h1).symm⟩
      · obtain rfl : index = 0 := by omega
        rw [if_neg h2]
        by_cases h3 : bc < 64
        · -- case 3: the unread bits move to the top, zeroes follow
          rw [if_pos h3]
          refine ⟨_, rfl, RevInv.of_win rfl hb (Nat.zero_le _) (u64_lt _) (Or.inr (Or.inr rfl))
            (show pos + 8 * 0 + 64 = 8 * src'.size + 0 + (ex + bc) by omega) ?_, (if_neg h1).symm⟩
          rw [hN]
          show u64 (cont <<< bc) % 2 ^ 64 = win N (8 * src'.size) pos 64
          rw [Nat.mod_eq_of_lt (u64_lt _), shl_mod _ _ (by omega), hcont]
          exact win_case3 N (8 * src'.size) pos bc ex (by omega) (by omega)
        · -- case 4: everything has been read
          rw [if_neg h3]
          exact ⟨_, rfl, RevInv.of_win rfl hb (Nat.zero_le _) (Nat.two_pow_pos 64) (Or.inr (Or.inr rfl))
            (show pos + 8 * 0 + 64 = 8 * src'.size + 0 + (ex + bc) by omega)
            (hN ▸ win_case4 N (8 * src'.size) pos ex (by omega)), (if_neg h1).symm⟩

theorem peek_num (c b n : Nat) (h : b + n ≤ 64) :
    (c >>> (64 - b - n)) &&& (2 ^ n - 1) = (c % 2 ^ (64 - b)) / 2 ^ (64 - b - n) % 2 ^ n := by
  obtain ⟨j, hj⟩ : ∃ j, 64 - b = j + n := ⟨64 - b - n, by omega⟩
  rw [hj, Nat.add_sub_cancel, shiftRight_and_mask, mod_pow_div_pow, Nat.mod_mod]

theorem consume_num (c b n : Nat) (h : b + n ≤ 64) :
    c % 2 ^ (64 - (b + n)) = (c % 2 ^ (64 - b)) % 2 ^ (64 - b - n) := by
  rw [mod_pow_mod_pow _ (by omega), Nat.sub_add_eq]

/-- also for `n = 0`, where the mask is 0 -/
theorem peek_val {src : Array Nat} {r : BitReaderRev} {pos n : Nat} (h : RevInv src r pos)
    (hfit : r.bitsConsumed + n ≤ 64) :
    (r.container >>> (64 - r.bitsConsumed - n)) &&& (2 ^ n - 1) = (readBEPad n ((stream src).drop pos)).1 := by
  rw [readBEPad_stream h.bytes, peek_num _ _ _ hfit, h.content', win_prefix _ _ _ _ _ (by omega)]

theorem peekBits_ok {src : Array Nat} {r : BitReaderRev} {pos n : Nat} (h : RevInv src r pos)
    (hn : n ≤ 63) (hfit : r.bitsConsumed + n ≤ 64) :
    r.peekBits n = .ok (readBEPad n ((stream src).drop pos)).1 := by
  unfold BitReaderRev.peekBits
  by_cases h0 : n = 0
  · subst h0; rw [if_pos rfl, readBEPad_stream h.bytes, win_zero]
  · rw [if_neg h0, if_neg (by omega), if_neg (by omega), peek_val h hfit]

theorem consume_ok {src : Array Nat} {r : BitReaderRev} {pos n : Nat} (h : RevInv src r pos)
    (hfit : r.bitsConsumed + n ≤ 64) :
    r.consume n = .ok { r with bitsConsumed := r.bitsConsumed + n } ∧
      RevInv src { r with bitsConsumed := r.bitsConsumed + n } (pos + n) := by
  unfold BitReaderRev.consume
  rw [if_neg (by omega), if_neg (by omega)]
  have hp := h.pos_eq'
  have hs := h.shape
  refine ⟨rfl, RevInv.of_win h.hsrc h.bytes hfit h.cont_lt ?_ ?_ ?_⟩
  · simp only []; omega
  · simp only []; omega
  · simp only []
    rw [consume_num _ _ _ hfit, h.content', win_suffix _ _ _ _ _ (by omega)]
    congr 1; omega

/-- the `if` is what `refill` leaves in `bits_consumed` (`refill_ok`) -/
theorem bitReaderRev_refines_gen {src : Array Nat} {r : BitReaderRev} {pos n : Nat}
    (h : RevInv src r pos) (hn : n ≤ 63)
    (hfit : r.bitsConsumed + n ≤ 64 ∨
      (if r.bitsConsumed / 8 ≤ r.index then r.bitsConsumed % 8 else 0) + n ≤ 64) :
    ∃ r', r.getBits n = .ok ((readBEPad n ((stream src).drop pos)).1, r') ∧ RevInv src r' (pos + n) := by
  have hbc := h.bc_le
  unfold BitReaderRev.getBits
  rw [if_neg (by omega)]
  by_cases hre : r.bitsConsumed + n > 64
  · rw [if_pos hre]
    obtain ⟨r1, hr1, hinv1, hbc1⟩ := refill_ok h
    have hfit1 : r1.bitsConsumed + n ≤ 64 := by rw [hbc1]; omega
    obtain ⟨hr2, hinv2⟩ := consume_ok hinv1 hfit1
    rw [hr1]
    simp only []
    rw [peekBits_ok hinv1 hn hfit1, hr2]
    exact ⟨_, rfl, hinv2⟩
  · rw [if_neg hre]
    have hfit1 : r.bitsConsumed + n ≤ 64 := by omega
    obtain ⟨hr2, hinv2⟩ := consume_ok h hfit1
    simp only []
    rw [peekBits_ok h hn hfit1, hr2]
    exact ⟨_, rfl, hinv2⟩

theorem bitReaderRev_refines {src : Array Nat} {r : BitReaderRev} {pos n : Nat}
    (h : RevInv src r pos) (hn : n ≤ 56) :
    ∃ r', r.getBits n = .ok ((readBEPad n ((stream src).drop pos)).1, r') ∧ RevInv src r' (pos + n) := by
  apply bitReaderRev_refines_gen h (by omega)
  right
  split <;> omega

theorem getBits_ge64 {src : Array Nat} {r : BitReaderRev} {pos n : Nat} (h : RevInv src r pos) (hn : 64 ≤ n) :
    r.getBits n = if r.bitsConsumed + n > 255 then .error (.overflow "bit_reader_reverse.rs:226:get_bits")
      else .error (.overflow "bit_reader_reverse.rs:243:peek_bits:1<<n") := by
  have hpeek : ∀ r' : BitReaderRev, r'.peekBits n = .error (.overflow "bit_reader_reverse.rs:243:peek_bits:1<<n") := by
    intro r'; unfold BitReaderRev.peekBits; rw [if_neg (by omega), if_pos hn]
  unfold BitReaderRev.getBits
  by_cases hov : r.bitsConsumed + n > 255
  · rw [if_pos hov, if_pos hov]
  · rw [if_neg hov, if_neg hov]
    by_cases hre : r.bitsConsumed + n > 64
    · obtain ⟨r1, hr1, _, _⟩ := refill_ok h
      rw [if_pos hre, hr1]
      simp only [hpeek]
    · rw [if_neg hre]
      simp only [hpeek]

/-- `get_bits(64)` always panics (`1u64 << 64` in `peek_bits`) -/
theorem bitReaderRev_getBits_64_faults {src : Array Nat} {r : BitReaderRev} {pos : Nat}
    (h : RevInv src r pos) :
    r.getBits 64 = .error (.overflow "bit_reader_reverse.rs:243:peek_bits:1<<n") := by
  have hbc := h.bc_le
  rw [getBits_ge64 h (Nat.le_refl 64), if_neg (by omega)]

/-- every request of 64 bits or more panics (u8 overflow of `bits_consumed + n`, or `1u64 << n`) -/
theorem bitReaderRev_getBits_ge64_faults {src : Array Nat} {r : BitReaderRev} {pos n : Nat}
    (h : RevInv src r pos) (hn : 64 ≤ n) : ∃ f, r.getBits n = .error f := by
  rw [getBits_ge64 h hn]
  split <;> exact ⟨_, rfl⟩

/-- `57 ≤ n ≤ 63`: panics (`64 - bits_consumed - n` underflows in `peek_bits`) exactly when the
request does not fit even after the refill, i.e. when the window is still inside the source and
`bits_consumed % 8 + n > 64`. -/
theorem bitReaderRev_getBits_wide_faults {src : Array Nat} {r : BitReaderRev} {pos n : Nat}
    (h : RevInv src r pos) (hn : n ≤ 63)
    (hnofit : r.bitsConsumed + n > 64 ∧
      (if r.bitsConsumed / 8 ≤ r.index then r.bitsConsumed % 8 else 0) + n > 64) :
    r.getBits n = .error (.overflow "bit_reader_reverse.rs:244:peek_bits:shift_by") := by
  have hbc := h.bc_le
  unfold BitReaderRev.getBits
  rw [if_neg (by omega), if_pos hnofit.1]
  obtain ⟨r1, hr1, _, hbc1⟩ := refill_ok h
  rw [hr1]
  simp only [BitReaderRev.peekBits]
  rw [if_neg (by omega), if_neg (by omega), if_pos (by rw [hbc1]; omega)]

theorem getBitsTriple_eq_three_gets {src : Array Nat} {r : BitReaderRev} {pos n1 n2 n3 : Nat}
    (h : RevInv src r pos) (h1 : n1 ≤ 56) (h2 : n2 ≤ 56) (h3 : n3 ≤ 56) :
    ∃ r', r.getBitsTriple n1 n2 n3 =
        .ok (((readBEPad n1 ((stream src).drop pos)).1,
              (readBEPad n2 ((stream src).drop (pos + n1))).1,
              (readBEPad n3 ((stream src).drop (pos + n1 + n2))).1), r') ∧
      RevInv src r' (pos + n1 + n2 + n3) := by
  unfold BitReaderRev.getBitsTriple
  rw [if_neg (by omega)]
  simp only []
  by_cases hsum : n1 + n2 + n3 ≤ 56
  · -- fast path: one refill, then the three masked shifts are the peeks at `pos`, `pos + n1`, `pos + n1 + n2`
    rw [if_pos hsum]
    obtain ⟨r1, hr1, hinv1, hbc1⟩ := refill_ok h
    have hbc8 : r1.bitsConsumed < 8 := by
      rw [hbc1]; have := h.bc_le; split <;> omega
    obtain ⟨-, hinva⟩ := consume_ok hinv1 (n := n1) (by omega)
    obtain ⟨-, hinvb⟩ := consume_ok hinva (n := n2) (by simp only []; omega)
    obtain ⟨hr2, hinv2⟩ := consume_ok hinv1 (n := n1 + n2 + n3) (by omega)
    have t1 := peek_val hinv1 (n := n1) (by omega)
    have t2 := peek_val hinva (n := n2) (by simp only []; omega)
    have t3 := peek_val hinvb (n := n3) (by simp only []; omega)
    simp only [] at t2 t3
    rw [hr1]
    simp only []
    have hpeek : r1.peekBitsTriple (n1 + n2 + n3) n1 n2 n3 =
        .ok ((readBEPad n1 ((stream src).drop pos)).1,
              (readBEPad n2 ((stream src).drop (pos + n1))).1,
              (readBEPad n3 ((stream src).drop (pos + n1 + n2))).1) := by
      unfold BitReaderRev.peekBitsTriple
      by_cases hs0 : n1 + n2 + n3 = 0
      · obtain ⟨rfl, rfl, rfl⟩ : n1 = 0 ∧ n2 = 0 ∧ n3 = 0 := by omega
        rw [if_pos rfl]
        simp only [readBEPad_stream h.bytes, win_zero]
      · rw [if_neg hs0, if_neg (by omega), if_neg (by omega), ← t1, ← t2, ← t3]
        simp only []
        rw [← Nat.shiftRight_add, ← Nat.shiftRight_add,
          show 64 - r1.bitsConsumed - (n1 + n2 + n3) + (n3 + n2) = 64 - r1.bitsConsumed - n1 by omega,
          show 64 - r1.bitsConsumed - (n1 + n2 + n3) + n3 = 64 - (r1.bitsConsumed + n1) - n2 by omega,
          show 64 - r1.bitsConsumed - (n1 + n2 + n3) = 64 - (r1.bitsConsumed + n1 + n2) - n3 by omega]
    rw [hpeek]
    simp only []
    rw [hr2]
    refine ⟨_, rfl, ?_⟩
    rw [show pos + n1 + n2 + n3 = pos + (n1 + n2 + n3) by omega]
    exact hinv2
  · -- slow path
    rw [if_neg hsum]
    obtain ⟨ra, hra, hinva⟩ := bitReaderRev_refines h h1
    obtain ⟨rb, hrb, hinvb⟩ := bitReaderRev_refines hinva h2
    obtain ⟨rc, hrc, hinvc⟩ := bitReaderRev_refines hinvb h3
    rw [hra]; simp only []
    rw [hrb]; simp only []
    rw [hrc]
    exact ⟨rc, rfl, hinvc⟩

/-- `get_bits(n)` for each `n` of the list in turn: the values in order and the reader left, or the first panic -/
def runRev : BitReaderRev → List Nat → Except Fault (List Nat × BitReaderRev)
  | r, [] => .ok ([], r)
  | r, n :: ns =>
    match r.getBits n with
    | .error f => .error f
    | .ok (v, r') =>
      match runRev r' ns with
      | .error f => .error f
      | .ok (vs, r'') => .ok (v :: vs, r'')

/-- the same reads on the Spec side: `Spec.readBEPad` on the bit list `s` at the positions `pos`, `pos + n₁`, … -/
def runRevSpec (s : List Bool) : Nat → List Nat → List Nat
  | _, [] => []
  | pos, n :: ns => (readBEPad n (s.drop pos)).1 :: runRevSpec s (pos + n) ns

theorem runRev_refines {src : Array Nat} {ns : List Nat} :
    ∀ {r : BitReaderRev} {pos : Nat}, RevInv src r pos → (∀ n ∈ ns, n ≤ 56) →
      ∃ r', runRev r ns = .ok (runRevSpec (stream src) pos ns, r') ∧ RevInv src r' (pos + ns.sum) ∧
        r'.bitsRemaining = 8 * (src.size : Int) - pos - ns.sum := by
  induction ns with
  | nil =>
    intro r pos h _
    refine ⟨r, rfl, by simpa using h, ?_⟩
    rw [RevInv_bitsRemaining h]; simp
  | cons n ns ih =>
    intro r pos h hn
    obtain ⟨r1, hr1, hinv1⟩ := bitReaderRev_refines h (hn n List.mem_cons_self)
    obtain ⟨r2, hr2, hinv2, hrem⟩ := ih hinv1 (fun m hm => hn m (List.mem_cons_of_mem _ hm))
    refine ⟨r2, ?_, ?_, ?_⟩
    · rw [runRev, hr1]; simp only []; rw [hr2]; rfl
    · rw [List.sum_cons, ← Nat.add_assoc]; exact hinv2
    · rw [hrem, List.sum_cons]; omega

theorem runRev_new {src : Array Nat} (hb : Bytes src.toList) {ns : List Nat} (hn : ∀ n ∈ ns, n ≤ 56) :
    ∃ r', runRev (BitReaderRev.new src) ns = .ok (runRevSpec (stream src) 0 ns, r') ∧
      r'.bitsRemaining = 8 * (src.size : Int) - ns.sum := by
  obtain ⟨r', h1, _, h3⟩ := runRev_refines (RevInv_new hb) hn
  exact ⟨r', h1, by rw [h3]; omega⟩

end Zstd.Proofs.BitIO
