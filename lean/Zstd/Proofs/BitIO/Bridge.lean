import Zstd.Model.BitIO
import Zstd.Spec.Bits
/-
Bridge lemmas between the list-of-bits vocabulary of `Zstd.Spec.Bits`, the numeric vocabulary of
the model (`leNat`, shifts, masks) and `Nat.testBit`.

The shift/mask expressions of the model are bit fields `N / 2 ^ i % 2 ^ k`; the identities between them
(a field of a field, two adjacent fields, zero bits put below) are the lemmas of the first section.
-/
namespace Zstd.Proofs.BitIO
open Zstd Zstd.Spec

/-- every element is below 256: the hypothesis under which a `List Nat` of the model or the Spec is a byte string -/
def Bytes (l : List Nat) : Prop := ∀ b ∈ l, b < 256

/-- the low `n` bits of `v`, bit 0 first: what writing the `n`-bit field `v` appends to the bit string and what
reading it takes off -/
def bitsOfLE (n v : Nat) : List Bool := (List.range n).map (fun i => v / 2 ^ i % 2 = 1)

theorem Bytes_nil : Bytes [] := by intro b hb; cases hb

theorem Bytes_cons {b : Nat} {l : List Nat} : Bytes (b :: l) ↔ b < 256 ∧ Bytes l := by
  simp [Bytes]

theorem Bytes_append {a b : List Nat} : Bytes (a ++ b) ↔ Bytes a ∧ Bytes b := by
  simp only [Bytes, List.mem_append]
  constructor
  · intro h; exact ⟨fun x hx => h x (Or.inl hx), fun x hx => h x (Or.inr hx)⟩
  · rintro ⟨h1, h2⟩ x (hx | hx)
    · exact h1 x hx
    · exact h2 x hx

theorem Bytes_take {l : List Nat} (h : Bytes l) (k : Nat) : Bytes (l.take k) :=
  fun b hb => h b (List.mem_of_mem_take hb)

theorem Bytes_drop {l : List Nat} (h : Bytes l) (k : Nat) : Bytes (l.drop k) :=
  fun b hb => h b (List.mem_of_mem_drop hb)

theorem Bytes_leBytes (n v : Nat) : Bytes (leBytes n v) := leBytes_lt n v

theorem Bytes_replicate_zero (n : Nat) : Bytes (List.replicate n 0) := by
  intro b hb; rw [List.mem_replicate] at hb; omega

theorem or_shiftLeft_eq_add {a n : Nat} (h : a < 2 ^ n) (b : Nat) : a ||| b <<< n = a + b * 2 ^ n := by
  rw [Nat.or_comm, ← Nat.shiftLeft_add_eq_or_of_lt h, Nat.shiftLeft_eq, Nat.add_comm]

/-! ### bit fields `N / 2 ^ i % 2 ^ k` -/

theorem div_pow_div_pow (N i j : Nat) : N / 2 ^ i / 2 ^ j = N / 2 ^ (i + j) := by
  rw [Nat.div_div_eq_div_mul, ← Nat.pow_add]

theorem mod_pow_mod_pow {a b : Nat} (x : Nat) (h : a ≤ b) : x % 2 ^ b % 2 ^ a = x % 2 ^ a :=
  Nat.mod_mod_of_dvd x (Nat.pow_dvd_pow 2 h)

theorem mod_pow_div_pow (x j d : Nat) : x % 2 ^ (j + d) / 2 ^ j = x / 2 ^ j % 2 ^ d := by
  rw [Nat.pow_add 2 j d, Nat.mod_mul_right_div_self]

theorem field_shift (N i j d : Nat) : (N / 2 ^ i % 2 ^ (j + d)) / 2 ^ j = N / 2 ^ (i + j) % 2 ^ d := by
  rw [mod_pow_div_pow, div_pow_div_pow]

theorem field_of_field (N i k j m : Nat) (h : j + m ≤ k) :
    (N / 2 ^ i % 2 ^ k) / 2 ^ j % 2 ^ m = N / 2 ^ (i + j) % 2 ^ m := by
  obtain ⟨d, rfl⟩ : ∃ d, k = j + d := ⟨k - j, by omega⟩
  rw [field_shift, mod_pow_mod_pow _ (by omega)]

theorem field_concat (N i s k : Nat) :
    N / 2 ^ i % 2 ^ s + 2 ^ s * (N / 2 ^ (i + s) % 2 ^ k) = N / 2 ^ i % 2 ^ (s + k) := by
  rw [Nat.pow_add 2 s k, Nat.mod_mul, div_pow_div_pow]

theorem mul_pow_div_pow (x d t : Nat) : x * 2 ^ d / 2 ^ (t + d) = x / 2 ^ t := by
  rw [Nat.pow_add, Nat.mul_div_mul_right _ _ (Nat.two_pow_pos d)]

theorem mul_pow_add_div_pow (x t e : Nat) : x * 2 ^ (t + e) / 2 ^ t = x * 2 ^ e := by
  rw [Nat.pow_add, Nat.mul_left_comm, Nat.mul_div_cancel_left _ (Nat.two_pow_pos t)]

theorem mod_pow_mul_div_mod (x L n : Nat) : x % 2 ^ L * 2 ^ n / 2 ^ L % 2 ^ n = x * 2 ^ n / 2 ^ L % 2 ^ n := by
  conv => rhs; rw [← Nat.div_add_mod x (2 ^ L), Nat.add_mul, Nat.mul_assoc, Nat.mul_add_div (Nat.two_pow_pos L),
    Nat.mul_add_mod_self_right]

theorem shiftRight_and_mask (x c n : Nat) : (x >>> c) &&& (2 ^ n - 1) = x / 2 ^ c % 2 ^ n := by
  rw [Nat.shiftRight_eq_div_pow, Nat.and_two_pow_sub_one_eq_mod]

@[simp] theorem length_bitsOfLE (n v : Nat) : (bitsOfLE n v).length = n := by simp [bitsOfLE]

theorem getElem_bitsOfLE {n v i : Nat} (h : i < (bitsOfLE n v).length) :
    (bitsOfLE n v)[i] = v.testBit i := by
  simp [bitsOfLE, Nat.testBit_eq_decide_div_mod_eq]

theorem getElem?_bitsOfLE (n v i : Nat) :
    (bitsOfLE n v)[i]? = if i < n then some (v.testBit i) else none := by
  split
  · rename_i h
    rw [List.getElem?_eq_getElem (by simpa using h), getElem_bitsOfLE]
  · rename_i h
    exact List.getElem?_eq_none (by simpa using h)

theorem bitsOfLE_zero (v : Nat) : bitsOfLE 0 v = [] := rfl

theorem bitsOfLE_congr {n v w : Nat} (h : ∀ i, i < n → v.testBit i = w.testBit i) :
    bitsOfLE n v = bitsOfLE n w := by
  apply List.ext_getElem (by simp)
  intro i h1 h2
  rw [getElem_bitsOfLE, getElem_bitsOfLE]
  exact h i (by simpa using h1)

theorem bitsOfLE_mod' (n m v : Nat) (h : n ≤ m) : bitsOfLE n (v % 2 ^ m) = bitsOfLE n v :=
  bitsOfLE_congr (fun i hi => by
    rw [Nat.testBit_mod_two_pow, decide_eq_true (Nat.lt_of_lt_of_le hi h), Bool.true_and])

theorem bitsOfLE_mod (n v : Nat) : bitsOfLE n (v % 2 ^ n) = bitsOfLE n v :=
  bitsOfLE_mod' n n v (Nat.le_refl n)

theorem bitsOfLE_append (n m a b : Nat) :
    bitsOfLE n a ++ bitsOfLE m b = bitsOfLE (n + m) (a % 2 ^ n ||| b <<< n) := by
  apply List.ext_getElem (by simp)
  intro i h1 h2
  rw [getElem_bitsOfLE, List.getElem_append]
  simp only [length_bitsOfLE, List.length_append] at h1 h2 ⊢
  split
  · rename_i hlt
    rw [getElem_bitsOfLE, Nat.testBit_or, Nat.testBit_mod_two_pow, Nat.testBit_shiftLeft, decide_eq_true hlt,
      decide_eq_false (Nat.not_le_of_lt hlt), Bool.true_and, Bool.false_and, Bool.or_false]
  · rename_i hge
    rw [getElem_bitsOfLE, Nat.testBit_or, Nat.testBit_mod_two_pow, Nat.testBit_shiftLeft, decide_eq_false hge,
      decide_eq_true (Nat.le_of_not_lt hge), Bool.false_and, Bool.true_and, Bool.false_or]

theorem bitsOfLE_append_of_lt {n a : Nat} (m b : Nat) (h : a < 2 ^ n) :
    bitsOfLE n a ++ bitsOfLE m b = bitsOfLE (n + m) (a ||| b <<< n) := by
  rw [bitsOfLE_append, Nat.mod_eq_of_lt h]

theorem drop_bitsOfLE (n v i : Nat) : (bitsOfLE n v).drop i = bitsOfLE (n - i) (v >>> i) := by
  apply List.ext_getElem (by simp)
  intro j h1 h2
  rw [List.getElem_drop, getElem_bitsOfLE, getElem_bitsOfLE, Nat.testBit_shiftRight]

theorem take_bitsOfLE (n v k : Nat) : (bitsOfLE n v).take k = bitsOfLE (min k n) v := by
  apply List.ext_getElem (by simp)
  intro j h1 h2
  rw [List.getElem_take, getElem_bitsOfLE, getElem_bitsOfLE]

theorem bitsOfLE_split (a b v : Nat) :
    bitsOfLE (a + b) v = bitsOfLE a v ++ bitsOfLE b (v >>> a) := by
  rw [← List.take_append_drop a (bitsOfLE (a + b) v), take_bitsOfLE, drop_bitsOfLE, Nat.min_eq_left (Nat.le_add_right a b),
    Nat.add_sub_cancel_left]

theorem valLE_testBit (l : List Bool) (i : Nat) : (valLE l).testBit i = l[i]?.getD false := by
  induction l generalizing i with
  | nil => simp [valLE]
  | cons b bs ih =>
    cases i with
    | zero =>
      simp only [valLE, Nat.testBit_zero, List.getElem?_cons_zero, Option.getD_some]
      cases b <;> simp <;> omega
    | succ i =>
      simp only [valLE, Nat.testBit_succ, List.getElem?_cons_succ]
      rw [← ih]
      congr 1
      cases b <;> simp <;> omega

theorem valLE_lt (l : List Bool) : valLE l < 2 ^ l.length := by
  induction l with
  | nil => simp [valLE]
  | cons b bs ih =>
    simp only [valLE, List.length_cons, Nat.pow_succ]
    cases b <;> simp <;> omega

theorem valLE_bitsOfLE_mod (n v : Nat) : valLE (bitsOfLE n v) = v % 2 ^ n := by
  apply Nat.eq_of_testBit_eq
  intro i
  rw [valLE_testBit, getElem?_bitsOfLE, Nat.testBit_mod_two_pow]
  split <;> simp [*]

theorem valLE_bitsOfLE {n v : Nat} (h : v < 2 ^ n) : valLE (bitsOfLE n v) = v := by
  rw [valLE_bitsOfLE_mod, Nat.mod_eq_of_lt h]

theorem bitsOfLE_valLE (l : List Bool) : bitsOfLE l.length (valLE l) = l := by
  apply List.ext_getElem (by simp)
  intro i h1 h2
  rw [getElem_bitsOfLE, valLE_testBit, List.getElem?_eq_getElem h2, Option.getD_some]

theorem valLE_inj {l1 l2 : List Bool} (hl : l1.length = l2.length) (hv : valLE l1 = valLE l2) :
    l1 = l2 := by
  rw [← bitsOfLE_valLE l1, ← bitsOfLE_valLE l2, hl, hv]

theorem valLE_append (a b : List Bool) : valLE (a ++ b) = valLE a + 2 ^ a.length * valLE b := by
  induction a with
  | nil => simp [valLE]
  | cons x xs ih =>
    simp only [List.cons_append, valLE, ih, List.length_cons, Nat.pow_succ]
    rw [Nat.mul_add, Nat.mul_comm (2 ^ xs.length) 2, Nat.mul_assoc, Nat.add_assoc]

theorem valLE_drop (l : List Bool) (i : Nat) : valLE (l.drop i) = valLE l / 2 ^ i := by
  apply Nat.eq_of_testBit_eq
  intro j
  rw [valLE_testBit, Nat.testBit_div_two_pow, valLE_testBit, List.getElem?_drop, Nat.add_comm]

theorem valLE_take (l : List Bool) (k : Nat) : valLE (l.take k) = valLE l % 2 ^ k := by
  apply Nat.eq_of_testBit_eq
  intro j
  rw [valLE_testBit, Nat.testBit_mod_two_pow, valLE_testBit, List.getElem?_take]
  split <;> simp [*]

theorem valLE_take_drop (l : List Bool) (i n : Nat) :
    valLE ((l.drop i).take n) = valLE l / 2 ^ i % 2 ^ n := by
  rw [valLE_take, valLE_drop]

theorem valBE_append_singleton (l : List Bool) (b : Bool) :
    valBE (l ++ [b]) = 2 * valBE l + (if b then 1 else 0) := by
  simp [valBE, List.foldl_append]

theorem valLE_eq_valBE_reverse (l : List Bool) : valLE l = valBE l.reverse := by
  induction l with
  | nil => rfl
  | cons b bs ih =>
    rw [List.reverse_cons, valBE_append_singleton, ← ih, valLE, Nat.add_comm]

theorem valBE_eq_valLE_reverse (l : List Bool) : valBE l = valLE l.reverse := by
  rw [valLE_eq_valBE_reverse, List.reverse_reverse]

theorem valBE_reverse_bitsOfLE {n v : Nat} (h : v < 2 ^ n) : valBE (bitsOfLE n v).reverse = v := by
  rw [← valLE_eq_valBE_reverse, valLE_bitsOfLE h]

theorem valBE_lt (l : List Bool) : valBE l < 2 ^ l.length := by
  rw [valBE_eq_valLE_reverse]
  simpa using valLE_lt l.reverse

theorem byteBitsLE_eq (b : Nat) : byteBitsLE b = bitsOfLE 8 b := by
  simp [byteBitsLE, bitsOfLE, List.range_succ]

theorem bitsLE_append (a b : List Nat) : bitsLE (a ++ b) = bitsLE a ++ bitsLE b := by
  induction a with
  | nil => rfl
  | cons x xs ih => simp [bitsLE, ih]

@[simp] theorem length_bitsLE (l : List Nat) : (bitsLE l).length = 8 * l.length := by
  induction l with
  | nil => rfl
  | cons x xs ih => simp [bitsLE, byteBitsLE, ih]; omega

theorem bitsLE_take (l : List Nat) (k : Nat) : bitsLE (l.take k) = (bitsLE l).take (8 * k) := by
  induction l generalizing k with
  | nil => simp [bitsLE]
  | cons b bs ih =>
    cases k with
    | zero => simp [bitsLE]
    | succ k =>
      rw [List.take_succ_cons, bitsLE, bitsLE, ih, List.take_append]
      have h8 : (byteBitsLE b).length = 8 := rfl
      rw [h8, List.take_of_length_le (l := byteBitsLE b) (by rw [h8]; omega)]
      congr 2 <;> omega

theorem bitsLE_drop (l : List Nat) (k : Nat) : bitsLE (l.drop k) = (bitsLE l).drop (8 * k) := by
  induction l generalizing k with
  | nil => simp [bitsLE]
  | cons b bs ih =>
    cases k with
    | zero => rfl
    | succ k =>
      have h8 : (byteBitsLE b).length = 8 := rfl
      rw [List.drop_succ_cons, bitsLE, ih, show 8 * (k + 1) = (byteBitsLE b).length + 8 * k by rw [h8]; omega,
        List.drop_length_add_append]

theorem bitsLE_replicate_zero (k : Nat) : bitsLE (List.replicate k 0) = List.replicate (8 * k) false := by
  induction k with
  | zero => rfl
  | succ k ih =>
    rw [List.replicate_succ, bitsLE, ih, show 8 * (k + 1) = 8 + 8 * k by omega,
      ← List.replicate_append_replicate]
    rfl

theorem leNat_lt {l : List Nat} (h : Bytes l) : leNat l < 2 ^ (8 * l.length) := by
  induction l with
  | nil => simp [leNat]
  | cons b bs ih =>
    have hb := (Bytes_cons.1 h).1
    have := ih (Bytes_cons.1 h).2
    simp only [leNat, List.length_cons]
    rw [show 8 * (bs.length + 1) = 8 * bs.length + 8 by omega, Nat.pow_add]
    omega

theorem bitsLE_eq {l : List Nat} (h : Bytes l) : bitsLE l = bitsOfLE (8 * l.length) (leNat l) := by
  induction l with
  | nil => rfl
  | cons b bs ih =>
    have hb := (Bytes_cons.1 h).1
    rw [bitsLE, ih (Bytes_cons.1 h).2, byteBitsLE_eq, bitsOfLE_append_of_lt _ _ (by omega : b < 2 ^ 8)]
    simp only [leNat, List.length_cons]
    rw [show 8 * (bs.length + 1) = 8 + 8 * bs.length by omega]
    congr 1
    rw [or_shiftLeft_eq_add (by omega : b < 2 ^ 8)]
    omega

theorem valLE_bitsLE {l : List Nat} (h : Bytes l) : valLE (bitsLE l) = leNat l := by
  rw [bitsLE_eq h, valLE_bitsOfLE (leNat_lt h)]

theorem leNat_append {a b : List Nat} (ha : Bytes a) (hb : Bytes b) :
    leNat (a ++ b) = leNat a + 2 ^ (8 * a.length) * leNat b := by
  rw [← valLE_bitsLE (Bytes_append.2 ⟨ha, hb⟩), bitsLE_append, valLE_append, valLE_bitsLE ha,
    valLE_bitsLE hb, length_bitsLE]

theorem leNat_drop {l : List Nat} (h : Bytes l) (i : Nat) :
    leNat (l.drop i) = leNat l / 2 ^ (8 * i) := by
  rw [← valLE_bitsLE (Bytes_drop h i), bitsLE_drop, valLE_drop, valLE_bitsLE h]

theorem leNat_take {l : List Nat} (h : Bytes l) (k : Nat) :
    leNat (l.take k) = leNat l % 2 ^ (8 * k) := by
  rw [← valLE_bitsLE (Bytes_take h k), bitsLE_take, valLE_take, valLE_bitsLE h]

theorem getElem_eq_leNat {l : List Nat} (h : Bytes l) {i : Nat} (hi : i < l.length) :
    l[i] = leNat l / 2 ^ (8 * i) % 256 := by
  rw [← leNat_drop h, List.drop_eq_getElem_cons hi, leNat]
  have := h l[i] (List.getElem_mem hi)
  omega

theorem leBytes_leNat : ∀ {l : List Nat}, Bytes l → leBytes l.length (leNat l) = l
  | [], _ => rfl
  | b :: bs, h => by
    have hb := (Bytes_cons.1 h).1
    simp only [List.length_cons, leBytes, leNat]
    rw [Nat.add_mul_mod_self_left, Nat.mod_eq_of_lt hb, Nat.add_mul_div_left _ _ (by decide : 0 < 256),
      Nat.div_eq_of_lt hb, Nat.zero_add, leBytes_leNat (Bytes_cons.1 h).2]

theorem bitsLE_leBytes (k x : Nat) : bitsLE (leBytes k x) = bitsOfLE (8 * k) x := by
  rw [bitsLE_eq (Bytes_leBytes k x), leBytes_length, leNat_leBytes,
    show (256 : Nat) ^ k = 2 ^ (8 * k) by rw [Nat.pow_mul], bitsOfLE_mod]

theorem take_leBytes (n v k : Nat) : (leBytes n v).take k = leBytes (min k n) v := by
  induction n generalizing v k with
  | zero => simp [leBytes]
  | succ n ih =>
    cases k with
    | zero => simp [leBytes]
    | succ k =>
      rw [show min (k + 1) (n + 1) = min k n + 1 by omega]
      simp [leBytes, ih]

/-! ### the Spec readers in "whole length" form

`Spec.readLE`/`readBE`/`readBEPad` test the length of the `n`-bit prefix (`(bits.take n).length < n`,
which keeps reads O(n)); the proofs use the equivalent test on the whole remaining stream. -/

theorem length_take_lt_iff (n : Nat) (bits : List Bool) : (bits.take n).length < n ↔ bits.length < n := by
  rw [List.length_take]; omega

theorem readLE_def (n : Nat) (bits : List Bool) :
    readLE n bits = if bits.length < n then none else some (valLE (bits.take n), bits.drop n) := by
  simp only [readLE, length_take_lt_iff]

theorem readBE_def (n : Nat) (bits : List Bool) :
    readBE n bits = if bits.length < n then none else some (valBE (bits.take n), bits.drop n) := by
  simp only [readBE, length_take_lt_iff]

theorem readBEPad_def (n : Nat) (bits : List Bool) :
    readBEPad n bits = if bits.length < n then (valBE bits * 2 ^ (n - bits.length), [], n - bits.length)
      else (valBE (bits.take n), bits.drop n, 0) := by
  simp only [readBEPad, length_take_lt_iff]
  split
  · rw [List.take_of_length_le (by omega)]
  · rfl

end Zstd.Proofs.BitIO
