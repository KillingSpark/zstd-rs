import Zstd.Proofs.HufRoundtrip
import Zstd.Proofs.LitCoderFse
import Zstd.Proofs.BlkHufWeightsRefines
/-
The description of a canonical table with more than 16 transmitted weights, written with the real
FSE coder (`Enc.fseWeights`, production parameters): never a panic other than the `assert!(< 128)`,
and read back exactly.
-/
namespace Zstd.Proofs.Huf
open Zstd Zstd.Model Zstd.Model.Huf

/-- **The conclusion of `FseWeightsContract` for the production coder**, for 4 … 257 weights `≤ 11` (what `write_table`
passes on in the FSE form has 17 … 255 of them; the contract itself asks it of every `ws`): the strict Spec reads the output back (`LitCoder.fseWeights_spec`), and what the Spec
reads the code reads (`Blk.readWeights_refines`). -/
theorem fseWeights_roundtrip (ws : List Nat) (h4 : 4 ≤ ws.length) (h257 : ws.length ≤ 257) (hle : ∀ w ∈ ws, w ≤ 11) :
    ∃ bytes, Enc.fseWeights ws = .ok bytes ∧ Zstd.Proofs.BitIO.Bytes bytes ∧
      (bytes.length < 128 → ∀ (st : DecTable) (tail : List Nat), Zstd.Proofs.BitIO.Bytes tail →
        readWeights st (bytes.length :: (bytes ++ tail)) = ({ st with weights := ws }, .ok (1 + bytes.length))) := by
  obtain ⟨bytes, h1, h2, h3⟩ :=
    Zstd.Proofs.LitCoder.fseWeights_spec ws h4 h257 (fun w hw => Nat.le_succ_of_le (hle w hw))
  exact ⟨bytes, h1, h2, fun hsmall st tail htail =>
    Zstd.Proofs.Blk.readWeights_refines
      (Zstd.Proofs.BitIO.Bytes_cons.2 ⟨by omega, Zstd.Proofs.BitIO.Bytes_append.mpr ⟨h2, htail⟩⟩) (h3 hsmall tail) st⟩

theorem descReads_fse {t : EncTable} {wd : List Nat} {m : Nat} (c : CanonTable t wd m) (hform : wd.length - 1 > 16) :
    ∃ bytes, Enc.fseWeights wd.dropLast = .ok bytes ∧
      (bytes.length < 128 → writeTable Enc.fseWeights t = .ok (bytes.length :: bytes) ∧
        DescReads (bytes.length :: bytes) wd.dropLast) ∧
      (128 ≤ bytes.length →
        writeTable Enc.fseWeights t = .error (.assert "huff0_encoder.rs:write_table:encoded_len<128")) := by
  have hw := c.weights
  have hlen : wd.dropLast.length = wd.length - 1 := List.length_dropLast
  have hle11 : ∀ w ∈ wd.dropLast, w ≤ 11 := fun w hw => by
    have := c.le w (List.dropLast_subset _ hw); have := c.m11; omega
  obtain ⟨bytes, h1, _, h3⟩ := fseWeights_roundtrip wd.dropLast (by omega) (by have := c.len256; omega) hle11
  have hwrite : writeTable Enc.fseWeights t = if bytes.length < 128 then .ok (bytes.length :: bytes)
      else .error (.assert "huff0_encoder.rs:write_table:encoded_len<128") := by
    simp only [writeTable_fse Enc.fseWeights hw (by omega), h1]
  refine ⟨bytes, h1, fun hsmall => ⟨by rw [hwrite, if_pos hsmall], fun st tail htail => ?_⟩,
    fun hbig => by rw [hwrite, if_neg (by omega)]⟩
  rw [List.cons_append, List.length_cons, Nat.add_comm bytes.length]
  exact h3 hsmall st tail htail

theorem writeTable_canon_or_assert {t : EncTable} {wd : List Nat} {m : Nat} (c : CanonTable t wd m) :
    (∃ desc, writeTable Model.Enc.fseWeights t = .ok desc ∧ DescReads desc wd.dropLast) ∨
      (∃ bytes, Model.Enc.fseWeights wd.dropLast = .ok bytes ∧ 128 ≤ bytes.length ∧
        writeTable Model.Enc.fseWeights t = .error (.assert "huff0_encoder.rs:write_table:encoded_len<128")) := by
  by_cases hform : wd.length - 1 ≤ 16
  · exact Or.inl (descReads_direct Model.Enc.fseWeights c hform)
  · obtain ⟨bytes, h1, h2, h3⟩ := descReads_fse c (by omega)
    by_cases hs : bytes.length < 128
    · exact Or.inl ⟨_, h2 hs⟩
    · exact Or.inr ⟨bytes, h1, by omega, h3 (by omega)⟩

theorem descReads_of_written {t : EncTable} {wd : List Nat} {m : Nat} (c : CanonTable t wd m) {desc : List Nat}
    (hdesc : writeTable Enc.fseWeights t = .ok desc) : DescReads desc wd.dropLast := by
  rcases writeTable_canon_or_assert c with ⟨desc', h1, h2⟩ | ⟨_, _, _, hass⟩
  · cases h1.symm.trans hdesc
    exact h2
  · cases hass.symm.trans hdesc

end Zstd.Proofs.Huf
