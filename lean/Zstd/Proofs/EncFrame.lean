import Zstd.Proofs.EncBlocks
import Zstd.Proofs.Headers
/-
Helper lemmas for C02 / C15 / C16: the frame header `compress` writes, parsed by the strict Spec;
the contract of a per-block emitter (`EmitSim`) and the block loop under it, decoded by `Spec.decodeBlocks`.
-/
namespace Zstd.Proofs.Enc
open Zstd Zstd.Model.Enc

theorem windowLogGuard_eq (a b : Nat) : Gen.windowLogGuard a b = decide (a > b) := rfl
theorem windowLogK_eq : Gen.windowLogK = 10 := rfl
theorem windowLogSub_eq : Gen.windowLogSub = 10 := rfl
theorem windowLogElse_eq : Gen.windowLogElse = 1 := rfl
theorem windowExpShift_eq : Gen.windowExpShift = 3 := rfl

theorem nextPowerOfTwo_eq (w : Nat) : nextPowerOfTwo w = 2 ^ Headers.winLog w := by
  unfold nextPowerOfTwo Headers.winLog
  split <;> rfl

/-- `e * 8` is the descriptor byte with exponent `e` and mantissa 0, which is why `declaredWindow` reads the exponent
`wd / 8` alone -/
theorem windowDescriptor_spec (w : Nat) (hw : w ≤ 2 ^ 41) :
    ∃ e : Nat, 1 ≤ e ∧ e ≤ 31 ∧ windowDescriptor w = .ok (e * 8) ∧ w ≤ 2 ^ (10 + e) := by
  have hk : Headers.winLog w ≤ 41 := Headers.winLog_le w 41 hw
  have hwk : w ≤ 2 ^ Headers.winLog w := (Headers.winLog_spec w).1
  have hnot : ¬ (2 ^ Headers.winLog w ≥ 2 ^ 64) := by
    have : 2 ^ Headers.winLog w ≤ 2 ^ 41 := Nat.pow_le_pow_right (by omega) hk
    omega
  simp only [windowDescriptor, nextPowerOfTwo_eq, hnot, ↓reduceIte, Nat.log2_two_pow, windowLogGuard_eq, windowLogK_eq,
    windowLogSub_eq, windowLogElse_eq, windowExpShift_eq]
  generalize Headers.winLog w = k at hk hwk
  by_cases hg : k > 10
  · refine ⟨k - 10, by omega, by omega, ?_, by rw [show 10 + (k - 10) = k by omega]; exact hwk⟩
    simp only [hg, decide_true, ↓reduceIte]
    rw [if_neg (by omega), Nat.shiftLeft_eq]
    congr 1
    show ((k - 10) % 256 * 2 ^ 3 % 256 : Nat) = (k - 10) * 8
    omega
  · -- windows up to 2 KiB are declared as 2 KiB
    refine ⟨1, Nat.le_refl 1, by decide, by simp [hg], ?_⟩
    have : 2 ^ k ≤ 2 ^ 11 := Nat.pow_le_pow_right (by omega) (by omega)
    omega

theorem frameDeclaresAtLeastMaxBlock_eq : Gen.frameDeclaresAtLeastMaxBlock = true := rfl

theorem headerDescriptor_spec (w : Nat) (hw : w ≤ 2 ^ 41) :
    ∃ e : Nat, 1 ≤ e ∧ e ≤ 31 ∧ windowDescriptor (headerWindow w) = .ok (e * 8) ∧ declaredWindow w = 2 ^ (10 + e) ∧
      w ≤ declaredWindow w ∧ 131072 ≤ declaredWindow w := by
  have hh : headerWindow w = max w 131072 := by
    simp [headerWindow, frameDeclaresAtLeastMaxBlock_eq]; rfl
  obtain ⟨e, h1, h2, h3, h4⟩ := windowDescriptor_spec (headerWindow w) (by rw [hh]; omega)
  have hd : declaredWindow w = 2 ^ (10 + e) := by simp [declaredWindow, h3]
  rw [hh] at h4
  exact ⟨e, h1, h2, h3, hd, by omega, by omega⟩

theorem declaredWindow_ge_block (w : Nat) (hw : w ≤ 2 ^ 41) : Gen.maxBlockSize ≤ declaredWindow w :=
  let ⟨_, _, _, _, _, _, hb⟩ := headerDescriptor_spec w hw
  hb

theorem le_declaredWindow (w : Nat) (hw : w ≤ 2 ^ 41) : w ≤ declaredWindow w :=
  let ⟨_, _, _, _, _, hwe, _⟩ := headerDescriptor_spec w hw
  hwe

theorem min_declared_block (w : Nat) (hw : w ≤ 2 ^ 41) : min (declaredWindow w) Gen.maxBlockSize = Gen.maxBlockSize :=
  Nat.min_eq_right (declaredWindow_ge_block w hw)

/-- the second conjunct is the Reserved_bit test of `Spec.parseFrameHeader` -/
theorem parseFrameDesc_ours (hash : Bool) :
    Spec.parseFrameDesc (frameDescriptor hash) = ⟨0, false, hash, 0⟩ ∧ frameDescriptor hash / 8 % 2 = 0 := by
  cases hash <;> exact ⟨rfl, rfl⟩

theorem parseFrameHeader_ours (hash : Bool) (e : Nat) (he1 : 1 ≤ e) (he : e ≤ 31) (rest : List Byte) :
    Spec.parseFrameHeader (leBytes 4 Gen.magicNum ++ [frameDescriptor hash, e * 8] ++ rest) =
      some { desc := ⟨0, false, hash, 0⟩, window := 2 ^ (10 + e), dictId := none, contentSize := none, hdrLen := 6 } := by
  have hlo : 1024 ≤ 2 ^ (10 + e) := by
    have : 2 ^ 10 ≤ 2 ^ (10 + e) := Nat.pow_le_pow_right (by omega) (by omega)
    omega
  have hhi : 2 ^ (10 + e) ≤ 2 ^ 41 := Nat.pow_le_pow_right (by omega) (by omega)
  have hws : Spec.windowSize (e * 8) = 2 ^ (10 + e) := by
    simp [Spec.windowSize]
  rw [Headers.magic_bytes]
  simp [Spec.parseFrameHeader, leNat, Spec.magic, parseFrameDesc_ours hash, Spec.fcsFieldSize,
    Spec.didFieldSize, hws, Spec.windowMin, Spec.windowMax]
  omega

theorem empty_block_bytes : blockHeader true Gen.blockTypeRaw 0 = [1, 0, 0] := by decide

/-- The contract of a per-block emitter, as a simulation of the strict block decoder, encoder state and decoder state
coupled by `Inv`.  The output must not be empty because the Spec's block loop runs on fuel and `LoopPost` gives it one
unit per byte.  `Pre pre blk p`: what the caller knows of a block `blk`, the input `pre` before it and the matcher's
parse `p` of it.  `A := fun _ => True` says what is written is right, `A := fun _ => False` that something right is written. -/
def EmitSim {H : Type} (window : Nat) (Inv : EncState H → Spec.Entropy → Prop)
    (Pre : List Byte → List Byte → Parse → Prop) (A : Fault → Prop) (emit : Emit H) : Prop :=
  ∀ (last : Bool) (blk : List Byte) (p : Parse) (st : EncState H) (e : Spec.Entropy) (pre : List Byte),
    blk ≠ [] → Pre pre blk p → Inv st e →
    ReturnsOr (fun r => 0 < r.1.length ∧
      ∃ e', Inv r.2 e' ∧ BlockDecodes window #[] last r.1 e pre.toArray e' (pre ++ blk).toArray) A (emit last blk p st)

/-- what a run of the block loop that starts after `n` bytes of `full`, with the decoder in state `e`, has done when
it returns `r`: its bytes take the decoder to the end of `full`, and the final encoder state is coupled with some
decoder state -/
def LoopPost {H : Type} (window : Nat) (Inv : EncState H → Spec.Entropy → Prop) (full : List Byte) (n : Nat)
    (e : Spec.Entropy) (r : LoopOut H) : Prop :=
  (∃ e', Inv r.st e') ∧ ∀ (tail : List Byte) (dfuel consumed : Nat), r.bytes.length ≤ dfuel →
    Spec.decodeBlocks window #[] dfuel (r.bytes ++ tail) e (full.take n).toArray consumed =
      some (full.toArray, consumed + r.bytes.length)

theorem compressLoop_sim {H : Type} (window : Nat) (Inv : EncState H → Spec.Entropy → Prop)
    (Pre : List Byte → List Byte → Parse → Prop) (A : Fault → Prop) (emit : Emit H) (script : Nat → MBlock)
    (hspace : ∀ i, 0 < (script i).space) (hemit : EmitSim window Inv Pre A emit) (full : List Byte)
    (hpre : ∀ i, blockAt script full i ≠ [] → Pre (full.take (blockStart script i)) (blockAt script full i) (script i).parse) :
    ∀ fuel idx st hashed frags, full.length - blockStart script idx < fuel → ∀ e, Inv st e →
      ReturnsOr (LoopPost window Inv full (blockStart script idx) e) A
        (compressLoop emit script fuel idx st hashed (full.drop (blockStart script idx)) frags) := by
  refine compressLoop_induct emit script hspace full
    (fun idx st _ res => ∀ e, Inv st e → ReturnsOr (LoopPost window Inv full (blockStart script idx) e) A res) ?_ ?_ ?_ ?_
  · intro idx st _ hd e hinv
    refine .intro_ok rfl ⟨⟨e, hinv⟩, fun tail dfuel consumed hfuel => ?_⟩
    simp only [empty_block_bytes, List.length_cons, List.length_nil] at hfuel ⊢
    obtain ⟨d, rfl⟩ : ∃ d, dfuel = d + 1 := ⟨dfuel - 1, by omega⟩
    simp [Spec.decodeBlocks, Spec.parseBlockHeader, List.take_of_length_le hd]
  · intro idx st _ last f hne hem e hinv
    exact .intro_error rfl ((hemit last _ _ st e _ hne (hpre idx hne) hinv).of_error hem)
  · intro idx st _ bytes st' hne hgt hem e hinv
    obtain ⟨hpos, e', hinv', hdec⟩ := (hemit true _ _ st e _ hne (hpre idx hne) hinv).of_ok hem
    refine .intro_ok rfl ⟨⟨e', hinv'⟩, fun tail dfuel consumed hfuel => ?_⟩
    obtain ⟨d, rfl⟩ : ∃ d, dfuel = d + 1 := ⟨dfuel - 1, by simp only at hfuel hpos; omega⟩
    rw [hdec tail d consumed, if_pos rfl, take_append_blockAt, List.take_of_length_le (Nat.le_of_lt hgt)]
  · intro idx st _ bytes st' res hne _ hem ih e hinv
    obtain ⟨hpos, e', hinv', hdec⟩ := (hemit false _ _ st e _ hne (hpre idx hne) hinv).of_ok hem
    refine (ih e' hinv').map _ fun r ⟨hI, hr⟩ => ⟨hI, fun tail dfuel consumed hfuel => ?_⟩
    simp only [List.length_append] at hfuel hpos ⊢
    obtain ⟨d, rfl⟩ : ∃ d, dfuel = d + 1 := ⟨dfuel - 1, by omega⟩
    rw [List.append_assoc, hdec (r.bytes ++ tail) d consumed, if_neg Bool.false_ne_true, take_append_blockAt,
      hr tail d _ (by omega), Nat.add_assoc]

end Zstd.Proofs.Enc
