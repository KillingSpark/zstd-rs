import Zstd.Proofs.BlkCoupled
/-
Shared statement for the refinement of `read_weights` (C01): the FSE table of the compressed weights.
The Spec reads the description from the `header` bytes of the tree description with the RFC's
alphabet bound (weights 0..12), the code reads it from everything that follows the header byte with
`max_symbol = 255` and checks the byte count afterwards.
-/
namespace Zstd.Proofs.Blk
open Zstd Zstd.Model

/-- proved in `Proofs/BlkHufWeightsTable` (`weightsTableRefines`), which `Proofs/BlkHufWeightsRefines` uses -/
def WeightsTableRefines : Prop :=
  ∀ (rest : List Nat) (header al used : Nat) (probs : List Int) (T : Spec.Fse.Table),
    Zstd.Proofs.BitIO.Bytes rest →
    Spec.Fse.readDescription (rest.take header) 6 255 = some (al, probs, used) →
    Spec.Fse.buildTable al probs = some T →
    ∃ ft, (Fse.DTable.new Gen.hufFseMaxSymbol).buildDecoder rest.toArray Gen.hufWeightsMaxLogDec = (ft, .ok used) ∧
      FseBuilt 6 ft ∧ T = specOf ft

end Zstd.Proofs.Blk
