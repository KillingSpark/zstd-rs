import Zstd.Proofs.MatchDriver
/-
The match finder: the driver-level vocabulary of the property statements
(`windowBytes`, `block`, `retainedBefore`) in terms of the proof vocabulary (`flat`, `shape`, `total`);
what each call does to the retained window and what `start_matching` reports per sequence, in the form
Props/C17 cites.  The `_core` statements do not speak of reachability: they start from the invariant `Inv`, or
from nothing where nothing is needed; the facts per reported sequence and `commitSpace_one_slice` are for
reachable states.  Vector capacities under the documented protocol.
-/
namespace Zstd.Proofs.MG
open Zstd Zstd.Model.MG

theorem windowBytes_eq (d : Driver) : d.windowBytes = flat (shape d.mg.window) := by
  simp [Driver.windowBytes, flat, shape, List.flatMap_map]

theorem shape_dropLast (w : List Entry) : (shape w).dropLast = shape w.dropLast := by
  simp [shape, List.map_dropLast]

theorem retainedBefore_eq (d : Driver) : d.retainedBefore = total (shape d.mg.window).dropLast := by
  rw [shape_dropLast]
  simp [Driver.retainedBefore, total, shape, List.map_map, Function.comp_def]

theorem block_eq (d : Driver) (last : Entry) (h : d.mg.window.getLast? = some last) : d.block = last.data.toList := by
  simp [Driver.block, h]

theorem shape_getLast? (w : List Entry) (last : Entry) (h : w.getLast? = some last) :
    (shape w).getLast? = some (last.data, last.baseOffset) := by
  simp [shape, List.getLast?_map, h]

theorem windowBytes_split (d : Driver) (last : Entry) (h : d.mg.window.getLast? = some last) :
    d.windowBytes = d.windowBytes.take d.retainedBefore ++ d.block ∧ d.retainedBefore + d.block.length = d.windowBytes.length := by
  have hl := shape_getLast? _ _ h
  rw [windowBytes_eq, retainedBefore_eq, block_eq d last h, flat_eq_of_getLast? hl]
  constructor
  · rw [List.take_append_of_le_length (by simp), List.take_of_length_le (by simp)]
  · simp

section
variable (key : KeyFn) (d d' : Driver) (seqs : List Seq)

theorem start_core (hinv : Inv d) (h : d.startMatching key = .ok (d', seqs)) :
    ∃ last, d.mg.window.getLast? = some last ∧ Parse last.data (shape d.mg.window) d.mg.suffixIdx seqs := by
  obtain ⟨g, hg, rfl⟩ := Driver.startMatching_eq_ok.mp h
  obtain ⟨last, hs, _, _, _, hp⟩ := (startMatching_sat key d.mg hinv.wf hinv.sok).of_ok hg
  exact ⟨last, hs.hlast, hp⟩

theorem sameWindow_bytes {d : Driver} {g : MatchGenerator} {last : Entry} (hs : SameWindow d.mg g last) :
    ({ d with mg := g } : Driver).windowBytes = d.windowBytes ∧ ({ d with mg := g } : Driver).block = d.block := by
  obtain ⟨st, hl⟩ := hs.getLast?
  exact ⟨by rw [windowBytes_eq, windowBytes_eq, hs.shape], by rw [block_eq _ _ hl, block_eq d last hs.hlast]⟩

theorem processed_of_end {g : MatchGenerator} {last : Entry} (hl : g.window.getLast? = some last)
    (h : g.suffixIdx = last.data.size) : g.processed = true := by
  simp [MatchGenerator.processed, hl, h]

theorem matching_keeps_window_core (hinv : Inv d) (h : d.startMatching key = .ok (d', seqs)) :
    d'.windowBytes = d.windowBytes ∧ d'.block = d.block ∧ d'.mg.processed = true := by
  obtain ⟨g, hg, rfl⟩ := Driver.startMatching_eq_ok.mp h
  obtain ⟨last, hs, _, _, hend, _⟩ := (startMatching_sat key d.mg hinv.wf hinv.sok).of_ok hg
  obtain ⟨st, hl'⟩ := hs.getLast?
  exact ⟨(sameWindow_bytes hs).1, (sameWindow_bytes hs).2, processed_of_end hl' hend⟩

theorem skip_keeps_window_core (h : d.skipMatching key = .ok d') :
    d'.windowBytes = d.windowBytes ∧ d'.mg.processed = true := by
  obtain ⟨g, hg, rfl⟩ := Driver.skipMatching_eq_ok.mp h
  obtain ⟨last, hs, _, hend⟩ := skipMatching_same hg
  obtain ⟨st, hl'⟩ := hs.getLast?
  exact ⟨(sameWindow_bytes hs).1, processed_of_end hl' hend⟩

theorem commit_fresh_core (hinv : Inv d) (space : Array Byte) (cap : Nat) (h : d.commitSpace space cap = .ok d') :
    d'.mg.suffixIdx = 0 ∧ d'.block = space.toList ∧
    (∃ k, d'.windowBytes = d.windowBytes.drop k ++ space.toList) ∧
    d'.windowBytes.length ≤ d'.windowSize ∧ d'.windowSize = d.windowSize := by
  obtain ⟨hinv', hm, hs, ev, kept, st, hw, hw'⟩ := (commitSpace_sat d space cap hinv).of_ok h
  refine ⟨hs, ?_, ⟨(flat (shape ev)).length, ?_⟩, ?_, hm⟩
  · simp [Driver.block, hw']
  · rw [windowBytes_eq, windowBytes_eq]
    simp only [hw', hw, shape_append, flat_append, flat_shiftBases]
    simp [flat]
  · rw [windowBytes_eq, flat_length, ← hinv'.wf.size]
    exact hinv'.wf.le_max

theorem reset_empties_window_core : d.reset.windowBytes = [] ∧ d.reset.mg.processed = true := by
  simp [Driver.reset, Driver.recycle, MatchGenerator.reset, Driver.windowBytes, MatchGenerator.processed]

end

theorem startMatching_literals (key : KeyFn) (sl n : Nat) (d d' : Driver) (seqs : List Seq) (hr : Reachable key sl n d) (h : d.startMatching key = .ok (d', seqs))
    (i : Nat) (sq : Seq) (hi : seqs[i]? = some sq) :
    sq.lits = (d.block.drop (d.mg.suffixIdx + startOf seqs i)).take sq.lits.length ∧
    d.mg.suffixIdx + startOf seqs i + sq.span ≤ d.block.length := by
  obtain ⟨last, hl, hp⟩ := start_core key d d' seqs (reachable_spec key sl n d hr).1 h
  rw [block_eq d last hl]
  obtain ⟨h1, h2, _, _⟩ := (parse_index _ _ seqs _ hp).2 i sq hi
  refine ⟨?_, by simpa using h2⟩
  rw [lits_eq] at h1
  have : d.mg.suffixIdx + startOf seqs i + sq.lits.length - (d.mg.suffixIdx + startOf seqs i) = sq.lits.length := by
    omega
  rw [this] at h1
  exact h1

theorem startMatching_match_facts (key : KeyFn) (sl n : Nat) (d d' : Driver) (seqs : List Seq) (hr : Reachable key sl n d) (h : d.startMatching key = .ok (d', seqs))
    (i : Nat) (l : List Byte) (off ml : Nat) (hi : seqs[i]? = some (.triple l off ml)) :
    let p := d.retainedBefore + (d.mg.suffixIdx + startOf seqs i + l.length)
    minMatchLen ≤ ml ∧ ml ≤ off ∧ off ≤ p ∧ p + ml ≤ d.windowBytes.length ∧ off ≤ d.windowSize ∧
    ∀ k, k < ml → d.windowBytes[p + k - off]? = d.windowBytes[p + k]? := by
  obtain ⟨hinv, _⟩ := reachable_spec key sl n d hr
  have hwf := hinv.wf
  obtain ⟨last, hl, hp⟩ := start_core key d d' seqs hinv h
  obtain ⟨_, h2, h3, _⟩ := (parse_index _ _ seqs _ hp).2 i _ hi
  obtain ⟨g1, g2, g3, g4, g5⟩ := goodIn_bytes _ last.data last.baseOffset _ off ml hwf.base (shape_getLast? _ _ hl)
    (h3 l off ml rfl)
  have htot : total (shape d.mg.window) ≤ d.windowSize := hwf.size ▸ hwf.le_max
  have hsplit := (windowBytes_split d last hl).2
  rw [block_eq d last hl] at hsplit
  simp only [Array.length_toList] at hsplit
  have hwl : d.windowBytes.length = total (shape d.mg.window) := by rw [windowBytes_eq]; simp
  simp only []
  rw [retainedBefore_eq, windowBytes_eq]
  rw [retainedBefore_eq] at hsplit
  refine ⟨g1, g2, g3, by simp only [flat_length]; omega, by omega, ?_⟩
  intro k hk
  have := g5 k hk
  simpa [Nat.add_assoc] using this

theorem extract_eq_of_getElem? {α} (W : List α) (a b n : Nat) (h : ∀ k, k < n → W[a + k]? = W[b + k]?) :
    W.extract a (a + n) = W.extract b (b + n) := by
  apply List.ext_getElem?
  intro k
  simp only [List.extract_eq_take_drop, List.getElem?_take, List.getElem?_drop, Nat.add_sub_cancel_left]
  split
  · exact h k ‹_›
  · rfl

theorem startMatching_true_match (key : KeyFn) (sl n : Nat) (d d' : Driver) (seqs : List Seq) (hr : Reachable key sl n d) (h : d.startMatching key = .ok (d', seqs))
    (i : Nat) (l : List Byte) (off ml : Nat) (hi : seqs[i]? = some (.triple l off ml)) :
    let p := d.retainedBefore + (d.mg.suffixIdx + startOf seqs i + l.length)
    d.windowBytes.extract (p - off) (p - off + ml) = d.windowBytes.extract p (p + ml) ∧
    (d.windowBytes.extract p (p + ml)).length = ml := by
  obtain ⟨_, _, h3, h4, _, h6⟩ := startMatching_match_facts key sl n d d' seqs hr h i l off ml hi
  simp only [] at h3 h4 h6 ⊢
  refine ⟨extract_eq_of_getElem? _ _ _ _ fun k hk => ?_, by simp [List.extract_eq_take_drop]; omega⟩
  rw [← Nat.sub_add_comm h3]
  exact h6 k hk

theorem commitSpace_one_slice (key : KeyFn) (sl : Nat) (d d' : Driver) (hr : Reachable key sl 1 d) (space : Array Byte) (cap : Nat)
    (h : d.commitSpace space cap = .ok d') (hne : 0 < space.size)
    (hfull : d.mg.window = [] ∨ d.block.length = sl) :
    d'.retainedBefore = 0 ∧ d'.windowBytes = space.toList := by
  obtain ⟨hinv, hmax, _⟩ := reachable_spec key sl 1 d hr
  obtain ⟨⟨hwf', _, _⟩, hm', _, ev, kept, st, hw, hw'⟩ := (commitSpace_sat d space cap hinv).of_ok h
  -- eviction removes whole blocks, and nothing of the old window can stay
  have hkept : kept = [] := by
    rcases hfull with hnil | hfullb
    · rw [hnil] at hw
      exact (List.append_eq_nil_iff.mp hw.symm).2
    · cases hkl : kept.getLast? with
      | none => exact List.getLast?_eq_none_iff.mp hkl
      | some lastk =>
        -- the old last block is full, so together with a non-empty new block it exceeds the one slice
        exfalso
        have hgl : d.mg.window.getLast? = some lastk := by rw [hw, List.getLast?_append, hkl]; rfl
        rw [block_eq d lastk hgl, Array.length_toList] at hfullb
        have hk := total_dropLast_add_last _ _ (shape_getLast? kept lastk hkl)
        have hsz := hwf'.size
        have hle := hwf'.le_max
        rw [hw', shape_append, total_append, total_shiftBases] at hsz
        simp only [shape_cons, shape_nil, total_cons, total_nil] at hsz hk
        rw [hm', hmax] at hle
        omega
  subst hkept
  constructor
  · simp [Driver.retainedBefore, hw', shiftBases]
  · rw [windowBytes_eq]
    simp [hw', shiftBases, flat]

section
variable (key : KeyFn) (d d' : Driver)

def caps (w : List Entry) : List (Array Byte × Nat) := w.map (fun e => (e.data, e.cap))

theorem caps_append (a b : List Entry) : caps (a ++ b) = caps a ++ caps b := by simp [caps]

theorem SameWindow.caps {g g' : MatchGenerator} {last : Entry} (h : SameWindow g g' last) :
    MG.caps g'.window = MG.caps g.window :=
  h.map _ fun _ _ => rfl

/-- every vector the driver owns has the capacity `slice_size` (true as long as only spaces obtained
from `get_next_space` are committed).  It is why `get_next_space` hands out `slice_size` bytes, so that the
blocks of a frame start at multiples of `slice_size` and each fits the window (MatchValid). -/
def CapsOk (d : Driver) : Prop :=
  (∀ v ∈ d.vecPool, v.size = d.sliceSize) ∧ (∀ p ∈ caps d.mg.window, p.1.size ≤ p.2 ∧ p.2 = d.sliceSize)

theorem recycleVec_size (data : Array Byte) (cap : Nat) (h : data.size ≤ cap) : (recycleVec data cap).size = cap := by
  unfold recycleVec
  split
  · simp; omega
  · simp; omega

theorem capsOk_recycle (d : Driver) (released : List Entry) (hp : ∀ v ∈ d.vecPool, v.size = d.sliceSize)
    (hr : ∀ p ∈ caps released, p.1.size ≤ p.2 ∧ p.2 = d.sliceSize) :
    ∀ v ∈ (d.recycle released).vecPool, v.size = d.sliceSize := by
  intro v hv
  simp only [Driver.recycle, List.mem_append, List.mem_map] at hv
  rcases hv with hv | ⟨e, he, rfl⟩
  · exact hp v hv
  · obtain ⟨h1, h2⟩ := hr (e.data, e.cap) (by simp only [caps, List.mem_map]; exact ⟨e, he, rfl⟩)
    rw [recycleVec_size _ _ h1]; exact h2

theorem protocol_caps_preserved_core (hc : CapsOk d) (op : Op) (h : d.step key op = .ok d')
    (hop : ∀ space cap, op = .commitSpace space cap → space.size ≤ cap ∧ cap = d.sliceSize) :
    CapsOk d' ∧ d'.sliceSize = d.sliceSize := by
  refine ⟨?_, step_sliceSize h⟩
  obtain ⟨hc1, hc2⟩ := hc
  rcases step_cases h with ⟨_, rfl⟩ | ⟨_, rfl⟩ | ⟨space, cap, g, ev, rfl, hadd, rfl⟩ | ⟨g, _, _, hg, rfl⟩ | ⟨g, _, hg, rfl⟩
  · refine ⟨capsOk_recycle { d with mg := d.mg.reset.1 } d.mg.window hc1 hc2, ?_⟩
    intro p hp
    simp [Driver.reset, Driver.recycle, MatchGenerator.reset, caps] at hp
  · exact ⟨fun v hv => hc1 v (List.dropLast_subset _ hv), hc2⟩
  · -- the evicted vectors go to the pool, the kept ones stay, the new one is as the caller promises
    obtain ⟨_, _, w, ws, hloop, rfl⟩ := addData_eq_ok.mp hadd
    obtain ⟨hw, _, _⟩ := (reserveLoop_sat _ _ _ _).of_ok hloop
    have hcw : caps d.mg.window = caps ev ++ caps w := by rw [hw, caps_append]
    obtain ⟨L, hL, _⟩ := shiftBases_eq w
    have hsh : caps (shiftBases w) = caps w := by rw [hL]; simp [caps, List.map_map, Function.comp_def]
    refine ⟨capsOk_recycle _ ev hc1 fun p hp => hc2 p (by rw [hcw]; exact List.mem_append_left _ hp), ?_⟩
    intro p hp
    simp only [Driver.recycle, caps_append, hsh, List.mem_append] at hp
    rcases hp with hp | hp
    · exact hc2 p (by rw [hcw]; exact List.mem_append_right _ hp)
    · obtain rfl := List.mem_singleton.mp hp
      exact hop space cap rfl
  · obtain ⟨_, hs⟩ := startLoop_same key _ _ _ _ hg
    exact ⟨hc1, fun p hp => hc2 p (hs.caps ▸ hp)⟩
  · obtain ⟨_, hs, _⟩ := skipMatching_same hg
    exact ⟨hc1, fun p hp => hc2 p (hs.caps ▸ hp)⟩

theorem protocol_next_space_core (hc : CapsOk d) : d.getNextSpace.2.size = d.sliceSize := by
  unfold Driver.getNextSpace
  split
  · rename_i v hv
    exact hc.1 v (List.mem_of_getLast? hv)
  · simp

end

end Zstd.Proofs.MG
