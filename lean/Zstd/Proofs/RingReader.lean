import Zstd.Proofs.RingOps
/-
`extend_from_reader`: every write goes to free cells, `tail` moves only when the reader delivered everything.
-/
namespace Zstd.Model
open Zstd

namespace RingBuffer

variable {r : RingBuffer}

theorem extendFromReader_ok (hI : r.Inv) (avail : List Byte) (n : Nat) :
    ∃ r' ok rest, r.extendFromReader avail n = .ok (r', ok, rest) ∧ r'.Inv ∧
      (n ≤ avail.length → ok = true ∧ r'.abs = r.abs ++ avail.take n ∧ rest = avail.drop n) ∧
      (avail.length < n → ok = false ∧ r'.abs = r.abs) ∧ CapStep r r' n := by
  unfold extendFromReader
  by_cases hn : n = 0
  · subst hn
    simp only [↓reduceIte, pure_eq_ok]
    exact ⟨r, true, avail, rfl, hI, fun _ => ⟨rfl, by simp, by simp⟩, fun h => by omega, CapStep.of_eq rfl _⟩
  · simp only [hn, ↓reduceIte]
    obtain ⟨r1, s1, s2, f1, f2, hres, hR, hc1, efs, hS, hroom⟩ := reserve_slices hI (Nat.pos_of_ne_zero hn)
    have hI1 := hR.inv
    have hf1 := hR.free
    rw [hres, ok_bind, efs, ok_bind, check_bind hroom]
    dsimp only
    generalize hk : min f1 n = k
    obtain ⟨⟨hg1, hin1, hoff1⟩, hg2, hin2, hoff2⟩ := hS.pieces hf1 hk.symm
    have hkn : k ≤ n := by omega
    clear efs hk
    -- every write goes to free cells; `data` only matters on the successful path
    have hF0 := Filled.refl r1 (avail.take n)
    -- a failed end: free cells overwritten, `tail` not advanced
    have stay : ∀ {m' : Mem} {lg : List Ev} {t : Nat}, Filled r1 m' (avail.take n) t →
        ({ r1 with mem := m', log := lg } : RingBuffer).Inv ∧
        ({ r1 with mem := m', log := lg } : RingBuffer).abs = r.abs := by
      intro m' lg t hF
      have := hF.unchanged hI1 hc1 (r' := { r1 with mem := m', log := lg }) rfl rfl rfl
      exact ⟨this.1, by rw [this.2.1, hR.abs]⟩
    obtain ⟨m1, hw1, hF1⟩ := hF0.scribble hI1 hc1 "ringbuffer.rs:extend_from_reader:zero1"
      (l := List.replicate k 0) (Nat.le_of_eq List.length_replicate) hg1 hin1 hoff1
    rw [hw1, ok_bind]
    by_cases hs1 : avail.length < k
    · -- the first read_exact fails
      simp only [hs1, ↓reduceIte]
      obtain ⟨m1', hw1', hF1'⟩ := hF1.scribble hI1 hc1 "ringbuffer.rs:extend_from_reader:read1"
        (l := avail) (Nat.le_of_lt hs1) hg1 hin1 hoff1
      rw [hw1', ok_bind, pure_eq_ok]
      exact ⟨_, false, [], rfl, (stay hF1').1, fun h => by omega, fun _ => ⟨rfl, (stay hF1').2⟩,
        hR.capStep.trans_eq rfl⟩
    · simp only [hs1, ↓reduceIte]
      have hl1 : (avail.take k).length = k := by rw [List.length_take]; omega
      obtain ⟨m1', hw1', hF1'⟩ := hF1.append hI1 hc1 "ringbuffer.rs:extend_from_reader:read1"
        (l := avail.take k) (off := r1.tail)
        (fun i hi => by rw [getD_take (by omega), getD_take (by omega), Nat.zero_add])
        (by rw [hl1]; exact hg1) (by rw [hl1]; exact hin1) (by rw [hl1]; exact hoff1)
      rw [hl1, Nat.zero_add] at hF1'
      rw [hw1', ok_bind]
      have hdl : n ≤ avail.length → (avail.take n).length = n := fun h => by rw [List.length_take]; omega
      -- the successful end: all `n` cells written, `tail` advanced
      have fin : ∀ {m' : Mem} {lg : List Ev}, n ≤ avail.length → Filled r1 m' (avail.take n) n →
          Grown r { r1 with mem := m', tail := (r1.tail + n) % r1.cap, log := lg } (r.abs ++ avail.take n) n :=
        fun hle hF => hR.grown hc1 (hdl hle) (by rw [hdl hle]; exact hF) rfl rfl (by rw [hdl hle])
      by_cases hk2 : k < n
      · simp only [hk2, ↓reduceIte]
        obtain ⟨m2, hw2, hF2⟩ := hF1'.scribble hI1 hc1 "ringbuffer.rs:extend_from_reader:zero2"
          (l := List.replicate (n - k) 0) (Nat.le_of_eq List.length_replicate) hg2 hin2 hoff2
        rw [hw2, ok_bind]
        by_cases hs2 : (avail.drop k).length < n - k
        · -- the second read_exact fails
          simp only [hs2, ↓reduceIte]
          obtain ⟨m2', hw2', hF2'⟩ := hF2.scribble hI1 hc1 "ringbuffer.rs:extend_from_reader:read2"
            (l := avail.drop k) (Nat.le_of_lt hs2) hg2 hin2 hoff2
          rw [hw2', ok_bind, pure_eq_ok, ok_bind]
          simp only [Bool.false_eq_true, ↓reduceIte, pure_eq_ok]
          rw [List.length_drop] at hs2
          exact ⟨_, false, [], rfl, (stay hF2').1, fun h => by omega, fun _ => ⟨rfl, (stay hF2').2⟩,
            hR.capStep.trans_eq rfl⟩
        · simp only [hs2, ↓reduceIte]
          rw [List.length_drop] at hs2
          have hl2 : ((avail.drop k).take (n - k)).length = n - k := by
            rw [List.length_take, List.length_drop]; omega
          obtain ⟨m2', hw2', hF2'⟩ := hF2.append hI1 hc1 "ringbuffer.rs:extend_from_reader:read2"
            (l := (avail.drop k).take (n - k)) (off := 0)
            (fun i hi => by rw [getD_take (by omega), getD_drop, getD_take (by omega)])
            (by rw [hl2]; exact hg2) (by rw [hl2]; exact hin2) (by rw [hl2]; exact hoff2)
          rw [hl2, show k + (n - k) = n by omega] at hF2'
          rw [hw2', ok_bind, pure_eq_ok, ok_bind]
          simp only [↓reduceIte]
          rw [umod_ok hc1, ok_bind, pure_eq_ok]
          refine ⟨_, true, _, rfl, (fin (by omega) hF2').inv, fun _ => ⟨rfl, (fin (by omega) hF2').abs, ?_⟩,
            fun h => by omega, hR.capStep.trans_eq rfl⟩
          show (avail.drop k).drop (n - k) = _
          rw [List.drop_drop]; congr 1; omega
      · simp only [hk2, ↓reduceIte, pure_eq_ok, ok_bind]
        rw [umod_ok hc1, ok_bind]
        have hkn' : k = n := by omega
        rw [hkn'] at hF1'
        refine ⟨_, true, _, rfl, (fin (by omega) hF1').inv, fun _ => ⟨rfl, (fin (by omega) hF1').abs, ?_⟩,
          fun h => by omega, hR.capStep.trans_eq rfl⟩
        show avail.drop k = _
        rw [hkn']

end RingBuffer

end Zstd.Model
