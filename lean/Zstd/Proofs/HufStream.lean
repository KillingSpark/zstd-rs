import Zstd.Model.Huffman
/-
Bit-level lemmas for the Huffman streams: `padVal` (a read with zero fill) is what the model's reversed reader returns
(`getBits_spec`); the reader inverts the encoder's byte packing (`revBits_packRev`); `Win` is the decoder's state window
in front of the bits that remain (`step_win_cell`).  `DecodesCode`, the hypothesis of the stream round trips, is defined
here and used from `Proofs/LitCoderStream` on.
-/
namespace Zstd.Proofs.Huf
open Zstd Zstd.Model.Huf Zstd.Model.Huf.Bits

theorem valBE_acc (l : List Bool) (acc : Nat) : valBE l acc = acc * 2 ^ l.length + valBE l 0 := by
  induction l generalizing acc with
  | nil => simp [valBE]
  | cons b bs ih =>
    simp only [valBE, List.length_cons]
    rw [ih (2 * acc + _), ih (2 * 0 + _)]
    rw [Nat.pow_succ, Nat.add_mul]
    simp only [Nat.mul_zero, Nat.zero_add]
    have : 2 * acc * 2 ^ bs.length = acc * (2 ^ bs.length * 2) := by
      rw [Nat.mul_comm 2 acc, Nat.mul_assoc, Nat.mul_comm 2]
    omega

theorem valBE_append (a b : List Bool) : valBE (a ++ b) 0 = valBE a 0 * 2 ^ b.length + valBE b 0 := by
  induction a generalizing b with
  | nil => simp [valBE]
  | cons x xs ih =>
    simp only [List.cons_append, valBE]
    rw [valBE_acc, valBE_acc xs, ih, List.length_append, Nat.pow_add]
    simp only [Nat.mul_zero, Nat.zero_add]
    rw [Nat.add_mul, Nat.mul_assoc]
    omega

theorem valBE_lt (l : List Bool) : valBE l 0 < 2 ^ l.length := by
  induction l with
  | nil => simp [valBE]
  | cons b bs ih =>
    simp only [valBE, List.length_cons]
    rw [valBE_acc, Nat.pow_succ]
    have : (2 * 0 + if b = true then 1 else 0) ≤ 1 := by split <;> omega
    have h2 : (2 * 0 + if b = true then 1 else 0) * 2 ^ bs.length ≤ 1 * 2 ^ bs.length := Nat.mul_le_mul_right _ this
    omega

theorem valBE_replicate_false (k : Nat) : valBE (List.replicate k false) 0 = 0 := by
  induction k with
  | zero => rfl
  | succ k ih => simp [List.replicate_succ, valBE, ih]

theorem bitsBE_length (n v : Nat) : (bitsBE n v).length = n := by
  induction n with
  | zero => rfl
  | succ n ih => simp [bitsBE, ih]

theorem valBE_bitsBE (n v : Nat) : valBE (bitsBE n v) 0 = v % 2 ^ n := by
  induction n with
  | zero => simp [bitsBE, valBE, Nat.mod_one]
  | succ n ih =>
    simp only [bitsBE, valBE]
    rw [valBE_acc, ih, bitsBE_length, Nat.mod_pow_succ]
    have : (2 * 0 + if (v / 2 ^ n % 2 == 1) = true then 1 else 0) = v / 2 ^ n % 2 := by
      have h := Nat.mod_two_eq_zero_or_one (v / 2 ^ n)
      rcases h with h | h <;> simp [h]
    rw [this, Nat.mul_comm]; omega

theorem bitsBE_add_mul (n v : Nat) : ∀ a, bitsBE n (v + a * 2 ^ n) = bitsBE n v := by
  induction n with
  | zero => intro a; rfl
  | succ n ih =>
    intro a
    have e : a * 2 ^ (n + 1) = 2 * a * 2 ^ n := by rw [Nat.pow_succ, Nat.mul_comm 2 a, Nat.mul_assoc, Nat.mul_comm 2]
    rw [bitsBE, bitsBE, e, ih, Nat.add_mul_div_right _ _ (Nat.two_pow_pos n), Nat.add_mul_mod_self_left]

theorem bitsBE_valBE (l : List Bool) : bitsBE l.length (valBE l 0) = l := by
  induction l with
  | nil => rfl
  | cons b bs ih =>
    rw [valBE, valBE_acc, Nat.add_comm, List.length_cons, bitsBE, bitsBE_add_mul, ih,
      Nat.add_mul_div_right _ _ (Nat.two_pow_pos _), Nat.div_eq_of_lt (valBE_lt bs)]
    cases b <;> rfl

/-- `n` bits requested from a bit list, with zero fill when it is shorter -/
def padVal (n : Nat) (X : List Bool) : Nat := valBE (X.take n) 0 * 2 ^ (n - X.length)

theorem padVal_lt (n : Nat) (X : List Bool) : padVal n X < 2 ^ n := by
  unfold padVal
  have h := valBE_lt (X.take n)
  rw [List.length_take] at h
  have hp := Nat.two_pow_pos (n - X.length)
  have : valBE (X.take n) 0 * 2 ^ (n - X.length) < 2 ^ (min n X.length) * 2 ^ (n - X.length) :=
    Nat.mul_lt_mul_of_pos_right h hp
  rw [← Nat.pow_add] at this
  have e : min n X.length + (n - X.length) = n := by omega
  rw [e] at this; exact this

theorem padVal_code (m nb c : Nat) (R : List Bool) (hnb : nb ≤ m) (hc : c < 2 ^ nb) :
    padVal m (bitsBE nb c ++ R) = c * 2 ^ (m - nb) + padVal (m - nb) R := by
  unfold padVal
  have ht : (bitsBE nb c ++ R).take m = bitsBE nb c ++ R.take (m - nb) := by
    rw [List.take_append, bitsBE_length]
    rw [List.take_of_length_le (by rw [bitsBE_length]; exact hnb)]
  rw [ht, valBE_append, valBE_bitsBE, Nat.mod_eq_of_lt hc, List.length_append, bitsBE_length,
    List.length_take, Nat.add_mul, Nat.mul_assoc, ← Nat.pow_add]
  congr 2
  · congr 1; omega
  · congr 1; omega

theorem padVal_shift (m nb : Nat) (R : List Bool) (hnb : nb ≤ m) :
    padVal m R = padVal (m - nb) R * 2 ^ nb + padVal nb (R.drop (m - nb)) := by
  unfold padVal
  rcases Nat.le_total R.length (m - nb) with hL | hL
  · rw [List.take_of_length_le (by omega : R.length ≤ m), List.take_of_length_le hL,
      List.drop_eq_nil_of_le hL]
    simp only [List.take_nil, valBE, Nat.zero_mul, Nat.add_zero]
    rw [Nat.mul_assoc, ← Nat.pow_add]
    congr 2; omega
  · have hm : m = (m - nb) + nb := by omega
    have ht : R.take m = R.take (m - nb) ++ (R.drop (m - nb)).take nb := by
      conv => lhs; rw [hm]
      exact List.take_add
    rw [ht, valBE_append, List.length_take, List.length_drop, Nat.add_mul, Nat.mul_assoc, ← Nat.pow_add]
    have e0 : m - nb - R.length = 0 := by omega
    have e1 : min nb (R.length - (m - nb)) + (m - R.length) = nb := by omega
    have e2 : m - R.length = nb - (R.length - (m - nb)) := by omega
    rw [e0, e1, Nat.pow_zero, Nat.mul_one, e2]

theorem padVal_shiftLeft (m nb : Nat) (R : List Bool) (hnb : nb ≤ m) :
    padVal m R * 2 ^ nb % 2 ^ m = padVal (m - nb) (R.drop nb) * 2 ^ nb := by
  have hpow : 2 ^ m = 2 ^ (m - nb) * 2 ^ nb := by rw [← Nat.pow_add]; congr 1; omega
  have hst := padVal_shift m (m - nb) R (by omega)
  rw [show m - (m - nb) = nb by omega] at hst
  rw [hst, Nat.add_mul, Nat.mul_assoc, ← hpow, Nat.add_comm, Nat.add_mul_mod_self_right]
  apply Nat.mod_eq_of_lt
  rw [hpow]
  exact Nat.mul_lt_mul_of_pos_right (padVal_lt (m - nb) (R.drop nb)) (Nat.two_pow_pos nb)

/-- the invariant of the model's reversed reader: `left` counts the bits not yet consumed (true of `RevReader.new`:
`Blk.ReaderOk_new`; kept by `getBits`: `getBits_ok`) -/
def ReaderOk (r : RevReader) : Prop := r.left = r.bits.length

theorem getBits_spec (r : RevReader) (h : ReaderOk r) (n : Nat) :
    r.getBits n = (padVal n r.bits,
      { bits := r.bits.drop n, left := (r.bits.drop n).length, over := r.over + (n - r.bits.length) }) := by
  unfold RevReader.getBits padVal
  unfold ReaderOk at h
  rw [h]
  by_cases hn : n ≤ r.bits.length
  · rw [if_pos hn]
    have e : n - r.bits.length = 0 := by omega
    simp only [e, Nat.pow_zero, Nat.mul_one, Nat.add_zero, List.length_drop]
  · rw [if_neg hn, List.take_of_length_le (by omega), List.drop_eq_nil_of_le (by omega)]
    simp

theorem getBits_ok (r : RevReader) (h : ReaderOk r) (n : Nat) : ReaderOk (r.getBits n).2 := by
  rw [getBits_spec r h]; rfl

theorem getBits_one (b : Bool) (S : List Bool) :
    ({ bits := b :: S, left := (b :: S).length, over := 0 } : RevReader).getBits 1
      = (if b then 1 else 0, { bits := S, left := S.length, over := 0 }) := by
  simp [RevReader.getBits, valBE]

theorem packRevAux_spec (r : List Bool) (acc : List Nat) (h : r.length % 8 = 0) :
    (∀ X, revBitsAux (packRevAux r acc) X = revBitsAux acc (r ++ X)) ∧
      (packRevAux r acc).length = r.length / 8 + acc.length ∧
      ((∀ b ∈ acc, b < 256) → ∀ b ∈ packRevAux r acc, b < 256) := by
  induction hn : r.length / 8 generalizing r acc with
  | zero =>
    obtain rfl : r = [] := List.eq_nil_of_length_eq_zero (by omega)
    exact ⟨fun _ => rfl, by simp [packRevAux], fun h => h⟩
  | succ n ih =>
    have hlen : r.length = 8 * n + 8 := by omega
    match r, hlen with
    | b7 :: b6 :: b5 :: b4 :: b3 :: b2 :: b1 :: b0 :: rest, hlen =>
      -- (`omega` is kept away from the `/ 8` and `% 8` facts: it splits on each of them)
      have hr : rest.length = 8 * n := by simpa using hlen
      obtain ⟨i1, i2, i3⟩ := ih rest (valBE [b7, b6, b5, b4, b3, b2, b1, b0] 0 :: acc)
        (by rw [hr]; exact Nat.mul_mod_right 8 n) (by rw [hr]; exact Nat.mul_div_cancel_left n (by decide))
      simp only [packRevAux]
      refine ⟨fun X => ?_, ?_, fun hacc => i3 fun b hb => ?_⟩
      · have h8 : bitsBE 8 (valBE [b7, b6, b5, b4, b3, b2, b1, b0] 0) = [b7, b6, b5, b4, b3, b2, b1, b0] :=
          bitsBE_valBE [b7, b6, b5, b4, b3, b2, b1, b0]
        rw [i1, revBitsAux, h8]
        rfl
      · rw [i2, List.length_cons]
        clear h hn
        omega
      · rcases List.mem_cons.mp hb with rfl | hb
        · simpa using valBE_lt [b7, b6, b5, b4, b3, b2, b1, b0]
        · exact hacc b hb

theorem revBits_packRev (r : List Bool) (h : r.length % 8 = 0) : revBits (packRev r) = r := by
  unfold revBits packRev
  rw [(packRevAux_spec r [] h).1]; simp [revBitsAux]

theorem packRev_length (r : List Bool) (h : r.length % 8 = 0) : 8 * (packRev r).length = r.length := by
  unfold packRev
  rw [(packRevAux_spec r [] h).2.1]; simp; omega

theorem finishStream_length_mod8 (bits : List Bool) : (finishStream bits).length % 8 = 0 := by
  unfold finishStream
  simp only [List.length_append, List.length_replicate, List.length_cons]
  split <;> omega

theorem finishStream_length_bounds (bits : List Bool) :
    bits.length < (finishStream bits).length ∧ (finishStream bits).length ≤ bits.length + 8 := by
  unfold finishStream
  simp only [List.length_append, List.length_replicate, List.length_cons]
  split <;> omega

theorem skipPadding_spec (S : List Bool) : ∀ (k fuel skipped : Nat), k + 1 ≤ fuel → skipped + k + 1 ≤ 8 →
    skipPadding fuel skipped
        { bits := List.replicate k false ++ true :: S, left := (List.replicate k false ++ true :: S).length, over := 0 }
      = (skipped + k + 1, { bits := S, left := S.length, over := 0 })
  | _, 0, _, hf, _ => by omega
  | 0, fuel + 1, skipped, _, _ => by
    simp only [List.replicate_zero, List.nil_append, skipPadding, getBits_one, if_true, true_or, Nat.add_zero]
  | k + 1, fuel + 1, skipped, hf, hs => by
    have : ¬ ((0 : Nat) = 1 ∨ skipped + 1 > Gen.hufMaxSkip) := by simp only [Gen.hufMaxSkip]; omega
    simp only [List.replicate_succ, List.cons_append, skipPadding, getBits_one, Bool.false_eq_true, if_false, this]
    rw [skipPadding_spec S k fuel (skipped + 1) (by omega) (by omega)]
    congr 1; omega

/-- The decoder table `tbl` decodes the code of the encoder table `t`: every cell whose index starts
with the code of `s` holds `(s, length of the code)`.  It is `Decodes` (Proofs/HufRoundtrip) for the model's table,
with the table's size and depth; `decodes_of_canon` establishes it. -/
structure DecodesCode (tbl : DecTable) (t : EncTable) (m : Nat) : Prop where
  mb : tbl.maxNumBits = m
  size : tbl.decode.size = 2 ^ m
  m1 : 1 ≤ m
  m11 : m ≤ 11
  cells : ∀ (s c nb : Nat), t.codes[s]? = some (c, nb) → 0 < nb →
    nb ≤ m ∧ c < 2 ^ nb ∧ ∀ j, j < 2 ^ (m - nb) → tbl.decode[c * 2 ^ (m - nb) + j]? = some { symbol := s, numBits := nb }

/-- the decoder stands in front of the remaining code bits `R`: the state holds the next `m` bits
(zero filled), the reader is `m` bits ahead -/
structure Win (m : Nat) (R : List Bool) (state : Nat) (r : RevReader) : Prop where
  st : state = padVal m R
  bits : r.bits = R.drop m
  left : r.left = (R.drop m).length
  over : r.over = m - R.length

theorem Win.remaining {m : Nat} {R : List Bool} {state : Nat} {r : RevReader} (w : Win m R state r) :
    r.bitsRemaining = (R.length : Int) - (m : Int) := by
  unfold RevReader.bitsRemaining
  rw [w.left, w.over, List.length_drop]
  omega

theorem initState_win (tbl : DecTable) (m : Nat) (hm : tbl.maxNumBits = m) (S : List Bool) :
    Win m S (initState tbl { bits := S, left := S.length, over := 0 }).1
      (initState tbl { bits := S, left := S.length, over := 0 }).2 := by
  unfold initState
  have hg := getBits_spec { bits := S, left := S.length, over := 0 } (show ReaderOk _ from rfl) m
  rw [hm, hg]
  exact ⟨rfl, rfl, rfl, by simp⟩

theorem step_win_cell (t : DecTable) {m : Nat} (hm : t.maxNumBits = m) (hsize : t.decode.size = 2 ^ m)
    (hm11 : m ≤ 11) {state sym nb : Nat} (hcell : t.decode[state]? = some { symbol := sym, numBits := nb })
    (hnbm : nb ≤ m) {R : List Bool} (hR : nb ≤ R.length) {r : RevReader} (w : Win m R state r) :
    decodeSymbol t state = .ok sym ∧
      ∃ state' r', nextState t state r = .ok (state', r') ∧ Win m (R.drop nb) state' r' := by
  have hentry : entryAt t state = .ok { symbol := sym, numBits := nb } := by
    unfold entryAt; rw [hcell]
  refine ⟨by unfold decodeSymbol; rw [hentry], ?_⟩
  have hrok : ReaderOk r := by unfold ReaderOk; rw [w.left, w.bits]
  unfold nextState
  rw [hentry]
  simp only
  rw [if_neg (by omega), getBits_spec r hrok nb]
  refine ⟨_, _, rfl, ?_⟩
  have hbits : r.bits = R.drop m := w.bits
  refine ⟨?_, ?_, ?_, ?_⟩
  · -- the new state: the old one without its top `nb` bits, shifted, with the next `nb` bits below
    rw [hsize, Nat.shiftLeft_eq, Nat.and_two_pow_sub_one_eq_mod,
      Nat.mod_mod_of_dvd _ (Nat.pow_dvd_pow 2 (by omega : m ≤ 64)), w.st, padVal_shiftLeft m nb R hnbm, hbits,
      ← Nat.shiftLeft_eq, ← Nat.shiftLeft_add_eq_or_of_lt (padVal_lt nb _), Nat.shiftLeft_eq]
    have := padVal_shift m nb (R.drop nb) hnbm
    rw [List.drop_drop, show nb + (m - nb) = m by omega] at this
    exact this.symm
  · simp only; rw [hbits, List.drop_drop, List.drop_drop]; congr 1; omega
  · simp only; rw [hbits, List.drop_drop, List.drop_drop]; congr 2; omega
  · simp only; rw [w.over, hbits, List.length_drop, List.length_drop]; omega

theorem codeBits_cons {t : EncTable} {s : Nat} {rest : List Nat} {bits : List Bool}
    (h : codeBits t (s :: rest) = .ok bits) :
    ∃ c nb bits', t.codes[s]? = some (c, nb) ∧ 0 < nb ∧ c < 2 ^ nb ∧ codeBits t rest = .ok bits' ∧
      bits = bitsBE nb c ++ bits' := by
  rw [codeBits] at h
  split at h
  · cases h
  · rename_i c nb hc
    split at h
    · cases h
    · split at h
      · cases h
      · split at h
        · cases h
        · rename_i bits' hr
          exact ⟨c, nb, bits', hc, by omega, by omega, hr, (Except.ok.inj h).symm⟩

theorem encodeStream_eq_ok {t : EncTable} {data bytes : List Nat} (h : encodeStream t data = .ok bytes) :
    ∃ S, codeBits t data = .ok S ∧ bytes = packRev (finishStream S) := by
  unfold encodeStream at h
  cases hcb : codeBits t data with
  | error f => rw [hcb] at h; cases h
  | ok S => rw [hcb] at h; cases h; exact ⟨S, rfl, rfl⟩

theorem encodeStream_bytes {t : EncTable} {data bytes : List Nat} (h : encodeStream t data = .ok bytes) :
    ∀ b ∈ bytes, b < 256 := by
  obtain ⟨S, _, rfl⟩ := encodeStream_eq_ok h
  exact (packRevAux_spec _ [] (finishStream_length_mod8 S)).2.2 (fun b hb => by cases hb)

end Zstd.Proofs.Huf
