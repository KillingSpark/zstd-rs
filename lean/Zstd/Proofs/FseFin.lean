import Zstd.Model.FseCore
/-
The arithmetic of one FSE table, for every accuracy log:

1. the states of a symbol with probability `p`.  `calc_baseline_and_numbits` cuts the table into
   `S = 2^⌈log₂ p⌉` slices of width `w = 2^AL / S`; the first `dbl = S − p` states get two slices each,
   at the top of the table, the other `p − dbl` one slice each, from 0 (`baseOf`, with `AL − ⌈log₂ p⌉ + 1`
   resp. `AL − ⌈log₂ p⌉` bits: the *slices form* of a state).  In baseline order the `j`-th
   state therefore begins at `start j = (j + (j − (p − dbl))) · w` (truncated subtraction).  The RFC
   procedure (`rfcEntry`) produces the same values, and everything about the intervals (they tile
   `[0, 2^AL)`, the search start of `SymbolStates::get`) is monotonicity of `start`.
2. the spreading walk: `next_position` adds an odd step modulo `2^AL`, so the orbit of 0 passes through
   every cell once and is back at 0 after `2^AL` steps; the cells handed out are the orbit's elements
   below `neg`.  `walk` is the list of cells the model's spreading loop hands out; the builder proofs
   (`FseDecTable/Model`, `FseEncTable/Enc`) are stated against it.
-/
namespace Zstd.Proofs.FseFin
open Zstd Zstd.Model.Fse

/-- the Spec's entry for the `k`-th state (in table order) of a symbol with probability `p`:
`next = p + k`, `nbBits = AL − ⌊log₂ next⌋`, `baseline = (next << nbBits) − 2^AL`
(this is literally what `Spec.Fse.buildTable` computes from its `next` counter) -/
def rfcEntry (al p k : Nat) : Nat × Nat :=
  let next := p + k
  let nb := al - Nat.log2 next
  (next * 2 ^ nb - 2 ^ al, nb)

/-- `(baseline, width)` of state number `k` -/
def interval (al p k : Nat) : Nat × Nat := ((rfcEntry al p k).1, 2 ^ (rfcEntry al p k).2)

/-- `⌈log₂ p⌉` as `calc_baseline_and_numbits` and the encoder compute it -/
def plog (p : Nat) : Nat := if 1 <<< Nat.log2 p = p then Nat.log2 p else Nat.log2 p + 1

/-- `dbl = 2^⌈log₂ p⌉ − p`: the number of states that get the double-width slice -/
def dblOf (p : Nat) : Nat := (if 1 <<< Nat.log2 p = p then p else 1 <<< (Nat.log2 p + 1)) - p

/-- the baseline `calc_baseline_and_numbits` gives state number `k` (table order) of a symbol with probability `p` -/
def baseOf (al p k : Nat) : Nat :=
  if k < dblOf p then (p - dblOf p) * 2 ^ (al - plog p) + k * 2 ^ (al - plog p) * 2
  else (k - dblOf p) * 2 ^ (al - plog p)

/-- position of state number `k` in baseline order -/
def posOf (p k : Nat) : Nat := if dblOf p ≤ k then k - dblOf p else p - dblOf p + k

/-- where the `j`-th state in baseline order begins -/
def start (al p j : Nat) : Nat := (j + (j - (p - dblOf p))) * 2 ^ (al - plog p)

/-- state numbers in order of increasing baseline: first `k ≥ dbl` (single width, from 0), then `k < dbl` -/
def orderedKs (p : Nat) : List Nat := (List.range' (dblOf p) (p - dblOf p)) ++ List.range (dblOf p)

theorem slices_eq (p : Nat) :
    (if 1 <<< Nat.log2 p = p then p else 1 <<< (Nat.log2 p + 1)) = 2 ^ plog p := by
  unfold plog
  simp only [Nat.one_shiftLeft]
  split
  · rename_i he; exact he.symm
  · rfl

theorem dblOf_eq (p : Nat) : dblOf p = 2 ^ plog p - p := by
  unfold dblOf; rw [slices_eq]

theorem plog_spec {p : Nat} (hp1 : 1 ≤ p) : p ≤ 2 ^ plog p ∧ 2 ^ plog p < 2 * p := by
  have h1 : 2 ^ Nat.log2 p ≤ p := Nat.log2_self_le (by omega)
  have h2 : p < 2 ^ (Nat.log2 p + 1) := Nat.lt_log2_self
  unfold plog
  rw [Nat.one_shiftLeft]
  split
  · omega
  · rw [Nat.pow_succ] at h2 ⊢; omega

theorem dblOf_lt {p : Nat} (hp1 : 1 ≤ p) : dblOf p < p := by
  have := plog_spec hp1; rw [dblOf_eq]; omega

theorem dblOf_le {p : Nat} (hp1 : 1 ≤ p) : dblOf p ≤ p := Nat.le_of_lt (dblOf_lt hp1)

section
variable {al p : Nat} (hp1 : 1 ≤ p) (hp : p ≤ 2 ^ al)
include hp1 hp

theorem plog_le : plog p ≤ al := by
  have h : 2 ^ plog p < 2 ^ (al + 1) := by
    have := plog_spec hp1; rw [Nat.pow_succ]; omega
  have := (Nat.pow_lt_pow_iff_right (by omega : 1 < 2)).1 h
  omega

theorem slices_mul_width : (p + dblOf p) * 2 ^ (al - plog p) = 2 ^ al := by
  have := plog_spec hp1
  rw [dblOf_eq, show p + (2 ^ plog p - p) = 2 ^ plog p by omega, ← Nat.pow_add]
  congr 1
  have := plog_le hp1 hp
  omega

theorem rfcEntry_eq_slices {k : Nat} (hk : k < p) :
    rfcEntry al p k = (baseOf al p k, if k < dblOf p then al - plog p + 1 else al - plog p) := by
  obtain ⟨h1, h2⟩ := plog_spec hp1
  have hle := plog_le hp1 hp
  have hT := slices_mul_width hp1 hp
  have hd := dblOf_eq p
  have hdp := Nat.mul_le_mul_right (2 ^ (al - plog p)) (Nat.le_of_lt (dblOf_lt hp1))
  rw [Nat.add_mul] at hT
  unfold rfcEntry baseOf
  by_cases hkd : k < dblOf p
  · -- `2^(P-1) < p ≤ p + k < 2^P`
    obtain ⟨n, hn⟩ : ∃ n, plog p = n + 1 := by
      cases hP : plog p with
      | zero => rw [hP] at hd; omega
      | succ n => exact ⟨n, rfl⟩
    rw [hn, Nat.pow_succ] at h1 h2 hd
    have hlog : Nat.log2 (p + k) = n := (Nat.log2_eq_iff (by omega)).2 ⟨by omega, by rw [Nat.pow_succ]; omega⟩
    have hnb : al - n = al - plog p + 1 := by omega
    simp only [hlog, if_pos hkd, hnb, Nat.pow_succ, Prod.mk.injEq, and_true]
    rw [← Nat.mul_assoc, Nat.add_mul p k, Nat.sub_mul]
    omega
  · -- `2^P ≤ p + k < 2p ≤ 2^(P+1)`
    have hlog : Nat.log2 (p + k) = plog p :=
      (Nat.log2_eq_iff (by omega)).2 ⟨by omega, by rw [Nat.pow_succ]; omega⟩
    simp only [hlog, if_neg hkd, Prod.mk.injEq, and_true]
    rw [Nat.add_mul, Nat.sub_mul]
    omega

theorem start_top : start al p p = 2 ^ al := by
  have := dblOf_le hp1
  unfold start
  rw [show p - (p - dblOf p) = dblOf p by omega]
  exact slices_mul_width hp1 hp

omit hp1 hp in
theorem start_mono {i j : Nat} (h : i ≤ j) : start al p i ≤ start al p j :=
  Nat.mul_le_mul_right _ (by omega)

omit hp1 hp in
theorem start_lt {i j : Nat} (h : i < j) : start al p i < start al p j :=
  Nat.mul_lt_mul_of_pos_right (by omega) (Nat.two_pow_pos _)

theorem interval_eq {k : Nat} (hk : k < p) :
    (interval al p k).1 = start al p (posOf p k) ∧
    (interval al p k).1 + (interval al p k).2 = start al p (posOf p k + 1) := by
  have hd := dblOf_le hp1
  unfold interval
  rw [rfcEntry_eq_slices hp1 hp hk]
  unfold baseOf posOf start
  by_cases hkd : k < dblOf p
  · simp only [if_pos hkd, if_neg (Nat.not_le_of_lt hkd), Nat.pow_succ]
    rw [show p - dblOf p + k + (p - dblOf p + k - (p - dblOf p)) = (p - dblOf p) + k * 2 by omega,
      show p - dblOf p + k + 1 + (p - dblOf p + k + 1 - (p - dblOf p)) = (p - dblOf p) + k * 2 + 2 by omega]
    simp only [Nat.add_mul, Nat.mul_right_comm _ 2, true_and]
    omega
  · simp only [if_neg hkd, if_pos (Nat.le_of_not_lt hkd)]
    rw [show k - dblOf p + (k - dblOf p - (p - dblOf p)) = k - dblOf p by omega,
      show k - dblOf p + 1 + (k - dblOf p + 1 - (p - dblOf p)) = k - dblOf p + 1 by omega, Nat.add_mul]
    omega

omit hp1 hp in
theorem posOf_lt (hd : dblOf p ≤ p) {k : Nat} (hk : k < p) : posOf p k < p := by
  unfold posOf; split <;> omega

omit hp1 hp in
theorem posOf_inj {k k' : Nat} (hk : k < p) (hk' : k' < p) (h : posOf p k = posOf p k') : k = k' := by
  unfold posOf at h
  split at h <;> split at h <;> omega

omit hp1 hp in
theorem posOf_surj (hd : dblOf p ≤ p) {j : Nat} (hj : j < p) : ∃ k, k < p ∧ posOf p k = j := by
  unfold posOf
  by_cases h : j < p - dblOf p
  · exact ⟨dblOf p + j, by omega, by rw [if_pos (by omega)]; omega⟩
  · exact ⟨j - (p - dblOf p), by omega, by rw [if_neg (by omega)]; omega⟩

theorem within {k : Nat} (hk : k < p) :
    (interval al p k).1 + (interval al p k).2 ≤ 2 ^ al ∧ 0 < (interval al p k).2 := by
  refine ⟨?_, Nat.two_pow_pos _⟩
  rw [(interval_eq hp1 hp hk).2, ← start_top hp1 hp]
  exact start_mono (posOf_lt (dblOf_le hp1) hk)

theorem cover {x : Nat} (hx : x < 2 ^ al) :
    ∃ k, k < p ∧ (interval al p k).1 ≤ x ∧ x < (interval al p k).1 + (interval al p k).2 := by
  have step : ∀ n, x < start al p n → ∃ j, j < n ∧ start al p j ≤ x ∧ x < start al p (j + 1) := by
    intro n
    induction n with
    | zero => intro h; simp [start] at h
    | succ n ih =>
      intro h
      by_cases hn : x < start al p n
      · obtain ⟨j, hj, hh⟩ := ih hn; exact ⟨j, by omega, hh⟩
      · exact ⟨n, by omega, by omega, h⟩
  obtain ⟨j, hj, h1, h2⟩ := step p (by rw [start_top hp1 hp]; exact hx)
  obtain ⟨k, hk, rfl⟩ := posOf_surj (dblOf_le hp1) hj
  obtain ⟨e1, e2⟩ := interval_eq hp1 hp hk
  exact ⟨k, hk, by omega, by omega⟩

theorem disjoint {k k' : Nat} (hk : k < p) (hk' : k' < p) (hne : k ≠ k') :
    (interval al p k).1 + (interval al p k).2 ≤ (interval al p k').1 ∨
    (interval al p k').1 + (interval al p k').2 ≤ (interval al p k).1 := by
  obtain ⟨e1, e2⟩ := interval_eq hp1 hp hk
  obtain ⟨e1', e2'⟩ := interval_eq hp1 hp hk'
  rw [e2, e2', e1, e1']
  rcases Nat.lt_or_gt_of_ne (fun h => hne (posOf_inj hk hk' h)) with h | h
  · exact Or.inl (start_mono h)
  · exact Or.inr (start_mono h)

/-- the search start of `SymbolStates::get` is at or before the containing state (in baseline order):
`x < start (j+1)` gives `x · p < (j+1) · 2^AL` because `start (j+1) · p ≤ (j+1) · (p + dbl) · w`; with `m` of
the first `j+1` states double, that is `m · (p − dbl) ≤ (p − dbl) · dbl`, and `m ≤ dbl` -/
theorem search_start_le {k x : Nat} (hk : k < p) (h2 : x < (interval al p k).1 + (interval al p k).2) :
    x * p / 2 ^ al ≤ posOf p k := by
  have hd := dblOf_le hp1
  have hj := posOf_lt hd hk
  rw [(interval_eq hp1 hp hk).2] at h2
  generalize posOf p k = j at hj h2
  rw [← Nat.lt_succ_iff, Nat.succ_eq_add_one, Nat.div_lt_iff_lt_mul (Nat.two_pow_pos al)]
  refine Nat.lt_of_lt_of_le (Nat.mul_lt_mul_of_pos_right h2 hp1) ?_
  rw [← slices_mul_width hp1 hp]
  unfold start
  rw [Nat.mul_right_comm, ← Nat.mul_assoc]
  refine Nat.mul_le_mul_right _ ?_
  -- `(j+1 + m) · p ≤ (j+1) · (p + dbl)` with `m = j+1 − (p − dbl)`
  generalize hm : j + 1 - (p - dblOf p) = m
  rw [Nat.add_mul, Nat.mul_add]
  refine Nat.add_le_add_left ?_ _
  by_cases h0 : m = 0
  · rw [h0, Nat.zero_mul]; exact Nat.zero_le _
  · have hj1 : j + 1 = (p - dblOf p) + m := by omega
    have hm' : m ≤ dblOf p := by omega
    rw [hj1, Nat.add_mul, show m * p = m * (p - dblOf p) + m * dblOf p by rw [← Nat.mul_add]; congr 1; omega,
      Nat.mul_comm m (p - dblOf p)]
    exact Nat.add_le_add_right (Nat.mul_le_mul_left _ hm') _

end

/-- `calc_baseline_and_numbits` in slices form; its `u32` overflow checks never fire for `al < 32` -/
theorem calc_eq_slices {al p k : Nat} (hal : al < 32) (hp1 : 1 ≤ p) (hp : p ≤ 2 ^ al) (hk : k < p) :
    calcBaselineAndNumbits (2 ^ al) p k
      = .ok (baseOf al p k, if k < dblOf p then al - plog p + 1 else al - plog p) := by
  have hle := plog_le hp1 hp
  have hw : 2 ^ al / 2 ^ plog p = 2 ^ (al - plog p) := Nat.pow_div hle (by decide)
  have hb : baseOf al p k < 2 ^ 32 := by
    obtain ⟨h, hpos⟩ := within hp1 hp hk
    simp only [interval, rfcEntry_eq_slices hp1 hp hk] at h hpos
    have : 2 ^ al ≤ 2 ^ 32 := Nat.pow_le_pow_right (by decide) (Nat.le_of_lt hal)
    omega
  have hh : ¬ (Nat.log2 p + 1 ≥ 32 ∧ 1 <<< Nat.log2 p ≠ p) := by
    intro ⟨h32, hne⟩
    have : plog p = Nat.log2 p + 1 := by unfold plog; rw [if_neg hne]
    omega
  unfold calcBaselineAndNumbits
  simp only [Nat.add_sub_cancel, slices_eq, hw, Nat.log2_two_pow, ← dblOf_eq]
  rw [if_neg (by omega), if_neg hh, if_neg (Nat.ne_of_gt (Nat.two_pow_pos _))]
  unfold baseOf at hb ⊢
  by_cases hkd : k < dblOf p
  · simp only [if_pos hkd] at hb ⊢; rw [if_neg (Nat.not_le_of_lt hb)]
  · simp only [if_neg hkd] at hb ⊢; rw [if_neg (Nat.not_le_of_lt hb)]

theorem calc_eq_rfcEntry {al p k : Nat} (hal : al < 32) (hp1 : 1 ≤ p) (hp : p ≤ 2 ^ al) (hk : k < p) :
    calcBaselineAndNumbits (2 ^ al) p k = .ok (rfcEntry al p k) := by
  rw [calc_eq_slices hal hp1 hp hk, rfcEntry_eq_slices hp1 hp hk]

theorem rfcEntry_one (al : Nat) : rfcEntry al 1 0 = (0, al) := by
  simp [rfcEntry, show Nat.log2 1 = 0 by decide]

/-- a symbol with at most half of the cells has no zero-bit state: `p + k < 2p ≤ 2^al` -/
theorem rfcEntry_numBits_pos {al p k : Nat} (h1 : 1 ≤ al) (hp1 : 1 ≤ p) (hp : p ≤ 2 ^ (al - 1)) (hk : k < p) :
    1 ≤ (rfcEntry al p k).2 := by
  have h2 : 2 ^ al = 2 * 2 ^ (al - 1) := by
    rw [← Nat.pow_succ']
    congr 1
    omega
  have : Nat.log2 (p + k) < al := (Nat.log2_lt (by omega)).2 (by omega)
  simp only [rfcEntry]
  omega

theorem rfcEntry_numBits_le (al p k : Nat) (hp : 1 ≤ p) : (rfcEntry al p k).2 ≤ al - Nat.log2 p := by
  have : Nat.log2 p ≤ Nat.log2 (p + k) :=
    (Nat.le_log2 (by omega)).mpr (Nat.le_trans (Nat.log2_self_le (by omega)) (Nat.le_add_right _ _))
  simp only [rfcEntry]
  omega

theorem orderedKs_length {p : Nat} (hd : dblOf p ≤ p) : (orderedKs p).length = p := by
  simp only [orderedKs, List.length_append, List.length_range', List.length_range]; omega

theorem orderedKs_getElem {p k : Nat} (hd : dblOf p ≤ p) (hk : k < p) :
    ∃ h : posOf p k < (orderedKs p).length, (orderedKs p)[posOf p k] = k := by
  refine ⟨by rw [orderedKs_length hd]; exact posOf_lt hd hk, ?_⟩
  unfold posOf orderedKs
  split
  · rw [List.getElem_append_left (by simp only [List.length_range']; omega)]
    simp only [List.getElem_range']; omega
  · rw [List.getElem_append_right (by simp only [List.length_range']; omega)]
    simp only [List.length_range', List.getElem_range]; omega

theorem orderedKs_perm {p : Nat} (hd : dblOf p ≤ p) : (orderedKs p).Perm (List.range p) := by
  unfold orderedKs
  refine List.perm_append_comm.trans ?_
  rw [List.range_eq_range', List.range_eq_range']
  have := @List.range'_append 0 (dblOf p) (p - dblOf p) 1
  simp only [Nat.zero_add, Nat.one_mul] at this
  rw [this, show dblOf p + (p - dblOf p) = p by omega]

theorem mem_orderedKs {p k : Nat} (hp1 : 1 ≤ p) : k ∈ orderedKs p ↔ k < p := by
  rw [(orderedKs_perm (dblOf_le hp1)).mem_iff, List.mem_range]

theorem orderedKs_sorted (p : Nat) :
    (orderedKs p).Pairwise (fun a b => posOf p a < posOf p b) := by
  unfold orderedKs
  rw [List.pairwise_append]
  refine ⟨?_, ?_, ?_⟩
  · refine (List.pairwise_lt_range' (s := dblOf p) (n := p - dblOf p)).imp_of_mem ?_
    intro a b ha hb hab
    rw [List.mem_range'_1] at ha hb
    unfold posOf; rw [if_pos ha.1, if_pos hb.1]; omega
  · refine (List.pairwise_lt_range (n := dblOf p)).imp_of_mem ?_
    intro a b ha hb hab
    rw [List.mem_range] at ha hb
    unfold posOf; rw [if_neg (by omega), if_neg (by omega)]; omega
  · intro a ha b hb
    rw [List.mem_range'_1] at ha
    rw [List.mem_range] at hb
    unfold posOf; rw [if_pos ha.1, if_neg (by omega)]; omega

theorem orderedKs_strict {al p : Nat} (hp1 : 1 ≤ p) (hp : p ≤ 2 ^ al) :
    (orderedKs p).Pairwise (fun a b => (rfcEntry al p a).1 < (rfcEntry al p b).1) := by
  refine (orderedKs_sorted p).imp_of_mem ?_
  intro a b ha hb hab
  rw [mem_orderedKs hp1] at ha hb
  have h1 := (interval_eq hp1 hp ha).1
  have h2 := (interval_eq hp1 hp hb).1
  simp only [interval] at h1 h2
  rw [h1, h2]
  exact start_lt hab

theorem orderedKs_head {al p : Nat} (hp1 : 1 ≤ p) (hp : p ≤ 2 ^ al) :
    ∃ rest, orderedKs p = dblOf p :: rest ∧ (rfcEntry al p (dblOf p)).1 = 0 := by
  have hlt := dblOf_lt hp1
  refine ⟨List.range' (dblOf p + 1) (p - dblOf p - 1) ++ List.range (dblOf p), ?_, ?_⟩
  · unfold orderedKs
    rw [show p - dblOf p = (p - dblOf p - 1) + 1 by omega, List.range'_succ]
    rfl
  · have h := (interval_eq hp1 hp hlt).1
    simp only [interval, posOf, Nat.le_refl, if_true, Nat.sub_self, start, Nat.zero_sub, Nat.zero_add,
      Nat.zero_mul] at h
    exact h

/-- the positions written by the second loop of `build_decoding_table` when `n` slots are handed out
starting at `pos`, and the position after the last advance -/
def walk (size neg : Nat) : Nat → Nat → Except Fault (List Nat × Nat)
  | 0, pos => .ok ([], pos)
  | n + 1, pos =>
    match skipHigh size neg (size + 1) (nextPosition pos size) with
    | .error f => .error f
    | .ok pos' =>
      match walk size neg n pos' with
      | .error f => .error f
      | .ok (l, e) => .ok (pos :: l, e)

theorem walk_zero (size neg pos : Nat) : walk size neg 0 pos = .ok ([], pos) := rfl

theorem walk_succ_of_ok {size neg n pos pos' e : Nat} {l : List Nat}
    (hs : skipHigh size neg (size + 1) (nextPosition pos size) = .ok pos')
    (hw : walk size neg n pos' = .ok (l, e)) : walk size neg (n + 1) pos = .ok (pos :: l, e) := by
  simp only [walk, hs, hw]

theorem walk_succ_ok {size neg n pos e : Nat} {l : List Nat} (h : walk size neg (n + 1) pos = .ok (l, e)) :
    ∃ pos' l', skipHigh size neg (size + 1) (nextPosition pos size) = .ok pos' ∧
      walk size neg n pos' = .ok (l', e) ∧ l = pos :: l' := by
  simp only [walk] at h
  split at h
  · cases h
  · rename_i pos' hs
    split at h
    · cases h
    · rename_i l' e' h'
      simp only [Except.ok.injEq, Prod.mk.injEq] at h
      exact ⟨pos', l', hs, h.2 ▸ h', h.1.symm⟩

theorem walk_length {size neg : Nat} : ∀ {n pos l e}, walk size neg n pos = .ok (l, e) → l.length = n := by
  intro n
  induction n with
  | zero => intro pos l e h; cases h; rfl
  | succ n ih =>
    intro pos l e h
    obtain ⟨pos', l', _, h', rfl⟩ := walk_succ_ok h
    rw [List.length_cons, ih h']

theorem walk_append {size neg : Nat} : ∀ (a b pos : Nat) {l : List Nat} {e : Nat},
    walk size neg (a + b) pos = .ok (l, e) →
    ∃ l1 l2 m, walk size neg a pos = .ok (l1, m) ∧ walk size neg b m = .ok (l2, e) ∧ l = l1 ++ l2 := by
  intro a
  induction a with
  | zero =>
    intro b pos l e h
    rw [Nat.zero_add] at h
    exact ⟨[], l, pos, rfl, h, rfl⟩
  | succ a ih =>
    intro b pos l e h
    rw [show a + 1 + b = (a + b) + 1 by omega] at h
    obtain ⟨pos', l', hs, h', rfl⟩ := walk_succ_ok h
    obtain ⟨l1, l2, m, h1, h2, rfl⟩ := ih b pos' h'
    exact ⟨pos :: l1, l2, m, walk_succ_of_ok hs h1, h2, rfl⟩

/-! ### the orbit of a position

`next_position` adds a fixed `step` modulo the table size.  The positions reached from `pos` are therefore
`orbit size step pos k = (pos + k · step) mod size`, a sequence of period `size`; the loop
`while position >= negative_idx` returns the first of them below `neg`. -/

theorem nextPosition_two_pow (al p : Nat) :
    nextPosition p (2 ^ al) = (p + (2 ^ al / 2 + 2 ^ al / 8 + 3)) % 2 ^ al := by
  unfold nextPosition Gen.fseDecStepShrA Gen.fseDecStepShrB Gen.fseDecStepAdd
  rw [Nat.and_two_pow_sub_one_eq_mod, Nat.shiftRight_eq_div_pow, Nat.shiftRight_eq_div_pow]
  congr 1
  omega

def orbit (size step pos k : Nat) : Nat := (pos + k * step) % size

section
variable {size step neg : Nat}

theorem orbit_zero (pos : Nat) : orbit size step pos 0 = pos % size := by
  unfold orbit; rw [Nat.zero_mul, Nat.add_zero]

theorem orbit_succ (pos k : Nat) : (orbit size step pos k + step) % size = orbit size step pos (k + 1) := by
  unfold orbit; rw [Nat.mod_add_mod, Nat.succ_mul, Nat.add_assoc]

theorem orbit_one (pos : Nat) : orbit size step pos 1 = (pos + step) % size := by
  unfold orbit; rw [Nat.one_mul]

theorem orbit_period (pos k : Nat) : orbit size step pos (k + size) = orbit size step pos k := by
  unfold orbit; rw [Nat.add_mul, ← Nat.add_assoc, Nat.add_mul_mod_self_left]

theorem skipHigh_orbit (hnext : ∀ q, nextPosition q size = (q + step) % size) (pos : Nat) :
    ∀ (fuel k r : Nat), skipHigh size neg fuel (orbit size step pos k) = .ok r →
      ∃ j, k ≤ j ∧ j < k + fuel ∧ r = orbit size step pos j ∧ r < neg ∧
        ∀ i, k ≤ i → i < j → neg ≤ orbit size step pos i := by
  intro fuel
  induction fuel with
  | zero => intro k r h; simp [skipHigh] at h
  | succ fuel ih =>
    intro k r h
    rw [skipHigh] at h
    by_cases hge : orbit size step pos k ≥ neg
    · rw [if_pos hge, hnext, orbit_succ] at h
      obtain ⟨j, h1, h2, h3, h4, h5⟩ := ih (k + 1) r h
      refine ⟨j, by omega, by omega, h3, h4, fun i hi1 hi2 => ?_⟩
      by_cases hik : i = k
      · subst hik; exact hge
      · exact h5 i (by omega) hi2
    · rw [if_neg hge] at h
      cases h
      exact ⟨k, by omega, by omega, rfl, by omega, fun i h1 h2 => by omega⟩

def orbitBelow (size step neg i c : Nat) : List Nat :=
  ((List.range' i c).map (orbit size step 0)).filter (· < neg)

theorem orbitBelow_succ (i c : Nat) : orbitBelow size step neg i (c + 1)
    = if orbit size step 0 i < neg then orbit size step 0 i :: orbitBelow size step neg (i + 1) c
      else orbitBelow size step neg (i + 1) c := by
  simp only [orbitBelow, List.range'_succ, List.map_cons, List.filter_cons, decide_eq_true_eq]

theorem lt_of_mem_orbitBelow {i c x : Nat} (h : x ∈ orbitBelow size step neg i c) : x < neg := by
  unfold orbitBelow at h
  rw [List.mem_filter, decide_eq_true_eq] at h
  exact h.2

/-- the walk follows the orbit of 0 and ends at orbit index `size`, which is cell 0 again; a skip never needs
more than the `c + 1` units of fuel that take it to that index -/
theorem walk_orbit (hnext : ∀ q, nextPosition q size = (q + step) % size) (hneg : 0 < neg) :
    ∀ c i fuel, i + c = size → c < fuel →
      ∃ pos, skipHigh size neg fuel (orbit size step 0 i) = .ok pos ∧
        walk size neg (orbitBelow size step neg i c).length pos = .ok (orbitBelow size step neg i c, 0) := by
  intro c
  induction c with
  | zero =>
    intro i fuel hi hf
    obtain ⟨fuel, rfl⟩ : ∃ f, fuel = f + 1 := ⟨fuel - 1, by omega⟩
    have : orbit size step 0 i = 0 := by
      rw [show i = 0 + size by omega, orbit_period, orbit_zero, Nat.zero_mod]
    exact ⟨0, by rw [this, skipHigh, if_neg (by omega)], rfl⟩
  | succ c ih =>
    intro i fuel hi hf
    obtain ⟨fuel, rfl⟩ : ∃ f, fuel = f + 1 := ⟨fuel - 1, by omega⟩
    rw [orbitBelow_succ, skipHigh]
    by_cases hlt : orbit size step 0 i < neg
    · obtain ⟨pos, h1, h2⟩ := ih (i + 1) (size + 1) (by omega) (by omega)
      rw [← orbit_succ, ← hnext] at h1
      refine ⟨_, by rw [if_neg (by omega)], ?_⟩
      rw [if_pos hlt, List.length_cons]
      exact walk_succ_of_ok h1 h2
    · rw [if_pos (by omega), if_neg hlt, hnext, orbit_succ]
      exact ih (i + 1) fuel (by omega) (by omega)

/-- with a step coprime to the size the first `size` points of an orbit are different cells: two of them
agreeing would make `size` divide `(j − i) · step`, hence `j − i` -/
theorem orbit_nodup (hco : Nat.Coprime size step) :
    ((List.range size).map (orbit size step 0)).Nodup := by
  rw [List.Nodup, List.pairwise_map]
  refine (List.pairwise_lt_range (n := size)).imp_of_mem ?_
  intro i j hi hj hij heq
  rw [List.mem_range] at hi hj
  simp only [orbit, Nat.zero_add] at heq
  have hdvd : size ∣ (j - i) * step := by
    rw [Nat.sub_mul]
    exact Nat.dvd_of_mod_eq_zero (Nat.sub_mod_eq_zero_of_mod_eq heq.symm)
  have := Nat.le_of_dvd (by omega) (hco.dvd_of_dvd_mul_right hdvd)
  omega

/-- so the orbit of 0 passes through every cell: its `size` different points below `neg` and not below `neg`
are duplicate-free lists inside `[0, neg)` and `[neg, size)`, `size` elements together, hence `neg` of the
former -/
theorem orbitBelow_length (hco : Nat.Coprime size step) (hs : 0 < size) (hneg : neg ≤ size) :
    (orbitBelow size step neg 0 size).length = neg := by
  have hnd := orbit_nodup hco
  rw [List.range_eq_range'] at hnd
  have hsplit := (List.filter_append_perm (fun x => decide (x < neg))
    ((List.range' 0 size).map (orbit size step 0))).length_eq
  have hlo : (orbitBelow size step neg 0 size).length ≤ (List.range neg).length :=
    (hnd.sublist List.filter_sublist).length_le_of_subset
      (fun _ hx => List.mem_range.2 (lt_of_mem_orbitBelow hx))
  have hhi : (((List.range' 0 size).map (orbit size step 0)).filter
      (fun x => !decide (x < neg))).length ≤ (List.range' neg (size - neg)).length :=
    (hnd.sublist List.filter_sublist).length_le_of_subset (fun x hx => by
      rw [List.mem_filter, List.mem_map] at hx
      obtain ⟨⟨i, _, rfl⟩, hx⟩ := hx
      have : orbit size step 0 i < size := Nat.mod_lt _ hs
      simp only [Bool.not_eq_true', decide_eq_false_iff_not] at hx
      rw [List.mem_range'_1]; omega)
  simp only [List.length_append, List.length_map, List.length_range', List.length_range] at hsplit hlo hhi
  unfold orbitBelow at hlo ⊢
  omega

theorem walk_perm_of_coprime (hnext : ∀ q, nextPosition q size = (q + step) % size)
    (hco : Nat.Coprime size step) (hs : 0 < size) (hneg : neg ≤ size) :
    ∃ l, walk size neg neg 0 = .ok (l, 0) ∧ l.length = neg ∧ l.Nodup ∧ ∀ p ∈ l, p < neg := by
  by_cases h0 : neg = 0
  · subst h0; exact ⟨[], rfl, rfl, List.nodup_nil, fun _ h => by simp at h⟩
  have hlen := orbitBelow_length hco hs hneg
  obtain ⟨pos, h1, h2⟩ := walk_orbit hnext (Nat.pos_of_ne_zero h0) size 0 (size + 1) (by omega) (by omega)
  rw [orbit_zero, Nat.zero_mod, skipHigh, if_neg (by omega)] at h1
  cases h1
  rw [hlen] at h2
  have hnd := orbit_nodup hco
  rw [List.range_eq_range'] at hnd
  exact ⟨_, h2, hlen, hnd.sublist List.filter_sublist, fun _ => lt_of_mem_orbitBelow⟩

end

/-- for every accuracy log from 4 on: the step `size/2 + size/8 + 3` is `2·(5·2^(AL−4) + 1) + 1`, odd, hence
coprime to `2^AL` (for sizes 2 and 8 it is ≡ 0 and the walk does not move; the format never uses them) -/
theorem walk_perm_of_ge4 {al neg : Nat} (h4 : 4 ≤ al) (hneg : neg ≤ 2 ^ al) :
    ∃ l, walk (2 ^ al) neg neg 0 = .ok (l, 0) ∧ l.length = neg ∧ l.Nodup ∧ ∀ p ∈ l, p < neg := by
  refine walk_perm_of_coprime (nextPosition_two_pow al) ?_ (Nat.two_pow_pos _) hneg
  obtain ⟨a, rfl⟩ : ∃ a, al = a + 4 := ⟨al - 4, by omega⟩
  have h16 : 2 ^ (a + 4) = 16 * 2 ^ a := by rw [Nat.pow_add, Nat.mul_comm]
  rw [show 2 ^ (a + 4) / 2 + 2 ^ (a + 4) / 8 + 3 = 2 * (5 * 2 ^ a + 1) + 1 by omega]
  refine Nat.Coprime.pow_left _ ?_
  rw [Nat.Coprime, Nat.gcd_rec, Nat.mul_add_mod]
  rfl

end Zstd.Proofs.FseFin
