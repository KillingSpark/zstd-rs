import Zstd.Model.SeqCodes
import Zstd.Spec.Tables
/-
Literal-length and match-length codes: the encoder's range-arm table (rows extracted from the source) is checked against
the decoder's lookup by ONE decidable predicate over the rows (`rowsOk`, discharged by `decide`), and that finite check
is lifted to every value of the range by induction over the row list — no sampling, no per-value enumeration.
Offset codes, the repeat-offset rules and the sequence count follow, each against the RFC's text in Spec/Tables.lean.
-/
namespace Zstd.Proofs.SeqCodes
open Zstd Zstd.Model

/-- a row `(lo, hi, code, base, bits)` of the encoder's table: the values `lo ..= hi` get `code`, and `value - base` in
`bits` extra bits -/
abbrev Row := Nat × Nat × Nat × Nat × Nat

/-- Consistency of encoder rows `(lo, hi, code, base, bits)` with a decoder `dec`:
rows are contiguous from `start`, codes count up from `c0`, `base = lo`, the row spans exactly
`2^bits` values, and the decoder maps the row's code to `(lo, bits)`. -/
def rowsOk (dec : Nat → Except Fault (Nat × Nat)) : List Row → Nat → Nat → Bool
  | [], _, _ => true
  | (lo, hi, code, base, bits) :: rest, start, c0 =>
    lo == start && base == lo && hi + 1 == lo + 2 ^ bits && code == c0 &&
      dec code == .ok (lo, bits) && rowsOk dec rest (hi + 1) (c0 + 1)

/-- the first value behind the rows (`start` for no rows): with `rowsOk`, the rows cover exactly `start .. rowsEnd` -/
def rowsEnd : List Row → Nat → Nat
  | [], start => start
  | (_, hi, _, _, _) :: rest, _ => rowsEnd rest (hi + 1)

theorem rowsEnd_ge (dec) : ∀ (rows : List Row) (start c0 : Nat), rowsOk dec rows start c0 = true → start ≤ rowsEnd rows start := by
  intro rows
  induction rows with
  | nil => intro start c0 _; exact Nat.le_refl _
  | cons r rest ih =>
    intro start c0 h
    obtain ⟨lo, hi, code, base, bits⟩ := r
    simp only [rowsOk, Bool.and_eq_true, beq_iff_eq] at h
    obtain ⟨⟨⟨⟨⟨h1, _⟩, h3⟩, _⟩, _⟩, h6⟩ := h
    have := ih (hi + 1) (c0 + 1) h6
    simp only [rowsEnd]
    have : 0 < 2 ^ bits := Nat.two_pow_pos bits
    omega

theorem enc_of_rowsOk (dec) : ∀ (rows : List Row) (start c0 v : Nat), rowsOk dec rows start c0 = true →
    start ≤ v → v < rowsEnd rows start →
    ∃ code base bits, encRow rows v = some (.ok (code, v - base, bits)) ∧ dec code = .ok (base, bits) ∧
      base ≤ v ∧ v - base < 2 ^ bits ∧ c0 ≤ code ∧ code < c0 + rows.length := by
  intro rows
  induction rows with
  | nil => intro start c0 v _ h1 h2; simp only [rowsEnd] at h2; omega
  | cons r rest ih =>
    intro start c0 v h h1 h2
    obtain ⟨lo, hi, code, base, bits⟩ := r
    simp only [rowsOk, Bool.and_eq_true, beq_iff_eq] at h
    obtain ⟨⟨⟨⟨⟨e1, e2⟩, e3⟩, e4⟩, e5⟩, e6⟩ := h
    subst e1 e2 e4
    by_cases hv : v ≤ hi
    · refine ⟨code, base, bits, ?_, e5, h1, by omega, Nat.le_refl _, by simp⟩
      simp only [encRow, h1, hv, and_self, if_true]
    · have hv' : hi + 1 ≤ v := by omega
      simp only [rowsEnd] at h2
      obtain ⟨c, b, n, g1, g2, g3, g4, g5, g6⟩ := ih (hi + 1) (code + 1) v e6 hv' h2
      refine ⟨c, b, n, ?_, g2, g3, g4, by omega, by simp only [List.length_cons]; omega⟩
      simp only [encRow, hv, and_false, if_false]
      exact g1

theorem dec_of_rowsOk (dec) : ∀ (rows : List Row) (start c0 c : Nat), rowsOk dec rows start c0 = true →
    c0 ≤ c → c < c0 + rows.length →
    ∃ base bits, dec c = .ok (base, bits) ∧ start ≤ base ∧ base + 2 ^ bits ≤ rowsEnd rows start ∧
      ∀ e, e < 2 ^ bits → encRow rows (base + e) = some (.ok (c, e, bits)) := by
  intro rows
  induction rows with
  | nil => intro start c0 c _ h1 h2; simp only [List.length_nil] at h2; omega
  | cons r rest ih =>
    intro start c0 c h h1 h2
    obtain ⟨lo, hi, code, base, bits⟩ := r
    have hfull := h
    simp only [rowsOk, Bool.and_eq_true, beq_iff_eq] at h
    obtain ⟨⟨⟨⟨⟨e1, e2⟩, e3⟩, e4⟩, e5⟩, e6⟩ := h
    subst e1 e2 e4
    by_cases hc : c = code
    · subst hc
      refine ⟨base, bits, e5, Nat.le_refl _, ?_, ?_⟩
      · have := rowsEnd_ge dec rest (hi + 1) (c + 1) e6
        simp only [rowsEnd]; omega
      · intro e he
        have a1 : base ≤ base + e := by omega
        have a2 : base + e ≤ hi := by omega
        simp only [encRow, a1, a2, and_self, if_true]
        have : base + e - base = e := by omega
        rw [this]
    · have hc' : code + 1 ≤ c := by omega
      simp only [List.length_cons] at h2
      obtain ⟨b, n, g1, g2, g3, g4⟩ := ih (hi + 1) (code + 1) c e6 hc' (by omega)
      have hp : 0 < 2 ^ bits := Nat.two_pow_pos bits
      refine ⟨b, n, g1, by omega, by simp only [rowsEnd]; exact g3, ?_⟩
      intro e he
      have : ¬ (b + e ≤ hi) := by omega
      simp only [encRow, this, and_false, if_false]
      exact g4 e he

/-- `encodeWith site min identLo identHi identSub upper rows` is the common shape of `encode_literal_length` and
`encode_match_len`: below `min` and from `upper` on the `unreachable!` arm, on `identLo ..= identHi` the code
`v - identSub` without extra bits, otherwise the first row `(lo, hi, code, base, bits)` that contains `v`.
Here and in the next theorem `dec` decodes the identity range `min ..= identHi` to the codes `v - identSub` and the
rows to the codes from `c0 = identHi + 1 - identSub` on (`rowsOk`), and the rows end at `upper`.  `hsub` says that `c0 ≥ 1`
(the identity range has a code); `hmin` of the next theorem makes `c + identSub`, for a code `c < c0`, a value that the
identity range encodes. -/
theorem encodeWith_roundtrip (dec) (site : String) (min identLo identHi identSub upper c0 : Nat) (rows : List Row)
    (hrows : rowsOk dec rows (identHi + 1) c0 = true) (hend : rowsEnd rows (identHi + 1) = upper)
    (hc0 : c0 + identSub = identHi + 1) (hsub : identSub ≤ identHi)
    (hident : ∀ v, v ≤ identHi → min ≤ v →
      encodeWith site min identLo identHi identSub upper rows v = .ok (v - identSub, 0, 0) ∧
        dec (v - identSub) = .ok (v, 0))
    (v : Nat) (h1 : min ≤ v) (h2 : v < upper) :
    ∃ c e b base, encodeWith site min identLo identHi identSub upper rows v = .ok (c, e, b) ∧
      c < c0 + rows.length ∧ dec c = .ok (base, b) ∧ base + e = v ∧ e < 2 ^ b := by
  by_cases h : v ≤ identHi
  · obtain ⟨e1, e2⟩ := hident v h h1
    exact ⟨v - identSub, 0, 0, v, e1, by omega, e2, rfl, Nat.one_pos⟩
  · obtain ⟨c, base, b, g1, g2, g3, g4, _, g6⟩ := enc_of_rowsOk dec rows _ c0 v hrows (by omega) (by omega)
    refine ⟨c, v - base, b, base, ?_, g6, g2, by omega, g4⟩
    have n1 : ¬ v < min := by omega
    have n2 : ¬ (identLo ≤ v ∧ v ≤ identHi) := by omega
    have n3 : ¬ v ≥ upper := by omega
    simp only [encodeWith, n1, n2, n3, if_false, g1]

theorem encodeWith_enc_dec (dec) (site : String) (min identLo identHi identSub upper c0 : Nat) (rows : List Row)
    (hrows : rowsOk dec rows (identHi + 1) c0 = true) (hend : rowsEnd rows (identHi + 1) = upper)
    (hc0 : c0 + identSub = identHi + 1) (hmin : min ≤ identSub)
    (hident : ∀ v, v ≤ identHi → min ≤ v →
      encodeWith site min identLo identHi identSub upper rows v = .ok (v - identSub, 0, 0) ∧
        dec (v - identSub) = .ok (v, 0))
    (c base bits e : Nat) (hc : c < c0 + rows.length) (hl : dec c = .ok (base, bits)) (he : e < 2 ^ bits) :
    encodeWith site min identLo identHi identSub upper rows (base + e) = .ok (c, e, bits) := by
  by_cases h : c < c0
  · obtain ⟨h1, h2⟩ := hident (c + identSub) (by omega) (by omega)
    rw [Nat.add_sub_cancel] at h1 h2
    rw [h2] at hl
    injection hl with hl
    injection hl with hb hn
    subst hb hn
    have : e = 0 := by simpa using he
    subst this
    exact h1
  · obtain ⟨b, n, g1, g2, g3, g4⟩ := dec_of_rowsOk dec rows _ c0 c hrows (by omega) hc
    rw [hl] at g1
    injection g1 with g1
    injection g1 with hb hn
    subst hb hn
    have v1 : ¬ base + e < min := by omega
    have v2 : ¬ (identLo ≤ base + e ∧ base + e ≤ identHi) := by omega
    have v3 : ¬ base + e ≥ upper := by omega
    simp only [encodeWith, v1, v2, v3, if_false, g4 e he]

theorem encodeWith_out_of_range (site : String) (min identLo identHi identSub upper : Nat) (rows : List Row)
    (v : Nat) (h : v < min ∨ (identHi < v ∧ upper ≤ v)) :
    ∃ f, encodeWith site min identLo identHi identSub upper rows v = .error f := by
  by_cases h0 : v < min
  · simp only [encodeWith, h0, if_true]
    exact ⟨_, rfl⟩
  · have n2 : ¬ (identLo ≤ v ∧ v ≤ identHi) := by omega
    have n3 : v ≥ upper := by omega
    simp only [encodeWith, h0, n2, n3, if_false, if_true]
    exact ⟨_, rfl⟩

theorem lookupRow_none (rows : List (Nat × Nat × Nat)) (c : Nat) (h : ∀ r ∈ rows, r.1 < c) :
    lookupRow rows c = none := by
  induction rows with
  | nil => rfl
  | cons r rest ih =>
    obtain ⟨a, b, n⟩ := r
    have ha : a < c := h (a, b, n) List.mem_cons_self
    have : ¬ a = c := by omega
    simp only [lookupRow, this, if_false]
    exact ih (fun r hr => h r (List.mem_cons_of_mem _ hr))

theorem lookupLL_eq_rfc : ∀ c, c < 36 → lookupLL c = .ok (Spec.llCodeTable.getD c (0, 0)) := by
  decide

theorem lookupML_eq_rfc : ∀ c, c < 53 → lookupML c = .ok (Spec.mlCodeTable.getD c (0, 0)) := by
  decide

theorem llRows_ok : rowsOk lookupLL Gen.llEncRows (Gen.llEncIdentHi + 1) (Gen.llDecIdentHi + 1) = true := by decide
theorem llRows_end : rowsEnd Gen.llEncRows (Gen.llEncIdentHi + 1) = Gen.llEncUpper := by decide
theorem llIdent : ∀ v, v ≤ Gen.llEncIdentHi → Gen.llEncMin ≤ v →
    encodeLL v = .ok (v - Gen.llEncIdentSub, 0, 0) ∧ lookupLL (v - Gen.llEncIdentSub) = .ok (v, 0) := by decide

theorem encodeLL_roundtrip : ∀ v, v ≤ 131071 →
    ∃ c e b base, encodeLL v = .ok (c, e, b) ∧ c ≤ 35 ∧ lookupLL c = .ok (base, b) ∧ base + e = v ∧ e < 2 ^ b := by
  intro v hv
  obtain ⟨c, e, b, base, h1, h2, h3⟩ := encodeWith_roundtrip lookupLL _ _ _ _ _ _ _ _ llRows_ok llRows_end rfl
    (by decide) llIdent v (Nat.zero_le v) (Nat.lt_succ_of_le hv)
  exact ⟨c, e, b, base, h1, Nat.le_of_lt_succ h2, h3⟩

theorem mlRows_ok : rowsOk lookupML Gen.mlEncRows (Gen.mlEncIdentHi + 1) (Gen.mlDecIdentHi + 1) = true := by decide
theorem mlRows_end : rowsEnd Gen.mlEncRows (Gen.mlEncIdentHi + 1) = Gen.mlEncUpper := by decide
theorem mlIdent : ∀ v, v ≤ Gen.mlEncIdentHi → Gen.mlEncMin ≤ v →
    encodeML v = .ok (v - Gen.mlEncIdentSub, 0, 0) ∧ lookupML (v - Gen.mlEncIdentSub) = .ok (v, 0) := by decide

theorem encodeML_roundtrip : ∀ v, 3 ≤ v → v ≤ 131074 →
    ∃ c e b base, encodeML v = .ok (c, e, b) ∧ c ≤ 52 ∧ lookupML c = .ok (base, b) ∧ base + e = v ∧ e < 2 ^ b := by
  intro v hv3 hv
  obtain ⟨c, e, b, base, h1, h2, h3⟩ := encodeWith_roundtrip lookupML _ _ _ _ _ _ _ _ mlRows_ok mlRows_end rfl
    (by decide) mlIdent v hv3 (Nat.lt_succ_of_le hv)
  exact ⟨c, e, b, base, h1, Nat.le_of_lt_succ h2, h3⟩

theorem encodeOffset_roundtrip : ∀ v c e b, 1 ≤ v → v < 2 ^ 32 → encodeOffset v = .ok (c, e, b) →
    c ≤ 31 ∧ 2 ^ c + e = v ∧ e < 2 ^ c ∧ b = c ∧ decodeOffsetValue c e = some v ∧
      Spec.offsetValue c e = v := by
  intro v c e b h1 h2 h
  have hv : v ≠ 0 := by omega
  simp only [encodeOffset, hv, if_false] at h
  injection h with h
  injection h with hc h
  injection h with he hb
  subst hc
  have l1 : 2 ^ Nat.log2 v ≤ v := Nat.log2_self_le hv
  have l2 : v < 2 ^ (Nat.log2 v + 1) := Nat.lt_log2_self
  have l3 : Nat.log2 v < 32 := (Nat.log2_lt hv).2 h2
  have hm : v % 2 ^ Nat.log2 v = v - 2 ^ Nat.log2 v := by
    rw [Nat.pow_succ] at l2
    rw [Nat.mod_eq_sub_mod l1, Nat.mod_eq_of_lt (by omega)]
  rw [Nat.and_two_pow_sub_one_eq_mod, hm] at he
  have hsum : 2 ^ Nat.log2 v + e = v := by omega
  refine ⟨by omega, hsum, ?_, hb.symm, ?_, hsum⟩
  · rw [Nat.pow_succ] at l2; omega
  · have : ¬ (Nat.log2 v > Gen.maxOffsetCode) := by simp only [Gen.maxOffsetCode]; omega
    simp only [decodeOffsetValue, this, if_false, Nat.shiftLeft_eq, Nat.one_mul, hsum]

theorem doOffsetHistory_eq_rfc : ∀ ov ll (h : Spec.OffHist), 1 ≤ ov →
    doOffsetHistory ov ll (h.r1, h.r2, h.r3) =
      .ok ((Spec.repeatOffsets ov (ll == 0) h).1,
           ((Spec.repeatOffsets ov (ll == 0) h).2.r1, (Spec.repeatOffsets ov (ll == 0) h).2.r2,
            (Spec.repeatOffsets ov (ll == 0) h).2.r3)) := by
  intro ov ll h hov
  unfold doOffsetHistory Spec.repeatOffsets
  have h0 : ov ≠ 0 := by omega
  simp only [h0, ↓reduceIte]
  -- the rows of the two tables: repeat codes 1, 2, 3 and a new offset
  have hrow : ov = 1 ∨ ov = 2 ∨ ov = 3 ∨ (ov > 3 ∧ ¬ ov = 1 ∧ ¬ ov = 2 ∧ ¬ ov = 3) := by omega
  by_cases hll : ll = 0
  · subst hll
    rcases hrow with rfl | rfl | rfl | ⟨h3, _, _, _⟩ <;> simp [*]
  · have hpos : ll > 0 := by omega
    rcases hrow with rfl | rfl | rfl | ⟨h3, _, _, _⟩ <;> simp [*]

theorem or128 : ∀ x, x < 128 → x ||| 0x80 = x + 128 := by decide

theorem parseSeqCount_two (b0 b1 : Nat) (rest : List Nat) (h1 : 128 ≤ b0) (h2 : b0 ≤ 254) :
    Spec.parseSeqCount (b0 :: b1 :: rest) = some ((b0 - 128) * 256 + b1, 2) := by
  have c1 : ¬ b0 = 0 := by omega
  have c2 : ¬ b0 < 128 := by omega
  have c3 : b0 < 255 := by omega
  simp only [Spec.parseSeqCount, c1, c2, c3, if_false, if_true]

theorem parseSeqHeader_eq_rfc : ∀ bs : List Nat,
    match Spec.parseSeqCount bs with
    | none => ∃ need got, parseSeqHeader bs = .error (.notEnoughBytes need got)
    | some (n, k) =>
      if n = 0 then parseSeqHeader bs = .ok (0, none, k)
      else match bs[k]? with
        | some m => parseSeqHeader bs = .ok (n, some m, k + 1)
        | none => ∃ need got, parseSeqHeader bs = .error (.notEnoughBytes need got) := by
  intro bs
  match bs with
  | [] => exact ⟨_, _, rfl⟩
  | b0 :: rest =>
    by_cases h0 : b0 = 0
    · simp [Spec.parseSeqCount, parseSeqHeader, h0]
    · by_cases h1 : b0 < 128
      · have : b0 ≤ 127 := by omega
        cases rest <;> simp [Spec.parseSeqCount, parseSeqHeader, h0, h1, this]
      · have n1 : ¬ b0 ≤ 127 := by omega
        by_cases h2 : b0 < 255
        · have : b0 ≤ 254 := by omega
          match rest with
          | [] => simp [Spec.parseSeqCount, parseSeqHeader, h0, h1, h2, n1, this]
          | [b1] | b1 :: m :: _ =>
            simp only [Spec.parseSeqCount, parseSeqHeader, h0, h1, h2, n1, this, if_true, if_false]
            generalize (b0 - 128) * 256 + b1 = n
            by_cases hn : n = 0 <;> simp [hn]
        · have : ¬ b0 ≤ 254 := by omega
          match rest with
          | [] | [_] | [_, _] | _ :: _ :: _ :: _ => simp [Spec.parseSeqCount, parseSeqHeader, h0, h1, h2, n1, this]

theorem parseSeqHeader_of_spec (bs : List Nat) (m n : Nat) (hn : n ≠ 0) (hs : Spec.parseSeqCount (bs ++ [m]) = some (n, bs.length)) :
    parseSeqHeader (bs ++ [m]) = .ok (n, some m, bs.length + 1) := by
  have := parseSeqHeader_eq_rfc (bs ++ [m])
  rw [hs] at this
  simpa only [hn, if_false, List.getElem?_append_right (Nat.le_refl _), Nat.sub_self, List.getElem?_cons_zero] using this

theorem encodeSeqnum_roundtrip : ∀ n m, 1 ≤ n → n ≤ 0xFFFF + 0x7F00 →
    ∃ bs, encodeSeqnum n = .ok bs ∧ (∀ b ∈ bs, b < 256) ∧
      parseSeqHeader (bs ++ [m]) = .ok (n, some m, bs.length + 1) ∧
      Spec.parseSeqCount (bs ++ [m]) = some (n, bs.length) := by
  intro n m h1 h2
  have hn : n ≠ 0 := by omega
  -- the three arms of `encode_seqnum`; in each, the RFC reads the count back from the bytes written
  by_cases a1 : n ≤ 127
  · have hs : Spec.parseSeqCount ([n % 256] ++ [m]) = some (n, 1) := by
      have e : n % 256 = n := by omega
      have l : n < 128 := by omega
      simp [Spec.parseSeqCount, e, hn, l]
    exact ⟨[n % 256], by simp [encodeSeqnum, Gen.seqnumArms, h1, a1], by intro b hb; simp at hb; omega,
      parseSeqHeader_of_spec _ m n hn hs, hs⟩
  · by_cases a2 : n ≤ 32511
    · have hx : n / 256 < 128 := by omega
      have hs : Spec.parseSeqCount ([(n / 256 ||| 0x80) % 256, n % 256] ++ [m]) = some (n, 2) := by
        rw [or128 _ hx, Nat.mod_eq_of_lt (by omega)]
        have := parseSeqCount_two (n / 256 + 128) (n % 256) [m] (by omega) (by omega)
        rw [show (n / 256 + 128 - 128) * 256 + n % 256 = n by omega] at this
        exact this
      have a1' : 128 ≤ n := by omega
      exact ⟨_, by simp [encodeSeqnum, Gen.seqnumArms, a1, a2, a1'], by intro b hb; simp at hb; omega,
        parseSeqHeader_of_spec _ m n hn hs, hs⟩
    · have hs : Spec.parseSeqCount ([255, (n - 32512) % 256, (n - 32512) / 256 % 256] ++ [m]) = some (n, 3) := by
        have g : (n - 32512) % 256 + (n - 32512) / 256 % 256 * 256 + 0x7F00 = n := by omega
        simp [Spec.parseSeqCount, g]
      have a3 : 32512 ≤ n ∧ n ≤ 98047 := by omega
      have a4 : ¬ n < 32512 := by omega
      exact ⟨_, by simp [encodeSeqnum, Gen.seqnumArms, Gen.seqnumSub, Gen.seqnumLowFirst, a1, a2, a3, a4],
        by intro b hb; simp at hb; omega, parseSeqHeader_of_spec _ m n hn hs, hs⟩


end Zstd.Proofs.SeqCodes
