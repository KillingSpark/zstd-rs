import Zstd.Proofs.FrameDecoderBlocks
import Zstd.Proofs.FrameDecoderDrain
/-
The block loop.  `decode_blocks` and `decode_from_to` run the same loop over `decodeOneBlock` (`blockLoop`:
they differ in a guard on the source, in the stop test and in what follows the frame's last block); what is
true of every such loop is said once: what a run may do to the frame state (`LoopStep`), what a run has done
(`BlocksRan`: exact consumption; the block decoded last started from a state that passed the stop test, which
is where the memory bounds per strategy come from), fuel.  Then the loop of `decode_blocks` as an instance,
and truncated sources.
-/
set_option linter.unusedSectionVars false
namespace Zstd.Model
open Zstd

variable {σ : Type} [BlockDec σ] [BlockContract σ]

def FState.WF (st : FState σ) : Prop := st.finished = false → st.checksum = none

/-- what a run of the block loop may do to the frame state.  One block does this (`BlockStep.loopStep`), and unlike
`BlockStep` the relation is transitive. -/
structure LoopStep (st st' : FState σ) : Prop where
  header : st'.header = st.header
  usingDict : st'.usingDict = st.usingDict
  appends : ∃ x, DBuf.Appends st.buf st'.buf x
  bytesRead_le : st.bytesRead ≤ st'.bytesRead
  blockCounter_le : st.blockCounter ≤ st'.blockCounter
  finished_mono : st.finished = true → st'.finished = true
  checksum_keep : st'.finished = false → st'.checksum = st.checksum

theorem LoopStep.refl (st : FState σ) : LoopStep st st :=
  ⟨rfl, rfl, ⟨#[], DBuf.Appends.refl _⟩, Nat.le_refl _, Nat.le_refl _, id, fun _ => rfl⟩

theorem eq_false_of_mono {a b : Bool} (h : a = true → b = true) (hb : b = false) : a = false := by
  cases a with
  | false => rfl
  | true => rw [h rfl] at hb; cases hb

theorem LoopStep.trans {a b c : FState σ} (h1 : LoopStep a b) (h2 : LoopStep b c) : LoopStep a c := by
  obtain ⟨x, hx⟩ := h1.appends
  obtain ⟨y, hy⟩ := h2.appends
  exact ⟨h2.header.trans h1.header, h2.usingDict.trans h1.usingDict, ⟨_, hx.trans hy⟩,
    Nat.le_trans h1.bytesRead_le h2.bytesRead_le, Nat.le_trans h1.blockCounter_le h2.blockCounter_le,
    fun h => h2.finished_mono (h1.finished_mono h),
    fun hf => (h2.checksum_keep hf).trans (h1.checksum_keep (eq_false_of_mono h2.finished_mono hf))⟩

theorem BlockStep.loopStep {st st' : FState σ} (h : BlockStep st st') : LoopStep st st' := by
  obtain ⟨x, hx, _⟩ := h.appends
  exact ⟨h.header, h.usingDict, ⟨x, hx⟩, h.bytesRead_le, h.blockCounter.1, fun hf => by rw [h.finished, hf],
    fun _ => h.checksum⟩

theorem LoopStep.finish (st : FState σ) (k : Nat) (c : Option Nat) :
    LoopStep st { st with finished := true, bytesRead := st.bytesRead + k, checksum := c } :=
  ⟨rfl, rfl, ⟨#[], DBuf.Appends.refl _⟩, Nat.le_add_right _ _, Nat.le_refl _, fun _ => rfl, fun h => by cases h⟩

/-- the strategy test after a non-last block -/
def stratStop (strat : Strategy) (sizeBefore countBefore : Nat) (st1 : FState σ) : Bool :=
  match strat with
  | .all => false
  | .uptoBlocks n => st1.blockCounter - countBefore ≥ n
  | .uptoBytes n => st1.buf.content.size - sizeBefore ≥ n

/-- what the loop of `decode_blocks` does after the last block -/
def finishFrame (st1 : FState σ) (s1 : Src) : FState σ × Out Src :=
  if st1.header.checksumFlag then
    match readExact 4 s1 with
    | none => ({ st1 with finished := true }, .err .checksumRead)
    | some (cb, s2) => ({ st1 with finished := true, bytesRead := st1.bytesRead + 4, checksum := some (leNat cb) }, .ok s2)
  else ({ st1 with finished := true }, .ok s1)

/-- While the source still `guard`s a block, decode it; after the frame's last block `fin`ish; after any
other block stop if `stop` says so.  `ret` turns the source left over into the value returned. -/
def blockLoop {ρ : Type} (guard : Src → Bool) (stop : FState σ → Bool)
    (fin : FState σ → Src → FState σ × Out ρ) (ret : Src → ρ) : Nat → FState σ → Src → FState σ × Out ρ
  | 0, st, s => (st, .ok (ret s))
  | fuel + 1, st, s =>
    if guard s then
      match decodeOneBlock st s with
      | (st1, .err e) => (st1, .err e)
      | (st1, .fault f) => (st1, .fault f)
      | (st1, .ok (bh, s1)) =>
        if bh.last then fin st1 s1
        else if stop st1 then (st1, .ok (ret s1))
        else blockLoop guard stop fin ret fuel st1 s1
    else (st, .ok (ret s))

/-- what the lemmas about `blockLoop` need of the step after the last block: it marks the frame finished,
may count `k` more bytes and store a checksum, and on `Ok` returns the source `k` bytes further on -/
def Finishes {ρ : Type} (fin : FState σ → Src → FState σ × Out ρ) (ret : Src → ρ) : Prop :=
  ∀ st1 s1, ∃ k c o,
    fin st1 s1 = ({ st1 with finished := true, bytesRead := st1.bytesRead + k, checksum := c }, o) ∧
    (∀ f, o ≠ .fault f) ∧ ∀ a, o = .ok a → k ≤ s1.length ∧ a = ret (s1.drop k)

theorem BlockStep.of_eq {st st1 : FState σ} {s : Src} {o : Out (BHeader × Src)}
    (h : decodeOneBlock st s = (st1, o)) : BlockStep st st1 := by
  have := decodeOneBlock_step st s
  rwa [h] at this

section blockLoop
variable {ρ : Type} {guard : Src → Bool} {stop : FState σ → Bool} {fin : FState σ → Src → FState σ × Out ρ}
  {ret : Src → ρ}

/-- every iteration consumes at least 3 source bytes, so fuel above the length of the source is never exhausted -/
theorem blockLoop_fuel (f1 f2 : Nat) (st : FState σ) (s : Src) (h1 : s.length < f1) (h2 : s.length < f2) :
    blockLoop guard stop fin ret f1 st s = blockLoop guard stop fin ret f2 st s := by
  induction f1 generalizing f2 st s with
  | zero => omega
  | succ f1 ih =>
    obtain ⟨f2, rfl⟩ : ∃ f, f2 = f + 1 := ⟨f2 - 1, by omega⟩
    rw [blockLoop, blockLoop]
    by_cases hg : guard s = true
    · rw [if_pos hg, if_pos hg]
      cases hd : decodeOneBlock st s with
      | mk st1 o =>
        cases o with
        | err e => rfl
        | fault f => rfl
        | ok p =>
          obtain ⟨hlen, hrest, -⟩ := decodeOneBlock_ok _ _ _ _ _ hd
          simp only
          split
          · rfl
          · split
            · rfl
            · exact ih _ _ _ (by rw [hrest, List.length_drop]; omega) (by rw [hrest, List.length_drop]; omega)
    · rw [if_neg hg, if_neg hg]

structure BlocksRan (guard : Src → Bool) (stop : FState σ → Bool) (fin : FState σ → Src → FState σ × Out ρ)
    (ret : Src → ρ) (fuel : Nat) (st : FState σ) (s : Src) (r : FState σ × Out ρ) : Prop where
  step : LoopStep st r.1
  /-- on `Ok` the value returned is that of the source given minus exactly the bytes counted — at least one
  block header, if the loop was let in -/
  consumed : ∀ a, r.2 = .ok a → ∃ n, n ≤ s.length ∧ (guard s = true → fuel ≠ 0 → 3 ≤ n) ∧
    a = ret (s.drop n) ∧ r.1.bytesRead = st.bytesRead + n
  /-- the frame is marked finished by `fin` and by nothing else -/
  last : st.finished = false → r.1.finished = true → ∃ st1 s1, r = fin st1 s1
  /-- the block decoded last was decoded from the state given or from one that passed the `stop` test; every
  block counted before it added at most `MAX_BLOCK_SIZE`, and so did that block -/
  before : ∃ st1, LoopStep st st1 ∧ (st1 = st ∨ stop st1 = false) ∧
    st1.buf.content.size ≤ st.buf.content.size + (st1.blockCounter - st.blockCounter) * Gen.maxBlockSize ∧
    r.1.buf.content.size ≤ st1.buf.content.size + Gen.maxBlockSize

theorem blockLoop_ran (hfin : Finishes fin ret) (fuel : Nat) (st : FState σ) (s : Src) :
    BlocksRan guard stop fin ret fuel st s (blockLoop guard stop fin ret fuel st s) := by
  -- leaving without a block
  have stay : ∀ (st : FState σ) (s : Src) fuel, (guard s = true → fuel = 0) →
      BlocksRan guard stop fin ret fuel st s (st, .ok (ret s)) :=
    fun st s fuel h0 => ⟨LoopStep.refl st,
      fun a ha => ⟨0, Nat.zero_le _, fun hg hf => absurd (h0 hg) hf, (Out.ok.inj ha).symm, rfl⟩,
      fun hnf h => (by rw [hnf] at h; cases h),
      ⟨st, LoopStep.refl st, Or.inl rfl, Nat.le_add_right _ _, Nat.le_add_right _ _⟩⟩
  induction fuel generalizing st s with
  | zero => exact stay st s 0 (fun _ => rfl)
  | succ fuel ih =>
    rw [blockLoop]
    by_cases hg : guard s = true
    · rw [if_pos hg]
      cases hd : decodeOneBlock st s with
      | mk st1 o =>
        have hb := BlockStep.of_eq hd
        obtain ⟨x, hx, hxs⟩ := hb.appends
        have here : ∃ st0, LoopStep st st0 ∧ (st0 = st ∨ stop st0 = false) ∧
            st0.buf.content.size ≤ st.buf.content.size + (st0.blockCounter - st.blockCounter) * Gen.maxBlockSize ∧
            st1.buf.content.size ≤ st0.buf.content.size + Gen.maxBlockSize :=
          ⟨st, LoopStep.refl st, .inl rfl, Nat.le_add_right _ _, by rw [hx.size]; omega⟩
        have unfinished : st.finished = false → st1.finished = true → False := fun hnf h => by
          rw [hb.finished, hnf] at h
          cases h
        cases o with
        | err e => exact ⟨hb.loopStep, fun _ h => (nomatch h), fun hnf h => (unfinished hnf h).elim, here⟩
        | fault f => exact ⟨hb.loopStep, fun _ h => (nomatch h), fun hnf h => (unfinished hnf h).elim, here⟩
        | ok p =>
          obtain ⟨hlen, hrest, -, -, hbr, hbc⟩ := decodeOneBlock_ok _ _ _ _ _ hd
          simp only
          by_cases hlast : p.1.last = true
          · rw [if_pos hlast]
            obtain ⟨k, c, o, he, -, hok⟩ := hfin st1 p.2
            refine ⟨?_, fun a ha => ?_, fun _ _ => ⟨st1, p.2, rfl⟩, ?_⟩
            · rw [he]
              exact hb.loopStep.trans (LoopStep.finish st1 k c)
            · rw [he] at ha ⊢
              obtain ⟨hk, hr⟩ := hok a ha
              rw [hrest, List.length_drop] at hk
              exact ⟨3 + p.1.contentSize + k, Nat.add_le_of_le_sub' hlen hk,
                fun _ _ => Nat.le_add_right_of_le (Nat.le_add_right 3 _), by rw [hr, hrest, List.drop_drop],
                by simp only; omega⟩
            · rw [he]
              exact here
          · rw [if_neg hlast]
            by_cases hstop : stop st1 = true
            · rw [if_pos hstop]
              exact ⟨hb.loopStep,
                fun a ha => ⟨3 + p.1.contentSize, hlen, fun _ _ => Nat.le_add_right 3 _, by rw [← Out.ok.inj ha, hrest], hbr⟩,
                fun hnf h => (unfinished hnf h).elim, here⟩
            · rw [if_neg hstop]
              have := ih st1 p.2
              refine ⟨hb.loopStep.trans this.step, fun a ha => ?_,
                fun hnf => this.last (by rw [hb.finished, hnf]), ?_⟩
              · obtain ⟨n, hn, -, hr, hbn⟩ := this.consumed a ha
                rw [hrest, List.length_drop] at hn
                exact ⟨3 + p.1.contentSize + n, Nat.add_le_of_le_sub' hlen hn,
                  fun _ _ => Nat.le_add_right_of_le (Nat.le_add_right 3 _), by rw [hr, hrest, List.drop_drop],
                  by rw [hbn, hbr, Nat.add_assoc]⟩
              · obtain ⟨st2, h1, h2, h3, h4⟩ := this.before
                refine ⟨st2, hb.loopStep.trans h1, .inr ?_, ?_, h4⟩
                · rcases h2 with rfl | h2
                  · simpa using hstop
                  · exact h2
                · have := h1.blockCounter_le
                  rw [show st2.blockCounter - st.blockCounter = st2.blockCounter - st1.blockCounter + 1 by omega,
                    Nat.add_mul]
                  rw [hx.size] at h3
                  omega
    · rw [if_neg hg]
      exact stay st s _ (fun h => absurd h hg)

end blockLoop

theorem finishFrame_finishes : Finishes (finishFrame (σ := σ)) id := by
  intro st1 s1
  unfold finishFrame
  split
  · cases hr : readExact 4 s1 with
    | none => exact ⟨0, st1.checksum, _, rfl, nofun, nofun⟩
    | some p =>
      obtain ⟨h4, -, hp⟩ := readExact_eq_some.mp (show readExact 4 s1 = some (p.1, p.2) from hr)
      exact ⟨4, _, _, rfl, nofun, fun a ha => ⟨h4, by rw [← Out.ok.inj ha, hp]; rfl⟩⟩
  · exact ⟨0, st1.checksum, _, rfl, nofun, fun a ha => ⟨Nat.zero_le _, (Out.ok.inj ha).symm⟩⟩

theorem decodeBlocksLoop_eq (strat : Strategy) (a c fuel : Nat) (st : FState σ) (s : Src) :
    decodeBlocksLoop strat a c fuel st s =
      blockLoop (fun _ => true) (stratStop strat a c) finishFrame id fuel st s := by
  induction fuel generalizing st s with
  | zero => rfl
  | succ fuel ih =>
    rw [decodeBlocksLoop, blockLoop, if_pos rfl]
    cases decodeOneBlock st s with
    | mk st1 o =>
      cases o with
      | err e => rfl
      | fault f => rfl
      | ok p =>
        simp only [ih]
        cases strat <;> rfl

theorem decodeBlocksLoop_succ (strat : Strategy) (a c fuel : Nat) (st : FState σ) (s : Src) :
    decodeBlocksLoop strat a c (fuel + 1) st s =
      match decodeOneBlock st s with
      | (st1, .err e) => (st1, .err e)
      | (st1, .fault f) => (st1, .fault f)
      | (st1, .ok (bh, s1)) =>
        if bh.last then finishFrame st1 s1
        else if stratStop strat a c st1 then (st1, .ok s1)
        else decodeBlocksLoop strat a c fuel st1 s1 := by
  simp only [decodeBlocksLoop_eq]
  rw [blockLoop, if_pos rfl]
  cases decodeOneBlock st s with
  | mk st1 o => cases o <;> rfl

theorem decodeBlocksLoop_ran (strat : Strategy) (a c fuel : Nat) (st : FState σ) (s : Src) :
    BlocksRan (fun _ => true) (stratStop strat a c) finishFrame id fuel st s (decodeBlocksLoop strat a c fuel st s) := by
  rw [decodeBlocksLoop_eq]
  exact blockLoop_ran finishFrame_finishes fuel st s

theorem decodeBlocksLoop_step (strat : Strategy) (a c fuel : Nat) (st : FState σ) (s : Src) :
    LoopStep st (decodeBlocksLoop strat a c fuel st s).1 :=
  (decodeBlocksLoop_ran strat a c fuel st s).step

theorem finishFrame_checksum (st1 : FState σ) (s1 : Src) (hok : (finishFrame st1 s1).2.isOk = true)
    (hflag : (finishFrame st1 s1).1.header.checksumFlag = true) : (finishFrame st1 s1).1.checksum.isSome = true := by
  unfold finishFrame at hok hflag ⊢
  by_cases hc : st1.header.checksumFlag = true
  · rw [if_pos hc] at hok ⊢
    cases hr : readExact 4 s1 with
    | none => rw [hr] at hok; cases hok
    | some p => rfl
  · rw [if_neg hc] at hflag
    exact absurd hflag hc

/-- the fuel of `Decoder.decodeBlocks` (`|source| + 1`) is never exhausted -/
theorem decodeBlocksLoop_fuel (strat : Strategy) (a c f1 f2 : Nat) (st : FState σ) (s : Src)
    (h1 : s.length < f1) (h2 : s.length < f2) :
    decodeBlocksLoop strat a c f1 st s = decodeBlocksLoop strat a c f2 st s := by
  rw [decodeBlocksLoop_eq, decodeBlocksLoop_eq]
  exact blockLoop_fuel f1 f2 st s h1 h2

def IsPrefix (a b : Array Nat) : Prop := ∃ y, b = a ++ y

theorem IsPrefix.refl (a : Array Nat) : IsPrefix a a := ⟨#[], by simp⟩
theorem IsPrefix.trans {a b c : Array Nat} (h1 : IsPrefix a b) (h2 : IsPrefix b c) : IsPrefix a c := by
  obtain ⟨x, rfl⟩ := h1; obtain ⟨y, rfl⟩ := h2; exact ⟨x ++ y, by rw [Array.append_assoc]⟩
theorem LoopStep.isPrefix {st st' : FState σ} (h : LoopStep st st') : IsPrefix st.buf.content st'.buf.content := by
  obtain ⟨x, hx⟩ := h.appends; exact ⟨x, hx.content⟩

theorem decodeBlocksLoop_take (strat : Strategy) (a c fuel fuel' : Nat) (st st' : FState σ) (s rest : Src) (k : Nat)
    (h : decodeBlocksLoop strat a c fuel st s = (st', .ok rest)) (hfin : st'.finished = true)
    (hnf : st.finished = false) (hcs : st.checksum = none)
    (hk : k < s.length - rest.length) (hf : k < fuel') :
    ∃ st'' e, decodeBlocksLoop strat a c fuel' st (s.take k) = (st'', .err e) ∧
      (e = .blockHeaderRead ∨ e = .blockBodyRead ∨ e = .checksumRead) ∧
      IsPrefix st''.buf.content st'.buf.content ∧ st''.header = st.header ∧
      (if st''.header.checksumFlag then st''.finished && st''.checksum.isSome else st''.finished) = false ∧
      st.bytesRead ≤ st''.bytesRead ∧ st''.bytesRead ≤ st.bytesRead + k := by
  induction fuel generalizing fuel' st s k with
  | zero =>
    simp only [decodeBlocksLoop, Prod.mk.injEq] at h
    rw [← h.1, hnf] at hfin; cases hfin
  | succ fuel ih =>
    obtain ⟨fuel', rfl⟩ : ∃ f, fuel' = f + 1 := ⟨fuel' - 1, by omega⟩
    have hfull := decodeBlocksLoop_step strat a c (fuel + 1) st s
    rw [h] at hfull
    rw [decodeBlocksLoop_succ] at h ⊢
    simp only [finishFrame] at h ⊢
    split at h
    · cases h
    · cases h
    · rename_i st1 bh s1 heq
      have hb := decodeOneBlock_step st s
      rw [heq] at hb
      simp only at hb
      obtain ⟨hlen, hs1, -, -, hbr, -⟩ := decodeOneBlock_ok _ _ _ _ _ heq
      by_cases hkc : k < 3 + bh.contentSize
      · -- the cut is inside this block
        rw [decodeOneBlock_take_cut _ _ _ _ _ _ heq hkc]
        by_cases hk3 : k < 3
        · rw [if_pos hk3]
          exact ⟨st, _, rfl, Or.inl rfl, hfull.isPrefix, rfl, by simp [hnf], Nat.le_refl _, Nat.le_add_right _ _⟩
        · rw [if_neg hk3]
          exact ⟨_, _, rfl, Or.inr (Or.inl rfl), hfull.isPrefix, rfl, by simp [hnf], Nat.le_add_right _ _, by simp; omega⟩
      · -- the block fits in front of the cut: the cut moves on by its length
        rw [decodeOneBlock_take_fits _ _ _ _ _ _ heq (by omega)]
        simp only
        split at h
        · rename_i hlast
          rw [if_pos hlast]
          split at h
          · rename_i hflag
            rw [if_pos hflag]
            split at h
            · cases h
            · rename_i cb s2 hr
              cases h
              rw [readExact_eq_some] at hr
              obtain ⟨h4, rfl, rfl⟩ := hr
              have : readExact 4 (s1.take (k - (3 + bh.contentSize))) = none := by
                have hl1 : s1.length = s.length - (3 + bh.contentSize) := by rw [hs1, List.length_drop]
                rw [readExact_eq_none, List.length_take]
                simp only [List.length_drop] at hk
                omega
              rw [this]
              refine ⟨_, _, rfl, Or.inr (Or.inr rfl), IsPrefix.refl _, hb.header, ?_, by simp; omega, by simp; omega⟩
              simp only [hb.header] at hflag ⊢
              simp [hflag, hb.checksum, hcs]
          · cases h
            subst hs1
            rw [List.length_drop] at hk
            omega
        · rename_i hlast
          rw [if_neg hlast]
          split at h
          · cases h
            rw [hb.finished, hnf] at hfin; cases hfin
          · rename_i hstop
            rw [if_neg hstop]
            subst hs1
            obtain ⟨st'', e, h1, h2, h3, h4, h5, h6, h7⟩ := ih (fuel' := fuel') st1 _ (k - (3 + bh.contentSize)) h
              (by rw [hb.finished, hnf]) (by rw [hb.checksum, hcs])
              (by rw [List.length_drop]; omega) (by omega)
            refine ⟨st'', e, h1, h2, h3, h4.trans hb.header, h5, by omega, by omega⟩

end Zstd.Model
