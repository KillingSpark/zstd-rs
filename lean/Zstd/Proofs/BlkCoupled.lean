import Zstd.Proofs.BlkSeq
import Zstd.Proofs.FseDecTable
/-
Coupling between the entropy state of the Spec (`Spec.Entropy`: the FSE table in force per channel,
an RLE table being a one-state table) and the model's scratch (`Blk.FseScratch`: a decoder table plus
an optional RLE symbol per channel).
-/
namespace Zstd.Proofs.Blk
open Zstd Zstd.Model Zstd.Model.Fse Zstd.Model.Blk

/-- one channel of the model's scratch (decoder table `t`, RLE symbol `rle` if the channel is in RLE mode) holds the
Spec's table `T` -/
def ChanCoupled (maxLog maxCode : Nat) (T : Spec.Fse.Table) (t : DTable) (rle : Option Nat) : Prop :=
  match rle with
  | some b => T = Spec.Fse.rleTable b ∧ b ≤ maxCode
  | none => FseBuilt maxLog t ∧ t.maxSymbol = maxCode ∧ T = specOf t

/-- a channel before the table update: the Spec may have no table yet -/
def ChanCoupledOpt (maxLog maxCode : Nat) (T : Option Spec.Fse.Table) (t : DTable) (rle : Option Nat) : Prop :=
  ChanPre maxLog maxCode t rle ∧ ∀ T', T = some T' → ChanCoupled maxLog maxCode T' t rle

/-- the FSE part of the refinement invariant `Coupled` of `Proofs/BlockRefines` -/
structure FseCoupled (e : Spec.Entropy) (s : FseScratch) : Prop where
  ll : ChanCoupledOpt Gen.llMaxLog Gen.maxLiteralLengthCode e.ll s.literalLengths s.llRle
  of : ChanCoupledOpt Gen.ofMaxLog Gen.maxOffsetCode e.of s.offsets s.ofRle
  ml : ChanCoupledOpt Gen.mlMaxLog Gen.maxMatchLengthCode e.ml s.matchLengths s.mlRle

theorem ChanCoupled.pre {maxLog maxCode : Nat} {T : Spec.Fse.Table} {t : DTable} {rle : Option Nat}
    (hwf : FseWF maxLog t) (hms : t.maxSymbol = maxCode)
    (h : ChanCoupled maxLog maxCode T t rle) : ChanPre maxLog maxCode t rle := by
  cases rle with
  | some b => exact ⟨hwf, hms, fun b' hb' => by cases hb'; exact h.2⟩
  | none => exact ⟨Or.inr h.1, h.2.1, fun b hb => by cases hb⟩

end Zstd.Proofs.Blk
