import Zstd.Proofs.SeqCoupled
import Zstd.Proofs.FseCoupled
import Zstd.Proofs.FseNormalize
import Zstd.Proofs.FseTableDesc
import Zstd.Proofs.HufFseHist
/-
The FSE tables of the sequence section: what the compressor builds and writes is what the STRICT decoder
of the specification reads and builds, and the two are coupled in the form the sequence-stream proof needs
(`FromData`).

Per block the compressor calls `build_table_from_data(codes, max_log, true)` three times (literal-length,
match-length and offset codes; `max_log` 9 / 9 / 8, codes `≤ 35 / 52 / 31`) and writes the tables with
`write_table`; the literals coder does the same for Huffman weights (`max_log` 6, read back with max symbol 255;
`Huf.fseWeights_setup` and `LitCoder.fseWeights_spec` take `fromData` at weights `≤ 12`; the format's limit for a
weight is 11, `MAX_MAX_NUM_BITS` of `huff0_decoder.rs:9`).
-/
namespace Zstd.Proofs.SeqTables
open Zstd Zstd.Model.Fse
open Zstd.Proofs.Huf (maxSym_ge maxSym_mem histogram_length histogram_getD)

/-- what the normaliser needs of the histogram `counts` of `codes`.  `last`: the last entry is positive, except for
`[n, 0]` — `counts[..=max_symbol.max(1)]` has a second entry also when only symbol 0 occurs -/
structure HistOk (codes : List Nat) (maxSym : Nat) (counts : List Nat) : Prop where
  len2 : 2 ≤ counts.length
  lenMax : counts.length ≤ maxSym + 1
  pos : ∀ c ∈ codes, counts.getD c 0 > 0
  last : counts.getD (counts.length - 1) 0 > 0 ∨ (counts.length = 2 ∧ counts.getD 0 0 > 0)

theorem histogram_ok (codes : List Nat) (maxSym : Nat) (h1 : 1 ≤ maxSym) (h255 : maxSym ≤ 255)
    (hne : codes ≠ []) (hc : ∀ c ∈ codes, c ≤ maxSym) : HistOk codes maxSym (histogram codes) := by
  have hlen := histogram_length codes
  have hm1 := maxSym_mem codes
  have hmle : Huf.maxSym codes ≤ maxSym := by
    rcases hm1 with h0 | ⟨hmem, _⟩
    · omega
    · exact hc _ hmem
  have hle : ∀ c ∈ codes, c ≤ Huf.maxSym codes := fun c hcm => maxSym_ge hcm (by have := hc c hcm; omega)
  refine ⟨by omega, by omega, fun c hcm => ?_, ?_⟩
  · rw [histogram_getD codes (by have := hle c hcm; omega)]
    exact List.count_pos_iff.mpr hcm
  · rw [hlen]
    by_cases hm0 : Huf.maxSym codes = 0
    · -- only symbol 0 occurs
      right
      obtain ⟨c, hcmem⟩ := List.exists_mem_of_ne_nil codes hne
      have hc0 : c = 0 := by have := hle c hcmem; omega
      subst hc0
      rw [hm0, histogram_getD codes (by omega)]
      exact ⟨rfl, List.count_pos_iff.mpr hcmem⟩
    · left
      obtain ⟨hmem, _⟩ := hm1.resolve_left hm0
      rw [show max (Huf.maxSym codes) 1 + 1 - 1 = Huf.maxSym codes by omega, histogram_getD codes (by omega)]
      exact List.count_pos_iff.mpr hmem

open Zstd.Proofs.FseNormalize in
theorem mass_eq_lsum : ∀ (probs : List Int), (∀ p ∈ probs, 0 ≤ p) →
    ((FseTableDesc.mass probs : Nat) : Int) = probs.foldl (· + ·) 0 := by
  intro probs
  induction probs with
  | nil => intro _; rfl
  | cons p ps ih =>
    intro h
    have hp := h p (List.mem_cons_self ..)
    have ih' := ih (fun q hq => h q (List.mem_cons_of_mem _ hq))
    have hl : (p :: ps).foldl (· + ·) 0 = p + ps.foldl (· + ·) 0 := lsum_cons p ps
    rw [FseTableDesc.mass_cons, hl, ← ih']
    simp only [FseTableDesc.wt]
    split
    · omega
    · split <;> omega

/-- what the table builders, the stream coder and the description writer need of the normalised distribution -/
structure DistOk (codes : List Nat) (maxLog maxSym : Nat) (probs : List Int) (al : Nat) : Prop where
  al5 : 5 ≤ al
  alMax : al ≤ maxLog
  len : probs.length ≤ maxSym + 1
  nonneg : ∀ p ∈ probs, 0 ≤ p
  mass : FseTableDesc.mass probs = 2 ^ al
  usable : ∀ c ∈ codes, probs.getD c 0 ≠ 0
  last : probs.getLast? ≠ some 0

open Zstd.Proofs.FseNormalize in
theorem distOk_of_normOk {codes : List Nat} {maxLog maxSym : Nat} {counts : List Nat}
    {probs : List Int} {al : Nat} (hh : HistOk codes maxSym counts)
    (hn : NormOk counts maxLog true probs al) : DistOk codes maxLog maxSym probs al := by
  obtain ⟨h5, hm, hlen, hnn, hsum, hge, hav⟩ := hn
  have h5' : 5 ≤ al := h5
  have hmass : FseTableDesc.mass probs = 2 ^ al := by
    have := mass_eq_lsum probs hnn
    rw [hsum] at this
    exact Int.ofNat.inj this
  refine ⟨h5', hm, by rw [hlen]; exact hh.lenMax, hnn, hmass, ?_, ?_⟩
  · intro c hc
    have := hge c (hh.pos c hc)
    omega
  · have hl2 := hh.len2
    rw [List.getLast?_eq_getElem?, hlen]
    intro hlast
    have hlastD : probs.getD (counts.length - 1) 0 = 0 := by
      rw [List.getD_eq_getElem?_getD, hlast]; rfl
    rcases hh.last with hp | ⟨hl, hp⟩
    · have := hge _ hp
      omega
    · -- `probs = [p0, p1]`, both `≤ 2^(al-1)`, sum `2^al`
      obtain ⟨p0, p1, rfl⟩ : ∃ p0 p1, probs = [p0, p1] :=
        match probs, hlen.trans hl with
        | [p0, p1], _ => ⟨p0, p1, rfl⟩
      have h0 := hav rfl p0 (by simp)
      have hs : p0 + p1 = ((2 ^ al : Nat) : Int) := by simpa [List.foldl] using hsum
      have hp1 : p1 = 0 := by simpa [hl] using hlastD
      have := Nat.two_pow_pred_mul_two (w := al) (by omega)
      have := Nat.two_pow_pos (al - 1)
      omega

theorem encBuildable_of_distOk {codes : List Nat} {maxLog maxSym : Nat} {probs : List Int} {al : Nat}
    (h9 : maxLog ≤ 9) (h255 : maxSym ≤ 255) (hd : DistOk codes maxLog maxSym probs al) :
    FseEncTable.EncBuildable al probs := by
  refine ⟨⟨hd.al5, by have := hd.alMax; omega, by have := hd.len; omega,
    fun p hp => by have := hd.nonneg p hp; omega, hd.mass⟩, ?_⟩
  have : probs.filter (· = -1) = [] := by
    rw [List.filter_eq_nil_iff]
    intro p hp
    have := hd.nonneg p hp
    simp; omega
  rw [this]
  exact Nat.two_pow_pos al

open Zstd.Proofs.FseStream Zstd.Proofs.SeqCoupled in
theorem sgood_of_good {dt : DTable} {T : Spec.Fse.Table} {al s : Nat} {st : EState}
    (hT : T.entries = dt.decode.map FseDecTable.toSpecEntry) (h : Good dt al s st) : SGood T al s st := by
  obtain ⟨h1, h2, h3⟩ := h
  refine ⟨h1, ?_, h3⟩
  rw [hT, Array.getElem?_map, h2]
  rfl

open Zstd.Proofs.FseStream Zstd.Proofs.SeqCoupled in
theorem scoupled_of_coupled {et : ETable} {dt : DTable} {T : Spec.Fse.Table} {al : Nat}
    {usable usable' : Nat → Prop} (h9 : al ≤ 9) (hlog : T.accLog = al)
    (hT : T.entries = dt.decode.map FseDecTable.toSpecEntry) (hu : ∀ s, usable' s → usable s)
    (hc : Coupled et dt al usable) : SCoupled et T al usable' := by
  refine ⟨hc.al_pos, h9, hc.encLog, hlog, ?_, ?_⟩
  · intro s hs
    obtain ⟨st, h1, h2⟩ := hc.start s (hu s hs)
    exact ⟨st, h1, sgood_of_good hT h2⟩
  · intro s idx hs hidx
    obtain ⟨st, h1, h2, h3, h4⟩ := hc.next s idx (hu s hs) hidx
    exact ⟨st, h1, h2, h3, sgood_of_good hT h4⟩


open Zstd.Proofs.BitIO Zstd.Proofs.SeqCoupled Zstd.Proofs.FseStream Zstd.Proofs.FseStreamInter Zstd.Model.BitIO

abbrev tableOf (maxSym al : Nat) (probs : List Int) (dec : Array DEntry) (ctr : Array Nat) : DTable :=
  { maxSymbol := maxSym, decode := dec, accuracyLog := al, probs := probs.toArray, symbolCounter := ctr }

/-- what `build_table_from_data(codes, max_log, true)` has built: the normalised distribution `probs` of accuracy
`al`, the encoder table `et` of it, the decoding table (`dec`, `ctr`) a decoder with `max_symbol = maxSym` builds
from the same distribution, and how the two are tied together -/
structure FromData (codes : List Nat) (maxLog maxSym : Nat) (et : ETable) (probs : List Int) (al : Nat)
    (dec : Array DEntry) (ctr : Array Nat) : Prop where
  norm : normalize (histogram codes) maxLog true = .ok (probs, al)
  normOk : FseNormalize.NormOk (histogram codes) maxLog true probs al
  dist : DistOk codes maxLog maxSym probs al
  buildable : FseEncTable.EncBuildable al probs
  encTable : buildTableFromProbabilities probs al = .ok et
  decTable : buildDecodingTableCore al probs.toArray maxSym = .ok (dec, ctr)
  carries : FseTableDesc.Carries et al probs
  coupled : Coupled2 et (tableOf maxSym al probs dec ctr) al (FseCoupled.usableOf probs)
  spec : Spec.Fse.buildTable al probs = some { accLog := al, entries := dec.map FseDecTable.toSpecEntry }

/-- The bound on the symbols (`bound`) is separate from the `maxSym` of the description reader (Huffman-weight
tables: `build_table_from_data(weights, 6, true)`, `bound = 12`, reader max symbol 255); `hfit` is the
`counts.length ≤ 2 ^ maxLog` of the normaliser. -/
theorem fromData (codes : List Nat) (maxLog maxSym bound : Nat)
    (hlog5 : 5 ≤ maxLog) (hlog9 : maxLog ≤ 9) (hb1 : 1 ≤ bound) (hbs : bound ≤ maxSym) (hsym255 : maxSym ≤ 255)
    (hfit : bound + 1 ≤ 2 ^ maxLog) (hne : codes ≠ []) (hc : ∀ c ∈ codes, c ≤ bound) :
    ∃ et probs al dec ctr, FromData codes maxLog maxSym et probs al dec ctr := by
  have hh := histogram_ok codes bound hb1 (by omega) hne hc
  obtain ⟨c0, hc0⟩ := List.exists_mem_of_ne_nil codes hne
  have hposx : ∃ c ∈ histogram codes, c > 0 := by
    have hp := hh.pos c0 hc0
    rw [List.getD_eq_getElem?_getD] at hp
    cases hget : (histogram codes)[c0]? with
    | none => rw [hget] at hp; exact absurd hp (by decide)
    | some v => rw [hget] at hp; exact ⟨v, List.mem_of_getElem? hget, hp⟩
  obtain ⟨probs, al, hnorm, hnok⟩ := FseNormalize.normalize_valid_partial (histogram codes) maxLog true
    (by show 5 ≤ maxLog; exact hlog5) hh.len2 (by have := hh.lenMax; omega)
    (by have := hh.lenMax; omega) hposx
  have hd0 := distOk_of_normOk hh hnok
  have hd : DistOk codes maxLog maxSym probs al := { hd0 with len := by have := hd0.len; omega }
  have hb := encBuildable_of_distOk hlog9 (show bound ≤ 255 by omega) hd0
  obtain ⟨syms, ctr, hL, het, hdec, hspec⟩ := FseEncTable.tables_eq (maxSymbol := maxSym) hb hd.len
  exact ⟨_, probs, al, _, ctr, hnorm, hnok, hd, hb, het, hdec, FseCoupled.carries_of_built hb het,
    FseCoupled.coupled2_of_buildable hb hd.len (hnok.2.2.2.2.2.2 rfl) het hdec rfl rfl, hspec⟩

variable {codes : List Nat} {maxLog maxSym : Nat} {et : ETable} {probs : List Int} {al : Nat}
  {dec : Array DEntry} {ctr : Array Nat}

theorem FromData.build (h : FromData codes maxLog maxSym et probs al dec ctr) :
    buildTableFromData codes maxLog true = .ok et := by
  show buildTableFromCounts (histogram codes) maxLog true = .ok et
  unfold buildTableFromCounts
  rw [h.norm]
  exact h.encTable

theorem FromData.scoupled (h : FromData codes maxLog maxSym et probs al dec ctr) (h9 : maxLog ≤ 9) :
    SCoupled et { accLog := al, entries := dec.map FseDecTable.toSpecEntry } al (fun s => s ∈ codes) :=
  scoupled_of_coupled (by have := h.dist.alMax; omega) rfl rfl (fun s hs => h.dist.usable s hs) h.coupled.toCoupled

theorem FromData.description (h : FromData codes maxLog maxSym et probs al dec ctr) (h9 : maxLog ≤ 9)
    {w : BitWriter} {L : List Bool} (hw : WInv w L) (hL : L.length % 8 = 0) :
    ∃ w' D, et.writeTable w = .ok w' ∧ WInv w' (L ++ D) ∧ D.length % 8 = 0 ∧
      ∀ (bytes : List Nat) (rest : List Bool), Spec.bitsLE bytes = D ++ rest →
        Spec.Fse.readDescription bytes maxLog maxSym = some (al, probs, D.length / 8) := by
  have hd := h.dist
  obtain ⟨w', D, h1, h2, h3, h4⟩ := FseTableDesc.write_read_description et al probs hd.al5 (by have := hd.alMax; omega)
    h.buildable.valid.length_le (fun p hp => by have := hd.nonneg p hp; omega) hd.mass hd.last
    h.carries hw hL
  exact ⟨w', D, h1, h2, h3, fun bytes rest hbits => h4 bytes rest maxLog maxSym hbits hd.alMax hd.len
    (fun hl => by have := hd.nonneg (-1) (List.mem_of_getLast? hl); omega)⟩

theorem FromData.startBits (h : FromData codes maxLog maxSym et probs al dec ctr) {s : Nat} {st : EState}
    (hs : s ∈ codes) (hst : et.startState s = .ok st) : 1 ≤ st.numBits :=
  (h.coupled.startBits s st (h.dist.usable s hs) hst).1

end Zstd.Proofs.SeqTables
