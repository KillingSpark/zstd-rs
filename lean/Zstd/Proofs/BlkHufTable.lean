import Zstd.Proofs.BlkHufWeights
import Zstd.Proofs.HufDec
import Zstd.Proofs.HufCanon
/-
A table that `build_table_from_weights` accepts is `HufBuilt` (every one of its `2^max_num_bits`
cells was written by the fill loop, with a code length between 1 and `max_num_bits`:
`Huf.canon_cover`), and `build_decoder` never panics.
-/
namespace Zstd.Proofs.Blk
open Zstd Zstd.Model Zstd.Model.Huf Zstd.Model.Huf.Bits
open Zstd.Proofs.BitIO (Bytes)
open Zstd.Proofs.Huf

theorem buildTableFromWeights_built {t t' : DecTable} (hlen : t.weights.length ≤ 257)
    (h : buildTableFromWeights t = (t', .ok ())) : HufBuilt t' := by
  by_cases g : GoodWeights t.weights
  · obtain ⟨ri, dec, hbuild, hinv⟩ := buildTable_good t hlen g
    rw [hbuild] at h
    simp only [Prod.mk.injEq, and_true] at h
    subst h
    -- `HufBuilt` has the literal 11; should `MAX_MAX_NUM_BITS` change in the source, this `rfl` is what fails
    have h11 : Gen.hufMaxNumBits = 11 := rfl
    refine ⟨by simp [maxBitsOf], by have := g.maxBits; simp only [maxBitsOf]; omega, hinv.size, ?_⟩
    intro e he
    obtain ⟨i, hi, hget⟩ := List.mem_iff_getElem.mp he
    rw [Array.length_toList, hinv.size, ← g.total] at hi
    -- every cell lies in the block of some symbol, so its code length is between 1 and `m`
    obtain ⟨s, w, j, h1, h2, h3, h4, rfl, _⟩ := canon_cover _ _ i hi
    have hcell := hinv.cells s w (List.getElem?_eq_some_iff.mp h1).1 h1 h2 j h4
    rw [show dec[canonAt _ _ w + j]? = some e by rw [← hget]; simp, Option.some.injEq] at hcell
    subst hcell
    simp only
    omega
  · obtain ⟨e, he, _⟩ := buildTable_bad t hlen g
    rw [h] at he; cases he

theorem hufBuildDecoder_ok (t : DecTable) (src : List Nat) (hb : Bytes src) :
    Sound .fault (fun t' used => HufBuilt t' ∧ used ≤ src.length) (buildDecoder t src) := by
  unfold buildDecoder
  dsimp only
  have aW := readWeights_ok { t with decode := #[] } src hb
  generalize readWeights { t with decode := #[] } src = pW at aW ⊢
  obtain ⟨t1, e | used⟩ := pW
  · exact Sound.error fun f he => aW.1 f (congrArg _ he)
  obtain ⟨hlen, hused, _, _⟩ := aW.2 _ _ rfl
  have hnf2 := buildTable_no_fault t1 hlen
  dsimp only
  cases hbt : buildTableFromWeights t1 with
  | mk t2 r =>
    rw [hbt] at hnf2
    cases r with
    | error e => exact Sound.error fun f he => hnf2 f (congrArg _ he)
    | ok u => exact Sound.ok ⟨buildTableFromWeights_built hlen hbt, hused⟩

end Zstd.Proofs.Blk
