import Zstd.Proofs.LitCoderTable
import Zstd.Proofs.LitCoderCounts
import Zstd.Proofs.EncReal
import Zstd.Proofs.LitHeader
/-
The CONTRACT of the real `compress_literals`
(`Model.Enc.compressLiteralsReal`) against the strict specification, all branches:

  RLE literals (repair of F10) · raw fallback · Compressed (new table, direct or FSE-compressed weights)
  · Treeless (table of the previous block) · one stream (< 6 literals) or four streams with jump table
  · the three size formats (3, 4, 5 header bytes).
-/
namespace Zstd.Proofs.LitCoder
open Zstd Zstd.Model Zstd.Model.Huf Zstd.Model.Enc Zstd.Proofs.Huf Zstd.Proofs.Enc

/-- the size-format arms of `compress_literals` -/
def SizeArm (sf sb : Nat) : Prop := (sf = 0 ∧ sb = 10) ∨ (sf = 1 ∧ sb = 10) ∨ (sf = 2 ∧ sb = 14) ∨ (sf = 3 ∧ sb = 18)

theorem litSizeFormat_eq_lookup (n : Nat) : litSizeFormat n =
    match Hdr.litSizeFormat Gen.litSizeFormatArms n with
    | some p => .ok p
    | none => .error (.unimplemented "compressed.rs:compress_literals:too many literals") := by
  unfold litSizeFormat
  induction Gen.litSizeFormatArms with
  | nil => rfl
  | cons a rest ih =>
    obtain ⟨lo, hi, sf, sb⟩ := a
    by_cases h : lo ≤ n ∧ n < hi
    · simp [List.find?, Hdr.litSizeFormat, h]
    · have : (decide (lo ≤ n) && decide (n < hi)) = false := by simpa using h
      simp only [List.find?, Hdr.litSizeFormat, this, h, if_false]
      exact ih

theorem litSizeFormat_arm {n sf sb : Nat} (h : litSizeFormat n = .ok (sf, sb)) :
    SizeArm sf sb ∧ n < 2 ^ sb ∧ (sf = 0 ↔ n < 6) ∧ n < 262144 := by
  rw [litSizeFormat_eq_lookup] at h
  cases hh : Hdr.litSizeFormat Gen.litSizeFormatArms n with
  | none => rw [hh] at h; cases h
  | some p =>
    rw [hh] at h
    obtain rfl : p = (sf, sb) := by simpa using h
    obtain ⟨a1, a2, a3, a4⟩ := Headers.size_arms_cases n sf sb hh
    exact ⟨a4, a1, a3, a2⟩

theorem litSizeFormat_ok (n : Nat) (h : n ≤ 131072) : ∃ sf sb, litSizeFormat n = .ok (sf, sb) := by
  rw [litSizeFormat_eq_lookup, Headers.size_arms n (by omega)]
  exact ⟨_, _, rfl⟩

theorem sizeArm_bounds {sf sb : Nat} (h : SizeArm sf sb) : sf < 4 ∧ 1 ≤ (4 + 2 * sb) / 8 := by
  unfold SizeArm at h
  omega

theorem parseLitHeader_compressed (ty sf sb len clen : Nat) (tail : List Nat) (hty : ty = 2 ∨ ty = 3)
    (hsf : SizeArm sf sb) (hlen : len < 2 ^ sb) (hclen : clen < 2 ^ sb) :
    Spec.parseLitHeader (leBytes ((4 + 2 * sb) / 8) (ty + sf * 4 + len * 16 + clen * 2 ^ (4 + sb)) ++ tail)
      = some ⟨ty, len, clen, if sf = 0 then 1 else 4, (4 + 2 * sb) / 8⟩ := by
  obtain ⟨f1, f2, f3⟩ := Headers.spec_fields ty sf sb len clen (ty + sf * 4 + len * 16 + clen * 2 ^ (4 + sb)) hty hsf
    hlen hclen (by rw [Nat.mul_comm sf, Nat.mul_comm len, Nat.mul_comm clen])
  rw [Headers.specLitHeader_leBytes _ _ tail (sizeArm_bounds hsf).2 f1 f2, f3]
  rfl

theorem decodeFourStreams_body4 {T : Spec.Huffman.Table} {t : EncTable} (sd : SpecDecodes T t)
    (d1 d2 d3 d4 s1 s2 s3 s4 : List Nat)
    (h1 : encodeStream t d1 = .ok s1) (h2 : encodeStream t d2 = .ok s2)
    (h3 : encodeStream t d3 = .ok s3) (h4 : encodeStream t d4 = .ok s4)
    (l1 : s1.length < 65536) (l2 : s2.length < 65536) (l3 : s3.length < 65536)
    (regen : Nat) (hn1 : d1.length = (regen + 3) / 4) (hn2 : d2.length = (regen + 3) / 4)
    (hn3 : d3.length = (regen + 3) / 4) (hn4 : d4.length = regen - 3 * ((regen + 3) / 4))
    (h3n : 3 * ((regen + 3) / 4) ≤ regen) :
    Spec.decodeFourStreams T (body4 s1 s2 s3 s4) regen = some (d1 ++ d2 ++ d3 ++ d4) := by
  obtain ⟨b0, b1, b2, b3, b4, b5, hb, j1, j2, j3⟩ := jump_split s1 s2 s3 s4 l1 l2 l3
  have q1 := decodeStream_encodeStream sd d1 s1 h1
  have q2 := decodeStream_encodeStream sd d2 s2 h2
  have q3 := decodeStream_encodeStream sd d3 s3 h3
  have q4 := decodeStream_encodeStream sd d4 s4 h4
  rw [hn1] at q1; rw [hn2] at q2; rw [hn3] at q3; rw [hn4] at q4
  unfold Spec.decodeFourStreams
  rw [hb]
  simp only [List.length_cons, List.take_succ_cons, List.take_zero, List.drop_succ_cons, List.drop_zero, Zstd.Proofs.Headers.leNat_two]
  rw [if_neg (by omega), j1, j2, j3, if_neg (by simp only [List.length_append]; omega), if_neg (by omega)]
  obtain ⟨e1, e2, e3, e4⟩ := streams_split s1 s2 s3 s4
  rw [e1, e2, e3, e4, q1, q2, q3, q4]

theorem decodeLiterals_huffman (ty sf sb : Nat) (lits encoded rest : List Nat) (dprev : Option Spec.Huffman.Table)
    (T : Spec.Huffman.Table) (used : Nat) (hty : ty = 2 ∨ ty = 3) (hsf : SizeArm sf sb)
    (hlen : lits.length < 2 ^ sb) (hclen : encoded.length < 2 ^ sb)
    (htbl : (if ty = 2 then Spec.Huffman.readTable encoded else dprev.map (fun t => (t, 0))) = some (T, used))
    (hused : used ≤ encoded.length)
    (hstreams : (if sf = 0 then Spec.Huffman.decodeStream T (encoded.drop used) lits.length
      else Spec.decodeFourStreams T (encoded.drop used) lits.length) = some lits) :
    Spec.decodeLiterals (leBytes ((4 + 2 * sb) / 8) (ty + sf * 4 + lits.length * 16 + encoded.length * 2 ^ (4 + sb))
        ++ encoded ++ rest) dprev
      = some (lits, (4 + 2 * sb) / 8 + encoded.length, some T) := by
  have hp := parseLitHeader_compressed ty sf sb lits.length encoded.length (encoded ++ rest) hty hsf hlen hclen
  unfold Spec.decodeLiterals
  rw [List.append_assoc, hp]
  simp only
  rw [List.drop_left' (leBytes_length _ _), if_neg (by omega), if_neg (by omega),
    if_neg (by simp only [List.length_append]; omega), List.take_left' rfl, htbl]
  simp only
  rw [if_neg (by omega)]
  by_cases h0 : sf = 0
  · rw [if_pos h0] at hstreams
    simp only [h0, if_true, hstreams]
  · rw [if_neg h0] at hstreams
    simp only [h0, if_false, show ¬ ((4 : Nat) = 1) by decide, hstreams]

/-- the relation between the table the encoder remembers and the table the Spec's decoder holds -/
def TableRel (h : EncTable) (d : Spec.Huffman.Table) : Prop := SpecDecodes d h

/-- a table as `build_from_data` returns it -/
def GoodTable (t : EncTable) : Prop := ∃ wd m, CanonTable t wd m

theorem encode_ok_inv {t : EncTable} {data enc : List Nat} {wt : Bool}
    (h : encode Enc.fseWeights t data wt = .ok enc) :
    ∃ desc stream, (if wt then writeTable Enc.fseWeights t else .ok []) = .ok desc ∧
      encodeStream t data = .ok stream ∧ enc = desc ++ stream := by
  unfold encode at h
  split at h
  · cases h
  · rename_i desc hdesc
    split at h
    · cases h
    · rename_i s hs
      simp only [Except.ok.injEq] at h
      exact ⟨desc, s, hdesc, hs, h.symm⟩

theorem codeBits_lt {t : EncTable} : ∀ {data : List Nat} {bits : List Bool}, codeBits t data = .ok bits →
    ∀ s ∈ data, s < t.codes.length
  | [], _, _ => by simp
  | s :: rest, bits, h => by
    obtain ⟨c, nb, bits', hcode, _, _, hr, _⟩ := codeBits_cons h
    intro x hx
    rcases List.mem_cons.mp hx with rfl | hx
    · rcases Nat.lt_or_ge x t.codes.length with hlt | hge
      · exact hlt
      · rw [List.getElem?_eq_none hge] at hcode; cases hcode
    · exact codeBits_lt hr x hx

theorem encodeStream_lt {t : EncTable} {data stream : List Nat} (h : encodeStream t data = .ok stream) :
    ∀ s ∈ data, s < t.codes.length := by
  obtain ⟨S, hcb, _⟩ := encodeStream_eq_ok h
  exact codeBits_lt hcb

/-- the part of `compress_literals` after `(encoder_table, new_table)` has been chosen
(definitional copy of the tail of `Model.Enc.compressLiteralsReal`) -/
def litTail (lits : List Byte) (newT table : EncTable) (newTable : Bool) :
    Except Fault (List Byte × Option EncTable) :=
  match litSizeFormat lits.length with
  | .error f => .error f
  | .ok (sizeFormat, sizeBits) =>
    let enc := if sizeFormat = 0 then Huf.encode fseWeights table lits newTable
               else Huf.encode4x fseWeights table lits newTable
    match enc with
    | .error f => .error f
    | .ok encoded =>
      let hdrLen := (4 + 2 * sizeBits) / 8
      let totalLen := hdrLen + encoded.length
      if Gen.litRawFallbackGuard totalLen lits.length then
        match rawLiterals lits with
        | .error f => .error f
        | .ok bytes => .ok (bytes, none)
      else
        let ty := if newTable then 2 else 3
        let hdr := ty + sizeFormat * 4 + lits.length * 16 + encoded.length * 2 ^ (4 + sizeBits)
        .ok (leBytes hdrLen hdr ++ encoded, if newTable then some newT else none)

theorem compressLiteralsReal_cases (first : Byte) (tl : List Byte) (prev : Option EncTable) (newT : EncTable)
    (hall : (first :: tl).all (fun x => x == first) = false)
    (hb : buildFromData (first :: tl) = .ok newT) :
    compressLiteralsReal (first :: tl) prev = litTail (first :: tl) newT newT true ∨
      ∃ tp diff, prev = some tp ∧ canEncode tp newT = some diff ∧
        compressLiteralsReal (first :: tl) prev = litTail (first :: tl) newT tp false := by
  cases prev with
  | none =>
    left
    simp only [compressLiteralsReal, hall, Bool.false_eq_true, if_false, hb]
    rfl
  | some tp =>
    cases hcan : canEncode tp newT with
    | none =>
      left
      simp only [compressLiteralsReal, hall, Bool.false_eq_true, if_false, hb, hcan]
      rfl
    | some diff =>
      by_cases hg : Gen.treelessDiffGuard diff Gen.treelessDiffK = true
      · left
        simp only [compressLiteralsReal, hall, Bool.false_eq_true, if_false, hb, hcan, hg, if_true]
        rfl
      · right
        refine ⟨tp, diff, rfl, hcan, ?_⟩
        simp only [compressLiteralsReal, hall, Bool.false_eq_true, if_false, hb, hcan, hg]
        rfl

theorem split_lengths (n : Nat) (h4 : 4 ≤ n) (h3 : (n + 3) / 4 * 3 ≤ n) :
    min ((n + 3) / 4) n = (n + 3) / 4 ∧ min ((n + 3) / 4) (n - (n + 3) / 4) = (n + 3) / 4 ∧
    min ((n + 3) / 4) (n - (n + 3) / 4 * 2) = (n + 3) / 4 ∧ n - (n + 3) / 4 * 3 = n - 3 * ((n + 3) / 4) ∧
    3 * ((n + 3) / 4) ≤ n := by omega

/-- `hnew` asks for `newT` to be canonical only if every literal has a place in it: the contract is stated for lists of
`Nat`, and a histogram table is canonical when the literals are bytes (`buildFromData_canon`); a literal without a place
makes the encoder fault, so `h` gives the premise. -/
theorem litTail_correct (lits : List Byte) (newT table : EncTable) (newTable : Bool)
    (bytes : List Byte) (tret : Option EncTable) (dprev : Option Spec.Huffman.Table) (rest : List Byte)
    (h : litTail lits newT table newTable = .ok (bytes, tret))
    (hnew : newTable = true → table = newT ∧
      ((∀ s ∈ lits, s < newT.codes.length) → ∃ wd m, CanonTable newT wd m))
    (hold : newTable = false → ∃ d, dprev = some d ∧ SpecDecodes d table) :
    ∃ d', Spec.decodeLiterals (bytes ++ rest) dprev = some (lits, bytes.length, d') ∧
      ((tret = none ∧ d' = dprev) ∨ (∃ T, tret = some newT ∧ d' = some T ∧ SpecDecodes T newT)) := by
  unfold litTail at h
  cases hf : litSizeFormat lits.length with
  | error f => rw [hf] at h; cases h
  | ok p =>
    obtain ⟨sf, sb⟩ := p
    rw [hf] at h
    simp only at h
    obtain ⟨harm, hlen, hsf0, h262⟩ := litSizeFormat_arm hf
    cases henc : (if sf = 0 then Huf.encode fseWeights table lits newTable
        else Huf.encode4x fseWeights table lits newTable) with
    | error f => rw [henc] at h; cases h
    | ok encoded =>
      rw [henc] at h
      simp only at h
      by_cases hg : Gen.litRawFallbackGuard ((4 + 2 * sb) / 8 + encoded.length) lits.length = true
      · rw [if_pos hg] at h
        obtain ⟨hdr, hraw, hl3, hdec⟩ := rawLiterals_decodes lits rest dprev (by omega)
        rw [hraw] at h
        simp only [Except.ok.injEq, Prod.mk.injEq] at h
        obtain ⟨rfl, rfl⟩ := h
        refine ⟨dprev, ?_, Or.inl ⟨rfl, rfl⟩⟩
        have : (hdr ++ lits).length = 3 + lits.length := by simp [hl3]
        rw [this]; exact hdec
      · rw [if_neg hg] at h
        simp only [Except.ok.injEq, Prod.mk.injEq] at h
        obtain ⟨rfl, rfl⟩ := h
        -- (stated so that it holds for `>=` as well as for `>` in the source: only `≤` is needed)
        have hfit : (4 + 2 * sb) / 8 + encoded.length ≤ lits.length := by
          simp only [Gen.litRawFallbackGuard, decide_eq_true_eq] at hg
          omega
        have hhdr := (sizeArm_bounds harm).2
        have hclen : encoded.length < 2 ^ sb := by omega
        have hshape : ∃ desc body, (if newTable then writeTable fseWeights table else .ok []) = .ok desc ∧
            encoded = desc ++ body ∧ (∀ s ∈ lits, s < table.codes.length) ∧
            ∀ T, SpecDecodes T table →
              (if sf = 0 then Spec.Huffman.decodeStream T body lits.length
                else Spec.decodeFourStreams T body lits.length) = some lits := by
          by_cases h0 : sf = 0
          · rw [if_pos h0] at henc
            obtain ⟨desc, stream, hd, hs, rfl⟩ := encode_ok_inv henc
            refine ⟨desc, stream, hd, rfl, encodeStream_lt hs, ?_⟩
            intro T sd
            rw [if_pos h0]
            exact decodeStream_encodeStream sd lits stream hs
          · rw [if_neg h0] at henc
            obtain ⟨h4, h3, desc, s1, s2, s3, s4, hd, e1, e2, e3, e4, l1, l2, l3, rfl⟩ := (encode4x_ok_iff _ _ _ _ _).mp henc
            have hsplit := split4 lits
            refine ⟨desc, body4 s1 s2 s3 s4, hd, rfl, ?_, ?_⟩
            · intro s hs
              rw [← hsplit] at hs
              simp only [List.mem_append] at hs
              rcases hs with ((hs | hs) | hs) | hs
              · exact encodeStream_lt e1 s hs
              · exact encodeStream_lt e2 s hs
              · exact encodeStream_lt e3 s hs
              · exact encodeStream_lt e4 s hs
            · intro T sd
              rw [if_neg h0]
              obtain ⟨m1, m2, m3, m4, m5⟩ := split_lengths lits.length h4 h3
              have := decodeFourStreams_body4 sd _ _ _ _ s1 s2 s3 s4 e1 e2 e3 e4 (by omega) (by omega) (by omega)
                lits.length (by rw [List.length_take]; exact m1)
                (by rw [List.length_take, List.length_drop]; exact m2)
                (by rw [List.length_take, List.length_drop]; exact m3)
                (by rw [List.length_drop]; exact m4) m5
              rw [hsplit] at this
              exact this
        obtain ⟨desc, body, hdesc, rfl, hcodes, hbody⟩ := hshape
        cases newTable with
        | true =>
          obtain ⟨rfl, hcanon⟩ := hnew rfl
          obtain ⟨wd, m, c⟩ := hcanon hcodes
          simp only [if_true] at hdesc
          obtain ⟨T, hT, _, sd⟩ := spec_readTable_written c hdesc body
          refine ⟨some T, ?_, Or.inr ⟨T, by simp, rfl, sd⟩⟩
          have := decodeLiterals_huffman 2 sf sb lits (desc ++ body) rest dprev T desc.length (Or.inl rfl) harm hlen
            hclen (by rw [if_pos rfl]; exact hT) (by simp)
            (by rw [List.drop_left' rfl]; exact hbody T sd)
          simp only [List.length_append, leBytes_length] at this ⊢
          exact this
        | false =>
          obtain ⟨d, rfl, sd⟩ := hold rfl
          simp only [Bool.false_eq_true, if_false, Except.ok.injEq] at hdesc
          subst hdesc
          refine ⟨some d, ?_, Or.inl ⟨by simp, rfl⟩⟩
          have := decodeLiterals_huffman 3 sf sb lits ([] ++ body) rest (some d) d 0 (Or.inr rfl) harm hlen
            hclen (by rw [if_neg (by decide)]; rfl) (by simp)
            (by rw [List.drop_zero]; exact hbody d sd)
          simp only [List.length_append, leBytes_length] at this ⊢
          exact this

theorem buildFromData_codes_le {data : List Nat} {t : EncTable} (h : buildFromData data = .ok t) :
    t.codes.length ≤ 256 := by
  obtain ⟨hlen, hn⟩ := buildFromCounts_two h
  obtain ⟨ws, hs⟩ := shape_total _ hn (by omega)
  obtain ⟨wd, t', f⟩ := countsTable_of_shape (countsOf data) hlen hs
  have : buildFromCounts (countsOf data) = .ok t := h
  rw [f.table] at this
  simp only [Except.ok.injEq] at this
  subst this
  rw [f.codes.len, f.len]; exact hlen

theorem lit_coder_contract : LitCoderCorrect TableRel realCoders := by
  intro lits prev bytes t dprev rest hbound hprev hc
  have hc' : compressLiteralsReal lits prev = .ok (bytes, t) := hc
  cases lits with
  | nil => simp [compressLiteralsReal] at hc'
  | cons first tl =>
    by_cases hall : (first :: tl).all (fun x => x == first) = true
    · obtain ⟨bytes', h1, h2⟩ := compressLiterals_single_value first tl prev hall hbound rest dprev
      rw [h1] at hc'
      simp only [Except.ok.injEq, Prod.mk.injEq] at hc'
      obtain ⟨rfl, rfl⟩ := hc'
      exact ⟨dprev, h2, fun h hh => hprev h (by simpa using hh)⟩
    · have hall' : (first :: tl).all (fun x => x == first) = false := by simpa using hall
      cases hb : buildFromData (first :: tl) with
      | error f =>
        simp only [compressLiteralsReal, hall', Bool.false_eq_true, if_false, hb] at hc'
        cases hc'
      | ok newT =>
        have hcanon : (∀ s ∈ first :: tl, s < newT.codes.length) → GoodTable newT := by
          intro hs
          obtain ⟨wd, m, c, _⟩ :=
            buildFromData_canon (fun b hb' => Nat.lt_of_lt_of_le (hs b hb') (buildFromData_codes_le hb)) hb
          exact ⟨wd, m, c⟩
        obtain ⟨table, nt, hcase, hnew, hold⟩ : ∃ table nt,
            compressLiteralsReal (first :: tl) prev = litTail (first :: tl) newT table nt ∧
            (nt = true → table = newT) ∧ (nt = false → prev = some table) := by
          rcases compressLiteralsReal_cases first tl prev newT hall' hb with hcase | ⟨tp, _, rfl, _, hcase⟩
          · exact ⟨newT, true, hcase, fun _ => rfl, nofun⟩
          · exact ⟨tp, false, hcase, nofun, fun _ => rfl⟩
        obtain ⟨d', hdec, hres⟩ := litTail_correct _ newT table nt bytes t dprev rest (hcase.symm.trans hc')
          (fun h => ⟨hnew h, hcanon⟩) (fun h => hprev table (hold h))
        refine ⟨d', hdec, fun h hh => ?_⟩
        rcases hres with ⟨rfl, rfl⟩ | ⟨T, rfl, rfl, sd⟩
        · exact hprev h (by simpa using hh)
        · obtain rfl : newT = h := by simpa using hh
          exact ⟨T, rfl, sd⟩

end Zstd.Proofs.LitCoder
