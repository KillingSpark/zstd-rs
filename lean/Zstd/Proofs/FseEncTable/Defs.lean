import Zstd.Proofs.FseDecTable.Defs
/-
Shared vocabulary of the proof that the FSE encoder table (`fse_encoder.rs build_table_from_probabilities`)
and the FSE decoder table (`fse_decoder.rs build_decoding_table`) describe the same automaton.  The slot list and
the "less than one" list of a distribution are those of the decoder side (`FseDecTable.slotSyms`, `negSyms`).
-/
namespace Zstd.Proofs.FseEncTable
open Zstd Zstd.Model.Fse Zstd.Proofs.FseFin
open Zstd.Proofs.FseDecTable (negSyms negF negSyms_cons)

/- `mass` and `ValidDist` are `FseDecTable.mass` and `FseDecTable.ValidDist` (same bodies) under the names the
encoder-side statements use; either is accepted for the other by unfolding. -/
def mass (probs : List Int) : Nat :=
  probs.foldl (fun (a : Nat) p => a + (if p = -1 then 1 else if p > 0 then p.toNat else 0)) 0

def ValidDist (al : Nat) (probs : List Int) : Prop :=
  5 ≤ al ∧ al ≤ 9 ∧ probs.length ≤ 256 ∧ (∀ p ∈ probs, -1 ≤ p) ∧ mass probs = 2 ^ al

/-- the encoder-side builder additionally needs at least one cell that is not a "less than one" cell
(with 2^al entries equal to -1 the Rust code underflows `negative_idx -= 1` in a debug build) -/
def EncBuildable (al : Nat) (probs : List Int) : Prop :=
  ValidDist al probs ∧ (probs.filter (· = -1)).length < 2 ^ al

namespace EncBuildable
variable {al : Nat} {probs : List Int}
theorem valid (h : EncBuildable al probs) : FseDecTable.ValidDist al probs := h.1
theorem negs_lt (h : EncBuildable al probs) : (probs.filter (· = -1)).length < 2 ^ al := h.2
end EncBuildable

/-- the encoder state of the cell `c` that has table-order rank `k` among the cells of a symbol with
probability `p` -/
def stateOf (al p k c : Nat) : EState :=
  { index := c, baseline := (rfcEntry al p k).1, numBits := (rfcEntry al p k).2,
    lastIndex := (rfcEntry al p k).1 + (2 ^ (rfcEntry al p k).2 - 1) }

/-- both `next_position` copies are the same function (the extracted constants agree) -/
theorem nextPositionEnc_eq : nextPositionEnc = nextPosition := rfl

theorem negSyms_length (probs : List Int) : ∀ k, (negSyms (probs.zipIdx k)).length = (probs.filter (· = -1)).length := by
  induction probs with
  | nil => intro k; rfl
  | cons p rest ih =>
    intro k
    rw [List.zipIdx_cons, negSyms_cons, List.length_append, ih (k + 1), List.filter_cons]
    by_cases hp : p = -1
    · simp [negF, hp]
      omega
    · simp [negF, hp]

theorem mem_zipIdx {probs : List Int} {p : Int} {s : Nat} :
    (p, s) ∈ probs.zipIdx ↔ probs[s]? = some p := List.mem_zipIdx_iff_getElem?

theorem zipIdx_snd_nodup (probs : List Int) : (probs.zipIdx.map (·.2)).Nodup := by
  rw [List.zipIdx_map_snd]
  exact List.nodup_range'

theorem mem_negSyms {ps : List (Int × Nat)} {s : Nat} : s ∈ negSyms ps ↔ (-1, s) ∈ ps := by
  unfold negSyms negF
  simp only [List.mem_flatMap]
  constructor
  · rintro ⟨⟨p, s'⟩, hq, hs⟩
    by_cases hp : p = -1
    · simp only [hp, ↓reduceIte, List.mem_singleton] at hs
      rw [hs, ← hp]
      exact hq
    · simp [hp] at hs
  · intro h
    exact ⟨(-1, s), h, by simp⟩

theorem getD_of_mem_zipIdx {probs : List Int} {s : Nat} {p : Int} (h : (p, s) ∈ probs.zipIdx) :
    probs.getD s 0 = p := by
  rw [List.getD_eq_getElem?_getD, mem_zipIdx.1 h]; rfl

end Zstd.Proofs.FseEncTable
