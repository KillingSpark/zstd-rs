import Zstd.Proofs.FseDecTable.Layout
import Zstd.Proofs.FseEncTable.Defs
/-
The encoder table of a layout (`encOf`): symbol `s` has the states `stateOf al n k c`, `k < n = nStates probs s`,
`c` the `k`-th cell of `s` — the cell where the decoding table of the same layout has the entry of state `k` —
listed in baseline order (`orderedKs`).  The statements about `SymbolStates::get`, `start_state` and the order of
the states are proved here of `encOf`, from `Layout` and the per-symbol arithmetic of `FseFin`.
-/
namespace Zstd.Proofs.FseEncTable
open Zstd Zstd.Model.Fse Zstd.Proofs.FseFin
open Zstd.Proofs.FseDecTable (nStates finEntry Layout positions positions_count nStates_pos_iff lt_length_of_getD_ne)

/-- the states of `s`: state number `k` sits on the `k`-th cell of `s`; listed in baseline order -/
def encStates (al : Nat) (probs : List Int) (syms : List Nat) (s : Nat) : SymbolStates :=
  if probs.getD s 0 = 0 then {} else
    { states := ((orderedKs (nStates probs s)).map fun k =>
        stateOf al (nStates probs s) k ((positions syms s).getD k 0)).toArray,
      probability := probs.getD s 0 }

/-- the encoder table of a layout: 256 slots as in `build_table_from_probabilities` -/
def encOf (al : Nat) (probs : List Int) (syms : List Nat) : ETable :=
  { states := ((List.range 256).map (encStates al probs syms)).toArray, tableSize := 2 ^ al }

theorem encOf_getElem? (al : Nat) (probs : List Int) (syms : List Nat) {s : Nat} (hs : s < 256) :
    (encOf al probs syms).states[s]? = some (encStates al probs syms s) := by
  simp [encOf, hs]

theorem encOf_getD {al : Nat} {probs : List Int} (syms : List Nat) (hlen : probs.length ≤ 256) (s : Nat) :
    (encOf al probs syms).states.getD s {} = encStates al probs syms s := by
  rw [Array.getD_eq_getD_getElem?]
  by_cases hs : s < 256
  · rw [encOf_getElem? al probs syms hs]
    rfl
  · have : probs.getD s 0 = 0 := Classical.byContradiction fun h => by
      have := lt_length_of_getD_ne h
      omega
    rw [Array.getElem?_eq_none (by simp [encOf]; omega), encStates, if_pos this]
    rfl

theorem encStates_of_ne {al : Nat} {probs : List Int} {syms : List Nat} {s : Nat} (hs : probs.getD s 0 ≠ 0) :
    (encStates al probs syms s).states.toList = (orderedKs (nStates probs s)).map fun k =>
        stateOf al (nStates probs s) k ((positions syms s).getD k 0) := by
  rw [encStates, if_neg hs]

theorem encStates_of_eq {al : Nat} {probs : List Int} {syms : List Nat} {s : Nat} (hs : probs.getD s 0 = 0) :
    encStates al probs syms s = {} := by
  rw [encStates, if_pos hs]

theorem encStates_probability (al : Nat) (probs : List Int) (syms : List Nat) (s : Nat) :
    (encStates al probs syms s).probability = probs.getD s 0 := by
  rw [encStates]
  split
  · rename_i h
    exact h.symm
  · rfl

theorem stateOf_contains_iff {al p k c x : Nat} : (stateOf al p k c).contains x = true ↔
    ((interval al p k).1 ≤ x ∧ x < (interval al p k).1 + (interval al p k).2) := by
  have hb : (stateOf al p k c).baseline = (rfcEntry al p k).1 := rfl
  have hl : (stateOf al p k c).lastIndex = (rfcEntry al p k).1 + (2 ^ (rfcEntry al p k).2 - 1) := rfl
  have := Nat.two_pow_pos (rfcEntry al p k).2
  unfold EState.contains
  rw [decide_eq_true_eq, hb, hl]
  simp only [interval]
  omega

theorem stateOf_lastIndex (al p k c : Nat) :
    (stateOf al p k c).lastIndex = (stateOf al p k c).baseline + 2 ^ (stateOf al p k c).numBits - 1 := by
  have := Nat.two_pow_pos (rfcEntry al p k).2
  simp only [stateOf]
  omega

/-- the linear search of `SymbolStates::get` finds a state that contains `idx` if one sits at or after the
search start -/
theorem get_total {ss : SymbolStates} {idx maxIdx j : Nat} {st : EState} (hmax : maxIdx ≠ 0)
    (hst : ss.states.toList[j]? = some st) (hc : st.contains idx = true)
    (hstart : idx * ss.states.size / maxIdx ≤ j) :
    ∃ st', ss.get idx maxIdx = .ok st' ∧ st'.contains idx = true ∧ st' ∈ ss.states.toList := by
  unfold SymbolStates.get
  obtain ⟨hj, hjst⟩ := List.getElem?_eq_some_iff.1 hst
  have hj' : j < ss.states.size := by simpa using hj
  rw [if_neg hmax]
  simp only
  rw [if_neg (by omega)]
  have hmem : st ∈ ss.states.toList.drop (idx * ss.states.size / maxIdx) := by
    rw [List.mem_drop_iff_getElem]
    refine ⟨j - idx * ss.states.size / maxIdx, by omega, ?_⟩
    rw [← hjst]
    congr 1
    omega
  cases hf : (ss.states.toList.drop (idx * ss.states.size / maxIdx)).find? (·.contains idx) with
  | none =>
    rw [List.find?_eq_none] at hf
    exact absurd hc (hf st hmem)
  | some st' =>
    have h3 := List.find?_some hf
    exact ⟨st', rfl, h3, List.mem_of_mem_drop (List.mem_of_find?_eq_some hf)⟩

section
variable {al : Nat} {probs : List Int} {syms : List Nat} (h : Layout al probs syms)
include h

/-- a state of `s` in the encoder table: state number `k < n` on the `k`-th cell `c` of `s`, where the decoding
table has the same entry -/
theorem mem_encStates {s : Nat} {st : EState} (hst : st ∈ (encStates al probs syms s).states.toList) :
    probs.getD s 0 ≠ 0 ∧ ∃ k c, k < nStates probs s ∧ (positions syms s)[k]? = some c ∧
      st = stateOf al (nStates probs s) k c ∧ c < 2 ^ al ∧
      finEntry al probs syms c = { symbol := s, baseLine := st.baseline, numBits := st.numBits } := by
  by_cases hs : probs.getD s 0 = 0
  · rw [encStates_of_eq hs] at hst
    simp at hst
  refine ⟨hs, ?_⟩
  rw [encStates_of_ne hs, List.mem_map] at hst
  obtain ⟨k, hk, rfl⟩ := hst
  have hk := (mem_orderedKs ((nStates_pos_iff h.ge).2 hs)).1 hk
  obtain ⟨c, hc, hlt, he⟩ := h.entry_at hk
  rw [List.getD_eq_getElem?_getD, hc]
  exact ⟨k, c, hk, hc, rfl, hlt, he⟩

theorem stateOf_mem {s k : Nat} (hs : probs.getD s 0 ≠ 0) (hk : k < nStates probs s) :
    ∃ h' : posOf (nStates probs s) k < (encStates al probs syms s).states.toList.length,
      (encStates al probs syms s).states.toList[posOf (nStates probs s) k]
        = stateOf al (nStates probs s) k ((positions syms s).getD k 0) := by
  have hd := dblOf_le ((nStates_pos_iff h.ge).2 hs)
  obtain ⟨hpos, hget⟩ := orderedKs_getElem hd hk
  simp only [encStates_of_ne hs, List.length_map, List.getElem_map, hget]
  exact ⟨hpos, trivial⟩

theorem cell_state {i : Nat} (hi : i < 2 ^ al) :
    stateOf al (nStates probs (syms.getD i 0)) ((syms.take i).count (syms.getD i 0)) i
      ∈ (encStates al probs syms (syms.getD i 0)).states.toList := by
  obtain ⟨hpos, hget⟩ := stateOf_mem h (h.usable hi) (h.rank_lt hi)
  have hc : (positions syms (syms.getD i 0)).getD ((syms.take i).count (syms.getD i 0)) 0 = i := by
    rw [List.getD_eq_getElem?_getD, positions_count (h.length ▸ hi)]
    rfl
  rw [hc] at hget
  exact hget ▸ List.getElem_mem hpos

theorem states_size (s : Nat) :
    (encStates al probs syms s).states.size = if probs.getD s 0 = -1 then 1 else (probs.getD s 0).toNat := by
  by_cases hs : probs.getD s 0 = 0
  · rw [encStates_of_eq hs, hs]
    rfl
  · rw [← Array.length_toList, encStates_of_ne hs, List.length_map,
      orderedKs_length (dblOf_le ((nStates_pos_iff h.ge).2 hs))]
    rfl

theorem states_sorted (s : Nat) :
    (encStates al probs syms s).states.toList.Pairwise (fun a b => a.baseline < b.baseline) := by
  by_cases hs : probs.getD s 0 = 0
  · rw [encStates_of_eq hs]
    simp
  · rw [encStates_of_ne hs]
    simp only [List.pairwise_map, stateOf]
    exact orderedKs_strict ((nStates_pos_iff h.ge).2 hs) (h.nStates_le s)

theorem start_state (hlen : probs.length ≤ 256) {s : Nat} (hs : probs.getD s 0 ≠ 0) :
    ∃ st, (encOf al probs syms).startState s = .ok st ∧
      (encStates al probs syms s).states.toList.head? = some st ∧ st.baseline = 0 := by
  obtain ⟨rest, hks, hb0⟩ := orderedKs_head ((nStates_pos_iff h.ge).2 hs) (h.nStates_le s)
  unfold ETable.startState
  rw [encOf_getElem? al probs syms (by have := lt_length_of_getD_ne hs; omega)]
  simp only [← Array.getElem?_toList, encStates_of_ne hs, hks]
  exact ⟨_, rfl, rfl, hb0⟩

/-- the state whose interval contains `idx` (`cover`) is not before the search start (`search_start_le`) -/
theorem next_state (hlen : probs.length ≤ 256) {s idx : Nat} (hs : probs.getD s 0 ≠ 0) (hidx : idx < 2 ^ al) :
    ∃ st, (encOf al probs syms).nextState s idx = .ok st ∧ st.contains idx = true ∧
      st ∈ (encStates al probs syms s).states.toList := by
  have hp1 := (nStates_pos_iff h.ge).2 hs
  have hple := h.nStates_le s
  obtain ⟨k, hk, hk1, hk2⟩ := cover hp1 hple hidx
  obtain ⟨hpos, hget⟩ := stateOf_mem h hs hk
  unfold ETable.nextState
  rw [encOf_getElem? al probs syms (by have := lt_length_of_getD_ne hs; omega)]
  refine get_total (j := posOf (nStates probs s) k) (Nat.ne_of_gt (Nat.two_pow_pos al))
    (by rw [List.getElem?_eq_getElem hpos, hget]) (stateOf_contains_iff.2 ⟨hk1, hk2⟩) ?_
  have : (encStates al probs syms s).states.size = nStates probs s := by
    rw [← Array.length_toList, encStates_of_ne hs, List.length_map, orderedKs_length (dblOf_le hp1)]
  rw [this]
  exact search_start_le hp1 hple hk hk2

theorem containing_unique {s idx : Nat} {st st' : EState}
    (h1 : st ∈ (encStates al probs syms s).states.toList) (h2 : st' ∈ (encStates al probs syms s).states.toList)
    (c1 : st.contains idx = true) (c2 : st'.contains idx = true) : st = st' := by
  obtain ⟨hs, k, c, hk, e, rfl, -, -⟩ := mem_encStates h h1
  obtain ⟨-, k', c', hk', e', rfl, -, -⟩ := mem_encStates h h2
  rw [stateOf_contains_iff] at c1 c2
  by_cases hkk : k = k'
  · subst hkk
    rw [e] at e'
    rw [Option.some.inj e']
  · have := disjoint ((nStates_pos_iff h.ge).2 hs) (h.nStates_le s) hk hk' hkk
    omega

end

end Zstd.Proofs.FseEncTable
