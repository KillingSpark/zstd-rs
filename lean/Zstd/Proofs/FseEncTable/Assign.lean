import Zstd.Proofs.FseEncTable.Defs
/-
The third loop of `fse_encoder.rs build_table_from_probabilities` for one symbol (`encFinishSymbol`):
the stable sorts are characterised (`sortByKey_eq_of_strict`), the baselines handed out by `encAssign`
are the RFC values (`rfcEntry`), and the final sort by baseline lists the states in the order `orderedKs p`.
-/
namespace Zstd.Proofs.FseEncTable
open Zstd Zstd.Model.Fse Zstd.Proofs.FseFin

theorem insertByKey_perm {α} (key : α → Nat) (x : α) (l : List α) :
    (insertByKey key x l).Perm (x :: l) := by
  induction l with
  | nil => exact List.Perm.refl _
  | cons y ys ih =>
    simp only [insertByKey]
    split
    · exact List.Perm.refl _
    · exact (List.Perm.cons y ih).trans (List.Perm.swap x y ys)

theorem insertByKey_sorted {α} (key : α → Nat) (x : α) (l : List α)
    (h : l.Pairwise (fun a b => key a ≤ key b)) :
    (insertByKey key x l).Pairwise (fun a b => key a ≤ key b) := by
  induction l with
  | nil => simp [insertByKey]
  | cons y ys ih =>
    simp only [insertByKey]
    rw [List.pairwise_cons] at h
    split
    · rename_i hlt
      refine List.Pairwise.cons ?_ (List.Pairwise.cons h.1 h.2)
      intro b hb
      rw [List.mem_cons] at hb
      rcases hb with rfl | hb
      · omega
      · have := h.1 b hb; omega
    · rename_i hge
      refine List.Pairwise.cons ?_ (ih h.2)
      intro b hb
      have hb' := (insertByKey_perm key x ys).mem_iff.1 hb
      rw [List.mem_cons] at hb'
      rcases hb' with rfl | hb'
      · omega
      · exact h.1 b hb'

theorem foldl_insertByKey_perm {α} (key : α → Nat) (l acc : List α) :
    (l.foldl (fun acc x => insertByKey key x acc) acc).Perm (acc ++ l) := by
  induction l generalizing acc with
  | nil => simp
  | cons x xs ih =>
    simp only [List.foldl_cons]
    exact (ih _).trans (((insertByKey_perm key x acc).append_right xs).trans List.perm_middle.symm)

theorem foldl_insertByKey_sorted {α} (key : α → Nat) (l acc : List α)
    (h : acc.Pairwise (fun a b => key a ≤ key b)) :
    (l.foldl (fun acc x => insertByKey key x acc) acc).Pairwise (fun a b => key a ≤ key b) := by
  induction l generalizing acc with
  | nil => simpa using h
  | cons x xs ih =>
    simp only [List.foldl_cons]
    exact ih _ (insertByKey_sorted key x acc h)

theorem sortByKey_perm {α} (key : α → Nat) (l : List α) : (sortByKey key l).Perm l := by
  have := foldl_insertByKey_perm key l []
  simpa [sortByKey] using this

theorem sortByKey_sorted {α} (key : α → Nat) (l : List α) :
    (sortByKey key l).Pairwise (fun a b => key a ≤ key b) :=
  foldl_insertByKey_sorted key l [] List.Pairwise.nil

theorem key_inj_of_strict {α} (key : α → Nat) {r : List α}
    (hr : r.Pairwise (fun a b => key a < key b)) {a b : α} (ha : a ∈ r) (hb : b ∈ r)
    (h : key a = key b) : a = b := by
  induction r with
  | nil => simp at ha
  | cons c cs ih =>
    rw [List.pairwise_cons] at hr
    rw [List.mem_cons] at ha hb
    rcases ha with rfl | ha
    · rcases hb with rfl | hb
      · rfl
      · have := hr.1 b hb; omega
    · rcases hb with rfl | hb
      · have := hr.1 a ha; omega
      · exact ih hr.2 ha hb

theorem sortByKey_eq_of_strict {α} (key : α → Nat) {l r : List α}
    (hr : r.Pairwise (fun a b => key a < key b)) (hp : r.Perm l) : sortByKey key l = r := by
  have hperm : (sortByKey key l).Perm r := (sortByKey_perm key l).trans hp.symm
  refine List.Perm.eq_of_pairwise (le := fun a b => key a ≤ key b) ?_ (sortByKey_sorted key l)
    (hr.imp (fun h => Nat.le_of_lt h)) hperm
  intro a b ha hb h1 h2
  exact key_inj_of_strict key hr (hperm.mem_iff.1 ha) hb (by omega)

theorem total_eq {al p : Nat} (hp1 : 1 ≤ p) (hp : p ≤ 2 ^ al) :
    (p - dblOf p) * 2 ^ (al - plog p) + dblOf p * 2 ^ (al - plog p) * 2 = 2 ^ al := by
  have hd := dblOf_le hp1
  rw [← slices_mul_width hp1 hp, Nat.mul_right_comm, ← Nat.add_mul]
  congr 1
  omega

theorem baseOf_step_dbl {al p i : Nat} (hp1 : 1 ≤ p) (hp : p ≤ 2 ^ al) (hi : i < dblOf p) :
    (baseOf al p i + 1 <<< (al - plog p + 1)) % (1 <<< al) = baseOf al p (i + 1) := by
  have hT := total_eq hp1 hp
  have hw : 0 < 2 ^ (al - plog p) := Nat.two_pow_pos _
  unfold baseOf
  rw [if_pos hi]
  simp only [Nat.one_shiftLeft, Nat.pow_succ]
  have hs : (i + 1) * 2 ^ (al - plog p) = i * 2 ^ (al - plog p) + 2 ^ (al - plog p) := Nat.succ_mul _ _
  split
  · rename_i hi1
    have hm : (i + 2) * 2 ^ (al - plog p) ≤ dblOf p * 2 ^ (al - plog p) := Nat.mul_le_mul_right _ (by omega)
    have hs2 : (i + 2) * 2 ^ (al - plog p) = i * 2 ^ (al - plog p) + 2 * 2 ^ (al - plog p) := Nat.add_mul _ _ _
    rw [Nat.mod_eq_of_lt (by omega)]
    omega
  · have hid : i + 1 = dblOf p := by omega
    rw [hid, Nat.sub_self, Nat.zero_mul]
    rw [hid] at hs
    have : (p - dblOf p) * 2 ^ (al - plog p) + i * 2 ^ (al - plog p) * 2 + 2 ^ (al - plog p) * 2 = 2 ^ al := by
      omega
    rw [this, Nat.mod_self]

theorem baseOf_step_sgl {al p i : Nat} (hi : ¬ i < dblOf p) :
    baseOf al p i + 1 <<< (al - plog p) = baseOf al p (i + 1) := by
  unfold baseOf
  rw [if_neg hi, if_neg (by omega)]
  simp only [Nat.one_shiftLeft]
  rw [show i + 1 - dblOf p = (i - dblOf p) + 1 by omega, Nat.succ_mul]

theorem encAssign_spec {al p : Nat} (hp1 : 1 ≤ p) (hp : p ≤ 2 ^ al) :
    ∀ (cs : List Nat) (i : Nat), i + cs.length ≤ p →
      encAssign al (dblOf p) (al - plog p) (cs.map (fun c => ({ index := c } : EState))) i (baseOf al p i)
        = (cs.zipIdx i).map (fun cj => stateOf al p cj.2 cj.1) := by
  intro cs
  induction cs with
  | nil => intro i _; rfl
  | cons c cs ih =>
    intro i hi
    simp only [List.length_cons] at hi
    have hr := rfcEntry_eq_slices hp1 hp (show i < p by omega)
    simp only [List.map_cons, List.zipIdx_cons, encAssign]
    split
    · rename_i hid
      rw [baseOf_step_dbl hp1 hp hid, ih (i+1) (by omega)]
      rw [if_pos hid] at hr
      simp only [stateOf, hr, Nat.one_shiftLeft]
    · rename_i hid
      rw [baseOf_step_sgl hid, ih (i+1) (by omega)]
      rw [if_neg hid] at hr
      simp only [stateOf, hr, Nat.one_shiftLeft]

theorem zipIdx_map_eq_range_map {β} (l : List Nat) (f : Nat → Nat → β) :
    (l.zipIdx 0).map (fun cj => f cj.2 cj.1) = (List.range l.length).map (fun k => f k (l.getD k 0)) := by
  apply List.ext_getElem
  · simp
  · intro n h1 h2
    simp only [List.length_map, List.length_zipIdx] at h1
    simp [List.getD_eq_getElem?_getD, h1]

theorem encFinishSymbol_spec {al p : Nat} (hp1 : 1 ≤ p) (hp : p ≤ 2 ^ al)
    {cells sorted : List Nat} (hlen : cells.length = p)
    (hs : sorted.Pairwise (· < ·)) (hperm : sorted.Perm cells) :
    encFinishSymbol al p (cells.map (fun c => ({ index := c } : EState))).toArray
      = .ok ((orderedKs p).map (fun k => stateOf al p k (sorted.getD k 0))).toArray := by
  have hslen : sorted.length = p := by rw [hperm.length_eq, hlen]
  have hd := dblOf_le hp1
  have hb : sortByKey (·.index) (cells.map (fun c => ({ index := c } : EState)))
      = sorted.map (fun c => ({ index := c } : EState)) :=
    sortByKey_eq_of_strict _ (by rw [List.pairwise_map]; exact hs) (hperm.map _)
  have hle := plog_le hp1 hp
  have hde := dblOf_eq p
  have hT := total_eq hp1 hp
  have hb0 : (p - dblOf p) * 2 ^ (al - plog p) % 2 ^ al = baseOf al p 0 := by
    unfold baseOf
    split
    · rename_i h0
      have : 1 * 2 ^ (al - plog p) ≤ dblOf p * 2 ^ (al - plog p) := Nat.mul_le_mul_right _ (by omega)
      have := Nat.two_pow_pos (al - plog p)
      rw [Nat.mod_eq_of_lt (by omega)]
      omega
    · rename_i h0
      have h0' : dblOf p = 0 := by omega
      rw [h0'] at hT ⊢
      simp only [Nat.zero_mul, Nat.add_zero] at hT
      rw [hT, Nat.mod_self, Nat.sub_self, Nat.zero_mul]
  have hpl : (if 1 <<< p.log2 = p then p.log2 else p.log2 + 1) = plog p := rfl
  unfold encFinishSymbol
  simp only [hb, hpl]
  simp only [Nat.one_shiftLeft, ← hde]
  rw [if_neg (by omega), hb0, encAssign_spec hp1 hp sorted 0 (by omega),
    zipIdx_map_eq_range_map sorted (fun k c => stateOf al p k c), hslen]
  congr 2
  refine sortByKey_eq_of_strict _ ?_ ((orderedKs_perm hd).map _)
  rw [List.pairwise_map]
  exact orderedKs_strict hp1 hp

end Zstd.Proofs.FseEncTable
