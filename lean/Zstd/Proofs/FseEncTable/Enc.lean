import Zstd.Proofs.FseEncTable.Defs
/-
Encoder side of the table equivalence: what `build_table_from_probabilities` leaves in `states[s]` after
each of its three loops, in terms of the walk list `W` and the slot list `slotSyms`.
-/
namespace Zstd.Proofs.FseEncTable
open Zstd Zstd.Model.Fse Zstd.Proofs.FseFin
open Zstd.Proofs.FseDecTable (slotSyms negSyms slotF negF arr_getD_set!)

/-- the cells of symbol `s`: `W[t]` for the slots `t` with `sl[t] = s`, in walk order -/
def cellsOf (W sl : List Nat) (s : Nat) : List Nat := ((W.zip sl).filter (fun q => q.2 = s)).map (·.1)

theorem cellsOf_append {W1 W2 sl1 sl2 : List Nat} (h : W1.length = sl1.length) (s : Nat) :
    cellsOf (W1 ++ W2) (sl1 ++ sl2) s = cellsOf W1 sl1 s ++ cellsOf W2 sl2 s := by
  simp only [cellsOf, List.zip_append h, List.filter_append, List.map_append]

theorem cellsOf_replicate (W : List Nat) (s0 s : Nat) :
    cellsOf W (List.replicate W.length s0) s = if s0 = s then W else [] := by
  induction W with
  | nil => simp [cellsOf]
  | cons c W ih =>
    simp only [cellsOf, List.length_cons, List.replicate_succ, List.zip_cons_cons, List.filter_cons] at ih ⊢
    by_cases h : s0 = s
    · simp only [h, decide_true, ↓reduceIte, List.map_cons] at ih ⊢; rw [ih]
    · simp only [h, decide_false, ↓reduceIte] at ih ⊢; exact ih

theorem mem_cellsOf {W sl : List Nat} {s c : Nat} : c ∈ cellsOf W sl s ↔ (c, s) ∈ W.zip sl := by
  unfold cellsOf
  simp only [List.mem_map, List.mem_filter, decide_eq_true_eq]
  constructor
  · rintro ⟨⟨c', s'⟩, ⟨hq, hs⟩, hc⟩
    simp only at hs hc; subst hs; subst hc; exact hq
  · intro h; exact ⟨(c, s), ⟨h, rfl⟩, rfl⟩

theorem mem_zip_iff {W sl : List Nat} {s c : Nat} :
    (c, s) ∈ W.zip sl ↔ ∃ t, ∃ h1 : t < W.length, ∃ h2 : t < sl.length, W[t] = c ∧ sl[t] = s := by
  rw [List.mem_iff_getElem]
  constructor
  · rintro ⟨t, ht, h⟩
    simp only [List.length_zip] at ht
    rw [List.getElem_zip] at h
    simp only [Prod.mk.injEq] at h
    exact ⟨t, by omega, by omega, h.1, h.2⟩
  · rintro ⟨t, h1, h2, h3, h4⟩
    refine ⟨t, by simp only [List.length_zip]; omega, ?_⟩
    rw [List.getElem_zip, h3, h4]

theorem cellsOf_sublist {W sl : List Nat} (h : W.length ≤ sl.length) (s : Nat) : (cellsOf W sl s).Sublist W := by
  unfold cellsOf
  have h1 : ((W.zip sl).filter (fun q => q.2 = s)).Sublist (W.zip sl) := List.filter_sublist
  have h2 := h1.map (·.1)
  have h3 : (W.zip sl).map (·.1) = W := List.map_fst_zip h
  rw [h3] at h2
  exact h2

theorem cellsOf_length : ∀ {W sl : List Nat}, W.length = sl.length → ∀ (s : Nat),
    (cellsOf W sl s).length = sl.count s := by
  intro W
  induction W with
  | nil => intro sl h s; cases sl <;> simp_all [cellsOf]
  | cons c W ih =>
    intro sl h s
    cases sl with
    | nil => simp at h
    | cons x sl =>
      simp only [List.length_cons, Nat.add_right_cancel_iff] at h
      have := ih h s
      simp only [cellsOf, List.zip_cons_cons, List.filter_cons, List.length_map, List.count_cons] at this ⊢
      by_cases hx : x = s
      · simp [hx, this]
      · simp [hx, this]

theorem getElem?_eq_some_getD {α : Type} {a : Array α} {i : Nat} (h : i < a.size) (d : α) :
    a[i]? = some (a.getD i d) := by
  simp [Array.getD_eq_getD_getElem?, Array.getElem?_eq_getElem h]

/-- the state the spreading loop pushes for cell `c`: only its index is set, the last loop fills in the rest -/
def mkSt (c : Nat) : EState := { index := c }

/-- the encoder's `negative_idx` is the last free cell and its loop runs `while idx > negative_idx`; the decoder's
is the first occupied cell and its loop runs `while position >= negative_idx`.  So the encoder's functions with
`neg - 1` do what the decoder's do with `neg`. -/
theorem encSkipHigh_of_skipHigh {size neg : Nat} (hneg : 1 ≤ neg) : ∀ (fuel pos : Nat) {r : Nat},
    skipHigh size neg fuel pos = .ok r → encSkipHigh size (neg - 1) fuel pos = .ok r := by
  intro fuel
  induction fuel with
  | zero => intro pos r h; simp [skipHigh] at h
  | succ fuel ih =>
    intro pos r h
    simp only [skipHigh] at h
    simp only [encSkipHigh, nextPositionEnc_eq]
    by_cases hp : pos ≥ neg
    · rw [if_pos hp] at h
      rw [if_pos (by omega)]
      exact ih _ h
    · rw [if_neg hp] at h
      rw [if_neg (by omega)]
      exact h

theorem encSpreadSymbol_spec {size neg : Nat} (hneg : 1 ≤ neg) :
    ∀ (n : Nat) (sts : Array EState) (pos : Nat) {l : List Nat} {e : Nat},
    walk size neg n pos = .ok (l, e) →
    encSpreadSymbol size (neg - 1) n sts pos = .ok ((sts.toList ++ l.map mkSt).toArray, e) := by
  intro n
  induction n with
  | zero =>
    intro sts pos l e h
    cases h
    simp [encSpreadSymbol]
  | succ n ih =>
    intro sts pos l e h
    obtain ⟨pos', l', hs, h', rfl⟩ := walk_succ_ok h
    simp only [encSpreadSymbol, nextPositionEnc_eq, encSkipHigh_of_skipHigh hneg _ _ hs, ih _ _ h']
    simp [mkSt]

theorem slotSyms_cons_pos {p : Int} {s : Nat} {rest : List (Int × Nat)} (hp : p > 0) :
    slotSyms ((p, s) :: rest) = List.replicate p.toNat s ++ slotSyms rest := by
  simp [slotSyms, slotF, hp]

theorem slotSyms_cons_nonpos {p : Int} {s : Nat} {rest : List (Int × Nat)} (hp : ¬ p > 0) :
    slotSyms ((p, s) :: rest) = slotSyms rest := by
  simp [slotSyms, slotF, hp]

theorem encSpreadAll_spec {size neg : Nat} (hneg : 1 ≤ neg) :
    ∀ (ps : List (Int × Nat)) (st : Array SymbolStates) (pos : Nat) {W : List Nat} {e : Nat},
    walk size neg (slotSyms ps).length pos = .ok (W, e) → (∀ q ∈ ps, q.2 < st.size) →
    ∃ st', encSpreadAll size (neg - 1) ps st pos = .ok (st', e) ∧ st'.size = st.size ∧
      (∀ s, (st'.getD s {}).states.toList
              = (st.getD s {}).states.toList ++ (cellsOf W (slotSyms ps) s).map mkSt) ∧
      (∀ s, (∀ p, (p, s) ∈ ps → p ≤ 0) → (st'.getD s {}).probability = (st.getD s {}).probability) ∧
      ((ps.map (·.2)).Nodup → ∀ p s, (p, s) ∈ ps → p > 0 → (st'.getD s {}).probability = p) := by
  intro ps
  induction ps with
  | nil =>
    intro st pos W e h _
    simp only [slotSyms, List.flatMap_nil, List.length_nil, walk, Except.ok.injEq, Prod.mk.injEq] at h
    obtain ⟨rfl, rfl⟩ := h
    refine ⟨st, by simp [encSpreadAll], rfl, ?_, ?_, ?_⟩
    · intro s; simp [cellsOf]
    · intro s _; rfl
    · intro _ p s h; simp at h
  | cons q rest ih =>
    obtain ⟨p, s0⟩ := q
    intro st pos W e h hlt
    by_cases hp : p > 0
    · rw [slotSyms_cons_pos hp, List.length_append, List.length_replicate] at h
      obtain ⟨W1, W2, m, h1, h2, rfl⟩ := walk_append _ _ _ h
      have hl1 : W1.length = p.toNat := walk_length h1
      have hs0 : s0 < st.size := hlt (p, s0) List.mem_cons_self
      have hget := getElem?_eq_some_getD hs0 ({} : SymbolStates)
      have hss := encSpreadSymbol_spec hneg p.toNat (st.getD s0 {}).states pos h1
      obtain ⟨st', hst', hsz, hstates, hprob0, hprob⟩ :=
        ih (st.set! s0 { states := ((st.getD s0 {}).states.toList ++ W1.map mkSt).toArray, probability := p }) m h2
          (by intro q hq
              rw [Array.set!_eq_setIfInBounds, Array.size_setIfInBounds]
              exact hlt q (List.mem_cons_of_mem _ hq))
      refine ⟨st', ?_, ?_, ?_, ?_, ?_⟩
      · simp only [encSpreadAll, if_neg (show ¬ p ≤ 0 by omega), hget, hss]
        exact hst'
      · rw [hsz, Array.set!_eq_setIfInBounds, Array.size_setIfInBounds]
      · intro s
        rw [hstates s, arr_getD_set!, slotSyms_cons_pos hp]
        have hc := cellsOf_append (W2 := W2) (sl2 := slotSyms rest)
          (show W1.length = (List.replicate p.toNat s0).length by rw [List.length_replicate, hl1]) s
        rw [hc, ← hl1, cellsOf_replicate]
        by_cases hs : s0 = s
        · subst hs
          simp [hs0]
        · simp [hs]
      · intro s hall
        rw [hprob0 s (fun p' hp' => hall p' (List.mem_cons_of_mem _ hp')), arr_getD_set!]
        have hs : s0 ≠ s := by
          intro hs; subst hs
          have := hall p List.mem_cons_self
          omega
        simp [hs]
      · intro hnd p' s hmem hp'
        simp only [List.map_cons, List.nodup_cons, List.mem_map, not_exists, not_and] at hnd
        rw [List.mem_cons] at hmem
        rcases hmem with hmem | hmem
        · simp only [Prod.mk.injEq] at hmem
          obtain ⟨rfl, rfl⟩ := hmem
          rw [hprob0 s (fun p'' hp'' => absurd rfl (hnd.1 (p'', s) hp'')), arr_getD_set!]
          simp [hs0]
        · exact hprob hnd.2 p' s hmem hp'
    · rw [slotSyms_cons_nonpos hp] at h
      obtain ⟨st', hst', hsz, hstates, hprob0, hprob⟩ :=
        ih st pos h (fun q hq => hlt q (List.mem_cons_of_mem _ hq))
      refine ⟨st', ?_, hsz, ?_, ?_, ?_⟩
      · simp only [encSpreadAll, if_pos (show p ≤ 0 by omega)]
        exact hst'
      · intro s; rw [hstates s, slotSyms_cons_nonpos hp]
      · intro s hall
        exact hprob0 s (fun p' hp' => hall p' (List.mem_cons_of_mem _ hp'))
      · intro hnd p' s hmem hp'
        simp only [List.map_cons, List.nodup_cons] at hnd
        rw [List.mem_cons] at hmem
        rcases hmem with hmem | hmem
        · simp only [Prod.mk.injEq] at hmem
          obtain ⟨rfl, rfl⟩ := hmem
          exact absurd hp' hp
        · exact hprob hnd.2 p' s hmem hp'

/-- the one state of a "less than one" symbol in cell `idx`: its interval is the whole table -/
def negState (al idx : Nat) : EState := { numBits := al, baseline := 0, lastIndex := (1 <<< al) - 1, index := idx }

theorem negSyms_cons_neg {s : Nat} {rest : List (Int × Nat)} : negSyms ((-1, s) :: rest) = s :: negSyms rest := by
  simp [negSyms, negF]

theorem negSyms_cons_other {p : Int} {s : Nat} {rest : List (Int × Nat)} (hp : p ≠ -1) :
    negSyms ((p, s) :: rest) = negSyms rest := by
  simp [negSyms, negF, hp]

theorem encPlaceNegatives_spec {al : Nat} : ∀ (ps : List (Int × Nat)) (st : Array SymbolStates) (neg : Nat),
    (∀ q ∈ ps, q.2 < st.size) → (negSyms ps).length ≤ neg → (ps.map (·.2)).Nodup →
    ∃ st', encPlaceNegatives al ps st neg = .ok (st', neg - (negSyms ps).length) ∧ st'.size = st.size ∧
      (∀ j (hj : j < (negSyms ps).length), st'.getD (negSyms ps)[j] {} =
          { states := (st.getD (negSyms ps)[j] {}).states.push (negState al (neg - j)), probability := -1 }) ∧
      (∀ s, s ∉ negSyms ps → st'.getD s {} = st.getD s {}) := by
  intro ps
  induction ps with
  | nil =>
    intro st neg _ _ _
    exact ⟨st, by simp [encPlaceNegatives, negSyms], rfl, by intro j hj; simp [negSyms] at hj, fun _ _ => rfl⟩
  | cons q rest ih =>
    obtain ⟨p, s0⟩ := q
    intro st neg hlt hlen hnd
    simp only [List.map_cons, List.nodup_cons, List.mem_map, not_exists, not_and] at hnd
    by_cases hp : p = -1
    · subst hp
      rw [negSyms_cons_neg] at hlen ⊢
      simp only [List.length_cons] at hlen ⊢
      have hs0 : s0 < st.size := hlt (-1, s0) List.mem_cons_self
      have hget := getElem?_eq_some_getD hs0 ({} : SymbolStates)
      have hnot : s0 ∉ negSyms rest := by
        intro hm
        exact hnd.1 (-1, s0) (mem_negSyms.1 hm) rfl
      obtain ⟨st', hst', hsz, hneg, hoth⟩ :=
        ih (st.set! s0 { states := (st.getD s0 {}).states.push (negState al neg), probability := -1 }) (neg - 1)
          (by intro q hq
              rw [Array.set!_eq_setIfInBounds, Array.size_setIfInBounds]
              exact hlt q (List.mem_cons_of_mem _ hq))
          (by omega) hnd.2
      refine ⟨st', ?_, ?_, ?_, ?_⟩
      · simp only [encPlaceNegatives, ↓reduceIte, hget, if_neg (show ¬ neg = 0 by omega)]
        rw [Nat.add_comm _ 1, Nat.sub_add_eq]
        exact hst'
      · rw [hsz, Array.set!_eq_setIfInBounds, Array.size_setIfInBounds]
      · intro j hj
        cases j with
        | zero =>
          simp only [List.getElem_cons_zero, Nat.sub_zero]
          rw [hoth s0 hnot, arr_getD_set!, if_pos ⟨rfl, hs0⟩]
        | succ j =>
          simp only [List.getElem_cons_succ]
          have hj' : j < (negSyms rest).length := by simpa using hj
          have hne : s0 ≠ (negSyms rest)[j] := by
            intro h; apply hnot; rw [h]; exact List.getElem_mem hj'
          rw [hneg j hj', arr_getD_set!, if_neg (fun h => hne h.1), Nat.sub_sub, Nat.add_comm 1 j]
      · intro s hs
        simp only [List.mem_cons, not_or] at hs
        rw [hoth s hs.2, arr_getD_set!, if_neg (fun h => hs.1 h.1.symm)]
    · rw [negSyms_cons_other hp] at hlen ⊢
      obtain ⟨st', hst', hsz, hneg, hoth⟩ :=
        ih st neg (fun q hq => hlt q (List.mem_cons_of_mem _ hq)) hlen hnd.2
      refine ⟨st', ?_, hsz, hneg, hoth⟩
      simp only [encPlaceNegatives, if_neg hp]
      exact hst'

/-- the third loop, given what `encFinishSymbol` returns for each symbol with slots (`R`): those symbols get their
finished states, the others are left alone -/
theorem encFinishAll_spec {al : Nat} (R : Nat → Array EState) : ∀ (ps : List (Int × Nat)) (st : Array SymbolStates),
    (∀ q ∈ ps, q.2 < st.size) → (ps.map (·.2)).Nodup →
    (∀ p s, (p, s) ∈ ps → p > 0 → encFinishSymbol al p.toNat (st.getD s {}).states = .ok (R s)) →
    ∃ st', encFinishAll al ps st = .ok st' ∧ st'.size = st.size ∧
      (∀ p s, (p, s) ∈ ps → p > 0 → st'.getD s {} = { st.getD s {} with states := R s }) ∧
      (∀ s, (∀ p, (p, s) ∈ ps → p ≤ 0) → st'.getD s {} = st.getD s {}) := by
  intro ps
  induction ps with
  | nil =>
    intro st _ _ _
    exact ⟨st, by simp [encFinishAll], rfl, by intro p s h; simp at h, fun _ _ => rfl⟩
  | cons q rest ih =>
    obtain ⟨p, s0⟩ := q
    intro st hlt hnd hfin
    simp only [List.map_cons, List.nodup_cons, List.mem_map, not_exists, not_and] at hnd
    have hrest : ∀ q ∈ rest, q.2 < st.size := fun q hq => hlt q (List.mem_cons_of_mem _ hq)
    -- `s0` does not occur again
    have hs0 : ∀ {p' s}, (p', s) ∈ rest → s0 ≠ s := fun h e => hnd.1 _ h e.symm
    by_cases hp : p > 0
    · have hs0lt : s0 < st.size := hlt (p, s0) List.mem_cons_self
      have hother : ∀ s, s0 ≠ s → (st.set! s0 { st.getD s0 {} with states := R s0 }).getD s {} = st.getD s {} :=
        fun s hs => by rw [arr_getD_set!, if_neg (fun h => hs h.1)]
      obtain ⟨st', hst', hsz, hpos, hoth⟩ := ih (st.set! s0 { st.getD s0 {} with states := R s0 })
        (by rw [Array.set!_eq_setIfInBounds, Array.size_setIfInBounds]; exact hrest) hnd.2
        (fun p' s hmem hp' => by
          rw [hother s (hs0 hmem)]
          exact hfin p' s (List.mem_cons_of_mem _ hmem) hp')
      refine ⟨st', ?_, by rw [hsz, Array.set!_eq_setIfInBounds, Array.size_setIfInBounds], fun p' s hmem hp' => ?_,
        fun s hall => ?_⟩
      · simp only [encFinishAll, if_neg (show ¬ p ≤ 0 by omega), getElem?_eq_some_getD hs0lt ({} : SymbolStates),
          hfin p s0 List.mem_cons_self hp]
        exact hst'
      · rcases List.mem_cons.1 hmem with hmem | hmem
        · cases hmem
          rw [hoth s0 (fun p'' h => absurd rfl (hs0 h)), arr_getD_set!, if_pos ⟨rfl, hs0lt⟩]
        · rw [hpos p' s hmem hp', hother s (hs0 hmem)]
      · have hne : s0 ≠ s := fun h => by
          have := hall p (h ▸ List.mem_cons_self)
          omega
        rw [hoth s (fun p' h => hall p' (List.mem_cons_of_mem _ h)), hother s hne]
    · obtain ⟨st', hst', hsz, hpos, hoth⟩ := ih st hrest hnd.2
        (fun p' s hmem hp' => hfin p' s (List.mem_cons_of_mem _ hmem) hp')
      refine ⟨st', ?_, hsz, fun p' s hmem hp' => ?_, fun s hall => hoth s (fun p' h => hall p' (List.mem_cons_of_mem _ h))⟩
      · simp only [encFinishAll, if_pos (show p ≤ 0 by omega)]
        exact hst'
      · rcases List.mem_cons.1 hmem with hmem | hmem
        · cases hmem
          exact absurd hp' hp
        · exact hpos p' s hmem hp'

end Zstd.Proofs.FseEncTable
