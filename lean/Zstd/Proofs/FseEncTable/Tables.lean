import Zstd.Proofs.FseEncTable.Enc
import Zstd.Proofs.FseEncTable.Assign
import Zstd.Proofs.FseEncTable.Layout
import Zstd.Proofs.FseDecTable.Spread
/-
`build_table_from_probabilities` as a whole: on a spread it returns the encoder table of the layout
(`Spread.encoder`).  After the first two loops the states of a symbol with slots are the cells the walk gave to
its slots, which are the cells of the symbol in the layout (`Spread.positions_perm`); the third loop sorts them,
hands out the RFC entries by rank and sorts by baseline (`encFinishSymbol_spec`).
-/
namespace Zstd.Proofs.FseEncTable
open Zstd Zstd.Model.Fse Zstd.Proofs.FseFin
open Zstd.Proofs.FseDecTable (nStates Spread negIdx slotsOf negsOf positions mem_positions positions_nodup
  positions_pairwise zipIdx_lt list_getD_of_lt getD_ge mem_slotsOf mem_negsOf count_slotsOf nStates_of_ne
  nStates_neg)

theorem symbolStates_ext {a b : SymbolStates} (h1 : a.states.toList = b.states.toList)
    (h2 : a.probability = b.probability) : a = b := by
  cases a; cases b
  simp only [SymbolStates.mk.injEq]
  exact ⟨Array.toList_inj.1 h1, h2⟩

theorem getD_replicate_empty (n s : Nat) : (Array.replicate n ({} : SymbolStates)).getD s {} = {} := by
  simp only [Array.getD_eq_getD_getElem?, Array.getElem?_replicate]
  split <;> rfl

theorem orderedKs_one : orderedKs 1 = [0] := by decide

theorem mem_zipIdx_of_getD {probs : List Int} {s : Nat} (h : probs.getD s 0 ≠ 0) :
    (probs.getD s 0, s) ∈ probs.zipIdx := by
  rw [mem_zipIdx]
  rw [List.getD_eq_getElem?_getD] at h ⊢
  cases hs : probs[s]? with
  | none => rw [hs] at h; exact absurd rfl h
  | some v => rfl

section
variable {al : Nat} {probs : List Int} {W syms : List Nat} (hS : Spread al probs W syms)
include hS

/-- the cells the walk gave to the slots of `s` are the cells of `s`: a cell in the "less than one" zone
carries a symbol of probability `-1` -/
theorem _root_.Zstd.Proofs.FseDecTable.Spread.positions_perm {s : Nat} (hs : 0 < probs.getD s 0) : (positions syms s).Perm (cellsOf W (slotsOf probs) s) := by
  have hwl : W.length ≤ (slotsOf probs).length := by
    rw [hS.wlen, hS.slotsLen]
    exact Nat.le_refl _
  rw [List.perm_ext_iff_of_nodup (positions_nodup syms s) (hS.nodup.sublist (cellsOf_sublist hwl s))]
  intro c
  rw [mem_positions, mem_cellsOf, mem_zip_iff, hS.length]
  constructor
  · rintro ⟨hc, rfl⟩
    by_cases hlow : c < negIdx al probs
    · obtain ⟨t, ht, rfl⟩ := hS.walk_index hlow
      exact ⟨t, ht, by omega, rfl, by rw [← list_getD_of_lt, ← hS.slot t ht]⟩
    · obtain ⟨hj, he⟩ := hS.high (by omega) hc
      have := mem_negsOf (he ▸ List.getElem_mem hj)
      omega
  · rintro ⟨t, h1, h2, rfl, rfl⟩
    have := hS.lt _ (List.getElem_mem h1)
    exact ⟨by unfold negIdx at this; omega, by rw [hS.slot t h1, list_getD_of_lt]⟩

/-- `hnn`: one cell is not a "less than one" cell (`negative_idx -= 1` underflows otherwise) -/
theorem _root_.Zstd.Proofs.FseDecTable.Spread.encoder (hal : al < 64) (hlen : probs.length ≤ 256)
    (hge : ∀ p ∈ probs, -1 ≤ p) (hnn : (negsOf probs).length < 2 ^ al) :
    buildTableFromProbabilities probs al = .ok (encOf al probs syms) := by
  have hL := hS.layout hge
  have h256 := zipIdx_lt hlen
  have hneg1 : 1 ≤ negIdx al probs := by unfold negIdx; omega
  have hndz := zipIdx_snd_nodup probs
  have hget : ∀ {p : Int} {s : Nat}, (p, s) ∈ probs.zipIdx → probs.getD s 0 = p := getD_of_mem_zipIdx
  obtain ⟨st1, hst1, hsz1, hneg1', hoth1⟩ :=
    encPlaceNegatives_spec (al := al) probs.zipIdx (Array.replicate 256 {}) (2 ^ al - 1)
      (by simpa using h256) (by show (negsOf probs).length ≤ _; omega) hndz
  have hneg1' : ∀ j (hj : j < (negsOf probs).length), st1.getD (negsOf probs)[j] {}
      = { states := #[negState al (2 ^ al - 1 - j)], probability := -1 } := fun j hj =>
    (hneg1' j hj).trans (by rw [getD_replicate_empty]; rfl)
  obtain ⟨st2, hst2, hsz2, hstates2, hprob02, hprob2⟩ :=
    encSpreadAll_spec hneg1 probs.zipIdx st1 0 (W := W)
      (by rw [show (FseDecTable.slotSyms probs.zipIdx).length = _ from hS.slotsLen]; exact hS.walk)
      (by rw [hsz1]; simpa using h256)
  -- the unfinished states of a symbol with slots are its cells in walk order
  have hfin2 : ∀ p s, (p, s) ∈ probs.zipIdx → p > 0 →
      encFinishSymbol al p.toNat (st2.getD s {}).states
        = .ok ((orderedKs (nStates probs s)).map
            (fun k => stateOf al (nStates probs s) k ((positions syms s).getD k 0))).toArray := by
    intro p s hmem hp
    have hps := hget hmem
    have hsn : s ∉ negsOf probs := fun h => by
      have := hget (mem_negSyms.1 h)
      omega
    have hstates : (st2.getD s {}).states = ((cellsOf W (slotsOf probs) s).map
        (fun c => ({ index := c } : EState))).toArray := by
      apply Array.toList_inj.1
      rw [hstates2 s, hoth1 s hsn, getD_replicate_empty]
      simp [mkSt, slotsOf]
    have hns : nStates probs s = p.toNat := by rw [nStates_of_ne (by omega), hps]
    rw [hstates, hns]
    exact encFinishSymbol_spec (by omega) (hns ▸ hL.nStates_le s)
      (by rw [cellsOf_length (by rw [hS.wlen, hS.slotsLen]), count_slotsOf, hps, if_pos hp])
      (positions_pairwise _ _) (hS.positions_perm (by omega))
  obtain ⟨st3, hst3, hsz3, hpos3, hoth3⟩ := encFinishAll_spec (al := al) _ probs.zipIdx st2
    (by rw [hsz2, hsz1]; simpa using h256) hndz hfin2
  have hrun : buildTableFromProbabilities probs al = .ok { states := st3, tableSize := 2 ^ al } := by
    unfold buildTableFromProbabilities
    rw [if_neg (by omega)]
    simp only [Nat.one_shiftLeft, hst1]
    rw [show 2 ^ al - 1 - (FseDecTable.negSyms probs.zipIdx).length = negIdx al probs - 1 by
      unfold negIdx negsOf
      omega]
    simp only [hst2, hst3]
  rw [hrun]
  congr 2
  show st3 = (encOf al probs syms).states
  apply Array.ext_getElem?
  intro s
  by_cases hs : s < 256
  · rw [encOf_getElem? al probs syms hs, getElem?_eq_some_getD
      (by rw [hsz3, hsz2, hsz1, Array.size_replicate]; exact hs) ({} : SymbolStates)]
    congr 1
    have hnoslot : ∀ {s}, ¬ 0 < probs.getD s 0 → st2.getD s {} = st1.getD s {} := by
      intro s hs
      apply symbolStates_ext
      · have hnil : cellsOf W (slotsOf probs) s = [] :=
          List.eq_nil_iff_forall_not_mem.2 fun c hc => hs (mem_slotsOf (List.of_mem_zip (mem_cellsOf.1 hc)).2)
        rw [hstates2 s, show FseDecTable.slotSyms probs.zipIdx = slotsOf probs from rfl, hnil]
        simp
      · exact hprob02 s fun p hp => by
          have := hget hp
          omega
    by_cases hp : 0 < probs.getD s 0
    · have hmem := mem_zipIdx_of_getD (show probs.getD s 0 ≠ 0 by omega)
      rw [hpos3 _ s hmem hp]
      dsimp only
      rw [hprob2 hndz _ s hmem hp, encStates, if_neg (by omega)]
    · rw [hoth3 s (fun p hp' => by have := hget hp'; omega), hnoslot hp]
      by_cases hn : probs.getD s 0 = -1
      · -- a "less than one" symbol is a symbol with one state, on its one cell
        have hmem : s ∈ negsOf probs := mem_negSyms.2 (hn ▸ mem_zipIdx_of_getD (by omega))
        have hj := List.idxOf_lt_length_iff.2 hmem
        have hst := hneg1' _ hj
        have hsym := hS.neg _ hj
        rw [List.getElem_idxOf hj] at hst
        rw [list_getD_of_lt hj, List.getElem_idxOf hj] at hsym
        have hns : nStates probs s = 1 := nStates_neg hn
        have h1 := hL.positions_length s
        rw [hns, List.length_eq_one_iff] at h1
        obtain ⟨a, ha⟩ := h1
        have hc : 2 ^ al - 1 - (negsOf probs).idxOf s ∈ positions syms s :=
          mem_positions.2 ⟨by rw [hS.length]; have := Nat.two_pow_pos al; omega, hsym⟩
        rw [ha, List.mem_singleton] at hc
        rw [hst, encStates, if_neg (by omega), hns, ha, hn, orderedKs_one, ← hc]
        simp [negState, stateOf, rfcEntry_one, Nat.one_shiftLeft]
      · have h0 : probs.getD s 0 = 0 := by
          have := getD_ge hge s
          omega
        rw [hoth1 s (fun hm => hn (hget (mem_negSyms.1 hm))), getD_replicate_empty, encStates_of_eq h0]
  · rw [Array.getElem?_eq_none (by rw [hsz3, hsz2, hsz1, Array.size_replicate]; omega),
      Array.getElem?_eq_none (by simp only [encOf, List.size_toArray, List.length_map, List.length_range]; omega)]

end

end Zstd.Proofs.FseEncTable
