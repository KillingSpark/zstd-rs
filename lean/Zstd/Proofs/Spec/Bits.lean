import Zstd.Spec.Bits
/-
What `Spec.backwardStream` returns: the bits of the byte string in reverse order are at most seven padding
zeros, the end mark, and the stream.  Readers of backward streams (model and Spec level) are related to the
Spec through this one statement.
-/
namespace Zstd.Spec

theorem byteBitsLE_length (b : Nat) : (byteBitsLE b).length = 8 := rfl

theorem byteBitsLE_mem_true {b : Nat} (h256 : b < 256) (hnz : b ≠ 0) : true ∈ byteBitsLE b := by
  have h : ∀ c, c < 256 → c ≠ 0 → true ∈ byteBitsLE c := by decide +kernel
  exact h b h256 hnz

theorem byteBitsLE_zero : byteBitsLE 0 = List.replicate 8 false := by decide

theorem bitsLE_concat (ys : List Nat) (b : Nat) : bitsLE (ys ++ [b]) = bitsLE ys ++ byteBitsLE b := by
  induction ys with
  | nil => simp [bitsLE]
  | cons y ys ih => rw [List.cons_append, bitsLE, bitsLE, ih, List.append_assoc]

theorem zeros_true_split : ∀ (L : List Bool) (j : Nat), L[j]? = some true →
    ∃ k, k ≤ j ∧ L = List.replicate k false ++ true :: (L.dropWhile (fun b => !b)).drop 1
  | [], _, h => by simp at h
  | true :: L, j, _ => ⟨0, by omega, by simp⟩
  | false :: L, 0, h => by simp at h
  | false :: L, j + 1, h => by
    obtain ⟨k, hk, e⟩ := zeros_true_split L j (by simpa using h)
    refine ⟨k + 1, by omega, ?_⟩
    simp only [List.replicate_succ, List.cons_append, List.dropWhile_cons, Bool.not_false, if_true]
    exact congrArg _ e

theorem dropWhile_zeros (k : Nat) (X : List Bool) :
    (List.replicate k false ++ true :: X).dropWhile (fun b => !b) = true :: X := by
  induction k with
  | zero => simp
  | succ k ih => simp [List.replicate_succ]

/-- no bound on the bytes is needed in this direction -/
theorem backwardStream_of_marker {bytes : List Nat} {bits : List Bool} {k : Nat} (hk : k ≤ 7)
    (hrev : (bitsLE bytes).reverse = List.replicate k false ++ true :: bits) : backwardStream bytes = some bits := by
  unfold backwardStream
  rcases List.eq_nil_or_concat bytes with rfl | ⟨ys, last, rfl⟩
  · simp [bitsLE] at hrev
  rw [List.concat_eq_append] at hrev ⊢
  rw [bitsLE_concat, List.reverse_append] at hrev
  rw [List.getLast?_concat, bitsLE_concat, List.reverse_append]
  simp only []
  have hz : last ≠ 0 := by
    rintro rfl
    -- a zero last byte would put eight zeros in front
    have := congrArg (fun L => L[k]?) hrev
    simp only [byteBitsLE_zero, List.reverse_replicate] at this
    rw [List.getElem?_append_left (by simp; omega), List.getElem?_replicate, if_pos (by omega),
      List.getElem?_append_right (by simp), List.length_replicate, Nat.sub_self] at this
    cases this
  rw [if_neg hz, hrev, dropWhile_zeros]
  rfl

theorem backwardStream_eq_some {bytes : List Nat} (hb : ∀ b ∈ bytes, b < 256) {bits : List Bool} :
    backwardStream bytes = some bits ↔
      ∃ k, k ≤ 7 ∧ (bitsLE bytes).reverse = List.replicate k false ++ true :: bits := by
  refine ⟨fun h => ?_, fun ⟨k, hk, hrev⟩ => backwardStream_of_marker hk hrev⟩
  unfold backwardStream at h
  rcases List.eq_nil_or_concat bytes with rfl | ⟨ys, last, rfl⟩
  · cases h
  rw [List.concat_eq_append] at hb h ⊢
  rw [List.getLast?_concat, bitsLE_concat, List.reverse_append] at h
  rw [bitsLE_concat, List.reverse_append]
  simp only [] at h
  by_cases hz : last = 0
  · rw [if_pos hz] at h; cases h
  rw [if_neg hz] at h
  -- the mark is in the last byte, so it is among the first eight reversed bits
  have hmem : true ∈ (byteBitsLE last).reverse :=
    List.mem_reverse.mpr (byteBitsLE_mem_true (hb last (by simp)) hz)
  obtain ⟨j, hj, hget⟩ := List.getElem_of_mem hmem
  rw [List.length_reverse, byteBitsLE_length] at hj
  have hget' : ((byteBitsLE last).reverse ++ (bitsLE ys).reverse)[j]? = some true := by
    rw [List.getElem?_append_left (by rw [List.length_reverse, byteBitsLE_length]; exact hj),
      List.getElem?_eq_getElem (by rw [List.length_reverse, byteBitsLE_length]; exact hj), hget]
  obtain ⟨k, hk, hsplit⟩ := zeros_true_split _ j hget'
  exact ⟨k, by omega, by rw [← Option.some.inj h]; exact hsplit⟩

end Zstd.Spec
