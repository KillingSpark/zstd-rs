import Zstd.Spec.Frame
import Zstd.Proofs.Spec.Block
/-
What the frame-level functions of the Spec return: the block run of `Spec.decodeBlocks` one block at a time
(`specBlockStep`, `specDecodeBlocks_succ`, `specBlockStep_eq_some`), how much of the source it consumes, and what the
acceptance of a frame says (`decodeFrame_some`).  The declarations about the block run speak of the Spec only but live in
`Zstd.Model`, next to their users; the inversion of `specBlockStep` in the model's terms (`specBlockStep_some`) is
in Proofs/FrameDecoderRefineBlocks.lean.
-/
namespace Zstd.Model
open Zstd

/-- one block of the Spec's `decodeBlocks`: (output, entropy, bytes consumed, last?) -/
def specBlockStep (window : Nat) (dict : Array Nat) (bytes : List Nat) (e : Spec.Entropy) (out : Array Nat) :
    Option (Array Nat × Spec.Entropy × Nat × Bool) :=
  match bytes with
  | b0 :: b1 :: b2 :: body =>
    let h := Spec.parseBlockHeader b0 b1 b2
    let blockMax := min window Spec.blockMaxSize
    if h.btype = 3 then none
    else if h.btype = 0 then
      if h.size > blockMax ∨ body.length < h.size then none
      else some (out ++ (body.take h.size).toArray, e, 3 + h.size, h.last)
    else if h.btype = 1 then
      if h.size > blockMax then none else
      match body with
      | [] => none
      | b :: _ => some (out ++ Array.replicate h.size b, e, 4, h.last)
    else
      if h.size > Spec.blockMaxSize ∨ body.length < h.size ∨ h.size < 2 then none
      else
        match Spec.decodeCompressedBlock window dict (body.take h.size) e out with
        | none => none
        | some (out', e') => some (out', e', 3 + h.size, h.last)
  | _ => none

theorem specDecodeBlocks_succ (window : Nat) (dict : Array Nat) (fuel : Nat) (bytes : List Nat) (e : Spec.Entropy)
    (out : Array Nat) (consumed : Nat) :
    Spec.decodeBlocks window dict (fuel + 1) bytes e out consumed =
      match specBlockStep window dict bytes e out with
      | none => none
      | some (out1, e1, n, last) =>
        if last then some (out1, consumed + n)
        else Spec.decodeBlocks window dict fuel (bytes.drop n) e1 out1 (consumed + n) := by
  match bytes with
  | [] => rfl
  | [_] => rfl
  | [_, _] => rfl
  | b0 :: b1 :: b2 :: body =>
    have hdrop : ∀ n, (b0 :: b1 :: b2 :: body).drop (3 + n) = body.drop n := by
      intro n; rw [Nat.add_comm]; rfl
    simp only [Spec.decodeBlocks, specBlockStep]
    generalize Spec.parseBlockHeader b0 b1 b2 = H
    by_cases h3 : H.btype = 3
    · rw [if_pos h3, if_pos h3]
    rw [if_neg h3, if_neg h3]
    by_cases h0 : H.btype = 0
    · rw [if_pos h0, if_pos h0]
      by_cases hc : H.size > min window Spec.blockMaxSize ∨ body.length < H.size
      · rw [if_pos hc, if_pos hc]
      · rw [if_neg hc, if_neg hc]
        simp only [hdrop, Nat.add_assoc]
    rw [if_neg h0, if_neg h0]
    by_cases h1 : H.btype = 1
    · rw [if_pos h1, if_pos h1]
      by_cases hc : H.size > min window Spec.blockMaxSize
      · rw [if_pos hc, if_pos hc]
      · rw [if_neg hc, if_neg hc]
        cases body with
        | nil => rfl
        | cons b rest => rfl
    rw [if_neg h1, if_neg h1]
    by_cases hc : H.size > Spec.blockMaxSize ∨ body.length < H.size ∨ H.size < 2
    · rw [if_pos hc, if_pos hc]
    · rw [if_neg hc, if_neg hc]
      cases Spec.decodeCompressedBlock window dict (body.take H.size) e out with
      | none => rfl
      | some p => simp only [hdrop, Nat.add_assoc]

theorem specBlockStep_eq_some {window : Nat} {dict : Array Nat} {bytes : List Nat} {e e1 : Spec.Entropy}
    {out out1 : Array Nat} {n : Nat} {last : Bool}
    (hs : specBlockStep window dict bytes e out = some (out1, e1, n, last)) :
    ∃ b0 b1 b2 body H, bytes = b0 :: b1 :: b2 :: body ∧ H = Spec.parseBlockHeader b0 b1 b2 ∧ last = H.last ∧
      H.btype ≠ 3 ∧ H.size ≤ Spec.blockMaxSize ∧
      ((H.btype = 0 ∧ H.size ≤ body.length ∧ n = 3 + H.size ∧ e1 = e ∧ out1 = out ++ (body.take H.size).toArray) ∨
       (H.btype = 1 ∧ 1 ≤ body.length ∧ n = 4 ∧ e1 = e ∧ out1 = out ++ Array.replicate H.size (body.headD 0)) ∨
       (H.btype ≠ 0 ∧ H.btype ≠ 1 ∧ H.size ≤ body.length ∧ n = 3 + H.size ∧
          Spec.decodeCompressedBlock window dict (body.take H.size) e out = some (out1, e1))) := by
  match bytes, hs with
  | [], hs => simp [specBlockStep] at hs
  | [_], hs => simp [specBlockStep] at hs
  | [_, _], hs => simp [specBlockStep] at hs
  | b0 :: b1 :: b2 :: body, hs =>
    simp only [specBlockStep] at hs
    refine ⟨b0, b1, b2, body, _, rfl, rfl, ?_⟩
    generalize Spec.parseBlockHeader b0 b1 b2 = H at hs ⊢
    have hmin : min window Spec.blockMaxSize ≤ Spec.blockMaxSize := Nat.min_le_right _ _
    by_cases ht3 : H.btype = 3
    · rw [if_pos ht3] at hs
      cases hs
    rw [if_neg ht3] at hs
    by_cases ht0 : H.btype = 0
    · rw [if_pos ht0] at hs
      split at hs
      · cases hs
      · cases hs
        exact ⟨rfl, ht3, by omega, .inl ⟨ht0, by omega, rfl, rfl, rfl⟩⟩
    rw [if_neg ht0] at hs
    by_cases ht1 : H.btype = 1
    · rw [if_pos ht1] at hs
      split at hs
      · cases hs
      · cases body with
        | nil => cases hs
        | cons b rest =>
          cases hs
          exact ⟨rfl, ht3, by omega, .inr (.inl ⟨ht1, by simp, rfl, rfl, rfl⟩)⟩
    rw [if_neg ht1] at hs
    split at hs
    · cases hs
    · split at hs
      · cases hs
      · rename_i hcb
        cases hs
        exact ⟨rfl, ht3, by omega, .inr (.inr ⟨ht0, ht1, by omega, rfl, hcb⟩)⟩

theorem specBlockStep_le {window : Nat} {dict : Array Nat} {bytes : List Nat} {e e1 : Spec.Entropy}
    {out out1 : Array Nat} {n : Nat} {last : Bool}
    (hs : specBlockStep window dict bytes e out = some (out1, e1, n, last)) : 3 ≤ n ∧ n ≤ bytes.length := by
  obtain ⟨b0, b1, b2, body, H, rfl, -, -, -, -, hc⟩ := specBlockStep_eq_some hs
  simp only [List.length_cons]
  rcases hc with ⟨-, hl, rfl, -⟩ | ⟨-, hl, rfl, -⟩ | ⟨-, -, hl, rfl, -⟩
  · omega
  · omega
  · omega

theorem specDecodeBlocks_consumed (window : Nat) (dict : Array Nat) (fuel : Nat) (bytes : List Nat) (e : Spec.Entropy)
    (out out' : Array Nat) (consumed consumed' : Nat)
    (h : Spec.decodeBlocks window dict fuel bytes e out consumed = some (out', consumed')) :
    consumed ≤ consumed' ∧ consumed' ≤ consumed + bytes.length := by
  induction fuel generalizing bytes e out consumed with
  | zero => simp [Spec.decodeBlocks] at h
  | succ fuel ih =>
    rw [specDecodeBlocks_succ] at h
    cases hstep : specBlockStep window dict bytes e out with
    | none => rw [hstep] at h; cases h
    | some p =>
      obtain ⟨out1, e1, n, last⟩ := p
      have hn := (specBlockStep_le hstep).2
      rw [hstep] at h
      simp only at h
      split at h
      · simp only [Option.some.injEq, Prod.mk.injEq] at h; omega
      · have := ih _ _ _ _ h
        rw [List.length_drop] at this
        omega

end Zstd.Model

namespace Zstd.Spec

/-- Not in the statement: that a declared `Frame_Content_Size` equals `out.size` (the Spec tests it before the
checksum).  The fuel `f.length + 1` of the block run always suffices: every block takes at least 3 bytes
(`specBlockStep_le`). -/
theorem decodeFrame_some {f : List Nat} {sdicts : List Dict} {r : FrameResult}
    (hs : decodeFrame f sdicts = some r) :
    ∃ (dsel : Option Dict) (out : Array Nat) (consumed : Nat),
      parseFrameHeader f = some r.header ∧
      (match r.header.dictId with
        | none => some none
        | some id => (sdicts.find? (fun d => d.id = id)).map some) = some dsel ∧
      decodeBlocks r.header.window (match dsel with | some d => d.content | none => #[]) (f.length + 1)
        (f.drop r.header.hdrLen) (match dsel with | some d => d.entropy | none => {}) #[] r.header.hdrLen
          = some (out, consumed) ∧
      r.content = out.toList ∧
      ((r.header.desc.checksum = true ∧ 4 ≤ (f.drop consumed).length ∧ r.consumed = consumed + 4 ∧
          r.checksum = some (leNat ((f.drop consumed).take 4)) ∧
          leNat ((f.drop consumed).take 4) = Xxh64.checksum32 out.toList) ∨
       (r.header.desc.checksum = false ∧ r.consumed = consumed ∧ r.checksum = none)) := by
  simp only [decodeFrame] at hs
  split at hs
  · cases hs
  · rename_i h hh
    split at hs
    · cases hs
    · rename_i dsel hsel
      split at hs
      · cases hs
      · rename_i out consumed hblocks
        -- the content-size test has passed; what is left is the checksum
        have hs' : (if h.desc.checksum = true then
              if ((f.drop consumed).take 4).length < 4 then none
              else if leNat ((f.drop consumed).take 4) ≠ Xxh64.checksum32 out.toList then none
              else some (⟨out.toList, consumed + 4, h, some (leNat ((f.drop consumed).take 4))⟩ : FrameResult)
            else some ⟨out.toList, consumed, h, none⟩) = some r := by
          cases hcsz : h.contentSize with
          | none => simpa only [hcsz, Bool.false_eq_true, if_false] using hs
          | some n =>
            simp only [hcsz] at hs
            by_cases hn : n ≠ out.size
            · simp [hn] at hs
            · simpa only [hn, decide_false, Bool.false_eq_true, if_false] using hs
        clear hs
        by_cases hcks : h.desc.checksum = true
        · rw [if_pos hcks] at hs'
          by_cases hl4 : ((f.drop consumed).take 4).length < 4
          · rw [if_pos hl4] at hs'
            cases hs'
          · rw [if_neg hl4] at hs'
            split at hs'
            · cases hs'
            · rename_i hne
              cases hs'
              simp only [List.length_take] at hl4
              exact ⟨dsel, out, consumed, hh, hsel, hblocks, rfl,
                .inl ⟨hcks, by omega, rfl, rfl, by simpa using hne⟩⟩
        · rw [if_neg hcks] at hs'
          cases hs'
          exact ⟨dsel, out, consumed, hh, hsel, hblocks, rfl, .inr ⟨by simpa using hcks, rfl, rfl⟩⟩

theorem decodeFrame_checksum (f : List Nat) (dicts : List Dict) (r : FrameResult)
    (hs : decodeFrame f dicts = some r) :
    r.checksum = none ∨ r.checksum = some (Xxh64.checksum32 r.content) := by
  obtain ⟨-, out, consumed, -, -, -, hrc, ⟨-, -, -, hck, hx⟩ | ⟨-, -, hck⟩⟩ := decodeFrame_some hs
  · exact .inr (by rw [hck, hx, hrc])
  · exact .inl hck

end Zstd.Spec
