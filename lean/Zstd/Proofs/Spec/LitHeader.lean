import Zstd.Spec.Block
/-
The structure of `Spec.parseLitHeader` (Spec/Block.lean), with no hypothesis on the bytes: the first byte selects a
header size `n` and a reading of the little-endian value of the first `n` bytes.  What a parsed header's length is and
which bytes the parse looks at follow from that alone.
-/
namespace Zstd.Proofs.Headers
open Zstd

theorem specLitHeader_arm (b0 : Nat) : ∃ (n : Nat) (f : Nat → Spec.LitHeader), 1 ≤ n ∧ (∀ v, (f v).hdrLen = n) ∧
    ∀ tl, Spec.parseLitHeader (b0 :: tl) =
      if (b0 :: tl).length < n then none else some (f (leNat ((b0 :: tl).take n))) := by
  by_cases ht : b0 % 4 < 2
  · by_cases hs0 : b0 / 4 % 4 % 2 = 0
    · exact ⟨1, fun _ => ⟨b0 % 4, b0 / 8, 0, 0, 1⟩, by decide, fun _ => rfl, fun tl => by
        simp [Spec.parseLitHeader, ht, hs0]⟩
    · by_cases hs1 : b0 / 4 % 4 = 1
      · exact ⟨2, fun v => ⟨b0 % 4, v / 16, 0, 0, 2⟩, by decide, fun _ => rfl, fun tl => by
          simp (config := { decide := true }) only [Spec.parseLitHeader, ht, hs1, if_true, if_false]⟩
      · exact ⟨3, fun v => ⟨b0 % 4, v / 16, 0, 0, 3⟩, by decide, fun _ => rfl, fun tl => by
          simp only [Spec.parseLitHeader, ht, if_true]
          rw [if_neg hs0, if_neg hs1]⟩
  · have hs : b0 / 4 % 4 = 0 ∨ b0 / 4 % 4 = 1 ∨ b0 / 4 % 4 = 2 ∨ b0 / 4 % 4 = 3 := by omega
    rcases hs with hs | hs | hs | hs
    · exact ⟨3, fun v => ⟨b0 % 4, v / 16 % 2 ^ 10, v / 16 / 2 ^ 10 % 2 ^ 10, 1, 3⟩, by decide, fun _ => rfl, fun tl => by
        simp (config := { decide := true }) only [Spec.parseLitHeader, ht, hs, if_true, if_false]⟩
    · exact ⟨3, fun v => ⟨b0 % 4, v / 16 % 2 ^ 10, v / 16 / 2 ^ 10 % 2 ^ 10, 4, 3⟩, by decide, fun _ => rfl, fun tl => by
        simp (config := { decide := true }) only [Spec.parseLitHeader, ht, hs, if_true, if_false]⟩
    · exact ⟨4, fun v => ⟨b0 % 4, v / 16 % 2 ^ 14, v / 16 / 2 ^ 14 % 2 ^ 14, 4, 4⟩, by decide, fun _ => rfl, fun tl => by
        simp (config := { decide := true }) only [Spec.parseLitHeader, ht, hs, if_true, if_false]⟩
    · exact ⟨5, fun v => ⟨b0 % 4, v / 16 % 2 ^ 18, v / 16 / 2 ^ 18 % 2 ^ 18, 4, 5⟩, by decide, fun _ => rfl, fun tl => by
        simp (config := { decide := true }) only [Spec.parseLitHeader, ht, hs, if_false]⟩

theorem take_eq_cons {b0 : Nat} {tl bs' : List Nat} {n : Nat} (h1 : 1 ≤ n) (hn : n ≤ (b0 :: tl).length)
    (e : bs'.take n = (b0 :: tl).take n) :
    ∃ tl', bs' = b0 :: tl' ∧ ¬ (b0 :: tl').length < n := by
  obtain ⟨j, rfl⟩ : ∃ j, n = j + 1 := ⟨n - 1, by omega⟩
  have hl := congrArg List.length e
  rw [List.length_take, List.length_take, Nat.min_eq_left hn] at hl
  cases bs' with
  | nil => simp at hl
  | cons c tl' =>
    rw [List.take_succ_cons, List.take_succ_cons] at e
    injection e with e1 _
    subst e1
    exact ⟨tl', rfl, by omega⟩

theorem specLitHeader_inv {bs : List Nat} {H : Spec.LitHeader} (h : Spec.parseLitHeader bs = some H) :
    1 ≤ H.hdrLen ∧ H.hdrLen ≤ bs.length ∧
      ∀ bs' : List Nat, bs'.take H.hdrLen = bs.take H.hdrLen → Spec.parseLitHeader bs' = some H := by
  cases bs with
  | nil => cases h
  | cons b0 tl =>
    obtain ⟨n, f, h1, hf, hp⟩ := specLitHeader_arm b0
    rw [hp] at h
    split at h
    · cases h
    · rename_i hlen
      cases h
      rw [hf]
      refine ⟨h1, by omega, fun bs' e => ?_⟩
      obtain ⟨tl', rfl, hl'⟩ := take_eq_cons h1 (by omega) e
      rw [hp, if_neg hl', e]

end Zstd.Proofs.Headers
