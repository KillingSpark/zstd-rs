import Zstd.Proofs.EncParse
import Zstd.Spec.Block
/-
Executing a matcher's parse with the model's `execParse` = executing, with the strict Spec's
`execSequences`, the sequences the compressor sends for it (never a repeat offset:
`Offset_Value = offset + 3`), on the literal buffer the compressor sends (all the literals of the
sequences, then the tail).
-/
namespace Zstd.Proofs.SeqExec
open Zstd Zstd.Model Zstd.Model.Enc Zstd.Proofs.Enc

/-- the sequence the compressor sends for a matcher sequence; `3` is `Gen.offsetAdd`, so never a repeat offset -/
def specOfM (s : MSeq) : Spec.Seq := ⟨s.lits.length, s.matchLen, s.offset + 3⟩

theorem repeatOffsets_plain (o : Nat) (b : Bool) (h : Spec.OffHist) (ho : 1 ≤ o) :
    Spec.repeatOffsets (o + 3) b h = (o, ⟨o, h.r1, h.r2⟩) := by
  have h3 : o + 3 > 3 := by omega
  simp only [Spec.repeatOffsets, h3, ↓reduceIte, Nat.add_sub_cancel]

theorem execParse_refines (w window : Nat) (hww : w ≤ window) :
    ∀ (seqs : List MSeq) (tail : List Byte) (out out' : Array Byte) (h : Spec.OffHist),
      execParse w seqs tail out = some out' →
      ∃ h', Spec.execSequences window #[] (seqs.map specOfM) (seqs.flatMap (·.lits) ++ tail) h out = some (out', h') := by
  intro seqs
  induction seqs with
  | nil =>
    intro tail out out' h hex
    simp only [execParse, Option.some.injEq] at hex
    subst hex
    exact ⟨h, by simp [Spec.execSequences]⟩
  | cons s rest ih =>
    intro tail out out' h hex
    obtain ⟨_, ho, how, hop, out2, hcm, hrest⟩ := execParse_cons_some hex
    obtain ⟨h', hh'⟩ := ih tail out2 out' ⟨s.offset, h.r1, h.r2⟩ hrest
    refine ⟨h', ?_⟩
    have hll : ¬ (s.lits.length > (s.lits ++ (rest.flatMap (·.lits) ++ tail)).length) := by
      simp only [List.length_append]; omega
    -- the Spec's checks in order: enough literals (`hll`), the offset resolved (`repeatOffsets_plain`), not zero, within
    -- the output, within the window (the three `show`s, from `execParse_cons_some`), the copy (`copyMatch_matchCopy`)
    simp only [List.map_cons, List.flatMap_cons, List.append_assoc, specOfM, Spec.execSequences,
      hll, ↓reduceIte, List.take_left, List.drop_left, repeatOffsets_plain _ _ _ ho,
      show ¬ s.offset = 0 by omega, show ¬ s.offset > (out ++ s.lits.toArray).size by omega,
      show ¬ s.offset > window by omega, copyMatch_matchCopy _ _ _ _ hcm, hh']

end Zstd.Proofs.SeqExec
