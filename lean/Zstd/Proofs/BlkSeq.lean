import Zstd.Proofs.BlkWF
import Zstd.Proofs.BlkFse
import Zstd.Proofs.SeqCodes
/-
The bitstream part of the sequence section decoder never faults on a well-formed scratch (C03, block level): the
three-state sequence loop and its set-up (`decodeSeqStream_ok`).  The three tables and `decode_sequences` as a whole
are in `Proofs/BlkSeqTables`.  Why no panic site is reached: every `get_bits(n)` / `get_bits_triple` request is
`≤ 56` bits per field, so the C12 reader theorems apply (`RevInv`); on a built table `init_state` / `update_state`
index below `decode.len()` without `u32` overflow; the symbols are inside the alphabets, so the `unreachable!` arms of
`lookup_ll_code` / `lookup_ml_code` are dead; `obits as u32 + (1 << of_code)` cannot overflow for `of_code ≤ 31` and
is `≥ 1`, so the loop's own `offset == 0` test is dead (`C03.zero_offset_guard_is_the_models` is about the other one, in
`execute_sequences`).  `ll_value + ll_add as u32` and the match-length sum are no `Fault` sites of the model: the bases
are at most 65539 and at most 16 extra bits are read.
-/
namespace Zstd.Proofs.Blk
open Zstd Zstd.Model Zstd.Model.BitIO Zstd.Model.Fse Zstd.Model.Blk Zstd.Proofs.BitIO

/-- the form of the no-panic statements about a step that returns a state and an `Except` (the Huffman files use it
too): the outcome `p` is not a panic and a success satisfies `P`; `fault` is how the step's error type carries a `Fault`.
`seqLoop` and `decodeSeqStream` return no state: there the state component is a dummy that `P` ignores -/
def Sound {σ ε α : Type} (fault : Fault → ε) (P : σ → α → Prop) (p : σ × Except ε α) : Prop :=
  (∀ f, p.2 ≠ .error (fault f)) ∧ ∀ s a, p = (s, .ok a) → P s a

section
variable {σ ε α : Type} {fault : Fault → ε} {P : σ → α → Prop}

theorem Sound.ok {s : σ} {a : α} (h : P s a) : Sound fault P (s, (.ok a : Except ε α)) :=
  ⟨fun _ => nofun, fun _ _ h' => by cases h'; exact h⟩

theorem Sound.error {s : σ} {e : ε} (h : ∀ f, e ≠ fault f) : Sound fault P (s, (.error e : Except ε α)) :=
  ⟨fun f h' => h f (Except.error.inj h'), fun _ _ => nofun⟩

theorem Sound.not_fault {p : σ × Except ε α} (h : Sound fault P p) {s : σ} {e : ε} (hp : p = (s, .error e)) (f : Fault) :
    e ≠ fault f := by
  subst hp
  exact fun e' => h.1 f (by rw [e'])

end

theorem readBEPad_lt {src : Array Nat} (hb : Bytes src.toList) (pos n : Nat) :
    (Spec.readBEPad n ((stream src).drop pos)).1 < 2 ^ n := by
  rw [readBEPad_stream hb]; exact win_lt _ _ _ _

def RevOK (src : Array Nat) (r : BitReaderRev) : Prop := ∃ pos, RevInv src r pos

theorem RevOK_new {src : Array Nat} (hb : Bytes src.toList) : RevOK src (BitReaderRev.new src) :=
  ⟨0, RevInv_new hb⟩

theorem skipPadding_ok {src : Array Nat} : ∀ (fuel skipped : Nat) (br : BitReaderRev), RevOK src br →
    (Fse.skipPadding fuel skipped br = .ok none) ∨
    (∃ br', Fse.skipPadding fuel skipped br = .ok (some br') ∧ RevOK src br') := by
  intro fuel
  induction fuel with
  | zero => intro skipped br _; left; rfl
  | succ n ih =>
    intro skipped br ⟨pos, h⟩
    obtain ⟨r', e, hi⟩ := bitReaderRev_refines h (by omega : 1 ≤ 56)
    rw [Fse.skipPadding, e]
    dsimp only
    split
    · split
      · left; rfl
      · right; exact ⟨r', rfl, _, hi⟩
    · exact ih _ _ ⟨_, hi⟩

theorem mem_of_getElem? {α} {a : Array α} {i : Nat} {e : α} (h : a[i]? = some e) : e ∈ a.toList :=
  Array.mem_toList_iff.mpr (Array.mem_of_getElem? h)

theorem initState_at {maxLog : Nat} {t : DTable} (hb : FseBuilt maxLog t) (hml : maxLog ≤ 9)
    {src : Array Nat} {br : BitReaderRev} {pos : Nat} (h : RevInv src br pos) (d : Fse.Decoder) :
    ∃ d' br', d.initState t br = .ok (d', br') ∧ RevInv src br' (pos + t.accuracyLog) ∧
      t.decode[(Spec.readBEPad t.accuracyLog ((stream src).drop pos)).1]? = some d'.state := by
  have hal := hb.al_le
  have hpos := hb.al_pos
  obtain ⟨br', e, hi⟩ := bitReaderRev_refines h (by omega : t.accuracyLog ≤ 56)
  have hlt : (Spec.readBEPad t.accuracyLog ((stream src).drop pos)).1 < t.decode.size := by
    rw [hb.size]; exact readBEPad_lt h.bytes _ _
  refine ⟨⟨t.decode[_]⟩, br', ?_, hi, Array.getElem?_eq_getElem hlt⟩
  unfold Decoder.initState
  rw [if_neg (by omega), e]
  dsimp only
  rw [Array.getElem?_eq_getElem hlt]

theorem updateState_at {maxLog : Nat} {t : DTable} (hb : FseBuilt maxLog t) (hml : maxLog ≤ 9)
    {src : Array Nat} {br : BitReaderRev} {pos : Nat} (h : RevInv src br pos) (d : Fse.Decoder)
    (hd : d.state ∈ t.decode.toList) :
    ∃ d' br', d.updateState t br = .ok (d', br') ∧ RevInv src br' (pos + d.state.numBits) ∧
      t.decode[d.state.baseLine + (Spec.readBEPad d.state.numBits ((stream src).drop pos)).1]? = some d'.state := by
  have hal := hb.al_le
  obtain ⟨_, hbl, hnb⟩ := hb.entries _ hd
  obtain ⟨br', e, hi⟩ := bitReaderRev_refines h (by omega : d.state.numBits ≤ 56)
  have hv := readBEPad_lt h.bytes pos d.state.numBits
  have h9 : 2 ^ t.accuracyLog ≤ 2 ^ 9 := Nat.pow_le_pow_right (by omega) (by omega)
  have hlt : d.state.baseLine + (Spec.readBEPad d.state.numBits ((stream src).drop pos)).1 < t.decode.size := by
    rw [hb.size]; omega
  refine ⟨⟨t.decode[_]⟩, br', ?_, hi, Array.getElem?_eq_getElem hlt⟩
  unfold Decoder.updateState
  rw [e]
  dsimp only
  rw [if_neg (by omega), Array.getElem?_eq_getElem hlt]

theorem initState_built {maxLog : Nat} {t : DTable} (hb : FseBuilt maxLog t) (hml : maxLog ≤ 9)
    {src : Array Nat} {br : BitReaderRev} (hr : RevOK src br) (d : Fse.Decoder) :
    ∃ d' br', d.initState t br = .ok (d', br') ∧ RevOK src br' ∧ d'.state ∈ t.decode.toList := by
  obtain ⟨pos, h⟩ := hr
  obtain ⟨d', br', e, hi, hd'⟩ := initState_at hb hml h d
  exact ⟨d', br', e, ⟨_, hi⟩, mem_of_getElem? hd'⟩

theorem updateState_built {maxLog : Nat} {t : DTable} (hb : FseBuilt maxLog t) (hml : maxLog ≤ 9)
    {src : Array Nat} {br : BitReaderRev} (hr : RevOK src br) (d : Fse.Decoder) (hd : d.state ∈ t.decode.toList) :
    ∃ d' br', d.updateState t br = .ok (d', br') ∧ RevOK src br' ∧ d'.state ∈ t.decode.toList := by
  obtain ⟨pos, h⟩ := hr
  obtain ⟨d', br', e, hi, hd'⟩ := updateState_at hb hml h d hd
  exact ⟨d', br', e, ⟨_, hi⟩, mem_of_getElem? hd'⟩

theorem llCode_some : ∀ c, c < 36 →
    Spec.llCodeTable[c]? = some (Spec.llCodeTable.getD c (0, 0)) ∧ (Spec.llCodeTable.getD c (0, 0)).2 ≤ 16 := by
  decide

theorem mlCode_some : ∀ c, c < 53 →
    Spec.mlCodeTable[c]? = some (Spec.mlCodeTable.getD c (0, 0)) ∧ (Spec.mlCodeTable.getD c (0, 0)).2 ≤ 16 := by
  decide

theorem llCode_lookup {c : Nat} (h : c ≤ Gen.maxLiteralLengthCode) :
    ∃ base nb, Spec.llCodeTable[c]? = some (base, nb) ∧ lookupLL c = .ok (base, nb) ∧ nb ≤ 16 := by
  have hc : c < 36 := by simp only [Gen.maxLiteralLengthCode] at h; omega
  exact ⟨_, _, (llCode_some c hc).1, Zstd.Proofs.SeqCodes.lookupLL_eq_rfc c hc, (llCode_some c hc).2⟩

theorem mlCode_lookup {c : Nat} (h : c ≤ Gen.maxMatchLengthCode) :
    ∃ base nb, Spec.mlCodeTable[c]? = some (base, nb) ∧ lookupML c = .ok (base, nb) ∧ nb ≤ 16 := by
  have hc : c < 53 := by simp only [Gen.maxMatchLengthCode] at h; omega
  exact ⟨_, _, (mlCode_some c hc).1, Zstd.Proofs.SeqCodes.lookupML_eq_rfc c hc, (mlCode_some c hc).2⟩

/-- what the sequence loop relies on for one channel (LL / ML / OF) once `init_state` has run -/
def ChanOK (maxLog maxCode : Nat) (t : DTable) (rle : Option Nat) (d : Fse.Decoder) : Prop :=
  match rle with
  | some b => b ≤ maxCode
  | none => FseBuilt maxLog t ∧ t.maxSymbol = maxCode ∧ d.state ∈ t.decode.toList

theorem ChanOK.code {maxLog maxCode : Nat} {t : DTable} {rle : Option Nat} {d : Fse.Decoder}
    (h : ChanOK maxLog maxCode t rle d) : rle.getD d.decodeSymbol ≤ maxCode := by
  cases rle with
  | some b => exact h
  | none =>
    obtain ⟨hb, hm, hd⟩ := h
    have := (hb.entries _ hd).1
    simp only [Option.getD, Decoder.decodeSymbol]; omega

/-- `if rle.is_none() { dec.update_state(br) }` -/
def chanUpd (isNone : Bool) (d : Fse.Decoder) (t : DTable) (br : BitReaderRev) :
    Except SeqErr (Fse.Decoder × BitReaderRev) :=
  if isNone then liftFse (d.updateState t br) else .ok (d, br)

/-- `if rle.is_none() { dec.init_state(br)? }` -/
def chanInit (isNone : Bool) (d : Fse.Decoder) (t : DTable) (br : BitReaderRev) :
    Except SeqErr (Fse.Decoder × BitReaderRev) :=
  if isNone then liftFse (d.initState t br) else .ok (d, br)

/-- for folding the three `if`s of `decodeSeqStream` -/
theorem chanInit_eq (isNone : Bool) (d : Fse.Decoder) (t : DTable) (br : BitReaderRev) :
    (if isNone = true then liftFse (d.initState t br) else .ok (d, br)) = chanInit isNone d t br := rfl

theorem chanUpd_ok {maxLog maxCode : Nat} {t : DTable} {rle : Option Nat} {d : Fse.Decoder} (hml : maxLog ≤ 9)
    (h : ChanOK maxLog maxCode t rle d) {src : Array Nat} {br : BitReaderRev} (hr : RevOK src br) :
    ∃ d' br', chanUpd rle.isNone d t br = .ok (d', br') ∧ RevOK src br' ∧ ChanOK maxLog maxCode t rle d' := by
  cases rle with
  | some b => exact ⟨d, br, rfl, hr, h⟩
  | none =>
    obtain ⟨hb, hm, hd⟩ := h
    obtain ⟨d', br', e, hr', hd'⟩ := updateState_built hb hml hr d hd
    refine ⟨d', br', ?_, hr', hb, hm, hd'⟩
    simp only [chanUpd, Option.isNone_none, if_true, e, liftFse]

/-- what `init_state` needs of one channel; `chanInit_ok` turns it into `ChanOK` or `TableIsUninitialized` -/
def ChanPre (maxLog maxCode : Nat) (t : DTable) (rle : Option Nat) : Prop :=
  FseWF maxLog t ∧ t.maxSymbol = maxCode ∧ ∀ b, rle = some b → b ≤ maxCode

theorem chanInit_ok {maxLog maxCode : Nat} {t : DTable} {rle : Option Nat} (d : Fse.Decoder) (hml : maxLog ≤ 9)
    (h : ChanPre maxLog maxCode t rle) {src : Array Nat} {br : BitReaderRev} (hr : RevOK src br) :
    chanInit rle.isNone d t br = .error (.fseTable .tableIsUninitialized) ∨
    ∃ d' br', chanInit rle.isNone d t br = .ok (d', br') ∧ RevOK src br' ∧ ChanOK maxLog maxCode t rle d' := by
  obtain ⟨hwf, hm, hrle⟩ := h
  cases rle with
  | some b => exact .inr ⟨d, br, rfl, hr, hrle b rfl⟩
  | none =>
    rcases hwf with h0 | hb
    · left
      simp only [chanInit, Option.isNone_none, if_true, Decoder.initState, h0, liftFse]
    · obtain ⟨d', br', e, hr', hd'⟩ := initState_built hb hml hr d
      refine .inr ⟨d', br', ?_, hr', hb, hm, hd'⟩
      simp only [chanInit, Option.isNone_none, if_true, e, liftFse]

theorem seqLoop_succ (s : FseScratch) (total n : Nat) (llD mlD ofD : Fse.Decoder) {br br1 : BitReaderRev}
    (acc : List Spec.Seq) {llV llB mlV mlB ob ma la : Nat}
    (ell : lookupLL (s.llRle.getD llD.decodeSymbol) = .ok (llV, llB))
    (eml : lookupML (s.mlRle.getD mlD.decodeSymbol) = .ok (mlV, mlB))
    (hof : s.ofRle.getD ofD.decodeSymbol ≤ 31)
    (etr : br.getBitsTriple (s.ofRle.getD ofD.decodeSymbol) mlB llB = .ok ((ob, ma, la), br1))
    (hob : ob < 2 ^ s.ofRle.getD ofD.decodeSymbol) :
    seqLoop s total (n + 1) llD mlD ofD br acc =
      match (if acc.length + 1 < total then
          match chanUpd s.llRle.isNone llD s.literalLengths br1 with
          | .error e => .error e
          | .ok (llD', br2) =>
            match chanUpd s.mlRle.isNone mlD s.matchLengths br2 with
            | .error e => .error e
            | .ok (mlD', br3) =>
              match chanUpd s.ofRle.isNone ofD s.offsets br3 with
              | .error e => .error e
              | .ok (ofD', br4) => .ok (llD', mlD', ofD', br4)
        else .ok (llD, mlD, ofD, br1) : Except SeqErr (Fse.Decoder × Fse.Decoder × Fse.Decoder × BitReaderRev)) with
      | .error e => .error e
      | .ok (llD', mlD', ofD', br') =>
        if br'.bitsRemaining < 0 then .error .notEnoughBytesForNumSequences
        else seqLoop s total n llD' mlD' ofD' br'
          (⟨llV + la % 2 ^ 32, mlV + ma % 2 ^ 32, ob + 2 ^ s.ofRle.getD ofD.decodeSymbol⟩ :: acc) := by
  have hpow : 2 ^ (s.ofRle.getD ofD.decodeSymbol) ≤ 2 ^ 31 := Nat.pow_le_pow_right (by omega) hof
  have hpos : 0 < 2 ^ (s.ofRle.getD ofD.decodeSymbol) := Nat.two_pow_pos _
  have hmod : ob % 2 ^ 32 = ob := Nat.mod_eq_of_lt (by omega)
  rw [seqLoop]
  simp only [ell, eml, Blk.liftFault]
  rw [if_neg (by simp only [Gen.maxOffsetCode]; omega), etr]
  dsimp only
  rw [hmod, if_neg (by omega), if_neg (by omega), List.length_cons]
  rfl

theorem seqLoop_ok (s : FseScratch) (total : Nat) {src : Array Nat} :
    ∀ (n : Nat) (llD mlD ofD : Fse.Decoder) (br : BitReaderRev) (acc : List Spec.Seq),
      ChanOK Gen.llMaxLog Gen.maxLiteralLengthCode s.literalLengths s.llRle llD →
      ChanOK Gen.mlMaxLog Gen.maxMatchLengthCode s.matchLengths s.mlRle mlD →
      ChanOK Gen.ofMaxLog Gen.maxOffsetCode s.offsets s.ofRle ofD →
      RevOK src br → (∀ q ∈ acc, q.ov ≥ 1) →
      Sound .fault (fun _ r => ∀ q ∈ r.1, q.ov ≥ 1) (s, seqLoop s total n llD mlD ofD br acc) := by
  intro n
  induction n with
  | zero =>
    intro llD mlD ofD br acc _ _ _ _ hacc
    rw [seqLoop]
    exact .ok fun q hq => hacc q (List.mem_reverse.mp hq)
  | succ n ih =>
    intro llD mlD ofD br acc hll hml hof hr hacc
    obtain ⟨llV, llB, _, ell, hllB⟩ := llCode_lookup hll.code
    obtain ⟨mlV, mlB, _, eml, hmlB⟩ := mlCode_lookup hml.code
    have hofc : s.ofRle.getD ofD.decodeSymbol ≤ 31 := hof.code
    obtain ⟨pos, hri⟩ := hr
    obtain ⟨br1, etr, hri1⟩ := getBitsTriple_eq_three_gets (n1 := s.ofRle.getD ofD.decodeSymbol) (n2 := mlB)
      (n3 := llB) hri (by omega) (by omega) (by omega)
    rw [seqLoop_succ s total n llD mlD ofD acc ell eml hofc etr (readBEPad_lt hri.bytes _ _)]
    have hacc' : ∀ ll ml ob k, ∀ q ∈ (⟨ll, ml, ob + 2 ^ k⟩ : Spec.Seq) :: acc, q.ov ≥ 1 := by
      intro ll ml ob k q hq
      rcases List.mem_cons.mp hq with rfl | hq
      · exact Nat.le_trans (Nat.two_pow_pos _) (Nat.le_add_left _ _)
      · exact hacc q hq
    by_cases hlen : acc.length + 1 < total
    · rw [if_pos hlen]
      obtain ⟨llD', br2, e1, hr2, hll'⟩ := chanUpd_ok (by decide) hll ⟨_, hri1⟩
      rw [e1]; dsimp only
      obtain ⟨mlD', br3, e2, hr3, hml'⟩ := chanUpd_ok (by decide) hml hr2
      rw [e2]; dsimp only
      obtain ⟨ofD', br4, e3, hr4, hof'⟩ := chanUpd_ok (by decide) hof hr3
      rw [e3]; dsimp only
      split
      · exact .error (by simp)
      · exact ih llD' mlD' ofD' br4 _ hll' hml' hof' hr4 (hacc' _ _ _ _)
    · rw [if_neg hlen]
      dsimp only
      split
      · exact .error (by simp)
      · exact ih llD mlD ofD br1 _ hll hml hof ⟨_, hri1⟩ (hacc' _ _ _ _)

/-- the FSE part of `Blk.WF` -/
structure FseScratchWF (s : FseScratch) : Prop where
  ll : ChanPre Gen.llMaxLog Gen.maxLiteralLengthCode s.literalLengths s.llRle
  of : ChanPre Gen.ofMaxLog Gen.maxOffsetCode s.offsets s.ofRle
  ml : ChanPre Gen.mlMaxLog Gen.maxMatchLengthCode s.matchLengths s.mlRle

theorem decodeSeqStream_ok (n : Nat) {src : Array Nat} (hb : Bytes src.toList) {s1 : FseScratch}
    (hs1 : FseScratchWF s1) :
    Sound .fault (fun _ seqs => ∀ q ∈ seqs, q.ov ≥ 1) (s1, decodeSeqStream n s1 src) := by
  unfold decodeSeqStream
  simp only [chanInit_eq]
  -- fuel 9: the Rust loop leaves at `skipped_bits = 9` at the latest, which is the `ExtraPadding { skipped_bits: 9 }` of the model
  rcases skipPadding_ok 9 0 _ (RevOK_new hb) with e | ⟨br0, e, hr0⟩
  · rw [skipEndMark, e]
    exact .error (by simp)
  · rw [skipEndMark, e]
    dsimp only
    rcases chanInit_ok (Fse.Decoder.new s1.literalLengths) (by decide) hs1.ll hr0 with e1 | ⟨llD, br1, e1, hr1, hll⟩
    · rw [e1]
      exact .error (by simp)
    rw [e1]
    dsimp only
    rcases chanInit_ok (Fse.Decoder.new s1.offsets) (by decide) hs1.of hr1 with e2 | ⟨ofD, br2, e2, hr2, hof⟩
    · rw [e2]
      exact .error (by simp)
    rw [e2]
    dsimp only
    rcases chanInit_ok (Fse.Decoder.new s1.matchLengths) (by decide) hs1.ml hr2 with e3 | ⟨mlD, br3, e3, hr3, hml⟩
    · rw [e3]
      exact .error (by simp)
    rw [e3]
    dsimp only
    have aL := seqLoop_ok s1 n n llD mlD ofD br3 [] hll hml hof hr3 (by simp)
    split
    · rename_i eL
      exact .error fun f h => aL.1 f (by rw [eL, h])
    · rename_i seqs brE eL
      split
      · exact .error (by simp)
      · exact .ok (aL.2 _ _ (by rw [eL]))

end Zstd.Proofs.Blk
