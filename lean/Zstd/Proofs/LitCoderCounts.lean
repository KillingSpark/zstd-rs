import Zstd.Proofs.HufRoundtrip
import Zstd.Proofs.HufFseHist
import Zstd.Proofs.HufLt128Lift
import Zstd.Proofs.HufCounts
/-
`HuffmanTable::build_from_data` on byte strings (every table it returns is canonical; no
panic on a string with two distinct values: `buildFromData_spec`, `_canon`, `_total`); then, for the evaluation of
concrete test vectors by the kernel, `Fse.histogram` as a list expression (`histList`) and the two users of
`build_table_from_data` rewritten with it: `Enc.fseWeights` (`fseWeights_eq`) and the sequences section coder
(`encodeSeqSectionWith`, `encodeSeqSectionReal_eq`).
-/
namespace Zstd.Proofs.LitCoder
open Zstd Zstd.Model Zstd.Model.Huf Zstd.Proofs.Huf

theorem countsOf_eq (data : List Nat) :
    countsOf data = ((countLoop data (Array.replicate 256 0)).toList.take (maxOf data + 1)) := rfl

theorem countsOf_length (data : List Nat) (hb : ∀ b ∈ data, b < 256) (hne : data ≠ []) :
    (countsOf data).length = maxOf data + 1 := by
  have hm := hb _ (maxOf_mem hne)
  rw [countsOf_eq, List.length_take, Array.length_toList, counts_size, Array.size_replicate]
  omega

theorem countsOf_getElem? (data : List Nat) (s : Nat) (hs : s ≤ maxOf data) (h256 : s < 256) :
    (countsOf data)[s]? = some (data.count s) := by
  rw [countsOf_eq, List.getElem?_take, if_pos (by omega), Array.getElem?_toList, countLoop_getElem?]
  simp [h256]

theorem countsOf_last (data : List Nat) (hb : ∀ b ∈ data, b < 256) (hne : data ≠ []) :
    ∀ c, (countsOf data).getLast? = some c → c ≠ 0 := by
  intro c hc
  have hmem := maxOf_mem hne
  have hm := hb _ hmem
  rw [List.getLast?_eq_getElem?, countsOf_length data hb hne, Nat.add_sub_cancel,
    countsOf_getElem? data _ (Nat.le_refl _) hm] at hc
  simp only [Option.some.injEq] at hc
  rw [← hc]
  exact Nat.ne_of_gt (List.count_pos_iff.mpr hmem)

/-- a successful `build_from_counts` saw at least two non-zero counts (`distribute_weights` asserts it) -/
theorem buildFromCounts_two {counts : List Nat} {t : EncTable} (h : buildFromCounts counts = .ok t) :
    counts.length ≤ 256 ∧ 2 ≤ counts.length - ((rankOrder counts).filter (·.2)).length := by
  have hlen : counts.length ≤ 256 := by
    apply Classical.byContradiction
    intro hl
    have : Gen.hufCountsLenOk counts.length Gen.hufMaxCounts = false := decide_eq_false hl
    simp only [buildFromCounts, buildFromRank, this, Bool.not_false, if_true] at h
    cases h
  rw [buildFromCounts_eq counts hlen] at h
  cases hs : shape (counts.length - ((rankOrder counts).filter (·.2)).length) with
  | error f => rw [hs] at h; cases h
  | ok ws => exact ⟨hlen, (shape_ok_range hs).1⟩

theorem countsOf_pos {data : List Nat} (hb : ∀ b ∈ data, b < 256) {s : Nat} (hs : s ∈ data) :
    ∃ h : s < (countsOf data).length, (countsOf data)[s] ≠ 0 := by
  have hlt : s < (countsOf data).length := by
    rw [countsOf_length data hb (List.ne_nil_of_mem hs)]; have := maxOf_ge hs; omega
  have hget := countsOf_getElem? data s (maxOf_ge hs) (hb s hs)
  rw [List.getElem?_eq_getElem hlt, Option.some.injEq] at hget
  exact ⟨hlt, by rw [hget]; exact Nat.ne_of_gt (List.count_pos_iff.mpr hs)⟩

theorem buildFromData_spec {data : List Nat} (hb : ∀ b ∈ data, b < 256) (hne : data ≠ [])
    (hn : 2 ≤ (countsOf data).length - ((rankOrder (countsOf data)).filter (·.2)).length) :
    ∃ t wd m, buildFromData data = .ok t ∧ CanonTable t wd m ∧ Encodable wd data := by
  have hlen : (countsOf data).length ≤ 256 := by
    rw [countsOf_length data hb hne]; have := hb _ (maxOf_mem hne); omega
  obtain ⟨t, wd, m, h, c, _, hused⟩ :=
    Zstd.Proofs.Huf.buildFromCounts_canon (countsOf data) hlen hn (countsOf_last data hb hne)
  exact ⟨t, wd, m, h, c, fun s hs => let ⟨hlt, hpos⟩ := countsOf_pos hb hs; hused s hlt hpos⟩

theorem buildFromData_canon {data : List Nat} {t : EncTable} (hb : ∀ b ∈ data, b < 256)
    (h : buildFromData data = .ok t) :
    ∃ wd m, CanonTable t wd m ∧ Encodable wd data := by
  have hn := (buildFromCounts_two h).2
  have hne : data ≠ [] := by
    intro hnil
    subst hnil
    have hl : (countsOf []).length = 1 := by decide
    omega
  obtain ⟨t', wd, m, h', c, henc⟩ := buildFromData_spec hb hne hn
  cases h'.symm.trans h
  exact ⟨wd, m, c, henc⟩

theorem two_le_length_of_mem {α : Type} {l : List α} {a b : α} (ha : a ∈ l) (hb : b ∈ l) (hab : a ≠ b) :
    2 ≤ l.length := by
  match l, ha, hb with
  | [x], ha, hb =>
    simp only [List.mem_singleton] at ha hb
    exact absurd (ha.trans hb.symm) hab
  | _ :: _ :: _, _, _ => simp

theorem buildFromData_total {data : List Nat} (hb : ∀ b ∈ data, b < 256) {a b : Nat} (ha : a ∈ data)
    (hbm : b ∈ data) (hab : a ≠ b) : ∃ t, buildFromData data = .ok t := by
  -- two values that occur are two entries of the rank order flagged "occurs"
  have hflag : ∀ x ∈ data, (x, false) ∈ (rankOrder (countsOf data)).filter (fun p => !p.2) := by
    intro x hx
    obtain ⟨hlt, hpos⟩ := countsOf_pos hb hx
    have hm := rankOrder_mem (countsOf data) x hlt
    rw [show ((countsOf data)[x] == 0) = false by simpa using hpos] at hm
    exact List.mem_filter.mpr ⟨hm, rfl⟩
  have h2 := two_le_length_of_mem (hflag a ha) (hflag b hbm) (by intro h; exact hab (by simpa using h))
  rw [filter_not_length, (rankOrder_props (countsOf data)).2.2] at h2
  obtain ⟨t, _, _, h, _⟩ := buildFromData_spec hb (List.ne_nil_of_mem ha) h2
  exact ⟨t, h⟩

/-! `Fse.histogram` looks 256 times into an array, and the kernel evaluates an array access by walking a list.
Concrete test vectors are evaluated with the list form below. -/

def histList (data : List Nat) : List Nat :=
  (List.range (max (maxOf (data.filter (· < 256))) 1 + 1)).map (fun s => data.count s)

theorem histogram_eq (data : List Nat) : Fse.histogram data = histList data := histogram_eq_map data

theorem buildTableFromData_eq (data : List Nat) (maxLog : Nat) (avoid0 : Bool) :
    Fse.buildTableFromData data maxLog avoid0 = Fse.buildTableFromCounts (histList data) maxLog avoid0 := by
  rw [Fse.buildTableFromData, histogram_eq]

/-! The two users of `build_table_from_data` in the compressor, as equations between constants: a test vector is
rewritten with them (`rw`, so that the kernel is never asked to compare the two forms by evaluating both) and
evaluated afterwards. -/

theorem fseWeights_eq : Enc.fseWeights = fun ws =>
    match Fse.buildTableFromCounts (histList ws) 6 true with
    | .error f => .error f
    | .ok t => Enc.dumpBytes (Fse.encodeInterleaved t BitIO.BitWriter.new ws) := by
  funext ws
  rw [Enc.fseWeights, buildTableFromData_eq]
  rfl

def encodeSeqSectionWith (build : List Nat → Nat → Bool → Except Fault Fse.ETable) (coded : List Enc.CodedSeq) :
    Except Fault (List Byte) :=
  match build (coded.map (·.ll.1)) Gen.llEncMaxLog Gen.seqEncAvoidZeroBits,
        build (coded.map (·.ml.1)) Gen.mlEncMaxLog Gen.seqEncAvoidZeroBits,
        build (coded.map (·.of.1)) Gen.ofEncMaxLog Gen.seqEncAvoidZeroBits with
  | .ok llT, .ok mlT, .ok ofT =>
    Enc.dumpBytes <|
      match BitIO.BitWriter.new.writeBits (2 * 64 + 2 * 16 + 2 * 4) 8 with
      | .error f => .error f
      | .ok w =>
        match llT.writeTable w with
        | .error f => .error f
        | .ok w =>
          match ofT.writeTable w with
          | .error f => .error f
          | .ok w =>
            match mlT.writeTable w with
            | .error f => .error f
            | .ok w => Enc.encodeSequences llT mlT ofT w coded
  | .error f, _, _ => .error f
  | _, .error f, _ => .error f
  | _, _, .error f => .error f

theorem encodeSeqSectionReal_eq :
    Enc.encodeSeqSectionReal = encodeSeqSectionWith fun d m a => Fse.buildTableFromCounts (histList d) m a := by
  have h : Fse.buildTableFromData = fun d m a => Fse.buildTableFromCounts (histList d) m a := by
    funext d m a; exact buildTableFromData_eq d m a
  rw [← h]; rfl

end Zstd.Proofs.LitCoder
