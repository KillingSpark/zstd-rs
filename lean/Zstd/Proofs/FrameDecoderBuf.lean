import Zstd.Model.FrameDecoder
import Zstd.Proofs.OverlapCopy
/-
The decode buffer at the level of its content (`DBuf`).  `copyWithin` is `overlapCopy` on arrays and its lemmas are
those of Proofs/OverlapCopy.lean carried over; `repeat` is brought to a closed form; `DBuf.Appends` / `DBuf.Extends` say
what a step of a block does to the buffer.
-/
namespace Zstd.Model
open Zstd

theorem copyWithin_append (n off : Nat) (c : Array Nat) :
    ∃ x : Array Nat, copyWithin n off c = c ++ x ∧ x.size = n := by
  induction n generalizing c with
  | zero => exact ⟨#[], by simp [copyWithin]⟩
  | succ n ih =>
    obtain ⟨x, hx, hs⟩ := ih (c.push (c.getD (c.size - off) 0))
    refine ⟨#[c.getD (c.size - off) 0] ++ x, ?_, ?_⟩
    · rw [copyWithin, hx, Array.push_eq_append, Array.append_assoc]
    · simp [hs]; omega

theorem copyWithin_toList (n off : Nat) (c : Array Nat) :
    (copyWithin n off c).toList = overlapCopy c.toList off n := by
  induction n generalizing c with
  | zero => rfl
  | succ n ih =>
    rw [copyWithin, overlapCopy, ih, Array.toList_push, Array.getD_eq_getD_getElem?, List.getD_eq_getElem?_getD,
      Array.getElem?_toList, Array.length_toList]

theorem copyWithin_size (n off : Nat) (c : Array Nat) : (copyWithin n off c).size = c.size + n := by
  rw [← Array.length_toList, copyWithin_toList, overlapCopy_length, Array.length_toList]

theorem copyWithin_drop (n off : Nat) (d k : Array Nat) (h : off ≤ k.size) :
    copyWithin n off (d ++ k) = d ++ copyWithin n off k := by
  apply Array.toList_inj.mp
  rw [copyWithin_toList, Array.toList_append, Array.toList_append, copyWithin_toList,
    overlapCopy_append_left _ _ _ (by simpa using h)]

theorem DBuf.take_fst (b : DBuf) (n : Nat) : (b.take n).1 = b.content.extract 0 n := rfl
theorem DBuf.take_content (b : DBuf) (n : Nat) :
    (b.take n).2.content = b.content.extract n b.content.size := rfl
theorem DBuf.take_hashed (b : DBuf) (n : Nat) : (b.take n).2.hashed = b.hashed ++ (b.take n).1 := rfl
theorem DBuf.take_window (b : DBuf) (n : Nat) : (b.take n).2.window = b.window := rfl
theorem DBuf.take_dict (b : DBuf) (n : Nat) : (b.take n).2.dict = b.dict := rfl
theorem DBuf.take_totalOut (b : DBuf) (n : Nat) : (b.take n).2.totalOut = b.totalOut := rfl

theorem DBuf.take_partition (b : DBuf) (n : Nat) : (b.take n).1 ++ (b.take n).2.content = b.content := by
  simp only [DBuf.take]
  apply Array.ext
  · simp; omega
  · intro i h1 h2
    simp only [Array.getElem_append, Array.size_extract, Array.getElem_extract]
    split <;> congr 1 <;> omega

theorem DBuf.take_fst_size (b : DBuf) (n : Nat) : (b.take n).1.size = min n b.content.size := by
  simp [DBuf.take]

theorem DBuf.take_content_size (b : DBuf) (n : Nat) :
    (b.take n).2.content.size = b.content.size - n := by
  simp [DBuf.take]

theorem DBuf.take_zero (b : DBuf) : (b.take 0).2 = b := by
  cases b; simp [DBuf.take]

/-- `b'` is `b` with `x` appended to the content and, the counter apart, nothing else changed.  What
`BlockContract.appends` asks of a block decoder; `DBuf.Extends` adds the counter, `DictCopy.Grows`
forgets the witness `x`. -/
structure DBuf.Appends (b b' : DBuf) (x : Array Nat) : Prop where
  content : b'.content = b.content ++ x
  dict : b'.dict = b.dict
  window : b'.window = b.window
  hashed : b'.hashed = b.hashed

theorem DBuf.Appends.refl (b : DBuf) : DBuf.Appends b b #[] := ⟨by simp, rfl, rfl, rfl⟩

theorem DBuf.Appends.trans {a b c : DBuf} {x y : Array Nat}
    (h1 : DBuf.Appends a b x) (h2 : DBuf.Appends b c y) : DBuf.Appends a c (x ++ y) :=
  ⟨by rw [h2.content, h1.content, Array.append_assoc], h2.dict.trans h1.dict,
   h2.window.trans h1.window, h2.hashed.trans h1.hashed⟩

theorem DBuf.Appends.size {b b' : DBuf} {x : Array Nat} (h : DBuf.Appends b b' x) :
    b'.content.size = b.content.size + x.size := by rw [h.content, Array.size_append]

theorem DBuf.push_appends (b : DBuf) (data : Array Nat) : DBuf.Appends b (b.push data) data :=
  ⟨rfl, rfl, rfl, rfl⟩

/-- `DBuf.Appends` with the counter: appended `x` and counted at most `x.size` of it.  What every step of a block does
to the buffer (`push` counts all it appends, `repeat` all or — for a copy lying entirely in the dictionary — nothing,
Raw and RLE blocks nothing); the relation in which `executeSequences` is walked (`executeSequences_extends`). -/
structure DBuf.Extends (b b' : DBuf) (x : Array Nat) : Prop extends DBuf.Appends b b' x where
  count : b'.totalOut ≤ b.totalOut + x.size

theorem DBuf.Extends.refl (b : DBuf) : DBuf.Extends b b #[] := ⟨.refl b, Nat.le_refl _⟩

theorem DBuf.Extends.trans {a b c : DBuf} {x y : Array Nat}
    (h1 : DBuf.Extends a b x) (h2 : DBuf.Extends b c y) : DBuf.Extends a c (x ++ y) :=
  ⟨h1.toAppends.trans h2.toAppends, by have := h1.count; have := h2.count; rw [Array.size_append]; omega⟩

theorem DBuf.Extends.size {b b' : DBuf} {x : Array Nat} (h : DBuf.Extends b b' x) :
    b'.content.size = b.content.size + x.size := h.toAppends.size

theorem DBuf.push_extends (b : DBuf) (data : Array Nat) : DBuf.Extends b (b.push data) data :=
  ⟨DBuf.push_appends b data, Nat.le_refl _⟩

/-- an append that is not counted: `extend_from_reader`, `extend_and_fill` (Raw and RLE blocks) -/
theorem DBuf.append_extends (b : DBuf) (data : Array Nat) :
    DBuf.Extends b { b with content := b.content ++ data } data :=
  ⟨⟨rfl, rfl, rfl, rfl⟩, Nat.le_add_right _ _⟩

theorem DBuf.repeat_within (b : DBuf) (off ml : Nat) (h : off ≤ b.content.size) :
    b.repeat off ml = .ok { b with content := copyWithin ml off b.content, totalOut := b.totalOut + ml } := by
  rw [DBuf.repeat, if_neg (Nat.not_lt.mpr h)]

theorem dict_tail_size (dict : Array Nat) (k : Nat) (hk : k ≤ dict.size) :
    (dict.extract (dict.size - k) dict.size).size = k := by
  simp only [Array.size_extract]; omega

/-- `DBuf.repeat` without the dead `off' = 0` branch and with the continuation offset written as
the original offset: in the straddling case the buffer length after the dictionary part IS the
offset.  (So the branch the model keeps for "offset 0 on an empty buffer" is unreachable.) -/
theorem DBuf.repeat_eq (b : DBuf) (offset ml : Nat) :
    b.repeat offset ml =
      if offset > b.content.size then
        if b.totalOut ≤ b.window then
          if offset - b.content.size > b.dict.size then .error .execNotEnoughDict
          else if offset - b.content.size < ml then
            .ok { b with
              content := copyWithin (ml - (offset - b.content.size)) offset
                (b.content ++ b.dict.extract (b.dict.size - (offset - b.content.size)) b.dict.size),
              totalOut := b.totalOut + ml }
          else
            .ok { b with content := b.content ++ b.dict.extract (b.dict.size - (offset - b.content.size)) (b.dict.size - (offset - b.content.size) + ml) }
        else .error .execOffsetTooBig
      else .ok { b with content := copyWithin ml offset b.content, totalOut := b.totalOut + ml } := by
  unfold DBuf.repeat
  by_cases h1 : offset > b.content.size
  · by_cases h3 : offset - b.content.size > b.dict.size
    · simp only [h1, h3, if_true]
    · by_cases h4 : offset - b.content.size < ml
      · have hsz : (b.content ++ b.dict.extract (b.dict.size - (offset - b.content.size)) b.dict.size).size
            = offset := by
          rw [Array.size_append, dict_tail_size b.dict _ (by omega)]; omega
        have hne : ¬ offset = 0 := by omega
        simp only [h1, h3, h4, if_true, if_false, hsz, hne,
          show b.totalOut + (offset - b.content.size) + (ml - (offset - b.content.size)) = b.totalOut + ml by omega]
      · simp only [h1, h3, h4, if_true, if_false]
  · simp only [h1, if_false]

/-- the three ways `repeat` succeeds: inside the buffer, straddling the dictionary's end, all from the
dictionary -/
theorem DBuf.repeat_ok_cases {b b' : DBuf} {offset ml : Nat} (h : b.repeat offset ml = .ok b') :
    (offset ≤ b.content.size ∧
      b' = { b with content := copyWithin ml offset b.content, totalOut := b.totalOut + ml }) ∨
    (b.content.size < offset ∧ b.totalOut ≤ b.window ∧ offset - b.content.size ≤ b.dict.size ∧
      ((offset - b.content.size < ml ∧
        b' = { b with
          content := copyWithin (ml - (offset - b.content.size)) offset
            (b.content ++ b.dict.extract (b.dict.size - (offset - b.content.size)) b.dict.size),
          totalOut := b.totalOut + ml }) ∨
       (ml ≤ offset - b.content.size ∧
        b' = { b with content := b.content ++ b.dict.extract (b.dict.size - (offset - b.content.size))
                                   (b.dict.size - (offset - b.content.size) + ml) }))) := by
  rw [DBuf.repeat_eq] at h
  by_cases h1 : offset > b.content.size
  · rw [if_pos h1] at h
    by_cases h2 : b.totalOut ≤ b.window
    · rw [if_pos h2] at h
      by_cases h3 : offset - b.content.size > b.dict.size
      · rw [if_pos h3] at h
        cases h
      · rw [if_neg h3] at h
        refine .inr ⟨h1, h2, by omega, ?_⟩
        by_cases h4 : offset - b.content.size < ml
        · rw [if_pos h4] at h
          cases h
          exact .inl ⟨h4, rfl⟩
        · rw [if_neg h4] at h
          cases h
          exact .inr ⟨by omega, rfl⟩
    · rw [if_neg h2] at h
      cases h
  · rw [if_neg h1] at h
    cases h
    exact .inl ⟨by omega, rfl⟩

theorem DBuf.repeat_extends {b b2 : DBuf} {off ml : Nat} (h : b.repeat off ml = .ok b2) :
    ∃ x, DBuf.Extends b b2 x ∧ x.size = ml := by
  rcases DBuf.repeat_ok_cases h with ⟨-, rfl⟩ | ⟨h1, -, h3, ⟨h4, rfl⟩ | ⟨h4, rfl⟩⟩
  · obtain ⟨x, hx, hs⟩ := copyWithin_append ml off b.content
    exact ⟨x, ⟨⟨hx, rfl, rfl, rfl⟩, by rw [hs]; exact Nat.le_refl _⟩, hs⟩
  · obtain ⟨x, hx, hs⟩ := copyWithin_append (ml - (off - b.content.size)) off
      (b.content ++ b.dict.extract (b.dict.size - (off - b.content.size)) b.dict.size)
    have hd := dict_tail_size b.dict _ h3
    refine ⟨b.dict.extract (b.dict.size - (off - b.content.size)) b.dict.size ++ x,
      ⟨⟨by simp only [hx, Array.append_assoc], rfl, rfl, rfl⟩, ?_⟩, ?_⟩
    · simp only [Array.size_append, hd, hs]; omega
    · simp only [Array.size_append, hd, hs]; omega
  · exact ⟨_, ⟨⟨rfl, rfl, rfl, rfl⟩, Nat.le_add_right _ _⟩, by simp; omega⟩

theorem DBuf.repeat_drop (b : DBuf) (d k : Array Nat) (off ml : Nat) (h : off ≤ k.size) :
    ({ b with content := d ++ k } : DBuf).repeat off ml
      = .ok { b with content := d ++ copyWithin ml off k, totalOut := b.totalOut + ml } := by
  rw [DBuf.repeat_within _ off ml (by simp only [Array.size_append]; omega), copyWithin_drop ml off d k h]

end Zstd.Model
