import Zstd.Proofs.BitIO.Bridge
import Zstd.Proofs.BitIO.Writer
import Zstd.Proofs.BitIO.ChangeBits
import Zstd.Proofs.BitIO.Forward
import Zstd.Proofs.BitIO.Reverse
import Zstd.Proofs.BitIO.Rem
import Zstd.Proofs.BitIO.Backward
import Zstd.Proofs.BitIO.Inverse
/-
The bit-level I/O model (`Zstd.Model.BitIO`, a mirror of
`ruzstd/src/bit_io/{bit_reader,bit_reader_reverse,bit_writer}.rs`) against the bit order of RFC 8878
(`Zstd.Spec.Bits`).
Where a panic of the Rust code that arguments inside the `u64`/`u8` ranges reach is stated, the theorem is named
`…_faults` (`get_bits`, `return_bits`, `write_bits(_, 64)`, `dump`; not the asserts of `flush`, `append_bytes`, `reset_to`,
`change_bits`).
-/
