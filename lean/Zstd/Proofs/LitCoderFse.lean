import Zstd.Proofs.SeqTables
import Zstd.Proofs.SeqStream
import Zstd.Proofs.FseStreamInter
import Zstd.Proofs.FseEndToEnd
import Zstd.Proofs.HufFseContract
import Zstd.Spec.Huffman
/-
The FSE-compressed Huffman weights against the STRICT specification.

What `HuffmanEncoder::write_table` writes in the FSE form (`Enc.fseWeights`: normaliser with max log 6
and zero-bit avoidance, `write_table`, `encode_interleaved`), preceded by its size byte, is accepted by
`Spec.Huffman.readWeights` (RFC 8878 §4.2.1.2) and gives back exactly the weights: the two-state decoder alternates
through all symbols without ever needing a missing bit, and stops exactly when the stream is exhausted (the last
state update needs ≥ 1 bit).
-/
namespace Zstd.Proofs.LitCoder
open Zstd Zstd.Spec Zstd.Model Zstd.Model.Fse Zstd.Model.BitIO
open Zstd.Proofs.BitIO Zstd.Proofs.SeqCoupled Zstd.Proofs.FseStream Zstd.Proofs.FseStreamInter

variable {et : ETable} {T : Spec.Fse.Table} {al : Nat} {usable : Nat → Prop}

theorem readBEPad_field {n v : Nat} (hv : v < 2 ^ n) (rest : List Bool) :
    readBEPad n ((bitsOfLE n v).reverse ++ rest) = (v, rest, 0) := by
  have hlen : ((bitsOfLE n v).reverse).length = n := by simp
  rw [readBEPad_def, if_neg (by simp), List.take_left' hlen, List.drop_left' hlen, valBE_reverse_bitsOfLE hv]

theorem readBEPad_empty (n : Nat) : readBEPad n [] = (0, [], n) := by
  cases n <;> simp [readBEPad, valBE]

theorem spec_alt_step {s : Nat} {st nx : EState} {other : Nat} {e2 : Spec.Fse.Entry}
    (hgn : SGood T al s nx) (h2 : T.entries[other]? = some e2)
    (h1 : nx.baseline ≤ st.index) (hlt : st.index < nx.baseline + 2 ^ nx.numBits)
    (post : List Bool) (m : Nat) (acc : List Nat) (hacc : acc.length + 1 ≤ 255) :
    Spec.Huffman.decodeFseWeights T (m + 1) nx.index other
        ((bitsOfLE nx.numBits (st.index - nx.baseline)).reverse ++ post) acc
      = Spec.Huffman.decodeFseWeights T m other st.index post (s :: acc) := by
  have hv : st.index - nx.baseline < 2 ^ nx.numBits := by omega
  rw [Spec.Huffman.decodeFseWeights]
  simp only [hgn.2.1, h2, sEntryOf, readBEPad_field hv]
  rw [if_neg (by omega), if_neg (by simp only [List.length_cons]; omega)]
  congr 1
  omega

theorem spec_alt_final {c1 c2 : Nat} {s1 s2 : EState} (hg1 : SGood T al c1 s1) (hg2 : SGood T al c2 s2)
    (hnb : 1 ≤ s2.numBits) (m : Nat) (acc : List Nat) :
    Spec.Huffman.decodeFseWeights T (m + 1) s2.index s1.index [] acc = some ((c1 :: c2 :: acc).reverse) := by
  rw [Spec.Huffman.decodeFseWeights]
  simp only [hg1.2.1, hg2.2.1, sEntryOf, readBEPad_empty]
  rw [if_pos (by omega)]

theorem _root_.Zstd.Proofs.FseStreamInter.AltRun.decodeFseWeights {p q p' q' : Nat × EState} {xs : List Nat} {F : List Bool}
    (h : AltRun (SGood T al) p q xs p' q' F) : SGood T al q.1 q.2 →
    ∀ (post : List Bool) (m : Nat) (acc : List Nat), xs.length + acc.length ≤ 255 →
      Spec.Huffman.decodeFseWeights T (xs.length + m) q'.2.index p'.2.index (F.reverse ++ post) acc
        = Spec.Huffman.decodeFseWeights T m q.2.index p.2.index post (xs ++ acc) := by
  induction h with
  | nil => intro _ post m acc _; simp
  | @cons ca a q x nx xs p' q' F hgn h1 h2 _ ih =>
    intro hq post m acc hlen
    simp only [List.length_cons] at hlen
    rw [show (x :: xs).length + m = xs.length + (m + 1) by simp only [List.length_cons]; omega,
      List.reverse_append, List.append_assoc, ih hgn _ (m + 1) acc (by omega),
      spec_alt_step (st := a) hgn hq.2.1 h1 h2 post m (xs ++ acc) (by simp only [List.length_append]; omega)]
    simp

theorem numBits_le_al (hc : SCoupled et T al usable) :
    ∀ s idx st, usable s → idx < 2 ^ al → et.nextState s idx = .ok st → st.numBits ≤ al := by
  intro s idx st hs hidx hst
  obtain ⟨st', h1, _, _, hg⟩ := hc.next s idx hs hidx
  rw [hst] at h1
  cases h1
  exact hg.2.2

theorem EncOK.withBound (hc : SCoupled et T al usable) (B : Nat → Nat)
    (hB : ∀ s idx st, usable s → idx < 2 ^ al → et.nextState s idx = .ok st → st.numBits ≤ B s) :
    EncOK et al usable (fun s st => SGood T al s st ∧ st.numBits ≤ B s) :=
  ⟨by have := hc.al_le; omega, hc.encLog, fun _ _ g => ⟨g.1.1, g.1.2.2⟩, fun s idx hs hidx =>
    (hc.next s idx hs hidx).imp fun st g => ⟨g.1, g.2.1, g.2.2.1, g.2.2.2, hB s idx st hs hidx g.1⟩⟩

theorem spec_enc_dec_alt (hc : SCoupled et T al usable) (B : Nat → Nat)
    (hB : ∀ s idx st, usable s → idx < 2 ^ al → et.nextState s idx = .ok st → st.numBits ≤ B s) :
    ∀ (xs : List Nat) (ca cb : Nat) (a b : EState) (w : BitWriter) (L : List Bool),
      WInv w L → SGood T al ca a → SGood T al cb b → (∀ x ∈ xs, usable x) →
      ∃ w' a' b' F, encAlt et xs w a b = .ok (w', a', b') ∧ WInv w' (L ++ F) ∧ F.length ≤ (xs.map B).sum ∧
        SGood T al (symAlt xs ca cb).1 a' ∧ SGood T al (symAlt xs ca cb).2 b' ∧
        ∀ (post : List Bool) (m : Nat) (acc : List Nat), xs.length + acc.length ≤ 255 →
          Spec.Huffman.decodeFseWeights T (xs.length + m) b'.index a'.index (F.reverse ++ post) acc
            = Spec.Huffman.decodeFseWeights T m b.index a.index post (xs ++ acc) := by
  intro xs ca cb a b w L hw ha hb hu
  obtain ⟨w', p', q', F, henc, hw', hrun⟩ :=
    encAlt_run (EncOK.withBound hc B hB) xs (ca, a) (cb, b) w L hw ha.1 hb.1 hu
  have hrunG := hrun.mono (fun _ _ g => g.1)
  obtain ⟨hgp, hgq⟩ := hrunG.final (fun p => SGood T al p.1 p.2) (fun _ _ g => g) ha hb
  obtain ⟨hp1, hq1⟩ := hrunG.syms
  rw [hp1] at hgp
  rw [hq1] at hgq
  exact ⟨w', p'.2, q'.2, F, henc, hw', hrun.length_le B (fun _ _ g => g.2), hgp, hgq, hrunG.decodeFseWeights hb⟩

theorem spec_encode_decode_interleaved (hc : SCoupled et T al usable)
    (hstart : ∀ s st, usable s → et.startState s = .ok st → 1 ≤ st.numBits) (B : Nat → Nat)
    (hB : ∀ s idx st, usable s → idx < 2 ^ al → et.nextState s idx = .ok st → st.numBits ≤ B s)
    (data : List Nat) (h4 : 4 ≤ data.length) (hlen : data.length ≤ 257) (hu : ∀ x ∈ data, usable x)
    {w : BitWriter} {L : List Bool} (hw : WInv w L) :
    ∃ w' S, encodeInterleavedStream et w data = .ok w' ∧ WInv w' (L ++ S) ∧ (L.length + S.length) % 8 = 0 ∧
      S.length ≤ (data.map B).sum + 2 * al + 8 ∧ 0 < S.length ∧
      ∀ (bytes : List Nat), bitsLE bytes = S →
        ∃ bits s1 bits1 s2 bits2, backwardStream bytes = some bits ∧
          Spec.Fse.initState T bits = some (s1, bits1) ∧ Spec.Fse.initState T bits1 = some (s2, bits2) ∧
          Spec.Huffman.decodeFseWeights T 300 s1 s2 bits2 [] = some data := by
  obtain ⟨ys, c2, c1, rfl⟩ := split_last2 data (by omega)
  have hn : (ys.reverse ++ [c2, c1]).length = ys.length + 2 := by simp
  rw [hn] at h4 hlen
  obtain ⟨s1, hs1, hg1⟩ := hc.start c1 (hu c1 (by simp))
  obtain ⟨s2, hs2, hg2⟩ := hc.start c2 (hu c2 (by simp))
  obtain ⟨w', p, q, F, m, hrun, hm1, hm8, henc, hinv, hal8⟩ :=
    encodeInterleaved_run (EncOK.withBound hc B hB) ys c2 c1 (by omega) (fun y hy => hu y (by simp [hy]))
      hs1 hs2 hg1.1 hg2.1 hw
  have hrunG := hrun.mono (fun _ _ g => g.1)
  obtain ⟨hgp, hgq⟩ := hrunG.final (fun p => SGood T al p.1 p.2) (fun _ _ g => g) hg1 hg2
  have hFlen := hrun.length_le B (fun _ _ g => g.2)
  refine ⟨w', _, henc, hinv, hal8, ?_, by simp only [List.length_append, length_bitsOfLE]; omega,
    fun bytes hbits => ?_⟩
  · simp only [List.length_append, length_bitsOfLE, List.map_append, List.sum_append, List.map_reverse,
      List.sum_reverse]
    omega
  · have hbs := backwardStream_of_mark hm1 hm8 hbits
    rw [List.reverse_append, List.reverse_append] at hbs
    refine ⟨_, _, _, _, _, hbs, Zstd.Proofs.SeqStream.spec_init_reads hc.specLog hgq.1 _,
      Zstd.Proofs.SeqStream.spec_init_reads hc.specLog hgp.1 _, ?_⟩
    have h := hrunG.decodeFseWeights hg2 [] (300 - ys.length) [] (by simp; omega)
    rw [show ys.length + (300 - ys.length) = 300 by omega, List.append_nil, List.append_nil] at h
    rw [h, show 300 - ys.length = (299 - ys.length) + 1 by omega,
      spec_alt_final hg1 hg2 (hstart c2 s2 (hu c2 (by simp)) hs2)]
    simp

/-- Where the bounds come from: `encode_interleaved` computes `data.len() - 4` (it panics on fewer than 4 symbols); both
decoders give up above 255 weights, so two more than that can come out (the Spec runs its two-state decoder with fuel
300, one weight per step); `12` is the value bound handed to `SeqTables.fromData` (any bound with `bound + 1 ≤ 2^6`
would do; the callers have `≤ 11`, Max_Number_of_Bits). -/
theorem fseWeights_spec (ws : List Nat) (h4 : 4 ≤ ws.length) (h257 : ws.length ≤ 257) (hle : ∀ w ∈ ws, w ≤ 12) :
    ∃ bytes, Enc.fseWeights ws = .ok bytes ∧ Bytes bytes ∧
      (bytes.length < 128 → ∀ tail : List Nat,
        Spec.Huffman.readWeights (bytes.length :: (bytes ++ tail)) = some (ws, 1 + bytes.length)) := by
  have hne : ws ≠ [] := by intro h; rw [h] at h4; simp at h4
  obtain ⟨et, probs, al, dec, ctr, hfd⟩ := Zstd.Proofs.Huf.fseWeights_setup ws hle hne
  have hsc := hfd.scoupled (by decide)
  obtain ⟨w1, D, hwt, hw1, hD8, hread⟩ := hfd.description (by decide) WInv_new (by simp)
  simp only [List.nil_append] at hw1
  obtain ⟨w2, S, hstr, hw2, hDS8, _, hSpos, hstream⟩ :=
    spec_encode_decode_interleaved hsc (fun s st hs hst => hfd.startBits hs hst) (fun _ => al) (numBits_le_al hsc)
      ws h4 h257 (fun x hx => hx) hw1
  obtain ⟨out, hdump, hbits, hbytes⟩ := bitWriter_dump hw2 (by rw [List.length_append]; exact hDS8)
  refine ⟨out.toList, Zstd.Proofs.Huf.fseWeights_output hfd hwt hstr hdump, hbytes, fun hsmall tail => ?_⟩
  have hlenout : 8 * out.toList.length = D.length + S.length := by
    have := congrArg List.length hbits
    rw [length_bitsLE, List.length_append] at this; exact this
  have hk : 8 * (D.length / 8) = D.length := by omega
  have hSbits : bitsLE (out.toList.drop (D.length / 8)) = S := by
    rw [bitsLE_drop, hbits, hk]; exact List.drop_left' rfl
  obtain ⟨bits, s1, bits1, s2, bits2, hbs, hi1, hi2, hdec⟩ := hstream _ hSbits
  have hrd := hread out.toList S hbits
  unfold Spec.Huffman.readWeights
  simp only
  rw [if_neg (by omega), if_neg (by simp)]
  have htake : (out.toList ++ tail).take out.toList.length = out.toList := List.take_left' rfl
  simp only [htake, hrd]
  rw [if_neg (by omega)]
  simp only [hfd.spec, hbs, hi1, hi2, hdec]

theorem spec_readWeights_fse (ws bytes : List Nat) (h4 : 4 ≤ ws.length) (h257 : ws.length ≤ 257)
    (hle : ∀ w ∈ ws, w ≤ 12) (henc : Enc.fseWeights ws = .ok bytes) (hsmall : bytes.length < 128)
    (tail : List Nat) :
    Spec.Huffman.readWeights (bytes.length :: (bytes ++ tail)) = some (ws, 1 + bytes.length) := by
  obtain ⟨bytes', h1, _, h3⟩ := fseWeights_spec ws h4 h257 hle
  cases h1.symm.trans henc
  exact h3 hsmall tail

end Zstd.Proofs.LitCoder
