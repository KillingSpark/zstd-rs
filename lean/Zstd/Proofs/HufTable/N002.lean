import Zstd.Proofs.HufTableEval
/- `tableFast n` (which implies `tableOk n`) for the alphabet sizes 2 … 112, by kernel evaluation.  The range
2 … 256 is cut at 112 / 113 so that the two modules, which are checked in parallel, are about equally heavy. -/
namespace Zstd.Proofs.HufLt128

theorem ok_2 : (List.range' 2 111).all tableFast = true := by decide +kernel

end Zstd.Proofs.HufLt128
