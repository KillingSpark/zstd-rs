import Zstd.Proofs.HufTableEval
/- `tableFast n` (which implies `tableOk n`) for the alphabet sizes 113 … 256, by kernel evaluation.  The range
2 … 256 is cut at 112 / 113 so that the two modules, which are checked in parallel, are about equally heavy. -/
namespace Zstd.Proofs.HufLt128

theorem ok_113 : (List.range' 113 144).all tableFast = true := by decide +kernel

end Zstd.Proofs.HufLt128
