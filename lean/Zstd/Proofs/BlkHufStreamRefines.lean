import Zstd.Proofs.HufStream
import Zstd.Proofs.BlkHufStream
import Zstd.Proofs.Spec.Block
import Zstd.Proofs.Spec.Bits
/-
C01, refinement Spec ⇒ Model for ONE Huffman literal stream: whenever the RFC-level decoder
`Spec.Huffman.decodeStream T stream n` regenerates `out`, the model of `decompress_literals`' stream
loop (`Huf.decodeOneStream`) on a decoder table with the same cells pushes exactly `out` (in order,
onto `outRev`), for both stream variants (`check` = the 4-stream variant with the final
`bits_remaining == -max_num_bits` test).
-/
namespace Zstd.Proofs.Blk
open Zstd Zstd.Model Zstd.Model.Huf Zstd.Model.Huf.Bits
open Zstd.Proofs.Huf (padVal Win initState_win skipPadding_spec step_win_cell)

theorem valBE_eq_foldl (l : List Bool) (acc : Nat) :
    valBE l acc = l.foldl (fun acc b => 2 * acc + (if b then 1 else 0)) acc := by
  induction l generalizing acc with
  | nil => rfl
  | cons b bs ih => simp only [valBE, List.foldl_cons]; exact ih _

theorem valBE_eq_spec (l : List Bool) : valBE l 0 = Spec.valBE l := valBE_eq_foldl l 0

theorem beq_one_eq_decide (x : Nat) : (x == 1) = decide (x = 1) := by
  cases h : x == 1 <;> simp_all

theorem bitsBE8_eq (b : Nat) : bitsBE 8 b = (Spec.byteBitsLE b).reverse := by
  simp [bitsBE, Spec.byteBitsLE, beq_one_eq_decide]

theorem revBitsAux_eq_spec (bytes : List Nat) (acc : List Bool) :
    revBitsAux bytes acc = (Spec.bitsLE bytes).reverse ++ acc := by
  induction bytes generalizing acc with
  | nil => rfl
  | cons b bs ih =>
    rw [revBitsAux, ih, Spec.bitsLE, List.reverse_append, bitsBE8_eq, List.append_assoc]

theorem revBits_eq_spec (bytes : List Nat) : revBits bytes = (Spec.bitsLE bytes).reverse := by
  unfold revBits; rw [revBitsAux_eq_spec, List.append_nil]

theorem readBEPad_fst (n : Nat) (X : List Bool) : (Spec.readBEPad n X).1 = padVal n X := by
  rw [BitIO.readBEPad_def]
  unfold padVal
  by_cases h : X.length < n
  · rw [if_pos h, List.take_of_length_le (by omega), valBE_eq_spec]
  · rw [if_neg h, valBE_eq_spec]
    have e : n - X.length = 0 := by omega
    rw [e, Nat.pow_zero, Nat.mul_one]

theorem revBits_of_backwardStream {stream : List Nat} (hbytes : BitIO.Bytes stream) {bits : List Bool}
    (h : Spec.backwardStream stream = some bits) :
    ∃ k, k ≤ 7 ∧ revBits stream = List.replicate k false ++ true :: bits := by
  rw [revBits_eq_spec]
  exact (Spec.backwardStream_eq_some hbytes).mp h

theorem skipPadding_of_backwardStream {stream : List Nat} (hbytes : BitIO.Bytes stream) {bits : List Bool}
    (h : Spec.backwardStream stream = some bits) :
    ∃ k, k ≤ 7 ∧ skipPadding 9 0 (RevReader.new stream) = (k + 1, { bits := bits, left := bits.length, over := 0 }) ∧
      bits.length + k + 1 = 8 * stream.length := by
  obtain ⟨k, hk, hrev⟩ := revBits_of_backwardStream hbytes h
  have hlen : (revBits stream).length = 8 * stream.length := by
    unfold revBits; rw [revBitsAux_length]; simp
  have hnew : RevReader.new stream
      = { bits := List.replicate k false ++ true :: bits,
          left := (List.replicate k false ++ true :: bits).length, over := 0 } := by
    unfold RevReader.new
    rw [← hrev, hlen]
  refine ⟨k, hk, ?_, ?_⟩
  · rw [hnew, skipPadding_spec bits k 9 0 (by omega) (by omega), Nat.zero_add]
  · rw [hrev] at hlen
    simp only [List.length_append, List.length_replicate, List.length_cons] at hlen
    omega

section
variable {t : Huf.DecTable} {T : Spec.Huffman.Table}

theorem cells_size
    (hcells : t.decode.toList.map (fun e => (e.symbol, e.numBits)) = T.entries.toList.map (fun e => (e.symbol, e.nbBits))) :
    t.decode.size = T.entries.size := by
  have := congrArg List.length hcells
  simpa using this

theorem cells_get
    (hcells : t.decode.toList.map (fun e => (e.symbol, e.numBits)) = T.entries.toList.map (fun e => (e.symbol, e.nbBits)))
    {i : Nat} {e : Spec.Huffman.Entry} (h : T.entries[i]? = some e) :
    t.decode[i]? = some { symbol := e.symbol, numBits := e.nbBits } := by
  have h1 := congrArg (fun l => l[i]?) hcells
  simp only [List.getElem?_map, Array.getElem?_toList, h, Option.map_some] at h1
  cases hd : t.decode[i]? with
  | none => rw [hd] at h1; cases h1
  | some e' =>
    rw [hd] at h1
    simp only [Option.map_some, Option.some.injEq, Prod.mk.injEq] at h1
    obtain ⟨s, nb⟩ := e'
    simp only at h1
    rw [h1.1, h1.2]

theorem decodeSymbols_succ {n : Nat} {R : List Bool} {acc out : List Nat}
    (h : Spec.Huffman.decodeSymbols T (n + 1) R acc = some out) :
    ∃ e, T.entries[padVal T.maxBits R]? = some e ∧ 1 ≤ e.nbBits ∧ e.nbBits ≤ R.length ∧
      Spec.Huffman.decodeSymbols T n (R.drop e.nbBits) (e.symbol :: acc) = some out := by
  rw [Spec.decodeSymbols_succ_eq, readBEPad_fst] at h
  cases he : T.entries[padVal T.maxBits R]? with
  | none => rw [he] at h; cases h
  | some e =>
    rw [he] at h
    simp only at h
    by_cases hc : e.nbBits = 0 ∨ R.length < e.nbBits
    · rw [if_pos hc] at h; cases h
    · rw [if_neg hc] at h
      exact ⟨e, rfl, by omega, by omega, h⟩

/-- the model's table `t` follows the Spec's table `T` on every cell the Spec's decoder can use (code length at least 1) -/
structure Follows (t : Huf.DecTable) (T : Spec.Huffman.Table) : Prop where
  mb : t.maxNumBits = T.maxBits
  size : t.decode.size = 2 ^ T.maxBits
  m11 : T.maxBits ≤ 11
  cells : ∀ (i : Nat) (e : Spec.Huffman.Entry), T.entries[i]? = some e → 1 ≤ e.nbBits →
    e.nbBits ≤ T.maxBits ∧ t.decode[i]? = some (Huf.Entry.mk e.symbol e.nbBits)

/-- what the block decoder's coupling gives -/
theorem Follows.of_built {t : Huf.DecTable} {T : Spec.Huffman.Table} (hb : HufBuilt t) (hm : t.maxNumBits = T.maxBits)
    (hcells : t.decode.toList.map (fun e => (e.symbol, e.numBits)) = T.entries.toList.map (fun e => (e.symbol, e.nbBits))) :
    Follows t T := by
  refine ⟨hm, by rw [hb.size, hm], by have := hb.le; omega, fun i e he _ => ?_⟩
  have hcell := cells_get hcells he
  obtain ⟨hlt, hval⟩ := Array.getElem?_eq_some_iff.1 hcell
  have := (hb.entries _ (hval ▸ Array.getElem_mem_toList hlt)).2
  exact ⟨by rw [hm] at this; exact this, hcell⟩

theorem decodeLoop_follows {t : Huf.DecTable} {T : Spec.Huffman.Table} (hf : Follows t T) :
    ∀ (n : Nat) (R : List Bool) (acc out : List Nat) (fuel state : Nat) (r : RevReader) (outRev : List Nat),
      Spec.Huffman.decodeSymbols T n R acc = some out → R.length ≤ fuel → Win T.maxBits R state r →
      ∃ syms r', out = acc.reverse ++ syms ∧ syms.length = n ∧
        decodeLoop t fuel state r outRev = .ok (r', syms.reverse ++ outRev) ∧
        r'.bitsRemaining = -(T.maxBits : Int)
  | 0, R, acc, out, fuel, state, r, outRev, hs, _, w => by
    rw [Spec.Huffman.decodeSymbols] at hs
    by_cases hR : R.isEmpty
    · rw [if_pos hR] at hs
      simp only [Option.some.injEq] at hs
      have hnil : R = [] := List.isEmpty_iff.1 hR
      subst hnil
      have hrem := w.remaining
      simp only [List.length_nil] at hrem
      refine ⟨[], r, by simp [hs], rfl, ?_, by rw [hrem]; omega⟩
      cases fuel <;> (simp only [decodeLoop, hf.mb]; rw [if_neg (by rw [hrem]; omega)]; simp)
    · rw [if_neg hR] at hs; cases hs
  | n + 1, R, acc, out, fuel, state, r, outRev, hs, hfuel, w => by
    obtain ⟨e, hent, hnb1, hnbR, hrest⟩ := decodeSymbols_succ hs
    obtain ⟨hnbm, hcell⟩ := hf.cells _ e hent hnb1
    rw [← w.st] at hcell
    obtain ⟨hsym, state', r', hnext, w'⟩ := step_win_cell t hf.mb hf.size hf.m11 hcell hnbm hnbR w
    cases fuel with
    | zero => omega
    | succ fuel =>
      have hrem := w.remaining
      obtain ⟨syms, r'', hout, hlen, hloop, hend⟩ :=
        decodeLoop_follows hf n (R.drop e.nbBits) (e.symbol :: acc) out fuel state' r'
          (e.symbol :: outRev) hrest (by rw [List.length_drop]; omega) w'
      refine ⟨e.symbol :: syms, r'', by rw [hout]; simp, by simp [hlen], ?_, hend⟩
      simp only [decodeLoop, hf.mb]
      rw [if_pos (by rw [hrem]; omega), hsym]
      simp only [hnext, hloop]
      simp

theorem decodeOneStream_follows {t : Huf.DecTable} {T : Spec.Huffman.Table} (hf : Follows t T)
    {stream : List Nat} (hbytes : Zstd.Proofs.BitIO.Bytes stream) {n : Nat} {out : List Nat}
    (hs : Spec.Huffman.decodeStream T stream n = some out) (check : Bool) (outRev : List Nat) :
    Huf.decodeOneStream t stream check outRev = .ok (out.reverse ++ outRev) ∧ out.length = n := by
  unfold Spec.Huffman.decodeStream at hs
  cases hbs : Spec.backwardStream stream with
  | none => rw [hbs] at hs; cases hs
  | some bits =>
    rw [hbs] at hs
    simp only at hs
    obtain ⟨k, hk, hskip, hlen⟩ := skipPadding_of_backwardStream hbytes hbs
    have w := initState_win t T.maxBits hf.mb bits
    obtain ⟨syms, r', hout, hsl, hloop, hend⟩ := decodeLoop_follows hf n bits [] out
      (8 * stream.length + t.maxNumBits + 1)
      (initState t { bits := bits, left := bits.length, over := 0 }).1
      (initState t { bits := bits, left := bits.length, over := 0 }).2 outRev hs (by omega) w
    simp only [List.reverse_nil, List.nil_append] at hout
    subst hout
    refine ⟨?_, hsl⟩
    unfold decodeOneStream
    simp only [hskip]
    rw [if_neg (by simp only [Gen.hufMaxSkip]; omega)]
    simp only [hloop]
    rw [if_neg (by rw [hend, hf.mb]; simp)]

theorem decodeOneStream_refines {t : Huf.DecTable} {T : Spec.Huffman.Table} (hb : HufBuilt t)
    (hm : t.maxNumBits = T.maxBits)
    (hcells : t.decode.toList.map (fun e => (e.symbol, e.numBits)) = T.entries.toList.map (fun e => (e.symbol, e.nbBits)))
    {stream : List Nat} (hbytes : Zstd.Proofs.BitIO.Bytes stream) {n : Nat} {out : List Nat}
    (hs : Spec.Huffman.decodeStream T stream n = some out) (check : Bool) (outRev : List Nat) :
    Huf.decodeOneStream t stream check outRev = .ok (out.reverse ++ outRev) ∧ out.length = n :=
  decodeOneStream_follows (Follows.of_built hb hm hcells) hbytes hs check outRev

end

/-- non-vacuity: a 1-bit code, the stream `0b00000101` (marker, then the codes `0`, `1`) -/
example :
    Huf.decodeOneStream { decode := #[⟨0, 1⟩, ⟨1, 1⟩], weights := [], maxNumBits := 1, bits := [] } [5] true [7]
      = .ok ([0, 1].reverse ++ [7]) ∧ [0, 1].length = 2 :=
  decodeOneStream_refines (T := { maxBits := 1, entries := #[⟨0, 1⟩, ⟨1, 1⟩] })
    ⟨by decide, by decide, by decide, by decide⟩ rfl (by decide) (by simp [BitIO.Bytes]) (by decide) true [7]

end Zstd.Proofs.Blk
