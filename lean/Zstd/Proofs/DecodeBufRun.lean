import Zstd.Proofs.DecodeBufApi
/-
Operation sequences on the decode buffer (`runDb`): no fault, and the allocation stays within `2·peak + 2`.
-/
namespace Zstd.Model
open Zstd RingBuffer DecodeBuffer

theorem DbOp.apply_ok {C : Nat} (hC : 0 < C) (op : DbOp) {d : DecodeBuffer} (hI : d.Inv)
    (hop : op.fromDecoder) :
    ∃ d', op.apply C d = .ok d' ∧ d'.Inv ∧ CapStep d.buffer d'.buffer op.request := by
  cases op with
  | reset ws =>
    obtain ⟨d', e, hI', _, _, _, _, _, _, hcs⟩ := reset_ok hI ws
    exact ⟨d', e, hI', hcs⟩
  | setDict dict => exact ⟨_, rfl, hI, CapStep.of_eq rfl _⟩
  | push data =>
    obtain ⟨d', e, hP⟩ := push_ok hI data
    exact ⟨d', e, hP.inv, hP.capStep⟩
  | «repeat» o m =>
    obtain ⟨d', res, e, hI', _, hcs⟩ := repeat_returns hC hI (offset := o) hop m
    exact ⟨d', bind_fst_ok e, hI', hcs⟩
  | extendAndFill b n =>
    obtain ⟨r', e, hI', _, _, hcs⟩ := extendAndFill_ok hI b n
    exact ⟨{ d with buffer := r' }, by simp only [DbOp.apply, DecodeBuffer.extendAndFill]; rw [e, ok_bind, pure_eq_ok], hI', hcs⟩
  | extendFromReader a n =>
    obtain ⟨r', ok, rest, e, hI', _, _, hcs⟩ := extendFromReader_ok hI a n
    exact ⟨{ d with buffer := r' }, by simp only [DbOp.apply, DecodeBuffer.extendFromReader]; rw [e, ok_bind, pure_eq_ok, ok_bind, pure_eq_ok], hI', hcs⟩
  | drain =>
    obtain ⟨d', e, hI', _, _, _, _, _, hcp⟩ := drain_ok hI
    exact ⟨d', bind_fst_ok e, hI', CapStep.of_eq hcp _⟩
  | drainToWindowSize =>
    by_cases h : d.abs.length ≤ d.windowSize
    · exact ⟨d, bind_fst_ok ((drainToWindowSize_ok hI).1 h), hI,
        CapStep.of_eq rfl _⟩
    · obtain ⟨d', e, hI', _, _, hcp⟩ := (drainToWindowSize_ok hI).2 (by omega)
      exact ⟨d', bind_fst_ok e, hI', CapStep.of_eq hcp _⟩
  | drainToWriter sc =>
    obtain ⟨d', s', res, k, e, _, _, _, _, hI', _, hcp⟩ := drainToWriter_ok hI { script := sc }
    exact ⟨d', bind_fst_ok e, hI', CapStep.of_eq hcp _⟩
  | drainToWindowSizeWriter sc =>
    obtain ⟨d', s', res, k, e, _, _, _, _, hI', _, hcp⟩ := drainToWindowSizeWriter_ok hI { script := sc }
    exact ⟨d', bind_fst_ok e, hI', CapStep.of_eq hcp _⟩
  | read t =>
    obtain ⟨d', e, hT⟩ := read_ok hI t
    exact ⟨d', bind_fst_ok e, hT.inv, CapStep.of_eq hT.cap _⟩
  | readAll t =>
    obtain ⟨d', e, hT⟩ := readAll_ok hI t
    exact ⟨d', bind_fst_ok e, hT.inv, CapStep.of_eq hT.cap _⟩

theorem runDb_ok {C : Nat} (hC : 0 < C) : ∀ (ops : List DbOp) {d : DecodeBuffer}, d.Inv →
    (∀ op, op ∈ ops → op.fromDecoder) →
    ∃ d', runDb C ops d = .ok d' ∧ d'.Inv ∧ d'.buffer.cap ≤ max d.buffer.cap (2 * peakDb C ops d + 2)
  | [], d, hI, _ => ⟨d, rfl, hI, by omega⟩
  | op :: ops, d, hI, hops => by
    obtain ⟨d1, e1, hI1, hcs⟩ := op.apply_ok hC hI (hops op (List.mem_cons_self))
    obtain ⟨d', e', hI', hcap⟩ := runDb_ok hC ops hI1 (fun o ho => hops o (List.mem_cons_of_mem _ ho))
    refine ⟨d', by simp only [runDb, e1]; exact e', hI', ?_⟩
    simp only [peakDb, e1]
    have := hcs.mono; have := hcs.bound
    omega

end Zstd.Model
