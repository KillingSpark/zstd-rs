import Zstd.Proofs.RingReader
/-
Operation sequences on the ring (`runRing`) against the abstract queue (`runQueue`): one statement per
operation and one per sequence, saying what happens whatever the outcome.
-/
namespace Zstd.Model
open Zstd

open RingBuffer

theorem RingOp.apply_sound {C : Nat} (hC : 0 < C) (op : RingOp) {r : RingBuffer} (hI : r.Inv) :
    match op.apply C r with
    | .ok r' => r'.Inv ∧ ∀ q', op.applyQ r.abs = some q' → r'.abs = q' ∧ CapStep r r' op.request
    | .error _ => op.applyQ r.abs = none := by
  -- the operations without a contract return; `Grown` / `Reserved` say what they leave
  have grown : ∀ {x : Except Fault RingBuffer} {content : List Byte} {n : Nat} {q : Option (List Byte)},
      (∃ r', x = .ok r' ∧ Grown r r' content n) → q = some content →
      match x with
      | .ok r' => r'.Inv ∧ ∀ q', q = some q' → r'.abs = q' ∧ CapStep r r' n
      | .error _ => q = none := by
    rintro x content n q ⟨r', rfl, hG⟩ rfl
    exact ⟨hG.inv, fun q' hq => ⟨by rw [hG.abs]; exact Option.some.inj hq, hG.capStep⟩⟩
  -- `reserve(l)`, then the unchecked copy: it returns exactly when the range lies in an allocated buffer
  have copy : ∀ (s l : Nat),
      match r.reserve l >>= fun r => r.extendFromWithinUnchecked C s l with
      | .ok r' => r'.Inv ∧ ∀ q', (RingOp.reserveThenUnchecked s l).applyQ r.abs = some q' →
          r'.abs = q' ∧ CapStep r r' l
      | .error _ => (RingOp.reserveThenUnchecked s l).applyQ r.abs = none := by
    intro s l
    obtain ⟨r1, e1, hR⟩ := reserve_ok hI l
    simp only [RingOp.applyQ]
    rw [e1, ok_bind, abs_length]
    by_cases hp : s + l ≤ r1.len ∧ l ≤ r1.free ∧ 0 < r1.cap
    · obtain ⟨r', e, hI', ha, hl, hcap, _⟩ := efwu_ok hC hR.inv hp.2.2 hp.1 hp.2.1
      rw [e]
      refine ⟨hI', fun q' hq => ?_⟩
      obtain ⟨-, hq⟩ := Option.ite_none_right_eq_some.1 hq
      exact ⟨by rw [ha, hR.abs]; exact Option.some.inj hq, hR.capStep.trans_eq hcap⟩
    · obtain ⟨f, e⟩ := efwu_faults (C := C) hR.inv hp
      rw [e]
      refine if_neg fun hc => hp ⟨by rw [hR.len]; exact hc.1, hR.free, hR.inv.cap_pos_of_len (by rw [hR.len]; exact hc.2)⟩
  cases op with
  | reserve n =>
    obtain ⟨r', e, hR⟩ := reserve_ok hI n
    simp only [RingOp.apply, e]
    exact ⟨hR.inv, fun q' hq => ⟨by rw [hR.abs]; exact Option.some.inj hq, hR.capStep⟩⟩
  | extend d => exact grown (extend_ok hI d) rfl
  | pushBack b => exact grown (pushBack_ok hI b) rfl
  | extendAndFill b n => exact grown (extendAndFill_ok hI b n) rfl
  | extendFromReader a n =>
    obtain ⟨r', ok, rest, e, hI', hs, hf, hcs⟩ := extendFromReader_ok hI a n
    rw [show RingOp.apply C r (.extendFromReader a n) = _ from bind_fst_ok e]
    refine ⟨hI', fun q' hq => ⟨?_, hcs⟩⟩
    simp only [RingOp.applyQ, Option.some.injEq] at hq
    by_cases hn : n ≤ a.length
    · rw [(hs hn).2.1, ← hq, if_pos hn]; rfl
    · rw [(hf (by omega)).2, ← hq, if_neg hn]
  | extendFromWithin s l =>
    simp only [RingOp.apply, RingOp.applyQ, RingBuffer.extendFromWithin]
    rw [hI.lenC_eq, ok_bind]
    by_cases h1 : s + l ≤ r.len
    · rw [check_bind (by omega)]; exact copy s l
    · rw [check_err (by omega), error_bind]
      exact if_neg fun hc => h1 (by rw [← abs_length]; exact hc.1)
  | reserveThenUnchecked s l => exact copy s l
  | dropFirstN n =>
    simp only [RingOp.apply, RingOp.applyQ, abs_length]
    rw [dropFirstN_eq hI]
    by_cases hn : n ≤ r.len
    · rw [if_pos hn]
      by_cases h0 : r.cap = 0
      · rw [if_pos h0]
        exact if_neg fun hc => by have := hI.cap_pos_of_len hc.2; omega
      · rw [if_neg h0]
        obtain ⟨hI', ha, -, hcap⟩ := dropped hI (Nat.pos_of_ne_zero h0) hn
          (r' := { r with head := (r.head + n) % r.cap }) rfl rfl rfl rfl
        refine ⟨hI', fun q' hq => ?_⟩
        obtain ⟨-, hq⟩ := Option.ite_none_right_eq_some.1 hq
        exact ⟨by rw [ha]; exact Option.some.inj hq, CapStep.of_eq hcap _⟩
    · rw [if_neg hn]; exact if_neg fun hc => hn hc.1
  | clear =>
    exact ⟨(clear_ok hI).1, fun q' hq => ⟨by rw [(clear_ok hI).2.1]; exact Option.some.inj hq,
      CapStep.of_eq (clear_ok hI).2.2 _⟩⟩

theorem runRing_sound {C : Nat} (hC : 0 < C) : ∀ (ops : List RingOp) {r : RingBuffer}, r.Inv →
    match runRing C ops r with
    | .ok r' => r'.Inv ∧ ∀ q, runQueue ops r.abs = some q →
        r'.abs = q ∧ r'.cap ≤ max r.cap (2 * peakQueue ops r.abs + 2)
    | .error _ => runQueue ops r.abs = none
  | [], r, hI => ⟨hI, fun q h => ⟨Option.some.inj h, by omega⟩⟩
  | op :: ops, r, hI => by
    have h1 := op.apply_sound hC hI
    simp only [runRing, runQueue, peakQueue]
    cases e1 : op.apply C r with
    | error f => rw [e1] at h1; simp only [h1]
    | ok r1 =>
      rw [e1] at h1
      obtain ⟨hI1, hq1⟩ := h1
      have ih := runRing_sound hC ops hI1
      simp only
      cases hq : op.applyQ r.abs with
      | none =>
        -- outside the contract nothing is claimed of the content (and `peakQueue` stops counting: `none ⇒ 0`)
        cases e : runRing C ops r1 with
        | error f => rfl
        | ok r' => rw [e] at ih; exact ⟨ih.1, fun q h => nomatch h⟩
      | some q1 =>
        obtain ⟨ha1, hcs⟩ := hq1 q1 hq
        rw [ha1] at ih
        cases e : runRing C ops r1 with
        | error f => rw [e] at ih; exact ih
        | ok r' =>
          rw [e] at ih
          refine ⟨ih.1, fun q h => ?_⟩
          obtain ⟨ha, hcap⟩ := ih.2 q h
          have hl : r.abs.length = r.len := abs_length
          have := hcs.mono; have := hcs.bound
          dsimp only
          exact ⟨ha, by omega⟩

end Zstd.Model
