import Zstd.Proofs.FseEncTable.Tables
import Zstd.Proofs.FseDecTable.Spec
/-
The FSE encoder table and the FSE decoder table describe the same automaton:
`Zstd.Model.Fse.buildTableFromProbabilities` (`fse_encoder.rs build_table_from_probabilities`) against
`Zstd.Model.Fse.buildDecodingTableCore` (`fse_decoder.rs build_decoding_table`), and what `ETable.nextState`
(`SymbolStates::get`) and `ETable.startState` find in the encoder's table.

Hypothesis: `EncBuildable al probs` (`Defs.lean`): `5 ≤ al ≤ 9`, at most 256 symbols, every probability
`≥ -1`, mass `2^al`, and fewer than `2^al` "less than one" symbols (necessary, see the `example`s at the end).

Both tables are functions of one layout (`tables_eq`: `encOf al probs syms`, `decOf al probs syms`, from
`Spread.encoder` / `Spread.decoder`); the theorems are the facts of `FseEncTable/Layout.lean` about `encOf`.
-/
namespace Zstd.Proofs.FseEncTable
open Zstd Zstd.Model.Fse Zstd.Proofs.FseFin
open Zstd.Proofs.FseDecTable (Layout decOf decOf_size decOf_getD spread_of_valid toSpecEntry)

/-- both builders, and the Spec, return the table of one layout -/
theorem tables_eq {al : Nat} {probs : List Int} (hb : EncBuildable al probs) {maxSymbol : Nat}
    (hms : probs.length ≤ maxSymbol + 1) :
    ∃ syms ctr, Layout al probs syms ∧ buildTableFromProbabilities probs al = .ok (encOf al probs syms) ∧
      buildDecodingTableCore al probs.toArray maxSymbol = .ok (decOf al probs syms, ctr) ∧
      Spec.Fse.buildTable al probs = some { accLog := al, entries := (decOf al probs syms).map toSpecEntry } := by
  have hv := hb.valid
  have hnn := hb.negs_lt
  obtain ⟨W, syms, hS⟩ := spread_of_valid hv
  obtain ⟨ctr, h⟩ := hS.decoder (by have := hv.al_le; omega) hv.length_le hv.ge_neg_one hms
  rw [← negSyms_length probs 0] at hnn
  exact ⟨syms, ctr, hS.layout hv.ge_neg_one, hS.encoder (by have := hv.al_le; omega) hv.length_le hv.ge_neg_one hnn,
    h, hS.spec hv.length_le hv.ge_neg_one hv.mass_eq⟩

theorem enc_eq {al : Nat} {probs : List Int} (hb : EncBuildable al probs) {et : ETable}
    (het : buildTableFromProbabilities probs al = .ok et) :
    ∃ syms, Layout al probs syms ∧ et = encOf al probs syms := by
  obtain ⟨syms, _, hL, h, _⟩ := tables_eq hb (Nat.le_succ probs.length)
  rw [het] at h
  exact ⟨syms, hL, Except.ok.inj h⟩

/-- `check_tables` of `fse/mod.rs`, for every valid distribution, both directions. -/
theorem enc_table_eq_dec_table {al : Nat} {probs : List Int} {maxSymbol : Nat}
    (hb : EncBuildable al probs) (hms : probs.length ≤ maxSymbol + 1) :
    ∃ et dec ctr, buildTableFromProbabilities probs al = .ok et ∧
      buildDecodingTableCore al probs.toArray maxSymbol = .ok (dec, ctr) ∧
      et.tableSize = 2 ^ al ∧ et.states.size = 256 ∧ dec.size = 2 ^ al ∧
      (∀ i, i < 2 ^ al → ∃ st ∈ (et.states.getD (dec.getD i {}).symbol {}).states.toList,
          st.index = i ∧ st.baseline = (dec.getD i {}).baseLine ∧ st.numBits = (dec.getD i {}).numBits ∧
          st.lastIndex = st.baseline + 2 ^ st.numBits - 1) ∧
      (∀ s, ∀ st ∈ (et.states.getD s {}).states.toList,
          st.index < 2 ^ al ∧ (dec.getD st.index {}).symbol = s ∧
          st.baseline = (dec.getD st.index {}).baseLine ∧ st.numBits = (dec.getD st.index {}).numBits ∧
          st.lastIndex = st.baseline + 2 ^ st.numBits - 1) ∧
      (∀ s, (et.states.getD s {}).probability = probs.getD s 0) ∧
      (∀ s, (et.states.getD s {}).states.size
          = if probs.getD s 0 = -1 then 1 else (probs.getD s 0).toNat) := by
  obtain ⟨syms, ctr, hL, het, hdec, -⟩ := tables_eq hb hms
  have hlen := hb.valid.length_le
  refine ⟨_, _, ctr, het, hdec, rfl, by simp [encOf], decOf_size .., fun i hi => ?_, fun s st hst => ?_,
    fun s => ?_, fun s => ?_⟩
  · rw [decOf_getD probs syms hi, encOf_getD syms hlen]
    exact ⟨_, cell_state hL hi, rfl, rfl, rfl, stateOf_lastIndex ..⟩
  · rw [encOf_getD syms hlen] at hst
    obtain ⟨-, k, c, -, -, rfl, hc, he⟩ := mem_encStates hL hst
    rw [show (stateOf al (FseDecTable.nStates probs s) k c).index = c from rfl, decOf_getD probs syms hc, he]
    exact ⟨hc, rfl, rfl, rfl, stateOf_lastIndex ..⟩
  · rw [encOf_getD syms hlen]
    exact encStates_probability ..
  · rw [encOf_getD syms hlen]
    exact states_size hL s

/-- the `.unwrap()` in `SymbolStates::get` (called by `next_state`) cannot fail. -/
theorem enc_next_state_total {al : Nat} {probs : List Int} (hb : EncBuildable al probs) {et : ETable}
    (het : buildTableFromProbabilities probs al = .ok et) {s idx : Nat}
    (hs : probs.getD s 0 ≠ 0) (hidx : idx < 2 ^ al) :
    ∃ st, et.nextState s idx = .ok st ∧ st.contains idx = true ∧
      st ∈ (et.states.getD s {}).states.toList := by
  obtain ⟨syms, hL, rfl⟩ := enc_eq hb het
  rw [encOf_getD syms hb.valid.length_le]
  exact next_state hL hb.valid.length_le hs hidx

theorem enc_containing_state_unique {al : Nat} {probs : List Int} (hb : EncBuildable al probs) {et : ETable}
    (het : buildTableFromProbabilities probs al = .ok et) {s idx : Nat} {st st' : EState}
    (h1 : st ∈ (et.states.getD s {}).states.toList) (h2 : st' ∈ (et.states.getD s {}).states.toList)
    (c1 : st.contains idx = true) (c2 : st'.contains idx = true) : st = st' := by
  obtain ⟨syms, hL, rfl⟩ := enc_eq hb het
  rw [encOf_getD syms hb.valid.length_le] at h1 h2
  exact containing_unique hL h1 h2 c1 c2

theorem enc_states_sorted {al : Nat} {probs : List Int} (hb : EncBuildable al probs) {et : ETable}
    (het : buildTableFromProbabilities probs al = .ok et) (s : Nat) :
    (et.states.getD s {}).states.toList.Pairwise (fun a b => a.baseline < b.baseline) := by
  obtain ⟨syms, hL, rfl⟩ := enc_eq hb het
  rw [encOf_getD syms hb.valid.length_le]
  exact states_sorted hL s

theorem enc_start_state {al : Nat} {probs : List Int} (hb : EncBuildable al probs) {et : ETable}
    (het : buildTableFromProbabilities probs al = .ok et) {s : Nat} (hs : probs.getD s 0 ≠ 0) :
    ∃ st, et.startState s = .ok st ∧ (et.states.getD s {}).states.toList.head? = some st ∧
      st.baseline = 0 ∧ ∀ st' ∈ (et.states.getD s {}).states.toList, st.baseline ≤ st'.baseline := by
  obtain ⟨syms, hL, rfl⟩ := enc_eq hb het
  rw [encOf_getD syms hb.valid.length_le]
  obtain ⟨st, h1, h2, h3⟩ := start_state hL hb.valid.length_le hs
  exact ⟨st, h1, h2, h3, fun _ _ => h3 ▸ Nat.zero_le _⟩

instance (al : Nat) (probs : List Int) : Decidable (ValidDist al probs) :=
  inferInstanceAs (Decidable (FseDecTable.ValidDist al probs))
instance (al : Nat) (probs : List Int) : Decidable (EncBuildable al probs) := by unfold EncBuildable; infer_instance

theorem ll_default_buildable : EncBuildable Gen.llDefaultLogEnc Gen.llDistEnc := by decide
theorem ml_default_buildable : EncBuildable Gen.mlDefaultLogEnc Gen.mlDistEnc := by decide
theorem of_default_buildable : EncBuildable Gen.ofDefaultLogEnc Gen.ofDistEnc := by decide

/-! ### `EncBuildable` is necessary: a distribution of `2^al` "less than one" symbols is a `ValidDist`
that the decoder accepts and on which the encoder-side builder panics (`negative_idx -= 1` underflows) -/

example : ValidDist 5 (List.replicate 32 (-1)) := by
  refine ⟨by decide, by decide, by decide, ?_, by decide⟩
  intro p hp
  rw [List.mem_replicate] at hp
  omega

example : buildTableFromProbabilities (List.replicate 32 (-1)) 5
    = .error (.overflow "fse_encoder.rs:334:build_table_from_probabilities") := by decide +kernel

example : (match buildDecodingTableCore 5 (List.replicate 32 (-1)).toArray 255 with
    | .ok _ => true | .error _ => false) = true := by decide +kernel

end Zstd.Proofs.FseEncTable
