import Zstd.Proofs.EncRoundtrip
/-
The contracts between the frame/block layer and the layers below it (matcher: C17, block encoder:
C16 over the entropy coders C12/C13), what `emitBlock` has written when it returns, and the proof
that it satisfies `EmitSim` under the contracts.  RLE blocks, raw blocks (Uncompressed level and the raw fallback) and
all the plumbing are proved outright; only a block that is KEPT as a compressed block appeals to the contract, and only
the block encoder can fault.
-/
namespace Zstd.Proofs.Enc
open Zstd Zstd.Model.Enc

/-- what the two guards of the raw fallback guarantee when they do NOT fire.  Stated (and proved)
so that it holds for `>=` as well as for `>` in the source: the properties only need `≤`. -/
theorem rawFallbackVsBlock_false (a b : Nat) (h : Gen.rawFallbackVsBlock a b = false) : a ≤ b := by
  unfold Gen.rawFallbackVsBlock at h; simp at h; omega
theorem rawFallbackVsMax_false (a b : Nat) (h : Gen.rawFallbackVsMax a b = false) : a ≤ b := by
  unfold Gen.rawFallbackVsMax at h; simp at h; omega
theorem fastestRawFallbackPresent_eq : Gen.fastestRawFallbackPresent = true := rfl
theorem fastestRawForgetsHuff_eq : Gen.fastestRawForgetsHuff = true := rfl
theorem specBlockMax_eq : Spec.blockMaxSize = 131072 := by decide

/-- the invariant F5 broke: whenever the encoder remembers a Huffman table, the decoder (after the
bytes emitted so far) holds the table related to it by `R` -/
def Tracks {H : Type} (R : H → Spec.Huffman.Table → Prop) (st : EncState H) (e : Spec.Entropy) : Prop :=
  ∀ t, st.lastHuff = some t → ∃ d, e.huf = some d ∧ R t d

theorem tracks_none {H : Type} (R : H → Spec.Huffman.Table → Prop) (st : EncState H) (e : Spec.Entropy) :
    Tracks R { st with lastHuff := none } e := by
  intro t h; cases h

/-- what is known about a block at `Fastest`: it fits Block_Maximum_Size of the declared window `window`, and
if it is not constant (so `start_matching` is called) the matcher's parse regenerates it with offsets within the matcher's
own window `w` = `window_size()` -/
def FastPre (w window : Nat) (pre blk : List Byte) (p : Parse) : Prop :=
  blk.length ≤ min window Gen.maxBlockSize ∧ (isConstant blk = false → validParse w pre blk p = true)

/-- CONTRACT of the block encoder (`compress_block`; for the real one: `SeqBlock.blockEncCorrect_of_litCoder` with
`LitCoder.lit_coder_contract`), `w` the matcher's `window_size()`, `window` the window the frame header declares:
for a valid parse of `blk` after `pre`, if the bytes it returns are kept as a compressed block
(not larger than the block), the strict block decoder regenerates exactly `blk` from them and
ends in a state that the encoder's state tracks. -/
def BlockEncCorrect {H : Type} (R : H → Spec.Huffman.Table → Prop) (w window : Nat) (enc : BlockEnc H) : Prop :=
  ∀ (p : Parse) (st st' : EncState H) (bytes : List Byte) (e : Spec.Entropy) (pre blk : List Byte),
    validParse w pre blk p = true → blk.length ≤ min window Gen.maxBlockSize →
    Tracks R st e → enc p st = .ok (bytes, st') → bytes.length ≤ blk.length →
    2 ≤ bytes.length ∧
    ∃ e', Spec.decodeCompressedBlock window #[] bytes e pre.toArray = some ((pre ++ blk).toArray, e') ∧
      Tracks R st' e'

theorem isConstant_cons (b : Byte) (t : List Byte) : isConstant (b :: t) = (b :: t).all (fun x => x == b) := rfl

theorem emitBlock_uncompressed_ok {H : Type} {enc : BlockEnc H} {last : Bool} {blk : List Byte} {p : Parse}
    {st st' : EncState H} {bytes : List Byte} (h : emitBlock .uncompressed enc last blk p st = .ok (bytes, st')) :
    blk.length < 2 ^ 32 ∧ bytes = blockHeader last 0 blk.length ++ blk ∧ st' = st := by
  simp only [emitBlock, blockTypeRaw_eq] at h
  split at h
  · cases h
  · cases h; exact ⟨by omega, rfl, rfl⟩

theorem compressFastest_ok {H : Type} {enc : BlockEnc H} {last : Bool} {blk : List Byte} {p : Parse}
    {st st' : EncState H} {bytes : List Byte} (h : compressFastest enc last blk p st = .ok (bytes, st')) :
    (isConstant blk = true ∧ ∃ b, blk = List.replicate blk.length b ∧
      bytes = blockHeader last 1 (blk.length % 2 ^ 32) ++ [b] ∧ st' = st) ∨
    (isConstant blk = false ∧ ∃ compressed st1, enc p st = .ok (compressed, st1) ∧
      ((bytes = blockHeader last 0 (blk.length % 2 ^ 32) ++ blk ∧ st' = { st1 with lastHuff := none }) ∨
       (compressed.length ≤ blk.length % 2 ^ 32 ∧ compressed.length ≤ 131072 ∧
        bytes = blockHeader last 2 (compressed.length % 2 ^ 32) ++ compressed ∧ st' = st1))) := by
  cases blk with
  | nil => cases h
  | cons b t =>
    simp only [compressFastest, fastestRawFallbackPresent_eq, fastestRawForgetsHuff_eq, Bool.true_and, if_true,
      blockTypeRle_eq, blockTypeRaw_eq, blockTypeCompressed_eq] at h
    by_cases hall : (b :: t).all (fun x => x == b) = true
    · rw [if_pos hall] at h
      cases h
      exact Or.inl ⟨hall, b, all_eq_replicate b _ hall, rfl, rfl⟩
    · rw [if_neg hall] at h
      refine Or.inr ⟨by rw [isConstant_cons]; simpa using hall, ?_⟩
      split at h
      · cases h
      · rename_i compressed st1 henc
        refine ⟨compressed, st1, henc, ?_⟩
        split at h
        · cases h; exact Or.inl ⟨rfl, rfl⟩
        · rename_i hg
          simp only [Bool.or_eq_true, not_or, Bool.not_eq_true] at hg
          cases h
          exact Or.inr ⟨rawFallbackVsBlock_false _ _ hg.1, rawFallbackVsMax_false _ _ hg.2, rfl, rfl⟩

theorem compressFastest_error {H : Type} {enc : BlockEnc H} {last : Bool} {blk : List Byte} {p : Parse}
    {st : EncState H} {f : Fault} (h : compressFastest enc last blk p st = .error f) :
    blk = [] ∨ (isConstant blk = false ∧ enc p st = .error f) := by
  cases blk with
  | nil => exact Or.inl rfl
  | cons b t =>
    simp only [compressFastest] at h
    split at h
    · cases h
    · rename_i hall
      refine Or.inr ⟨by rw [isConstant_cons]; simpa using hall, ?_⟩
      split at h
      · rename_i henc; cases h; exact henc
      · split at h <;> cases h

theorem emit_uncompressed_sim {H : Type} (window : Nat) (Inv : EncState H → Spec.Entropy → Prop) (enc : BlockEnc H) :
    EmitSim window Inv (fun _ blk _ => blk.length ≤ min window Gen.maxBlockSize) (fun _ => False)
      (emitBlock .uncompressed enc) := by
  intro last blk p st e pre hne hpre hinv
  have h32 : ¬ blk.length ≥ 2 ^ 32 := by rw [maxBlockSize_eq] at hpre; omega
  refine .intro_ok (a := (blockHeader last 0 blk.length ++ blk, st))
    (by simp only [emitBlock, if_neg h32, blockTypeRaw_eq]) ⟨?_, e, hinv, ?_⟩
  · rw [List.length_append, blockHeader_length]; omega
  · simpa using blockDecodes_raw window #[] last blk e pre.toArray (by rw [specBlockMax_eq]; exact hpre)

/-- `hI0`: the raw fallback forgets the remembered table.  `Pre` may know more of a block than `FastPre`. -/
theorem emit_fastest_sim {H : Type} (R : H → Spec.Huffman.Table → Prop) (w window : Nat)
    (enc : BlockEnc H) (henc : BlockEncCorrect R w window enc) (I : EncState H → Prop) (A : Fault → Prop)
    (hI0 : ∀ st : EncState H, I { st with lastHuff := none })
    (Pre : List Byte → List Byte → Parse → Prop) (hPre : ∀ pre blk p, Pre pre blk p → FastPre w window pre blk p)
    (hret : ∀ pre blk p st, Pre pre blk p → isConstant blk = false → I st →
      ReturnsOr (fun r => I r.2) A (enc p st)) :
    EmitSim window (fun st e => I st ∧ Tracks R st e) Pre A (emitBlock .fastest enc) := by
  intro last blk p st e pre hne hP ⟨hI, hinv⟩
  obtain ⟨hsz, hvalid⟩ := hPre pre blk p hP
  have hspec : blk.length ≤ min window Spec.blockMaxSize := by rw [specBlockMax_eq]; exact hsz
  have hmod : blk.length % 2 ^ 32 = blk.length := Nat.mod_eq_of_lt (by rw [specBlockMax_eq] at hspec; omega)
  cases hem : emitBlock .fastest enc last blk p st with
  | error f =>
    rcases compressFastest_error hem with h | ⟨hconst, he⟩
    · exact absurd h hne
    · exact .intro_error rfl ((hret pre blk p st hP hconst hI).of_error he)
  | ok r =>
    obtain ⟨bytes, st'⟩ := r
    refine .intro_ok rfl ?_
    obtain ⟨_, b, hrep, rfl, rfl⟩ | ⟨hconst, compressed, st1, hencr, ⟨rfl, rfl⟩ | ⟨hlt, hmax, rfl, rfl⟩⟩ :=
      compressFastest_ok hem
    · refine ⟨by rw [List.length_append, blockHeader_length]; omega, e, ⟨hI, hinv⟩, ?_⟩
      have := blockDecodes_rle window #[] last b blk.length e pre.toArray hspec
      rw [← hrep] at this
      simpa [hmod] using this
    · -- raw fallback; the remembered table is forgotten, so `Tracks` holds against the unchanged decoder
      exact ⟨by rw [List.length_append, blockHeader_length]; omega, e, ⟨hI0 st1, tracks_none R st1 e⟩,
        by simpa [hmod] using blockDecodes_raw window #[] last blk e pre.toArray hspec⟩
    · -- kept as a compressed block: the contract
      obtain ⟨h2, e', hdec, htr⟩ := henc p st st' compressed e pre blk (hvalid hconst) hsz hinv hencr
        (by rw [← hmod]; exact hlt)
      refine ⟨by rw [List.length_append, blockHeader_length]; omega, e',
        ⟨((hret pre blk p st hP hconst hI).of_ok hencr :), htr⟩, ?_⟩
      rw [Nat.mod_eq_of_lt (by omega)]
      exact blockDecodes_compressed window #[] last compressed e e' _ _ h2 (by rw [specBlockMax_eq]; exact hmax) hdec

/-- `I` is an invariant of the encoder state carried along the frame, so that `hret` — the block encoder returns or faults
within `A` — is asked of states a frame can reach only (`LitCoder.compress_real_correct_or_assert`: `GoodState`,
`WriteTableAssert`); `hI0`: the per-frame reset and the raw fallback forget the table. -/
theorem compressFrame_fastest_sim {H : Type} (R : H → Spec.Huffman.Table → Prop) (hash : Bool)
    (enc : BlockEnc H) (c : Compressor H) (hc : c.level = .fastest) (w : Nat) (script : Nat → MBlock)
    (data : List Byte) (frags : List Nat) (hm : ValidMatcher w script data)
    (henc : BlockEncCorrect R w (declaredWindow w) enc)
    (I : EncState H → Prop) (A : Fault → Prop) (hI0 : ∀ st : EncState H, I { st with lastHuff := none })
    (hret : ∀ i st, I st → isConstant (blockAt script data i) = false →
      ReturnsOr (fun r => I r.2) A (enc (script i).parse st)) :
    ReturnsOr (fun r => I r.2.st ∧ Spec.decodeFrame r.1 = some (specResult hash w data r.1)) A
      (compressFrame hash enc c w script data frags) := by
  have hfast : ∀ i, FastPre w (declaredWindow w) (data.take (blockStart script i)) (blockAt script data i) (script i).parse :=
    fun i => ⟨by rw [min_declared_block w hm.window_le]
                 exact Nat.le_trans (blockAt_length_le script data i) (hm.space_le i), hm.parse_ok i⟩
  -- `Pre` remembers which block of the data it is, so that `hret` is asked for the script's parses only
  refine (compressFrame_sim hash enc c w script data frags (fun st e => I st ∧ Tracks R st e)
    (fun pre blk p => ∃ i, pre = data.take (blockStart script i) ∧ blk = blockAt script data i ∧ p = (script i).parse)
    A hm.window_le hm.space_pos ?_ (fun st => And.intro (hI0 st) (tracks_none R st {}))
    (fun i _ => ⟨i, rfl, rfl, rfl⟩)).mono fun _ ⟨⟨_, hI, _⟩, hdec⟩ => ⟨hI, hdec⟩
  rw [hc]
  exact emit_fastest_sim R w _ enc henc I A hI0 _ (fun _ _ _ ⟨i, h1, h2, h3⟩ => by rw [h1, h2, h3]; exact hfast i)
    fun _ _ _ st ⟨i, _, h2, h3⟩ hconst hI => by rw [h3]; exact hret i st hI (h2 ▸ hconst)

end Zstd.Proofs.Enc
