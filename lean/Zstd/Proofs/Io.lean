import Zstd.Spec.Io
/-
Lemmas for C18.  The model with the arms of `Cfg.std` equals the Spec for every script — `readToEnd_std` for scripts
without `Interrupted` only (the no_std helper returns it, std retries); what the Spec functions promise, in words of
the result (`spec_…`); the `hash` feature (`frame_good`, `decodeFrame_good`).
-/
namespace Zstd.Proofs.Io
open Zstd Zstd.Model.Io

/-! the fields of `Cfg.std`, in the order of the structure: `simp only [std4]` rewrites one field where unfolding
`Cfg.std` would bring in all seventeen -/

@[simp] theorem std1 : Cfg.std.readExactZeroBreaks = true := rfl
@[simp] theorem std2 : Cfg.std.readExactRetriesInterrupted = true := rfl
@[simp] theorem std3 : Cfg.std.readExactReturnsOtherErrors = true := rfl
@[simp] theorem std4 : Cfg.std.readExactEofIsUnexpectedEof = true := rfl
@[simp] theorem std5 : Cfg.std.readToEndChunk = 16384 := rfl
@[simp] theorem std6 : Cfg.std.readToEndPropagatesEveryError = true := rfl
@[simp] theorem std7 : Cfg.std.readToEndStopsAtZero = true := rfl
@[simp] theorem std8 : Cfg.std.takeZeroLimitReturnsZero = true := rfl
@[simp] theorem std9 : Cfg.std.takeClampsRequest = true := rfl
@[simp] theorem std10 : Cfg.std.takeDecrementsLimit = true := rfl
@[simp] theorem std11 : Cfg.std.writeAllZeroIsError = true := rfl
@[simp] theorem std12 : Cfg.std.writeAllAdvances = true := rfl
@[simp] theorem std13 : Cfg.std.writeAllRetriesInterrupted = true := rfl
@[simp] theorem std14 : Cfg.std.writeAllReturnsOtherErrors = true := rfl
@[simp] theorem std15 : Cfg.std.sliceReadIsMinCopy = true := rfl
@[simp] theorem std16 : Cfg.std.sliceWriteIsMinCopy = true := rfl
@[simp] theorem std17 : Cfg.std.vecWriteAppendsAll = true := rfl

/-! In the `data` arm the model measures the bytes it got (`(src.take a).length`), the Spec computes
`n = min a src.length` first: `List.take_eq_take_min`. -/

theorem readExact_std (script : List Resp) (src : List Byte) (need : Nat) :
    readExact Cfg.std script src need = Spec.Io.readExact script src need := by
  induction script generalizing src need with
  | nil => cases need <;> rfl
  | cons r s ih =>
    cases need with
    | zero => rfl
    | succ need =>
      cases r with
      | data k =>
        simp only [readExact, Spec.Io.readExact, List.length_take, std1, std4, if_true, ih]
        rw [List.take_eq_take_min (i := min k (need + 1)), List.drop_eq_drop_min (i := min k (need + 1))]
        split
        · rename_i h; rw [h]; rfl
        · rfl
      | interrupted => exact ih src (need + 1)
      | eof | error k => rfl

theorem readToEnd_std (script : List Resp) (src : List Byte) (h : Resp.interrupted ∉ script) :
    readToEnd Cfg.std script src = Spec.Io.readToEnd 16384 script src := by
  induction script generalizing src with
  | nil => rfl
  | cons r s ih =>
    have ih := fun src => ih src (List.not_mem_of_not_mem_cons h)
    cases r with
    | data k =>
      simp only [readToEnd, Spec.Io.readToEnd, List.length_take, std5, std7, if_true, ih]
      rw [List.take_eq_take_min (i := min k 16384), List.drop_eq_drop_min (i := min k 16384)]
      split
      · rename_i h0; rw [h0]; rfl
      · rfl
    | interrupted => exact absurd List.mem_cons_self h
    | eof | error k => rfl

theorem writeAll_std (script : List Resp) (sink buf : List Byte) :
    writeAll Cfg.std script sink buf = Spec.Io.writeAll script sink buf := by
  induction script generalizing sink buf with
  | nil => cases buf <;> rfl
  | cons r s ih =>
    cases buf with
    | nil => rfl
    | cons b bs =>
      cases r with
      | data k => simp only [writeAll, Spec.Io.writeAll, std11, std12, if_true, ih]
      | interrupted => exact ih sink (b :: bs)
      | eof | error k => rfl

theorem Reader.read_le (r : Reader) (req : Nat) (bs : List Byte) (r' : Reader)
    (h : r.read req = (.ok bs, r')) : bs.length ≤ req := by
  unfold Reader.read at h
  split at h <;> cases h
  · exact Nat.zero_le _
  · rw [List.length_take]; omega
  · exact Nat.zero_le _

theorem take_std (usizeBits : Nat) (t : Take) (req : Nat) (hl : t.limit < 2 ^ usizeBits) :
    Take.read Cfg.std usizeBits t req = .ok (Spec.Io.takeRead t req) := by
  unfold Take.read Spec.Io.takeRead
  by_cases h0 : t.limit = 0
  · simp [h0]
  · simp only [std8, std9, std10, Bool.true_and, beq_iff_eq, h0, if_false, if_true, asUsize, Nat.mod_eq_of_lt hl]
    rcases hr : t.inner.read (min t.limit req) with ⟨_ | bs, r'⟩
    · rfl
    · have := Reader.read_le _ _ _ _ hr
      simp only []
      rw [if_pos (by omega)]

theorem spec_readExact_ok (script : List Resp) (src : List Byte) (need : Nat) (bs : List Byte) (r : Reader)
    (h : Spec.Io.readExact script src need = (.ok bs, r)) :
    bs = src.take need ∧ bs.length = need ∧ r.src = src.drop need := by
  fun_induction Spec.Io.readExact script src need generalizing bs r with
  | case1 => cases h; simp
  | case2 | case4 | case5 | case6 => cases h
  | case3 s src need ih => exact ih bs r h
  | case7 k s src need n hn bs' r' hrec ih =>
    cases h
    obtain ⟨e1, e2, e3⟩ := ih bs' r' hrec
    have hm : n + (need + 1 - n) = need + 1 := by omega
    refine ⟨?_, ?_, ?_⟩
    · rw [e1, ← List.take_add, hm]
    · rw [List.length_append, e2, List.length_take]; omega
    · rw [e3, List.drop_drop, hm]
  | case8 k s src need n hn hrec ih => exact absurd h (hrec bs r)

/-- scripts keep `Interrupted` in its own constructor: hence the hypothesis -/
theorem spec_readExact_no_hang (script : List Resp) (src : List Byte) (need : Nat)
    (hs : Resp.error .interrupted ∉ script) :
    (Spec.Io.readExact script src need).1 ≠ .hang ∧ (Spec.Io.readExact script src need).1 ≠ .err .interrupted := by
  fun_induction Spec.Io.readExact script src need with
  | case1 | case2 | case5 | case6 | case7 => simp
  | case3 s src need ih => exact ih (List.not_mem_of_not_mem_cons hs)
  | case4 k s src need => exact ⟨nofun, fun h => hs (Res.err.inj h ▸ List.mem_cons_self)⟩
  | case8 k s src need n hn hrec ih => exact ih (List.not_mem_of_not_mem_cons hs)

theorem spec_writeAll_prefix (script : List Resp) (sink buf : List Byte) :
    (∃ n, (Spec.Io.writeAll script sink buf).2.sink = sink ++ buf.take n) ∧
    ((Spec.Io.writeAll script sink buf).1 = .ok () → (Spec.Io.writeAll script sink buf).2.sink = sink ++ buf) ∧
    (Spec.Io.writeAll script sink buf).1 ≠ .hang := by
  fun_induction Spec.Io.writeAll script sink buf with
  | case1 | case2 | case4 | case5 | case6 => simp
  | case3 s sink b bs ih => exact ih
  | case7 k s sink b bs n hn ih =>
    obtain ⟨⟨m, hm⟩, hok, hh⟩ := ih
    refine ⟨⟨n + m, ?_⟩, fun h => ?_, hh⟩
    · rw [hm, List.append_assoc, List.take_add]
    · rw [hok h, List.append_assoc, List.take_append_drop]

theorem spec_take_le (t : Take) (req : Nat) (bs : List Byte) (t' : Take)
    (h : Spec.Io.takeRead t req = (.ok bs, t')) : bs.length ≤ t.limit ∧ bs.length ≤ req ∧ t'.limit = t.limit - bs.length := by
  unfold Spec.Io.takeRead at h
  split at h
  · cases h; simp
  · rcases hr : t.inner.read (min t.limit req) with ⟨_ | bs', r⟩ <;> rw [hr] at h <;> cases h
    have := Reader.read_le _ _ _ _ hr
    exact ⟨by omega, by omega, rfl⟩

theorem dropLast_append (l t : List Byte) (n : Nat) (h : t.length = n) : dropLast n (l ++ t) = l := by
  rw [dropLast, List.length_append, h, Nat.add_sub_cancel, List.take_left]

theorem clearBitAt_append_cons (l : List Byte) (i bit b : Nat) (rest : List Byte) (h : l.length = i) :
    clearBitAt i bit (l ++ b :: rest) = l ++ (if b / 2 ^ bit % 2 = 1 then b - 2 ^ bit else b) :: rest := by
  rw [clearBitAt, ← h, List.take_left, List.drop_left]

theorem frame_good (hash : Bool) (magic : List Byte) (desc0 : Nat) (wd : List Byte)
    (enc : List Byte → List Byte) (digest : List Byte → Nat) (d : List Byte) :
    frame HashCfg.good hash magic desc0 wd enc digest d =
      magic ++ [if hash then desc0 + 4 else desc0] ++ wd ++ enc d ++ if hash then leBytes 4 (digest d % 2 ^ 32) else [] := by
  cases hash <;> rfl

theorem decodeFrame_good (hash : Bool) (magic wd body tl : List Byte) (x : Nat)
    (dec : List Byte → Option (List Byte × List Byte)) (digest : List Byte → Nat) (d : List Byte)
    (hm : magic.length = 4) (hinv : ∀ rest, dec (body ++ rest) = some (d, rest)) :
    decodeFrame HashCfg.good hash (5 + wd.length) dec digest (magic ++ [x] ++ wd ++ body ++ tl) =
      if x / 4 % 2 = 1 then
        (if tl.length < 4 then none else
          some ⟨d, some (leNat (tl.take 4)), if hash then some (digest d % 2 ^ 32) else none, tl.drop 4⟩)
      else some ⟨d, none, if hash then some (digest d % 2 ^ 32) else none, tl⟩ := by
  have h1 : (magic ++ [x] ++ wd ++ body ++ tl).drop 4 = x :: (wd ++ body ++ tl) := by
    rw [← hm]; simp
  have h2 : (magic ++ [x] ++ wd ++ body ++ tl).drop (5 + wd.length) = body ++ tl := by
    rw [List.append_assoc, List.drop_left']; simp [hm]; omega
  unfold decodeFrame
  rw [h1, h2, hinv]
  simp [checksumFlag, HashCfg.good]

end Zstd.Proofs.Io
