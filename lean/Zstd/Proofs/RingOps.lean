import Zstd.Proofs.RingWithin
/-
`drop_first_n`, `clear`, `get`, `as_slices`, `new`.
-/
namespace Zstd.Model
open Zstd

namespace RingBuffer

variable {r : RingBuffer}

theorem empty_ok (halloc : r.mem.size = r.cap) (hh : r.head = 0) (ht : r.tail = 0)
    (hb : r.cap = 0 ∨ 0 < r.cap) : r.Inv ∧ r.abs = [] := by
  have hl : r.len = 0 := by have := len_cases r; omega
  exact inv_abs_of_cells halloc (by rcases hb with h | h <;> omega) hl fun i hi => by omega

theorem inv_new : RingBuffer.new.Inv := (empty_ok rfl rfl rfl (.inl rfl)).1

theorem abs_new : RingBuffer.new.abs = [] := (empty_ok rfl rfl rfl (.inl rfl)).2

theorem clear_ok (hI : r.Inv) : r.clear.Inv ∧ r.clear.abs = [] ∧ r.clear.cap = r.cap :=
  and_assoc.1 ⟨empty_ok hI.alloc rfl rfl (Nat.eq_zero_or_pos _), rfl⟩

theorem dropped (hI : r.Inv) (hc : 0 < r.cap) {n : Nat} (hn : n ≤ r.len) {r' : RingBuffer}
    (hcap : r'.cap = r.cap) (htail : r'.tail = r.tail) (hmem : r'.mem = r.mem)
    (hhead : r'.head = (r.head + n) % r.cap) :
    r'.Inv ∧ r'.abs = r.abs.drop n ∧ r'.len = r.len - n ∧ r'.cap = r.cap := by
  obtain ⟨hb, hlen, hphys⟩ := head_advanced hI hc hn hcap htail hhead
  have hll := hI.len_lt hc
  refine and_assoc.1 ⟨inv_abs_of_cells (by rw [hmem, hcap]; exact hI.alloc) (.inr hb)
    (by rw [hlen, List.length_drop, abs_length]) fun i hi => ?_, hlen, hcap⟩
  rw [hmem, hphys i (by omega), getD_drop]
  exact hI.cell_abs (by omega)

theorem dropFirstN_eq (hI : r.Inv) (n : Nat) :
    r.dropFirstN n =
      if n ≤ r.len then
        if r.cap = 0 then .error (.divZero "ringbuffer.rs:drop_first_n:%cap")
        else .ok { r with head := (r.head + n) % r.cap }
      else .error (.assert "ringbuffer.rs:drop_first_n:debug_assert(amount<=len)") := by
  unfold dropFirstN
  rw [hI.lenC_eq, ok_bind]
  by_cases hn : n ≤ r.len
  · rw [check_ok hn, ok_bind, Nat.min_eq_left hn, if_pos hn]
    unfold umod
    split
    · rfl
    · rfl
  · rw [check_err hn, error_bind, if_neg hn]

theorem dropFirstN_ok (hI : r.Inv) (hc : 0 < r.cap) {n : Nat} (hn : n ≤ r.len) :
    ∃ r', r.dropFirstN n = .ok r' ∧ r'.Inv ∧ r'.abs = Queue.dropFront r.abs n ∧ r'.len = r.len - n ∧
      r'.cap = r.cap := by
  rw [dropFirstN_eq hI, if_pos hn, if_neg (Nat.ne_of_gt hc)]
  exact ⟨_, rfl, dropped hI hc hn rfl rfl rfl rfl⟩

theorem get_ok (hI : r.Inv) (idx : Nat) :
    ∃ r', r.get idx = .ok (r.abs[idx]?, r') ∧ r'.cap = r.cap ∧ r'.head = r.head ∧ r'.tail = r.tail ∧
      r'.mem = r.mem := by
  unfold get
  rw [hI.lenC_eq, ok_bind]
  by_cases hi : idx < r.len
  · simp only [hi, ↓reduceIte]
    have hc := hI.cap_pos_of_len (by omega)
    have hll := hI.len_lt hc
    rw [umod_ok hc, ok_bind, ← phys_eq_mod (hI.head_lt hc) (by omega), Mem.rd_eq_ok.2 (hI.cellL hi), ok_bind, pure_eq_ok]
    have : r.abs[idx]? = some (r.mem.val (r.phys idx)) := by
      rw [List.getElem?_eq_getElem (by rwa [abs_length]), getElem_abs]
    rw [this]
    exact ⟨_, rfl, rfl, rfl, rfl, rfl⟩
  · simp only [hi, ↓reduceIte, pure_eq_ok]
    have : r.abs[idx]? = none := by
      rw [List.getElem?_eq_none]; rw [abs_length]; omega
    rw [this]
    exact ⟨r, rfl, rfl, rfl, rfl, rfl⟩

theorem asSlices_ok (hI : r.Inv) :
    ∃ a b r', r.asSlices = .ok ((a, b), r') ∧ a ++ b = r.abs ∧ (a = [] → b = []) ∧
      r'.cap = r.cap ∧ r'.head = r.head ∧ r'.tail = r.tail ∧ r'.mem = r.mem := by
  obtain ⟨s, es, hsum, h0, er1, er2⟩ := dataSlices_ok hI "ringbuffer.rs:as_slices:s1" "ringbuffer.rs:as_slices:s2"
  unfold asSlices
  rw [es, ok_bind, er1, ok_bind, er2, ok_bind, pure_eq_ok]
  refine ⟨_, _, _, rfl, List.take_append_drop _ _, fun ha => ?_, rfl, rfl, rfl, rfl⟩
  have h1 : (r.abs.take s.1).length = 0 := by rw [ha]; rfl
  rw [List.length_take, abs_length] at h1
  apply List.eq_nil_of_length_eq_zero
  rw [List.length_drop, abs_length]; omega

end RingBuffer

end Zstd.Model
