import Zstd.Proofs.RingAppend
/-
`extend_from_within_unchecked` and the checked `extend_from_within`.
The unchecked copy makes the calls `efwuCalls` (`efwu_eq_calls`); each is a `Run` — the next run of content
cells copied onto the next run of free cells (`efwuCalls_runs`, the one place where the three geometric
cases and five call sites are gone through) — and a list of such runs appends the range (`cboCalls_filled`).
-/
namespace Zstd.Model
open Zstd

namespace RingBuffer

variable {r : RingBuffer}

/-- What a call site of `copy_bytes_overshooting` in a copy-from-within owes, when `t` cells have been copied so far:
the source region — as far as it can be read, `min srcLen dstLen` bytes — is the run of content cells from logical
position `start + t` on, the destination region the run of free cells from the `t`-th on; `dstEnd` and `disj` are
there because `CboPre` asks for them. -/
structure Run (r : RingBuffer) (start t : Nat) (c : CboCall) : Prop where
  src : Seg r (start + t) (min c.srcLen c.dstLen) c.srcOff
  srcIn : start + t + min c.srcLen c.dstLen ≤ r.len
  dst : Seg r (r.len + t) c.dstLen c.dstOff
  dstIn : r.len + t + c.dstLen ≤ r.cap
  dstEnd : c.dstOff + c.dstLen ≤ r.cap
  disj : c.srcOff + c.srcLen ≤ c.dstOff ∨ c.dstOff + c.dstLen ≤ c.srcOff
  nSrc : c.n ≤ c.srcLen
  nDst : c.n ≤ c.dstLen

/-- `CallGeom` (Proofs/RingSpec) is the form in which C04 states what a call site owes, without `Seg`; it follows from
`Run` and no proof uses it: `cbo_ok` takes `CboPre`, which `Filled.cboCall` gets from `Run` -/
theorem Run.geom (hI : r.Inv) {start t : Nat} {c : CboCall} (h : Run r start t c) : CallGeom r c := by
  have := h.srcIn; have := h.dstIn
  refine ⟨fun i hi => ?_, fun i hi => ?_, h.nSrc, h.nDst⟩
  · rw [h.src i hi]; exact occupied_phys hI (by omega)
  · rw [h.dst i hi, occupied_phys_iff hI (by omega)]
    exact ⟨phys_lt_cap hI (by omega), by omega⟩

variable {m m' : Mem} {start len t : Nat}

/-- a call whose source region (as far as it can be read: `k` cells) is a piece of the data slice `hs` and whose
destination region is a piece of the free slice `hd`.  The arithmetic comes as one conjunction, which every use
discharges by one `omega`: the two pieces lie in their slices, then the fields `srcIn` (with `k`), `dstIn`, `dstEnd`,
`disj`, `nSrc`, `nDst` of `Run` -/
theorem Run.ofSegs {si sn soff di dn doff srcOff srcLen dstOff dstLen n : Nat} (k : Nat)
    (hs : Seg r si sn soff) (hd : Seg r di dn doff) (hk : min srcLen dstLen ≤ k)
    (h : (si ≤ start + t ∧ start + t + k ≤ si + sn ∧ srcOff + si = soff + (start + t)) ∧
      (di ≤ r.len + t ∧ r.len + t + dstLen ≤ di + dn ∧ dstOff + di = doff + (r.len + t)) ∧
      start + t + k ≤ r.len ∧ r.len + t + dstLen ≤ r.cap ∧ dstOff + dstLen ≤ r.cap ∧
      (srcOff + srcLen ≤ dstOff ∨ dstOff + dstLen ≤ srcOff) ∧ n ≤ srcLen ∧ n ≤ dstLen) :
    Run r start t ⟨srcOff, srcLen, dstOff, dstLen, n⟩ :=
  ⟨hs.sub fun _ => ⟨h.1.1, Nat.le_trans (Nat.add_le_add_left hk _) h.1.2.1, h.1.2.2⟩,
    Nat.le_trans (Nat.add_le_add_left hk _) h.2.2.1, hd.sub fun _ => h.2.1, h.2.2.2.1, h.2.2.2.2.1,
    h.2.2.2.2.2.1, h.2.2.2.2.2.2.1, h.2.2.2.2.2.2.2⟩

theorem Filled.copied (hI : r.Inv) (hc : 0 < r.cap) (hF : Filled r m ((r.abs.drop start).take len) t)
    {src dst n k dstLen : Nat} (cp : Copied m m' src dst k) (hn : n ≤ k) (hk : k ≤ dstLen)
    (htl : t + n ≤ len) (hsl : start + len ≤ r.len) (hsrc : Seg r (start + t) n src)
    (hdst : Seg r (r.len + t) dstLen dst) (hin : r.len + t + dstLen ≤ r.cap) :
    Filled r m' ((r.abs.drop start).take len) (t + n) :=
  -- the `i`-th new cell received content cell `start + t + i`, which no earlier step has touched
  hF.grow hI hc (hdst.sub fun _ => ⟨Nat.le_refl _, by omega, rfl⟩) (by omega) cp.1 (fun _ hj => cp.outside hj) hn
    fun i hi => by
      rw [cp.inside (by omega), Nat.add_sub_cancel_left, hsrc i hi, hF.old _ (by omega), getD_take (by omega),
        getD_drop, Nat.add_assoc]
      exact hI.cell_abs (by omega)

theorem Filled.cboCall {C : Nat} (hC : 0 < C) (hI : r.Inv) (hc : 0 < r.cap) {r1 : RingBuffer} {c : CboCall}
    (hF : Filled r r1.mem ((r.abs.drop start).take len) t) (hR : Run r start t c)
    (htl : t + c.n ≤ len) (hsl : start + len ≤ r.len) :
    ∃ m', r1.cboCall C c = .ok { r1 with mem := m', log := (cboEvents C c).reverse ++ r1.log } ∧
      Filled r m' ((r.abs.drop start).take len) (t + c.n) := by
  obtain ⟨m', k, e, hk1, _, hk3, cp⟩ := cbo_ok hC (m := r1.mem) (c := c)
    ⟨hF.init hI hR.src hR.srcIn, by rw [hF.size, hI.alloc]; exact hR.dstEnd, hR.disj, hR.nSrc, hR.nDst⟩
  refine ⟨m', by rw [RingBuffer.cboCall, e]; rfl, ?_⟩
  exact hF.copied hI hc cp hk1 hk3 htl hsl
    (hR.src.sub fun _ => ⟨Nat.le_refl _, by have := hR.nSrc; have := hR.nDst; omega, rfl⟩) hR.dst hR.dstIn

/-- the calls `cs`, made one after the other with `t` cells copied before the first, complete the copy
of `len` cells -/
def Runs (r : RingBuffer) (start len : Nat) : Nat → List CboCall → Prop
  | t, [] => t = len
  | t, c :: cs => Run r start t c ∧ Runs r start len (t + c.n) cs

theorem Runs.le : ∀ {cs : List CboCall} {t : Nat}, Runs r start len t cs → t ≤ len
  | [], _, h => Nat.le_of_eq h
  | _ :: _, _, h => Nat.le_trans (Nat.le_add_right _ _) h.2.le

theorem Runs.geom (hI : r.Inv) : ∀ {cs : List CboCall} {t : Nat}, Runs r start len t cs →
    ∀ c, c ∈ cs → CallGeom r c
  | [], _, _, _, hc => by cases hc
  | _ :: _, _, h, c, hc => by
    rcases List.mem_cons.1 hc with rfl | hc
    · exact h.1.geom hI
    · exact h.2.geom hI c hc

theorem cboCalls_filled {C : Nat} (hC : 0 < C) (hI : r.Inv) (hc : 0 < r.cap) (hsl : start + len ≤ r.len) :
    ∀ (cs : List CboCall) {t : Nat} {r1 : RingBuffer}, Runs r start len t cs →
      Filled r r1.mem ((r.abs.drop start).take len) t →
      ∃ m', cs.foldlM (fun r c => r.cboCall C c) r1 =
          .ok { r1 with mem := m', log := (cs.flatMap (cboEvents C)).reverse ++ r1.log } ∧
        Filled r m' ((r.abs.drop start).take len) len
  | [], t, r1, h, hF => ⟨r1.mem, rfl, by have h : t = len := h; subst h; exact hF⟩
  | c :: cs, t, r1, h, hF => by
    obtain ⟨m1, e1, hF1⟩ := hF.cboCall hC hI hc h.1 h.2.le hsl
    obtain ⟨m2, e2, hF2⟩ := cboCalls_filled hC hI hc hsl cs h.2
      (r1 := { r1 with mem := m1, log := (cboEvents C c).reverse ++ r1.log }) hF1
    refine ⟨m2, ?_, hF2⟩
    rw [List.foldlM_cons, e1, ok_bind, e2, List.flatMap_cons, List.reverse_append, List.append_assoc]

theorem efwuCalls_runs (hI : r.Inv) (hc : 0 < r.cap) {start len : Nat}
    (h1 : start + len ≤ r.len) (h2 : len ≤ r.free) : Runs r start len 0 (efwuCalls r start len) := by
  obtain ⟨s1, s2, f1, f2, -, -, hS⟩ := hI.slices hc
  have hl := hS.len; have hf := hS.free; have hcp := hS.cap
  unfold efwuCalls
  rcases hS.geom with ⟨hw, g⟩ | ⟨hw, g⟩
  · by_cases hg : r.head < r.tail
    · -- content not wrapped: the source is in the first data slice, the destination is the first free slice
      -- and, if that does not suffice, the second
      simp only [hg, ↓reduceIte]
      have hc1 : Run r start 0 ⟨r.head + start, r.tail - r.head - start, r.tail, r.cap - r.tail,
          min len (r.cap - r.tail)⟩ := Run.ofSegs _ hS.data1 hS.free1 (Nat.min_le_left _ _) (by omega)
      split
      · simp only [Runs]
        exact ⟨hc1, Run.ofSegs _ hS.data1 hS.free2 (Nat.min_le_left _ _) (by omega), by omega⟩
      · simp only [Runs]
        exact ⟨hc1, by omega⟩
    · -- empty buffer: one call that copies nothing
      have hg2 : ¬ r.head + start > r.cap := by omega
      have hsp : ¬ min len (r.cap - r.head - start) < len := by omega
      simp only [hg, hg2, hsp, ↓reduceIte, Runs]
      exact ⟨Run.ofSegs 0 hS.data1 hS.free1 (by omega) (by omega), by omega⟩
  · have hg : ¬ r.head < r.tail := by omega
    by_cases hg2 : r.head + start > r.cap
    · -- content wrapped, source in the second data slice; the destination is the one free slice
      simp only [hg, hg2, ↓reduceIte, Runs]
      exact ⟨Run.ofSegs _ hS.data2 hS.free1 (Nat.min_le_left _ _) (by omega), by omega⟩
    · -- source in the first data slice and, if that does not suffice, the second
      simp only [hg, hg2, ↓reduceIte]
      have hc1 : Run r start 0 ⟨r.head + start, r.cap - r.head - start, r.tail, r.head - r.tail,
          min len (r.cap - r.head - start)⟩ := Run.ofSegs _ hS.data1 hS.free1 (Nat.min_le_left _ _) (by omega)
      split
      · simp only [Runs]
        exact ⟨hc1, Run.ofSegs _ hS.data2 hS.free1 (Nat.min_le_left _ _) (by omega), by omega⟩
      · simp only [Runs]
        exact ⟨hc1, by omega⟩

/-- under the two requirements of its `SAFETY` comment none of the `usize` subtractions of
`extend_from_within_unchecked` underflows, and what it does is: make the calls `efwuCalls`, advance `tail` -/
theorem efwu_eq_calls {C : Nat} (hI : r.Inv) (hc : 0 < r.cap) {start len : Nat}
    (h1 : start + len ≤ r.len) (h2 : len ≤ r.free) :
    r.extendFromWithinUnchecked C start len =
      ((efwuCalls r start len).foldlM (fun r c => r.cboCall C c) r >>= fun r2 =>
        pure { r2 with tail := (r.tail + len) % r.cap }) := by
  have hh := hI.head_lt hc; have ht := hI.tail_lt hc; have hgeo := hI.geom hc
  unfold extendFromWithinUnchecked efwuCalls
  rw [hI.lenC_eq, ok_bind, check_bind h1, hI.freeC_eq, ok_bind, check_bind h2,
    umod_ok (x := r.tail + len) hc, umod_ok (x := r.head + start) hc]
  simp only [gen_efwuCase1, gen_efwuCase2, gen_efwuTailSplit, gen_efwuStartSplit, ok_bind]
  by_cases hg : r.head < r.tail
  · rw [if_pos hg, if_pos hg, usub_bind (by omega), usub_bind (by omega)]
    by_cases hw : min len (r.cap - r.tail) < len
    · simp only [hw, ↓reduceIte, List.foldlM_cons, List.foldlM_nil, bind_pure]
      rw [usub_ok (by omega)]
      simp only [ok_bind]
    · simp only [hw, ↓reduceIte, List.foldlM_cons, List.foldlM_nil, bind_pure]
  · rw [if_neg hg, if_neg hg]
    by_cases hg2 : r.head + start > r.cap
    · have hm : (r.head + start) % r.cap = r.head + start - r.cap := by
        rw [wrap_eq hh (by omega), if_neg (by omega)]
      rw [if_pos hg2, if_pos hg2, hm, usub_bind (by omega), usub_bind (by omega)]
      simp only [List.foldlM_cons, List.foldlM_nil, bind_pure]
    · rw [if_neg hg2, if_neg hg2, usub_bind (by omega), usub_bind (by omega), usub_bind (by omega)]
      by_cases hw : min len (r.cap - r.head - start) < len
      · simp only [hw, ↓reduceIte, List.foldlM_cons, List.foldlM_nil, bind_pure]
        rw [usub_ok (by omega)]
        simp only [ok_bind]
      · simp only [hw, ↓reduceIte, List.foldlM_cons, List.foldlM_nil, bind_pure]

theorem Filled.copyWithin (hI : r.Inv) (hc : 0 < r.cap) {start len : Nat} (h1 : start + len ≤ r.len)
    (h2 : len ≤ r.free) {m' : Mem} {lg : List Ev}
    (hF : Filled r m' ((r.abs.drop start).take len) len) :
    ({ r with mem := m', tail := (r.tail + len) % r.cap, log := lg } : RingBuffer).Inv ∧
    ({ r with mem := m', tail := (r.tail + len) % r.cap, log := lg } : RingBuffer).abs =
      Queue.copyWithin r.abs start len ∧
    ({ r with mem := m', tail := (r.tail + len) % r.cap, log := lg } : RingBuffer).len = r.len + len := by
  have hdl : ((r.abs.drop start).take len).length = len := by
    rw [List.length_take, List.length_drop, abs_length]; omega
  have := Filled.sound (data := (r.abs.drop start).take len) hI hc (by rw [hdl]; exact h2)
    (r' := { r with mem := m', tail := (r.tail + len) % r.cap, log := lg }) (by rw [hdl]; exact hF) rfl rfl
    (by rw [hdl])
  rwa [hdl] at this

theorem efwu_ok {C : Nat} (hC : 0 < C) (hI : r.Inv) (hc : 0 < r.cap) {start len : Nat}
    (h1 : start + len ≤ r.len) (h2 : len ≤ r.free) :
    ∃ r', r.extendFromWithinUnchecked C start len = .ok r' ∧ r'.Inv ∧
      r'.abs = Queue.copyWithin r.abs start len ∧ r'.len = r.len + len ∧ r'.cap = r.cap ∧
      r'.log = ((efwuCalls r start len).flatMap (cboEvents C)).reverse ++ r.log := by
  obtain ⟨m', e, hF⟩ := cboCalls_filled hC hI hc h1 (efwuCalls r start len) (efwuCalls_runs hI hc h1 h2)
    (Filled.refl r _)
  obtain ⟨hI', ha, hl⟩ := hF.copyWithin hI hc h1 h2
  exact ⟨_, by rw [efwu_eq_calls hI hc h1 h2, e]; rfl, hI', ha, hl, rfl, rfl⟩

theorem efwu_faults {C : Nat} (hI : r.Inv) {start len : Nat}
    (h : ¬ (start + len ≤ r.len ∧ len ≤ r.free ∧ 0 < r.cap)) :
    ∃ f, r.extendFromWithinUnchecked C start len = .error f := by
  unfold extendFromWithinUnchecked
  rw [hI.lenC_eq, ok_bind]
  by_cases h1 : start + len ≤ r.len
  · rw [check_bind h1, hI.freeC_eq, ok_bind]
    by_cases h2 : r.free ≥ len
    · rw [check_bind h2]
      have h0 : r.cap = 0 := by omega
      -- whatever the copies do, the final `% self.cap` divides by zero
      generalize (if Gen.ringEfwuCase1 r.head r.tail = true then _ else _ : Except Fault RingBuffer) = blk
      cases blk with
      | error e => exact ⟨e, rfl⟩
      | ok r2 => rw [ok_bind, umod_zero h0, error_bind]; exact ⟨_, rfl⟩
    · rw [check_err h2, error_bind]; exact ⟨_, rfl⟩
  · rw [check_err h1, error_bind]; exact ⟨_, rfl⟩

theorem efwu_pre_of_ok {C : Nat} (hI : r.Inv) {start len : Nat}
    {r' : RingBuffer}
    (h : r.extendFromWithinUnchecked C start len = .ok r') : start + len ≤ r.len ∧ len ≤ r.free ∧ 0 < r.cap :=
  Decidable.by_contra fun hn => by
    obtain ⟨f, e⟩ := efwu_faults (C := C) hI hn
    rw [e] at h; cases h

/-- `reserve(len)` followed by the unchecked copy, as the checked `extend_from_within` and `DecodeBuffer::repeat` do -/
theorem reserve_efwu_ok {C : Nat} (hC : 0 < C) (hI : r.Inv) {start len : Nat}
    (h1 : start + len ≤ r.len) (hne : 0 < r.len) :
    ∃ r', (r.reserve len >>= fun r => r.extendFromWithinUnchecked C start len) = .ok r' ∧
      Grown r r' (Queue.copyWithin r.abs start len) len := by
  obtain ⟨r1, hres, hR⟩ := reserve_ok hI len
  rw [hres, ok_bind]
  have hc1 : 0 < r1.cap := hR.inv.cap_pos_of_len (by rw [hR.len]; exact hne)
  obtain ⟨r', e, hI', habs, hlen, hcap, _⟩ := efwu_ok hC hR.inv hc1 (start := start) (len := len)
    (by rw [hR.len]; exact h1) hR.free
  exact ⟨r', e, hI', by rw [habs, hR.abs], by rw [hlen, hR.len], hR.capStep.trans_eq hcap⟩

theorem extendFromWithin_ok {C : Nat} (hC : 0 < C) (hI : r.Inv) {start len : Nat}
    (h1 : start + len ≤ r.len) (hne : 0 < r.len) :
    ∃ r', r.extendFromWithin C start len = .ok r' ∧ Grown r r' (Queue.copyWithin r.abs start len) len := by
  unfold extendFromWithin
  rw [hI.lenC_eq, ok_bind, check_bind (by omega)]
  exact reserve_efwu_ok hC hI h1 hne

theorem extendFromWithin_panics {C : Nat} (hI : r.Inv) {start len : Nat} (h1 : ¬ start + len ≤ r.len) :
    ∃ f, r.extendFromWithin C start len = .error f := by
  unfold extendFromWithin
  rw [hI.lenC_eq, ok_bind, check_err (by omega), error_bind]
  exact ⟨_, rfl⟩

end RingBuffer

end Zstd.Model
