import Zstd.Proofs.MatchTop
import Zstd.Model.EncCoders
/-
C17 ⇒ C02/C16: the script the built-in matcher produces for a frame (`Enc.builtinFrame`: the C17 model
driven the way `FrameCompressor::compress` / `compress_fastest` drive it) is a `ValidMatcher` in the sense of
the encoder model, and none of the calls panics — for every input and every state of the driver that the
compressor's own call protocol can produce (`BuiltinState`).

The proof does not use that production has a single slice: the invariant is that the bytes the
matcher retains are a SUFFIX of the frame produced so far, whatever was evicted; so a match reported
inside the retained window is a match at the same distance in the frame, and its distance is at
most the advertised window.  (With one 128 KiB slice the retained suffix is the current block only:
`commitSpace_one_slice` of MatchTop.lean.)
-/
namespace Zstd.Proofs.MG
open Zstd Zstd.Model Zstd.Model.MG

def triplesOf : List Seq → List Enc.MSeq
  | [] => []
  | .triple l o m :: r => ⟨l, o, m⟩ :: triplesOf r
  | .literals _ :: r => triplesOf r

def tailOf : List Seq → List Byte
  | [] => []
  | .triple _ _ _ :: r => tailOf r
  | .literals l :: r => l ++ tailOf r

theorem parseOfSeqs_eq : ∀ (seqs : List Seq) (acc : List Enc.MSeq) (tail : List Byte),
    Enc.parseOfSeqs seqs acc tail = { seqs := acc.reverse ++ triplesOf seqs, tail := tail ++ tailOf seqs } := by
  intro seqs
  induction seqs with
  | nil => intro acc tail; simp [Enc.parseOfSeqs, triplesOf, tailOf]
  | cons sq rest ih =>
    intro acc tail
    cases sq with
    | triple l o m => simp [Enc.parseOfSeqs, triplesOf, tailOf, ih]
    | literals l => simp [Enc.parseOfSeqs, triplesOf, tailOf, ih]

theorem enc_copyMatch_eq (off : Nat) : ∀ (n : Nat) (out : List Byte),
    Enc.copyMatch n off out.toArray = (copyMatch out off n).map List.toArray := by
  intro n
  induction n with
  | zero => intro out; rfl
  | succ n ih =>
    intro out
    rw [Enc.copyMatch, copyMatch, List.size_toArray, List.getElem?_toArray]
    split
    · rfl
    · cases out[out.length - off]? with
      | none => rfl
      | some b =>
        simp only []
        rw [List.push_toArray, ih]

theorem parse_execParse (W : Nat) (X : List Byte) (w : Shape) (cur : Array Byte) (b : Nat) (hb : BaseOk w)
    (hlast : w.getLast? = some (cur, b)) (hW : total w ≤ W) :
    ∀ (seqs : List Seq) (pos : Nat), Parse cur w pos seqs →
      Enc.execParse W (triplesOf seqs) (tailOf seqs) (X ++ (flat w).take (total w.dropLast + pos)).toArray
        = some (X ++ flat w).toArray := by
  have htot : total w.dropLast + cur.size = total w := total_dropLast_add_last w (cur, b) hlast
  intro seqs
  induction seqs with
  | nil =>
    intro pos h
    simp only [Parse] at h
    rw [triplesOf, tailOf, Enc.execParse, List.take_of_length_le (by simp; omega)]
    simp
  | cons sq rest ih =>
    intro pos h
    cases sq with
    | literals l =>
      obtain ⟨h1, h2, rfl⟩ := h
      simp only [triplesOf, tailOf, Enc.execParse, List.append_nil]
      rw [h1, List.append_toArray, List.append_assoc, take_append_lits w _ hlast pos cur.size (by omega),
        List.take_of_length_le (by simp; omega)]
    | triple l off ml =>
      obtain ⟨s', h1, h2, h3, h4, h5⟩ := h
      obtain ⟨g1, g2, g3, _, _⟩ := goodIn_bytes w cur b s' off ml hb hlast h4
      have h3' : 3 ≤ minMatchLen := by decide
      simp only [triplesOf, tailOf, Enc.execParse]
      rw [List.append_toArray, List.append_assoc, h2, take_append_lits w _ hlast pos s' h1,
        if_neg (by simp; omega), enc_copyMatch_eq, goodIn_copy X w cur b s' off ml hb hlast h4]
      exact ih (s' + ml) h5

theorem start_validParse (key : KeyFn) (d d' : Driver) (seqs : List Seq)
    (hinv : Inv d) (h : d.startMatching key = .ok (d', seqs)) (h0 : d.mg.suffixIdx = 0)
    (X : List Byte) :
    Enc.validParse d.windowSize (X ++ d.windowBytes.take d.retainedBefore) d.block (Enc.parseOfSeqs seqs [] []) = true := by
  obtain ⟨last, hl, hp⟩ := start_core key d d' seqs hinv h
  rw [h0] at hp
  have hex := parse_execParse d.windowSize X _ last.data last.baseOffset hinv.wf.base (shape_getLast? _ _ hl)
    (by rw [← hinv.wf.size]; exact hinv.wf.le_max) seqs 0 hp
  rw [parseOfSeqs_eq]
  simp only [Enc.validParse, List.reverse_nil, List.nil_append]
  rw [windowBytes_eq, retainedBefore_eq]
  simp only [Nat.add_zero] at hex
  rw [hex]
  have hsplit := (windowBytes_split d last hl).1
  rw [windowBytes_eq, retainedBefore_eq] at hsplit
  rw [List.append_assoc, ← hsplit]
  simp

/-- states of the built-in matcher that the compressor's own call protocol can produce: reachable
from `new(sl, n)` through calls that did not panic, with every vector of capacity `slice_size`
(only spaces obtained from `get_next_space` were committed) -/
def BuiltinState (sl n : Nat) (d : Driver) : Prop := Reachable realKey sl n d ∧ CapsOk d

theorem builtinState_new (sl n : Nat) : BuiltinState sl n (Driver.new sl n) :=
  ⟨.init, by simp [CapsOk, Driver.new, MatchGenerator.new, caps]⟩

theorem builtinState_step {sl n : Nat} {d d' : Driver} (h : BuiltinState sl n d) (op : Op)
    (hstep : d.step realKey op = .ok d')
    (hop : ∀ space cap, op = .commitSpace space cap → space.size ≤ cap ∧ cap = sl) : BuiltinState sl n d' :=
  ⟨.step op h.1 hstep, (protocol_caps_preserved_core realKey d d' h.2 op hstep
    (by rw [(reachable_spec realKey sl n d h.1).2.2]; exact hop)).1⟩

theorem builtinState_getNextSpace (sl n : Nat) (d : Driver) (h : BuiltinState sl n d) :
    BuiltinState sl n d.getNextSpace.1 ∧ d.getNextSpace.2.size = sl :=
  ⟨builtinState_step h .getNextSpace rfl (by simp),
    by rw [protocol_next_space_core d h.2, (reachable_spec realKey sl n d h.1).2.2]⟩

theorem builtinState_reset (sl n : Nat) (d : Driver) (h : BuiltinState sl n d) : BuiltinState sl n d.reset :=
  builtinState_step h .reset rfl (by simp)

/-- the invariant of the block loop: the state is in the protocol, the last block is processed, and
what the matcher retains is a suffix of the frame `pre` produced so far -/
def LoopState (sl n : Nat) (pre : List Byte) (d : Driver) : Prop :=
  BuiltinState sl n d ∧ d.mg.processed = true ∧ ∃ k, d.windowBytes = pre.drop k

theorem suffix_after_commit (pre blk : List Byte) (a b : Nat) :
    ∃ k, (pre.drop a).drop b ++ blk = (pre ++ blk).drop k := by
  by_cases h : a + b ≤ pre.length
  · exact ⟨a + b, by rw [List.drop_drop, List.drop_append_of_le_length h]⟩
  · refine ⟨pre.length, ?_⟩
    rw [List.drop_drop, List.drop_of_length_le (by omega), List.drop_append_of_le_length (Nat.le_refl _),
      List.drop_of_length_le (Nat.le_refl _)]

theorem block_ne_nil_window (d : Driver) (h : d.block ≠ []) : d.mg.window ≠ [] := by
  intro hnil
  apply h
  simp [Driver.block, hnil]

theorem builtin_block (sl n : Nat) (hn : 1 ≤ n) (pre blk : List Byte) (hne : blk ≠ []) (hlen : blk.length ≤ sl)
    (d1 : Driver) (h1 : LoopState sl n pre d1) :
    ∃ d2, d1.commitSpace blk.toArray sl = .ok d2 ∧
      (∃ d3, d2.skipMatching realKey = .ok d3 ∧ LoopState sl n (pre ++ blk) d3) ∧
      (∃ d3 seqs, d2.startMatching realKey = .ok (d3, seqs) ∧ LoopState sl n (pre ++ blk) d3 ∧
        Enc.validParse (n * sl) pre blk (Enc.parseOfSeqs seqs [] []) = true) := by
  obtain ⟨hbs1, hproc1, k0, hk0⟩ := h1
  obtain ⟨hinv1, hmax1, _⟩ := reachable_spec realKey sl n d1 hbs1.1
  have hfit : blk.toArray.size ≤ d1.mg.maxWindowSize := by
    rw [hmax1, List.size_toArray]
    exact Nat.le_trans hlen (Nat.le_mul_of_pos_left sl hn)
  obtain ⟨d2, hcommit, hinv2, _⟩ := (commitSpace_sat d1 blk.toArray sl hinv1).returns ⟨hproc1, hfit⟩
  have hbs2 : BuiltinState sl n d2 := builtinState_step hbs1 (.commitSpace blk.toArray sl) hcommit (by
    intro sp cp hh
    cases hh
    exact ⟨by simpa using hlen, rfl⟩)
  obtain ⟨hs0, hblk, ⟨k, hk⟩, _, hws⟩ := commit_fresh_core d1 d2 hinv1 _ _ hcommit
  obtain ⟨k', hk'⟩ := suffix_after_commit pre blk k0 k
  have hsuf2 : d2.windowBytes = (pre ++ blk).drop k' := by rw [hk, hk0, hk']
  have hready : KeyOk realKey ∧ d2.mg.window ≠ [] := ⟨realKey_ok, block_ne_nil_window d2 (by rw [hblk]; exact hne)⟩
  refine ⟨d2, hcommit, ?_, ?_⟩
  · obtain ⟨g3, hskip, _⟩ := (skipMatching_sat realKey d2.mg hinv2.wf hinv2.sok).returns hready
    have hskipd := Driver.skipMatching_eq_ok.mpr ⟨g3, hskip, rfl⟩
    obtain ⟨hwb3, hproc3⟩ := skip_keeps_window_core realKey d2 _ hskipd
    exact ⟨_, hskipd, builtinState_step hbs2 .skipMatching hskipd (by simp), hproc3, k', hwb3.trans hsuf2⟩
  · obtain ⟨⟨g3, seqs⟩, hstart, _⟩ := (startMatching_sat realKey d2.mg hinv2.wf hinv2.sok).returns hready
    have hstartd := Driver.startMatching_eq_ok.mpr ⟨g3, hstart, rfl⟩
    have hstep3 : d2.step realKey .startMatching = .ok { d2 with mg := g3 } := by simp [Driver.step, hstartd]
    obtain ⟨hwb3, _, hproc3⟩ := matching_keeps_window_core realKey d2 _ seqs hinv2 hstartd
    refine ⟨_, seqs, hstartd, ⟨builtinState_step hbs2 .startMatching hstep3 (by simp), hproc3, k', hwb3.trans hsuf2⟩, ?_⟩
    -- the parse is valid on top of the evicted part of the frame followed by what is retained
    have hv := start_validParse realKey d2 _ seqs hinv2 hstartd hs0 ((pre ++ blk).take k')
    obtain ⟨last, hl2⟩ := Option.isSome_iff_exists.mp (List.getLast?_isSome.mpr hready.2)
    have hsplit := (windowBytes_split d2 last hl2).1
    rw [hblk, List.toList_toArray] at hsplit hv
    -- `X ++ windowBytes = pre ++ blk` and `windowBytes = (retained before) ++ blk`: cancel `blk`
    have hall : (pre ++ blk).take k' ++ d2.windowBytes = pre ++ blk := by
      rw [hsuf2]; exact List.take_append_drop _ _
    rw [hsplit, ← List.append_assoc] at hall
    rwa [List.append_cancel_right hall, hws, Driver.windowSize, hmax1] at hv

/-- what the first blocks `arr` of a script say about the frame `data`: every space has `S` bytes, and the
parse of a non-constant block regenerates it on top of everything before it -/
def BlocksOk (W S : Nat) (data : List Byte) (arr : Array Enc.MBlock) : Prop :=
  ∀ i mb, arr[i]? = some mb → mb.space = S ∧
    (Enc.isConstant ((data.drop (i * S)).take S) = false →
      Enc.validParse W (data.take (i * S)) ((data.drop (i * S)).take S) mb.parse = true)

theorem BlocksOk.push {W S : Nat} {data : List Byte} {arr : Array Enc.MBlock} (h : BlocksOk W S data arr)
    (mb : Enc.MBlock) (hs : mb.space = S)
    (hv : Enc.isConstant ((data.drop (arr.size * S)).take S) = false →
      Enc.validParse W (data.take (arr.size * S)) ((data.drop (arr.size * S)).take S) mb.parse = true) :
    BlocksOk W S data (arr.push mb) := by
  intro i mb' hi
  rw [Array.getElem?_push] at hi
  split at hi
  · cases hi
    subst i
    exact ⟨hs, hv⟩
  · exact h i mb' hi

/-- the loop `builtinBlocks` = the block loop of `compress` at the Fastest level seen from the matcher; the
blocks collected so far say where in the frame the loop stands -/
theorem builtinBlocks_spec (sl n : Nat) (hsl : 0 < sl) (hn : 1 ≤ n) (data : List Byte) :
    ∀ (fuel : Nat) (d : Driver) (acc : Array Enc.MBlock),
      LoopState sl n (data.take (acc.size * sl)) d → BlocksOk (n * sl) sl data acc →
      data.length - acc.size * sl + 2 ≤ fuel →
      ∃ d' arr, Enc.builtinBlocks fuel d (data.drop (acc.size * sl)) acc = .ok (d', arr) ∧ BuiltinState sl n d' ∧
        BlocksOk (n * sl) sl data arr ∧ data.length < arr.size * sl := by
  intro fuel
  induction fuel with
  | zero => intro d acc _ _ hf; omega
  | succ fuel ih =>
    intro d acc hd hok hf
    obtain ⟨hbs1, hsz⟩ := builtinState_getNextSpace sl n d hd.1
    have h1 : LoopState sl n (data.take (acc.size * sl)) d.getNextSpace.1 :=
      ⟨hbs1, by rw [getNextSpace_mg]; exact hd.2.1, by simpa only [Driver.windowBytes, getNextSpace_mg] using hd.2.2⟩
    unfold Enc.builtinBlocks
    generalize d.getNextSpace = gs at hsz h1
    obtain ⟨d1, space⟩ := gs
    simp only [] at hsz h1 ⊢
    rw [hsz]
    generalize hrest : data.drop (acc.size * sl) = rest at *
    have hlen : rest.length = data.length - acc.size * sl := by rw [← hrest, List.length_drop]
    have hsize : ∀ mb, (acc.push mb).size * sl = acc.size * sl + sl := fun mb => by rw [Array.size_push, Nat.add_one_mul]
    -- after the call the block is pushed; the loop ends with a short block or goes on
    have tail : ∀ (d3 : Driver) (mb : Enc.MBlock), LoopState sl n (data.take (acc.size * sl) ++ rest.take sl) d3 →
        mb.space = sl →
        (Enc.isConstant (rest.take sl) = false →
          Enc.validParse (n * sl) (data.take (acc.size * sl)) (rest.take sl) mb.parse = true) →
        ∃ d' arr, (if rest.length < sl then Except.ok (d3, acc.push mb)
            else Enc.builtinBlocks fuel d3 (rest.drop sl) (acc.push mb)) = .ok (d', arr) ∧
          BuiltinState sl n d' ∧ BlocksOk (n * sl) sl data arr ∧ data.length < arr.size * sl := by
      intro d3 mb h3 hsp hv
      have hok' := hok.push mb hsp (by rw [hrest]; exact hv)
      by_cases hlast : rest.length < sl
      · rw [if_pos hlast]
        exact ⟨d3, _, rfl, h3.1, hok', by rw [hsize]; omega⟩
      · rw [if_neg hlast]
        rw [← hrest, ← List.take_add, ← hsize mb] at h3
        rw [← hrest, List.drop_drop, ← hsize mb]
        exact ih d3 (acc.push mb) h3 hok' (by rw [hsize]; omega)
    by_cases hemp : (rest.take sl).isEmpty = true
    · -- no data left: the extra empty block
      simp only [hemp, if_true]
      have hnil : rest.take sl = [] := List.isEmpty_iff.mp hemp
      have hrest0 : rest = [] := (List.take_eq_nil_iff.mp hnil).resolve_left (by omega)
      refine ⟨d1, _, rfl, h1.1, hok.push ⟨sl, {}⟩ rfl ?_, ?_⟩
      · intro h; rw [hrest, hnil] at h; simp [Enc.isConstant] at h
      · rw [hrest0] at hlen
        rw [hsize]
        simp only [List.length_nil] at hlen
        omega
    · simp only [hemp, Bool.false_eq_true, if_false]
      obtain ⟨d2, hcommit, ⟨d3s, hskip, hs3⟩, ⟨d3m, seqs, hstart, hm3, hvalid⟩⟩ := builtin_block sl n hn
        (data.take (acc.size * sl)) (rest.take sl) (fun h => hemp (List.isEmpty_iff.mpr h)) (List.length_take_le _ _) d1 h1
      simp only [hcommit]
      by_cases hconst : Enc.isConstant (rest.take sl) = true
      · simp only [hconst, if_true, hskip]
        exact tail d3s ⟨sl, {}⟩ hs3 rfl (by intro h; rw [hconst] at h; cases h)
      · simp only [hconst, Bool.false_eq_true, if_false, hstart]
        exact tail d3m ⟨sl, _⟩ hm3 rfl (fun _ => hvalid)

theorem blockStart_const (script : Nat → Enc.MBlock) (S : Nat) (h : ∀ i, (script i).space = S) :
    ∀ i, Enc.blockStart script i = i * S := by
  intro i
  induction i with
  | zero => simp [Enc.blockStart]
  | succ i ih => rw [Enc.blockStart, ih, h i, Nat.add_mul]; omega

theorem builtinFrame_fastest_blocks (sl n : Nat) (hsl : 0 < sl) (hn : 1 ≤ n) (d : Driver) (hbs : BuiltinState sl n d)
    (data : List Byte) :
    ∃ d' arr, Enc.builtinFrame .fastest d data = .ok (d', arr) ∧ BuiltinState sl n d' ∧
      BlocksOk (n * sl) sl data arr ∧ data.length < arr.size * sl := by
  obtain ⟨hnil0, hproc0⟩ := reset_empties_window_core d
  have := builtinBlocks_spec sl n hsl hn data (data.length + 2) d.reset #[]
    ⟨builtinState_reset sl n d hbs, hproc0, 0, by simpa using hnil0⟩ (fun i mb h => by simp at h) (by simp)
  simpa [Enc.builtinFrame] using this

/-- the script of one Fastest frame is a valid matcher (for the slice size `sl` and `n` slices the
driver was created with, as long as spaces fit the format's block maximum and the window its
descriptor); the matcher never panics and ends in a `BuiltinState` again -/
theorem builtinFrame_fastest_valid (sl n : Nat) (hsl : 0 < sl) (hn : 1 ≤ n) (hmax : sl ≤ Gen.maxBlockSize)
    (hw : n * sl ≤ 2 ^ 41) (d : Driver) (hbs : BuiltinState sl n d) (data : List Byte) :
    ∃ d' arr, Enc.builtinFrame .fastest d data = .ok (d', arr) ∧ BuiltinState sl n d' ∧
      Enc.ValidMatcher (n * sl) (Enc.scriptOfArray arr sl) data := by
  obtain ⟨d', arr, hrun, hbs', hok, hend⟩ := builtinFrame_fastest_blocks sl n hsl hn d hbs data
  refine ⟨d', arr, hrun, hbs', ?_⟩
  have hspace : ∀ i, (Enc.scriptOfArray arr sl i).space = sl := by
    intro i
    unfold Enc.scriptOfArray
    cases hi : arr[i]? with
    | none => rfl
    | some b => exact (hok i b hi).1
  refine ⟨hw, fun i => by rw [hspace i]; exact hsl, fun i => by rw [hspace i]; exact hmax, ?_⟩
  intro i
  simp only []
  rw [blockStart_const _ sl hspace i, hspace i]
  intro hc
  unfold Enc.scriptOfArray
  cases hi : arr[i]? with
  | some b => exact (hok i b hi).2 hc
  | none =>
    -- beyond the blocks of the script there is no data, and an empty block counts as constant
    have : arr.size * sl ≤ i * sl := Nat.mul_le_mul_right sl (Array.getElem?_eq_none_iff.mp hi)
    rw [List.drop_of_length_le (by omega)] at hc
    simp [Enc.isConstant] at hc

theorem builtinTakeSpaces_state (sl n : Nat) : ∀ (fuel : Nat) (d : Driver) (left : Nat) (acc : Array Enc.MBlock),
    BuiltinState sl n d → BuiltinState sl n (Enc.builtinTakeSpaces fuel d left acc).1 := by
  intro fuel
  induction fuel with
  | zero => intro d left acc h; exact h
  | succ fuel ih =>
    intro d left acc h
    obtain ⟨h1, _⟩ := builtinState_getNextSpace sl n d h
    unfold Enc.builtinTakeSpaces
    generalize d.getNextSpace = gs at h1
    obtain ⟨d1, space⟩ := gs
    simp only [] at h1 ⊢
    split
    · exact h1
    · exact ih _ _ _ h1

/-- driven the way `FrameCompressor::compress` drives it, at every level, the built-in matcher never panics (the
model never returns a `Fault`, its fuel included) and is left in a `BuiltinState`, so the statement applies
again to the next frame of the same compressor -/
theorem builtinFrame_no_fault (sl n : Nat) (hsl : 0 < sl) (hn : 1 ≤ n) (lvl : Enc.Level) (d : Driver)
    (hbs : BuiltinState sl n d) (data : List Byte) :
    ∃ d' arr, Enc.builtinFrame lvl d data = .ok (d', arr) ∧ BuiltinState sl n d' := by
  have hbs0 := builtinState_reset sl n d hbs
  cases lvl with
  | fastest =>
    obtain ⟨d', ext, hrun, hbs', _⟩ := builtinFrame_fastest_blocks sl n hsl hn d hbs data
    exact ⟨d', _, hrun, hbs'⟩
  | uncompressed =>
    exact ⟨_, _, rfl, builtinTakeSpaces_state sl n (data.length + 2) d.reset data.length #[] hbs0⟩
  | default => exact ⟨_, _, rfl, (builtinState_getNextSpace sl n _ hbs0).1⟩
  | better => exact ⟨_, _, rfl, (builtinState_getNextSpace sl n _ hbs0).1⟩
  | best => exact ⟨_, _, rfl, (builtinState_getNextSpace sl n _ hbs0).1⟩

/-- the built-in matcher of ONE compressor after a list of `compress()` calls (level, input) — what
`Driver/Enc.lean` `runReuse` threads through the frames of a history; a frame whose matcher model
faults (never, by `builtinFrame_no_fault`) leaves the state as it was -/
def builtinHistory : List (Enc.Level × List Byte) → Driver → Driver
  | [], d => d
  | (lvl, data) :: rest, d =>
    match Enc.builtinFrame lvl d data with
    | .ok (d', _) => builtinHistory rest d'
    | .error _ => builtinHistory rest d

theorem builtinHistory_state (sl n : Nat) (hsl : 0 < sl) (hn : 1 ≤ n) :
    ∀ (jobs : List (Enc.Level × List Byte)) (d : Driver), BuiltinState sl n d → BuiltinState sl n (builtinHistory jobs d) := by
  intro jobs
  induction jobs with
  | nil => intro d h; exact h
  | cons j rest ih =>
    intro d h
    obtain ⟨lvl, data⟩ := j
    obtain ⟨d', arr, hrun, hbs'⟩ := builtinFrame_no_fault sl n hsl hn lvl d h data
    simp only [builtinHistory, hrun]
    exact ih d' hbs'

end Zstd.Proofs.MG
