import Zstd.Proofs.HufTable.N002
import Zstd.Proofs.HufTable.N113
/-
The finite table of `Zstd/Proofs/HufTable/*.lean` (kernel evaluation of `tableFast`, Proofs/HufTableEval)
assembled: `tableOk n` for every alphabet size `n = 2 … 256`, and its first half, the shape check.
-/
namespace Zstd.Proofs.HufLt128

theorem tableOk_all (n : Nat) (h1 : 2 ≤ n) (h2 : n ≤ 256) : tableOk n = true := by
  have all : (List.range' 2 111 ++ List.range' 113 144).all tableFast = true := by
    simp only [List.all_append, ok_2, ok_113, Bool.and_self]
  exact tableOk_of_tableFast
    (List.all_eq_true.mp all n (by simp only [List.mem_append, List.mem_range'_1]; omega))

end Zstd.Proofs.HufLt128

namespace Zstd.Proofs.HufShape

theorem shapeOk_all (n : Nat) (h1 : 2 ≤ n) (h2 : n ≤ 256) : shapeOk n = true :=
  (Bool.and_eq_true _ _ ▸ HufLt128.tableOk_all n h1 h2).1

end Zstd.Proofs.HufShape
