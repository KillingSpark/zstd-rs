import Zstd.Proofs.FseStream
/-
Round trip of the two-state ("interleaved") FSE coder: `FSEEncoder::encode_interleaved`
(`fse_encoder.rs:53-113`) against the two-state loop of the Huffman weight reader
(`huff0_decoder.rs:184-234`), from the abstract coupling of `Zstd.Proofs.FseStream` plus zero-bit
avoidance for the start states (`Coupled2`).
-/
namespace Zstd.Proofs.FseStreamInter
open Zstd Zstd.Spec Zstd.Model.Fse Zstd.Model.BitIO Zstd.Proofs.BitIO Zstd.Proofs.FseStream

/-- `Coupled` plus what the end detection of the two-state decoder needs: the decoder over-reads with
the last state (always a start state), so that state must read at least one bit (zero-bit avoidance,
every probability ≤ 2^(al-1)), and the entry it jumps to (`baseline + 0`) must exist. -/
structure Coupled2 (et : ETable) (dt : DTable) (al : Nat) (usable : Nat → Prop) : Prop
    extends Coupled et dt al usable where
  decSize : dt.decode.size = 2 ^ al
  startBits : ∀ s st, usable s → et.startState s = .ok st → 1 ≤ st.numBits ∧ st.baseline < 2 ^ al

variable {et : ETable} {dt : DTable} {al : Nat} {usable : Nat → Prop}

/-- the two-state encoder as an alternating machine: `a` is the state that acts next, `b` the one that
acted most recently -/
def encAlt (t : ETable) : List Nat → BitWriter → EState → EState → Except Fault (BitWriter × EState × EState)
  | [], w, a, b => .ok (w, a, b)
  | x :: xs, w, a, b =>
    match encStep t w a x with
    | .error f => .error f
    | .ok (w, a') => encAlt t xs w b a'

/-- the symbols of the state to act next and of the one that acted last, after `encAlt` over the list -/
def symAlt : List Nat → Nat → Nat → Nat × Nat
  | [], ca, cb => (ca, cb)
  | x :: xs, _, cb => symAlt xs cb x

/-- the two-state decoder as an alternating machine (one symbol per step, no `TooManyWeights` test);
`d1` emits and is updated next -/
def decAlt (t : DTable) : Nat → Decoder → Decoder → BitReaderRev → List Nat → Except Err (Option (List Nat) × BitReaderRev)
  | 0, _, _, br, _ => .ok (none, br)
  | fuel + 1, d1, d2, br, acc =>
    match d1.updateState t br with
    | .error e => .error e
    | .ok (d1', br) =>
      if br.bitsRemaining ≤ -1 then .ok (some ((d2.decodeSymbol :: d1.decodeSymbol :: acc).reverse), br)
      else decAlt t fuel d2 d1' br (d1.decodeSymbol :: acc)

theorem encAlt_append (t : ETable) : ∀ (xs ys : List Nat) (w : BitWriter) (a b : EState),
    encAlt t (xs ++ ys) w a b =
      match encAlt t xs w a b with
      | .error f => .error f
      | .ok (w', a', b') => encAlt t ys w' a' b' := by
  intro xs
  induction xs with
  | nil => intro ys w a b; rfl
  | cons x xs ih =>
    intro ys w a b
    simp only [List.cons_append, encAlt]
    cases encStep t w a x with
    | error f => rfl
    | ok p => obtain ⟨w1, a1⟩ := p; exact ih ys w1 b a1

/-- what the ENCODER needs of a table pair: the next state of a usable symbol exists, its range contains the old
index, and it is `G`ood; `G` carries what the decoder side needs (`Good dt al` for `Coupled`, `SGood T al` for
`SeqCoupled.SCoupled`), possibly with more (a bound on `numBits`) -/
structure EncOK (et : ETable) (al : Nat) (usable : Nat → Prop) (G : Nat → EState → Prop) : Prop where
  al_le : al ≤ 31
  encLog : et.accLog = .ok al
  good : ∀ s st, G s st → st.index < 2 ^ al ∧ st.numBits ≤ al
  next : ∀ s idx, usable s → idx < 2 ^ al →
    ∃ st, et.nextState s idx = .ok st ∧ st.baseline ≤ idx ∧ idx < st.baseline + 2 ^ st.numBits ∧ G s st

theorem EncOK.ofCoupled (h : Coupled et dt al usable) : EncOK et al usable (Good dt al) :=
  ⟨h.al_le, h.encLog, fun _ _ g => ⟨g.1, g.2.2⟩, h.next⟩

/-- `AltRun G p q xs p' q' F`: absorbing the symbols `xs` alternately, starting with the state `p` (a pair of a
symbol and a state of it) and then `q`, ends with `p'` acting next and `q'`, and writes the fields `F`; every state
entered is `G`ood -/
inductive AltRun (G : Nat → EState → Prop) :
    Nat × EState → Nat × EState → List Nat → Nat × EState → Nat × EState → List Bool → Prop
  | nil {p q} : AltRun G p q [] p q []
  | cons {ca a q x nx xs p' q' F} : G x nx → nx.baseline ≤ a.index → a.index < nx.baseline + 2 ^ nx.numBits →
      AltRun G q (x, nx) xs p' q' F →
      AltRun G (ca, a) q (x :: xs) p' q' (bitsOfLE nx.numBits (a.index - nx.baseline) ++ F)

section
variable {G G' : Nat → EState → Prop} {p q p' q' : Nat × EState} {xs : List Nat} {F : List Bool}

theorem AltRun.mono (hG : ∀ s st, G s st → G' s st) (h : AltRun G p q xs p' q' F) : AltRun G' p q xs p' q' F := by
  induction h with
  | nil => exact .nil
  | cons hg h1 h2 _ ih => exact .cons (hG _ _ hg) h1 h2 ih

theorem AltRun.final (P : Nat × EState → Prop) (hG : ∀ s st, G s st → P (s, st)) (h : AltRun G p q xs p' q' F) :
    P p → P q → P p' ∧ P q' := by
  induction h with
  | nil => exact fun hp hq => ⟨hp, hq⟩
  | cons hg _ _ _ ih => exact fun _ hq => ih hq (hG _ _ hg)

theorem AltRun.syms (h : AltRun G p q xs p' q' F) : p'.1 = (symAlt xs p.1 q.1).1 ∧ q'.1 = (symAlt xs p.1 q.1).2 := by
  induction h with
  | nil => exact ⟨rfl, rfl⟩
  | cons _ _ _ _ ih => exact ih

theorem AltRun.length_le (cost : Nat → Nat) (hcost : ∀ s st, G s st → st.numBits ≤ cost s)
    (h : AltRun G p q xs p' q' F) : F.length ≤ (xs.map cost).sum := by
  induction h with
  | nil => simp
  | cons hg _ _ _ ih =>
    have := hcost _ _ hg
    simp only [List.length_append, length_bitsOfLE, List.map_cons, List.sum_cons]
    omega

end

theorem encAlt_run {G : Nat → EState → Prop} (h : EncOK et al usable G) :
    ∀ (xs : List Nat) (p q : Nat × EState) (w : BitWriter) (L : List Bool),
      WInv w L → p.2.index < 2 ^ al → q.2.index < 2 ^ al → (∀ x ∈ xs, usable x) →
      ∃ w' p' q' F, encAlt et xs w p.2 q.2 = .ok (w', p'.2, q'.2) ∧ WInv w' (L ++ F) ∧ AltRun G p q xs p' q' F := by
  intro xs
  induction xs with
  | nil => intro p q w L hw _ _ _; exact ⟨w, p, q, [], rfl, by simpa using hw, .nil⟩
  | cons x xs ih =>
    intro p q w L hw hp hq hu
    obtain ⟨nx, hnx, h1, h2, hgn⟩ := h.next x p.2.index (hu x (List.mem_cons_self ..)) hp
    obtain ⟨w1, hw1, hinv1⟩ := encStep_ok hw hnx h1 h2 (by have := (h.good _ _ hgn).2; have := h.al_le; omega)
    obtain ⟨w', p', q', F', henc, hw', hrun⟩ :=
      ih q (x, nx) w1 _ hinv1 hq (h.good _ _ hgn).1 (fun y hy => hu y (List.mem_cons_of_mem _ hy))
    exact ⟨w', p', q', _, by simp only [encAlt, hw1, henc], by rwa [← List.append_assoc], .cons hgn h1 h2 hrun⟩

theorem AltRun.decAlt (hal : al ≤ 31) {p q p' q' : Nat × EState} {xs : List Nat} {F : List Bool}
    (h : AltRun (Good dt al) p q xs p' q' F) : Good dt al p.1 p.2 → Good dt al q.1 q.2 →
    ∀ (src : Array Nat) (r : BitReaderRev) (rest : List Bool) (m : Nat) (acc : List Nat),
      Rem src r (F.reverse ++ rest) →
      ∃ r', decAlt dt (xs.length + m) (D q'.1 q'.2) (D p'.1 p'.2) r acc
              = decAlt dt m (D q.1 q.2) (D p.1 p.2) r' (xs ++ acc) ∧ Rem src r' rest := by
  induction h with
  | nil => intro _ _ src r rest m acc hr; exact ⟨r, by simp, hr⟩
  | @cons ca a q x nx xs p' q' F hgn h1 h2 _ ih =>
    intro hp hq src r rest m acc hr
    rw [List.reverse_append, List.append_assoc] at hr
    obtain ⟨r1, hd1, hr1⟩ := ih hq hgn src r _ (m + 1) acc hr
    obtain ⟨r2, hup2, hr2⟩ := update_reads hal hp hgn h1 h2 hr1
    refine ⟨r2, ?_, hr2⟩
    -- the reader is still inside the stream, so the loop goes on
    rw [show (x :: xs).length + m = xs.length + (m + 1) by simp only [List.length_cons]; omega, hd1,
      FseStreamInter.decAlt, show (D x nx).updateState dt r1 = _ from hup2]
    simp only [if_neg (show ¬ r2.bitsRemaining ≤ -1 by rw [hr2.bitsRemaining]; omega), Decoder.decodeSymbol,
      entryOf, List.cons_append]

theorem readBEPad_nil (n : Nat) : (readBEPad n []).1 = 0 := by
  rw [Zstd.Proofs.BitIO.readBEPad_def]
  split <;> simp [valBE]

/-- With every bit consumed the next `update_state` of a start state reads its `numBits ≥ 1` bits past the
beginning (zero fill), lands on the entry `baseline + 0`, and the loop stops. -/
theorem decAlt_final (hc : Coupled2 et dt al usable) {src : Array Nat} {r : BitReaderRev} {c : Nat} {st : EState}
    (hu : usable c) (hst : et.startState c = .ok st) (hg : Good dt al c st)
    (hr : Rem src r []) (m : Nat) (d2 : Decoder) (acc : List Nat) :
    ∃ r', decAlt dt (m + 1) (D c st) d2 r acc = .ok (some ((d2.decodeSymbol :: c :: acc).reverse), r') ∧
      r'.bitsRemaining = -(st.numBits : Int) ∧ 1 ≤ st.numBits := by
  obtain ⟨hnb1, hbase⟩ := hc.startBits c st hu hst
  obtain ⟨r', hget, hrem, _⟩ := hr.getBitsPad (n := st.numBits) (by have := hg.2.2; have := hc.al_le; omega)
  rw [FseStreamInter.readBEPad_nil] at hget
  have hlt : st.baseline < 2 ^ 32 :=
    Nat.lt_of_lt_of_le hbase (Nat.pow_le_pow_right (by omega) (by have := hc.al_le; omega))
  have hsz : st.baseline < dt.decode.size := by rw [hc.decSize]; exact hbase
  simp only [List.length_nil] at hrem
  refine ⟨r', ?_, by omega, hnb1⟩
  simp only [decAlt, Decoder.updateState, entryOf, hget, Nat.add_zero, if_neg (show ¬ st.baseline ≥ 2 ^ 32 by omega),
    Array.getElem?_eq_getElem hsz, if_pos (show r'.bitsRemaining ≤ -1 by omega), Decoder.decodeSymbol]

theorem decAlt_ok {t : DTable} {k : Nat} {d1 d2 : Decoder} {br br' : BitReaderRev} {acc out : List Nat}
    (h : decAlt t k d1 d2 br acc = .ok (some out, br')) :
    ∃ k' d1' br1, k = k' + 1 ∧ d1.updateState t br = .ok (d1', br1) ∧
      if br1.bitsRemaining ≤ -1 then (d2.decodeSymbol :: d1.decodeSymbol :: acc).reverse = out ∧ br1 = br'
      else decAlt t k' d2 d1' br1 (d1.decodeSymbol :: acc) = .ok (some out, br') := by
  cases k with
  | zero => simp [decAlt] at h
  | succ k =>
    unfold decAlt at h
    split at h
    · cases h
    · rename_i d1' br1 hup
      refine ⟨k, d1', br1, rfl, hup, ?_⟩
      split
      · rw [if_pos ‹_›] at h; cases h; exact ⟨rfl, rfl⟩
      · rw [if_neg ‹_›] at h; exact h

theorem decAlt_length (t : DTable) : ∀ (k : Nat) (d1 d2 : Decoder) (br : BitReaderRev) (acc out : List Nat) (br' : BitReaderRev),
    decAlt t k d1 d2 br acc = .ok (some out, br') → acc.length + 2 ≤ out.length := by
  intro k
  induction k with
  | zero => intro d1 d2 br acc out br' h; simp [decAlt] at h
  | succ k ih =>
    intro d1 d2 br acc out br' h
    obtain ⟨_, d1', br1, hk, _, h⟩ := decAlt_ok h
    cases hk
    split at h
    · rw [← h.1]; simp
    · have := ih _ _ _ _ _ _ h
      simp only [List.length_cons] at this
      omega

/-- The loop of `huff0_decoder.rs` against the alternating machine.  If the machine stops within `2 * fuel`
steps with at most 257 symbols, the loop returns the same: neither the fuel nor the `weights.len() > 255`
test interferes.  If the machine produces 258 or more symbols, the loop reports `TooManyWeights`: the test
fires after the 256th symbol.  (`decodeInterleavedStream` calls the loop with fuel 130: a round emits two symbols and
the test ends the loop after 128 rounds, so the fuel is never what stops it.) -/
theorem decodeInterLoop_of_decAlt (t : DTable) : ∀ (f k : Nat) (d1 d2 : Decoder) (br : BitReaderRev) (acc out : List Nat)
    (br' : BitReaderRev), decAlt t k d1 d2 br acc = .ok (some out, br') →
    (k ≤ 2 * f → out.length ≤ 257 → decodeInterLoop t f d1 d2 br acc = .ok (some out, br')) ∧
    (258 ≤ out.length → acc.length % 2 = 0 → acc.length ≤ 254 →
      ∃ br'', decodeInterLoop t f d1 d2 br acc = .ok (none, br'')) := by
  intro f
  induction f with
  | zero =>
    intro k d1 d2 br acc out br' h
    obtain ⟨_, _, _, rfl, _⟩ := decAlt_ok h
    exact ⟨fun hk _ => by omega, fun _ _ _ => ⟨br, rfl⟩⟩
  | succ f ih =>
    intro k d1 d2 br acc out br' h
    -- two steps of the machine are one iteration of the loop
    obtain ⟨k, d1', br1, rfl, hup1, h⟩ := decAlt_ok h
    rw [decodeInterLoop, hup1]
    simp only []
    split at h
    · obtain ⟨rfl, rfl⟩ := h
      rw [if_pos ‹_›]
      exact ⟨fun _ _ => rfl, fun hout => by simp only [List.length_reverse, List.length_cons] at hout; omega⟩
    · rw [if_neg ‹_›]
      obtain ⟨k, d2', br2, rfl, hup2, h⟩ := decAlt_ok h
      rw [hup2]
      simp only []
      split at h
      · obtain ⟨rfl, rfl⟩ := h
        rw [if_pos ‹_›]
        exact ⟨fun _ _ => rfl, fun hout => by simp only [List.length_reverse, List.length_cons] at hout; omega⟩
      · rw [if_neg ‹_›]
        have hl := decAlt_length _ _ _ _ _ _ _ _ h
        obtain ⟨ih1, ih2⟩ := ih k _ _ _ _ _ _ h
        simp only [List.length_cons] at hl ih2 ⊢
        refine ⟨fun hk hlen => ?_, fun hout hev hacc => ?_⟩
        · rw [if_neg (by omega)]
          exact ih1 (by omega) hlen
        · by_cases hl : acc.length + 1 + 1 > 255
          · rw [if_pos hl]; exact ⟨br2, rfl⟩
          · rw [if_neg hl]
            exact ih2 hout (by omega) (by omega)

theorem lookup0 (Q tail : List Nat) (y0 y1 : Nat) :
    (Q.reverse ++ (y1 :: y0 :: tail)).toArray[Q.length]? = some y1 := by
  simp

theorem lookup1 (Q tail : List Nat) (y0 y1 : Nat) :
    (Q.reverse ++ (y1 :: y0 :: tail)).toArray[Q.length + 1]? = some y0 := by
  simp

theorem encInterLoop_step (t : ETable) (Q tail : List Nat) (y0 y1 : Nat) (f : Nat) (w : BitWriter) (s1 s2 : EState) :
    encInterLoop t (Q.reverse ++ (y1 :: y0 :: tail)).toArray (f + 1) Q.length w s1 s2 =
      match encStep t w s1 y0 with
      | .error e => .error e
      | .ok (w, s1) =>
        match encStep t w s2 y1 with
        | .error e => .error e
        | .ok (w, s2) =>
          if Q.length < 2 then .ok (w, s1, s2, Q.length)
          else encInterLoop t (Q.reverse ++ (y1 :: y0 :: tail)).toArray f (Q.length - 2) w s1 s2 := by
  rw [encInterLoop, lookup1, lookup0]
  rfl

/-- Going down through the source, the loop of `encode_interleaved` feeds the symbols alternately to
`state_1` and `state_2`: on a source `(rest ++ last).reverse ++ tail` (so `rest` lists the symbols in the
order in which they are absorbed) with `rest` of even length ≥ 2 and at most one left-over symbol `last`,
it is `encAlt` over `rest`, and it stops with `idx = last.length`. -/
theorem encInterLoop_eq (t : ETable) : ∀ (k : Nat) (rest last tail : List Nat) (fuel : Nat) (w : BitWriter) (s1 s2 : EState),
    rest.length = 2 * k + 2 → last.length < 2 → k + 1 ≤ fuel →
    encInterLoop t ((rest ++ last).reverse ++ tail).toArray fuel (rest.length + last.length - 2) w s1 s2 =
      match encAlt t rest w s1 s2 with
      | .error f => .error f
      | .ok (w', a, b) => .ok (w', a, b, last.length) := by
  intro k rest last tail fuel
  induction fuel generalizing k rest tail with
  | zero => intro w s1 s2 _ _ h; omega
  | succ f ih =>
    intro w s1 s2 hlen hlast hfuel
    obtain ⟨y0, y1, R, rfl⟩ : ∃ y0 y1 R, rest = y0 :: y1 :: R := by
      match rest, hlen with
      | y0 :: y1 :: R, _ => exact ⟨y0, y1, R, rfl⟩
    have harr : (y0 :: y1 :: R ++ last).reverse ++ tail = (R ++ last).reverse ++ (y1 :: y0 :: tail) := by simp
    have hidx : (y0 :: y1 :: R).length + last.length - 2 = (R ++ last).length := by
      simp only [List.length_cons, List.length_append]; omega
    rw [harr, hidx, encInterLoop_step]
    simp only [encAlt]
    cases encStep t w s1 y0 with
    | error f => rfl
    | ok p =>
      obtain ⟨w1, a1⟩ := p
      simp only []
      cases encStep t w1 s2 y1 with
      | error f => rfl
      | ok q =>
        obtain ⟨w2, a2⟩ := q
        simp only []
        cases k with
        | zero =>
          obtain rfl : R = [] := List.eq_nil_of_length_eq_zero (by simpa using hlen)
          simp only [List.nil_append, if_pos hlast, encAlt]
        | succ k =>
          have hR : R.length = 2 * k + 2 := by simp only [List.length_cons] at hlen; omega
          rw [if_neg (by simp only [List.length_append]; omega), List.length_append]
          exact ih k R (y1 :: y0 :: tail) w2 a1 a2 hR hlast (by omega)

/-- `encode_interleaved` (stream part) on the source `ys.reverse ++ [c2, c1]`, written with `encAlt`:
start states for the last two symbols, the remaining symbols from the back, alternately; then the index
of the state that would act next, then the index of the state that acted last, then the end mark -/
def encodeInterAlt (t : ETable) (w : BitWriter) (ys : List Nat) (c2 c1 : Nat) : Except Fault BitWriter :=
  match t.startState c1, t.startState c2, t.accLog with
  | .ok s1, .ok s2, .ok al =>
    match encAlt t ys w s1 s2 with
    | .error f => .error f
    | .ok (w, a, b) =>
      match w.writeBits a.index al with
      | .error f => .error f
      | .ok w =>
        match w.writeBits b.index al with
        | .error f => .error f
        | .ok w => writeEndMark w
  | .error f, _, _ => .error f
  | _, .error f, _ => .error f
  | _, _, .error f => .error f

theorem split_even (ys : List Nat) (h2 : 2 ≤ ys.length) :
    ∃ k rest last, ys = rest ++ last ∧ rest.length = 2 * k + 2 ∧ last.length < 2 := by
  refine ⟨ys.length / 2 - 1, ys.take (2 * (ys.length / 2)), ys.drop (2 * (ys.length / 2)),
    (List.take_append_drop _ _).symm, ?_, ?_⟩
  · rw [List.length_take]; omega
  · rw [List.length_drop]; omega

theorem eq_nil_or_singleton {l : List Nat} (h : l.length < 2) : l = [] ∨ ∃ z, l = [z] := by
  cases l with
  | nil => exact .inl rfl
  | cons z l =>
    cases l with
    | nil => exact .inr ⟨z, rfl⟩
    | cons _ _ => simp only [List.length_cons] at h; omega

theorem encodeInterleavedStream_eq (t : ETable) (w : BitWriter) (ys : List Nat) (c2 c1 : Nat) (h2 : 2 ≤ ys.length) :
    encodeInterleavedStream t w (ys.reverse ++ [c2, c1]) = encodeInterAlt t w ys c2 c1 := by
  have hn : (ys.reverse ++ [c2, c1]).length = ys.length + 2 := by simp
  have hg1 : (ys.reverse ++ [c2, c1]).toArray.getD (ys.length + 2 - 1) 0 = c1 := by
    rw [show ys.length + 2 - 1 = ys.length + 1 by omega, Array.getD_eq_getD_getElem?, lookup1]; rfl
  have hg2 : (ys.reverse ++ [c2, c1]).toArray.getD (ys.length + 2 - 2) 0 = c2 := by
    rw [show ys.length + 2 - 2 = ys.length by omega, Array.getD_eq_getD_getElem?, lookup0]; rfl
  unfold encodeInterleavedStream encodeInterAlt
  simp only [hn, if_neg (show ¬ ys.length + 2 < 4 by omega), hg1, hg2]
  cases hs1 : t.startState c1 with
  | error f => rfl
  | ok s1 =>
    cases hs2 : t.startState c2 with
    | error f => rfl
    | ok s2 =>
      cases hal : t.accLog with
      | error f => rfl
      | ok al =>
        simp only []
        obtain ⟨k, rest, last, rfl, hrest, hlast⟩ := split_even ys h2
        -- (a `match last, hlast with` on the final goal abstracts the whole term)
        have hl := eq_nil_or_singleton hlast
        -- the model's fuel `n / 2 + 1`: a round of the loop absorbs two symbols
        have hloop := encInterLoop_eq t k rest last [c2, c1] (((rest ++ last).length + 2) / 2 + 1) w s1 s2 hrest hlast
          (by simp only [List.length_append]; omega)
        rw [show (rest ++ last).length + 2 - 4 = rest.length + last.length - 2 by
          simp only [List.length_append]; omega, hloop, encAlt_append]
        cases encAlt t rest w s1 s2 with
        | error f => rfl
        | ok p =>
          obtain ⟨w', a, b⟩ := p
          simp only []
          rcases hl with rfl | ⟨z, rfl⟩
          · simp [encAlt]; rfl
          · simp only [List.length_singleton, if_pos, encAlt]
            have hz : (((rest ++ [z]).reverse ++ [c2, c1]).toArray.getD 0 0) = z := by simp
            rw [hz]
            cases encStep t w' a z with
            | error f => rfl
            | ok q => obtain ⟨w'', a'⟩ := q; rfl

theorem split_last2 (data : List Nat) (h : 2 ≤ data.length) :
    ∃ (ys : List Nat) (c2 c1 : Nat), data = ys.reverse ++ [c2, c1] := by
  have hr : data.reverse.length = data.length := List.length_reverse
  match hd : data.reverse, hr with
  | c1 :: c2 :: ys, _ => exact ⟨ys, c2, c1, by rw [← List.reverse_reverse (as := data), hd]; simp⟩
  | [], h' => simp at h'; omega
  | [_], h' => simp at h'; omega

theorem encodeInterleaved_run {G : Nat → EState → Prop} (h : EncOK et al usable G) (ys : List Nat) (c2 c1 : Nat)
    (h2 : 2 ≤ ys.length) (hu : ∀ y ∈ ys, usable y) {s1 s2 : EState}
    (hs1 : et.startState c1 = .ok s1) (hs2 : et.startState c2 = .ok s2)
    (hi1 : s1.index < 2 ^ al) (hi2 : s2.index < 2 ^ al) {w : BitWriter} {L : List Bool} (hw : WInv w L) :
    ∃ w' p q F m, AltRun G (c1, s1) (c2, s2) ys p q F ∧ 1 ≤ m ∧ m ≤ 8 ∧
      encodeInterleavedStream et w (ys.reverse ++ [c2, c1]) = .ok w' ∧
      WInv w' (L ++ (F ++ bitsOfLE al p.2.index ++ bitsOfLE al q.2.index ++ bitsOfLE m 1)) ∧
      (L.length + (F ++ bitsOfLE al p.2.index ++ bitsOfLE al q.2.index ++ bitsOfLE m 1).length) % 8 = 0 := by
  obtain ⟨w1, p, q, F, henc, hw1, hrun⟩ := encAlt_run h ys (c1, s1) (c2, s2) w L hw hi1 hi2 hu
  obtain ⟨hip, hiq⟩ := hrun.final (fun p => p.2.index < 2 ^ al) (fun s st g => (h.good s st g).1) hi1 hi2
  have hal63 : al ≤ 63 := by have := h.al_le; omega
  obtain ⟨w2, hw2, hinv2⟩ := bitWriter_refines (v := p.2.index) (n := al) hw1 hip hal63
  obtain ⟨w3, hw3, hinv3⟩ := bitWriter_refines (v := q.2.index) (n := al) hinv2 hiq hal63
  obtain ⟨w4, m, hw4, hm1, hm8, hinv4, hal4⟩ := writeEndMark_ok hinv3
  refine ⟨w4, p, q, F, m, hrun, hm1, hm8, ?_, by simpa [List.append_assoc] using hinv4, ?_⟩
  · rw [encodeInterleavedStream_eq et w ys c2 c1 h2]
    simp only [encodeInterAlt, hs1, hs2, h.encLog, henc, hw2, hw3, hw4]
  · simp only [List.length_append, length_bitsOfLE] at hal4 ⊢; omega

/-- The round trip against the alternating decoder, for every length ≥ 4 (below, `data.len() - 4` of
`encode_interleaved`, `fse_encoder.rs:61`, underflows): the two `init_state`s read the
two final state indices, then `data.length - 1` steps of `decAlt` emit exactly `data`; the last of these
steps is the over-read of the start state of the last but one symbol (`bits_remaining = -numBits ≤ -1`),
all earlier ones keep `bits_remaining ≥ 0`. -/
theorem encode_decode_interleaved_alt (hc : Coupled2 et dt al usable) (data : List Nat)
    (h4 : 4 ≤ data.length) (hu : ∀ x ∈ data, usable x)
    {w : BitWriter} {L : List Bool} (hw : WInv w L) :
    ∃ w' S, encodeInterleavedStream et w data = .ok w' ∧ WInv w' (L ++ S) ∧ (L.length + S.length) % 8 = 0 ∧
      ∀ (src : Array Nat), Bytes src.toList → bitsLE src.toList = S →
        ∃ br d1 br1 d2 br2 br' st, skipEndMark (BitReaderRev.new src) = .ok (some br) ∧
          (Decoder.new dt).initState dt br = .ok (d1, br1) ∧ (Decoder.new dt).initState dt br1 = .ok (d2, br2) ∧
          decAlt dt (data.length - 1) d1 d2 br2 [] = .ok (some data, br') ∧
          et.startState (data.getD (data.length - 2) 0) = .ok st ∧ 1 ≤ st.numBits ∧
          br'.bitsRemaining = -(st.numBits : Int) := by
  obtain ⟨ys, c2, c1, rfl⟩ := split_last2 data (by omega)
  have hn : (ys.reverse ++ [c2, c1]).length = ys.length + 2 := by simp
  rw [hn] at h4
  obtain ⟨s1, hs1, hg1⟩ := hc.start c1 (hu c1 (by simp))
  obtain ⟨s2, hs2, hg2⟩ := hc.start c2 (hu c2 (by simp))
  obtain ⟨w', p, q, F, m, hrun, hm1, hm8, henc, hinv, hal8⟩ :=
    encodeInterleaved_run (EncOK.ofCoupled hc.toCoupled) ys c2 c1 (by omega) (fun y hy => hu y (by simp [hy]))
      hs1 hs2 hg1.1 hg2.1 hw
  obtain ⟨hgp, hgq⟩ := hrun.final (fun p => Good dt al p.1 p.2) (fun _ _ g => g) hg1 hg2
  refine ⟨w', _, henc, hinv, hal8, fun src hb hbits => ?_⟩
  obtain ⟨br, hskip, hr0⟩ := skipEndMark_written hm1 hm8 hb hbits
  rw [List.reverse_append, List.reverse_append] at hr0
  -- dec1.init_state reads the index written last, dec2.init_state the one before
  obtain ⟨br1, hinit1, hr1⟩ := initState_reads hc.toCoupled hgq hr0 (Decoder.new dt)
  obtain ⟨br2, hinit2, hr2⟩ := initState_reads hc.toCoupled hgp hr1 (Decoder.new dt)
  obtain ⟨br3, hd, hr3⟩ := hrun.decAlt hc.al_le hg1 hg2 src br2 [] 1 [] (by simpa using hr2)
  obtain ⟨br4, hfin, hrem, hnb1⟩ := decAlt_final hc (hu c2 (by simp)) hs2 hg2 hr3 0 (D c1 s1) (ys ++ [])
  refine ⟨br, _, br1, _, br2, br4, s2, hskip, hinit1, hinit2, ?_, ?_, hnb1, hrem⟩
  · rw [hn, show ys.length + 2 - 1 = ys.length + 1 by omega, hd, hfin]
    simp [Decoder.decodeSymbol, entryOf]
  · rw [hn, show ys.length + 2 - 2 = ys.length by omega,
      show (ys.reverse ++ [c2, c1]).getD ys.length 0 = c2 by simp [List.getD]]
    exact hs2

/-- 257 is what the `weights.len() > 255` test allows: it is only evaluated after an even number `2j ≤ n - 2` of
symbols; see `encode_decode_interleaved_stream_tooMany` for `n ≥ 258`. -/
theorem encode_decode_interleaved_stream_exact (hc : Coupled2 et dt al usable) (data : List Nat)
    (h4 : 4 ≤ data.length) (hlen : data.length ≤ 257) (hu : ∀ x ∈ data, usable x)
    {w : BitWriter} {L : List Bool} (hw : WInv w L) :
    ∃ w' S, encodeInterleavedStream et w data = .ok w' ∧ WInv w' (L ++ S) ∧ (L.length + S.length) % 8 = 0 ∧
      ∀ (src : Array Nat), Bytes src.toList → bitsLE src.toList = S →
        ∃ br br' st, skipEndMark (BitReaderRev.new src) = .ok (some br) ∧
          decodeInterleavedStream dt br = .ok (some data, br') ∧
          et.startState (data.getD (data.length - 2) 0) = .ok st ∧ 1 ≤ st.numBits ∧
          br'.bitsRemaining = -(st.numBits : Int) := by
  obtain ⟨w', S, h1, h2, h3, h⟩ := encode_decode_interleaved_alt hc data h4 hu hw
  refine ⟨w', S, h1, h2, h3, ?_⟩
  intro src hb hbits
  obtain ⟨br, d1, br1, d2, br2, br', st, hs, hi1, hi2, hd, hst, hnb, hrem⟩ := h src hb hbits
  refine ⟨br, br', st, hs, ?_, hst, hnb, hrem⟩
  simp only [decodeInterleavedStream, hi1, hi2]
  exact (decodeInterLoop_of_decAlt dt 130 (data.length - 1) _ _ _ _ _ _ hd).1 (by omega) hlen

theorem encode_decode_interleaved_stream (hc : Coupled2 et dt al usable) (data : List Nat)
    (h4 : 4 ≤ data.length) (hlen : data.length ≤ 257) (hu : ∀ x ∈ data, usable x)
    {w : BitWriter} {L : List Bool} (hw : WInv w L) :
    ∃ w' S, encodeInterleavedStream et w data = .ok w' ∧ WInv w' (L ++ S) ∧ (L.length + S.length) % 8 = 0 ∧
      ∀ (src : Array Nat), Bytes src.toList → bitsLE src.toList = S →
        ∃ br br', skipEndMark (BitReaderRev.new src) = .ok (some br) ∧
          decodeInterleavedStream dt br = .ok (some data, br') ∧ br'.bitsRemaining ≤ -1 := by
  obtain ⟨w', S, h1, h2, h3, h⟩ := encode_decode_interleaved_stream_exact hc data h4 hlen hu hw
  refine ⟨w', S, h1, h2, h3, ?_⟩
  intro src hb hbits
  obtain ⟨br, br', st, hs, hd, _, hnb, hrem⟩ := h src hb hbits
  exact ⟨br, br', hs, hd, by omega⟩

/-- The bound 257 is exact: the encoder accepts longer inputs (nothing in `encode_interleaved` limits the
length), but the weight reader answers `TooManyWeights` (`none`) to every stream of 258 or more symbols. -/
theorem encode_decode_interleaved_stream_tooMany (hc : Coupled2 et dt al usable) (data : List Nat)
    (hlen : 258 ≤ data.length) (hu : ∀ x ∈ data, usable x)
    {w : BitWriter} {L : List Bool} (hw : WInv w L) :
    ∃ w' S, encodeInterleavedStream et w data = .ok w' ∧ WInv w' (L ++ S) ∧ (L.length + S.length) % 8 = 0 ∧
      ∀ (src : Array Nat), Bytes src.toList → bitsLE src.toList = S →
        ∃ br br', skipEndMark (BitReaderRev.new src) = .ok (some br) ∧
          decodeInterleavedStream dt br = .ok (none, br') := by
  obtain ⟨w', S, h1, h2, h3, h⟩ := encode_decode_interleaved_alt hc data (by omega) hu hw
  refine ⟨w', S, h1, h2, h3, ?_⟩
  intro src hb hbits
  obtain ⟨br, d1, br1, d2, br2, br', st, hs, hi1, hi2, hd, _, _, _⟩ := h src hb hbits
  obtain ⟨br'', hnone⟩ := (decodeInterLoop_of_decAlt dt 130 (data.length - 1) _ _ _ _ _ _ hd).2 hlen (by simp) (by simp)
  refine ⟨br, br'', hs, ?_⟩
  simp only [decodeInterleavedStream, hi1, hi2]
  exact hnone

end Zstd.Proofs.FseStreamInter
