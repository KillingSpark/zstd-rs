import Zstd.Proofs.BlkWF
import Zstd.Proofs.HufStream
/-
What the no-panic proofs need of the abstract reversed reader of the Huffman model (`Huf.Bits.RevReader`,
invariant `ReaderOk`) beyond `Proofs/HufStream`.
-/
namespace Zstd.Proofs.Blk
open Zstd Zstd.Model Zstd.Model.Huf Zstd.Model.Huf.Bits
open Zstd.Proofs.Huf (ReaderOk getBits_ok getBits_spec padVal_lt)

theorem revBitsAux_length (bytes : List Nat) (acc : List Bool) :
    (revBitsAux bytes acc).length = 8 * bytes.length + acc.length := by
  induction bytes generalizing acc with
  | nil => simp [revBitsAux]
  | cons b bs ih =>
    rw [revBitsAux, ih]
    simp [bitsBE]; omega

theorem ReaderOk_new (src : List Nat) : ReaderOk (RevReader.new src) := by
  simp [ReaderOk, RevReader.new, revBits, revBitsAux_length]

theorem bitsRemaining_new (src : List Nat) : (RevReader.new src).bitsRemaining = 8 * src.length := by
  simp [RevReader.new, RevReader.bitsRemaining]

theorem getBits_lt {r : RevReader} (h : ReaderOk r) (n : Nat) : (r.getBits n).1 < 2 ^ n := by
  rw [getBits_spec r h]
  exact padVal_lt n _

theorem bitsRemaining_getBits (r : RevReader) (n : Nat) :
    (r.getBits n).2.bitsRemaining = r.bitsRemaining - n := by
  unfold RevReader.getBits RevReader.bitsRemaining
  split
  · simp only; omega
  · simp only; omega

theorem skipPadding_inv : ∀ (fuel skipped : Nat) (r : RevReader), ReaderOk r →
    ReaderOk (skipPadding fuel skipped r).2 ∧ (skipPadding fuel skipped r).2.bitsRemaining ≤ r.bitsRemaining := by
  intro fuel
  induction fuel with
  | zero => intro skipped r h; exact ⟨h, Int.le_refl _⟩
  | succ fuel ih =>
    intro skipped r h
    have h1 := getBits_ok r h 1
    have h2 := bitsRemaining_getBits r 1
    simp only [skipPadding]
    split
    · exact ⟨h1, by show (r.getBits 1).2.bitsRemaining ≤ _; omega⟩
    · obtain ⟨i1, i2⟩ := ih (skipped + 1) (r.getBits 1).2 h1
      exact ⟨i1, by omega⟩

end Zstd.Proofs.Blk
