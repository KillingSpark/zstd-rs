import Zstd.Proofs.FrameDecoderBuf
/-
The drain paths of the frame decoder (`write_all_bytes`, `drain_to` with its guard, `collect`, `read`,
`collect_to_writer`) and the vocabulary `DrainOp` / `applyDrain` the C06 / C08 theorems are phrased in.  Every drain is a
`take` from the front of the buffer that, while the last block is not in, leaves the window behind (`applyDrain_take`);
the later files read everything about drains off that.
-/
set_option linter.unusedSectionVars false
namespace Zstd.Model
open Zstd

variable {σ : Type} [BlockDec σ]

/-- bytes fed to the hasher since the last (re)initialisation -/
def Decoder.hashed (d : Decoder σ) : Array Nat :=
  match d.state with | none => #[] | some st => st.buf.hashed

def Decoder.content (d : Decoder σ) : Array Nat :=
  match d.state with | none => #[] | some st => st.buf.content

def Decoder.window (d : Decoder σ) : Nat :=
  match d.state with | none => 0 | some st => st.buf.window

def Decoder.bytesRead (d : Decoder σ) : Nat :=
  match d.state with | none => 0 | some st => st.bytesRead

/-- `frame_finished` (the last block has been decoded; the checksum may be outstanding) -/
def Decoder.blocksDone (d : Decoder σ) : Bool :=
  match d.state with | none => true | some st => st.finished

theorem writeAllBytes_bounds (fuel : Nat) (sc : List SinkResp) (len w : Nat) (h : w ≤ len) :
    w ≤ (writeAllBytes fuel sc len w).1 ∧ (writeAllBytes fuel sc len w).1 ≤ len := by
  induction fuel generalizing sc w with
  | zero => simp [writeAllBytes, h]
  | succ fuel ih =>
    unfold writeAllBytes
    split
    · simp [h]
    · split
      · simp; omega
      · simp [h]
      · rename_i k rest
        simp only
        split
        · simp [h]
        · have := ih rest (w + min k (len - w)) (by omega)
          omega

/-- the loop `while written < buf.len()` runs at most `len − written` times with progress, plus one
final iteration: the fuel given by `drainToSink` (`len + 1`) is never exhausted -/
theorem writeAllBytes_fuel (fuel extra : Nat) (sc : List SinkResp) (len w : Nat) (h : len - w < fuel) :
    writeAllBytes (fuel + extra) sc len w = writeAllBytes fuel sc len w := by
  induction fuel generalizing sc w with
  | zero => omega
  | succ fuel ih =>
    rw [show fuel + 1 + extra = (fuel + extra) + 1 by omega]
    unfold writeAllBytes
    split
    · rfl
    · split
      · rfl
      · rfl
      · rename_i k rest
        simp only
        split
        · rfl
        · exact ih rest _ (by omega)

/-- the two ring segments offered to the sink make up `min amount len`, whatever the split -/
theorem drainSegments_add (seg1 len amount : Nat) :
    min (min seg1 len) amount + min (len - min seg1 len) (amount - min (min seg1 len) amount) = min amount len := by
  omega

theorem DBuf.drainToSink_cases (b : DBuf) (amount seg1 : Nat) (sc : List SinkResp) (n1 n2 : Nat)
    (hn1 : n1 = min (min seg1 b.content.size) amount)
    (hn2 : n2 = min (b.content.size - min seg1 b.content.size) (amount - n1))
    (h0 : amount ≠ 0) (h1 : n1 ≠ 0) (w1 : Nat) (ok1 : Bool) (sc1 : List SinkResp)
    (e1 : writeAllBytes (n1 + 1) sc n1 0 = (w1, ok1, sc1)) :
    b.drainToSink amount seg1 sc =
      if ok1 = false then ((b.take w1).2, w1, false, sc1)
      else if w1 = n1 ∧ n2 ≠ 0 then
        ((b.take (w1 + (writeAllBytes (n2 + 1) sc1 n2 0).1)).2, w1 + (writeAllBytes (n2 + 1) sc1 n2 0).1,
          (writeAllBytes (n2 + 1) sc1 n2 0).2.1, (writeAllBytes (n2 + 1) sc1 n2 0).2.2)
      else ((b.take w1).2, w1, true, sc1) := by
  subst hn1 hn2
  simp only [DBuf.drainToSink, if_neg h0, if_neg h1, e1]
  cases ok1 <;> simp

theorem DBuf.drainToSink_nothing (b : DBuf) (amount seg1 : Nat) (sc : List SinkResp)
    (h : amount = 0 ∨ min (min seg1 b.content.size) amount = 0) :
    b.drainToSink amount seg1 sc = (b, 0, true, sc) := by
  simp only [DBuf.drainToSink]
  by_cases h0 : amount = 0
  · rw [if_pos h0]
  · rw [if_neg h0, if_pos (by omega)]

theorem DBuf.drainToSink_take (b : DBuf) (amount seg1 : Nat) (sc : List SinkResp) :
    (b.drainToSink amount seg1 sc).1 = (b.take (b.drainToSink amount seg1 sc).2.1).2 ∧
    (b.drainToSink amount seg1 sc).2.1 ≤ amount ∧
    (b.drainToSink amount seg1 sc).2.1 ≤ b.content.size := by
  by_cases h : amount = 0 ∨ min (min seg1 b.content.size) amount = 0
  · rw [DBuf.drainToSink_nothing b amount seg1 sc h]
    exact ⟨(DBuf.take_zero b).symm, Nat.zero_le _, Nat.zero_le _⟩
  · generalize hn1 : min (min seg1 b.content.size) amount = n1 at h
    generalize hn2 : min (b.content.size - min seg1 b.content.size) (amount - n1) = n2
    have hb1 := writeAllBytes_bounds (n1 + 1) sc n1 0 (Nat.zero_le _)
    generalize hw1 : writeAllBytes (n1 + 1) sc n1 0 = r1 at hb1
    obtain ⟨w1, ok1, sc1⟩ := r1
    have hb2 := writeAllBytes_bounds (n2 + 1) sc1 n2 0 (Nat.zero_le _)
    rw [DBuf.drainToSink_cases b amount seg1 sc n1 n2 hn1.symm hn2.symm (fun e => h (Or.inl e))
      (fun e => h (Or.inr e)) w1 ok1 sc1 hw1]
    have hn := drainSegments_add seg1 b.content.size amount
    rw [hn1, hn2] at hn
    -- (the `min`s are dear to `omega`: they leave the context before the case split)
    clear hn1 hn2 h
    split
    · dsimp only; exact ⟨rfl, by omega, by omega⟩
    · split
      · dsimp only; exact ⟨rfl, by omega, by omega⟩
      · dsimp only; exact ⟨rfl, by omega, by omega⟩

theorem DBuf.drainToSink_first_partial (b : DBuf) (amount seg1 : Nat) (sc : List SinkResp)
    (h0 : amount ≠ 0) (h1 : min (min seg1 b.content.size) amount ≠ 0)
    (hp : (writeAllBytes (min (min seg1 b.content.size) amount + 1) sc (min (min seg1 b.content.size) amount) 0).1
            < min (min seg1 b.content.size) amount) :
    b.drainToSink amount seg1 sc =
      let r := writeAllBytes (min (min seg1 b.content.size) amount + 1) sc (min (min seg1 b.content.size) amount) 0
      ((b.take r.1).2, r.1, r.2.1, r.2.2) := by
  generalize hr : writeAllBytes (min (min seg1 b.content.size) amount + 1) sc (min (min seg1 b.content.size) amount) 0
    = r at hp ⊢
  obtain ⟨w1, ok1, sc1⟩ := r
  rw [DBuf.drainToSink_cases b amount seg1 sc _ _ rfl rfl h0 h1 w1 ok1 sc1 hr]
  cases ok1
  · rfl
  · rw [if_neg (by simp), if_neg (fun h => Nat.ne_of_lt hp h.1)]

/-- a sink that accepts `B` more bytes (one per call) and then answers `Err` (`failAfter`) or `Ok(0)` -/
def budgetScript (B : Nat) (failAfter : Bool) : List SinkResp :=
  List.replicate B (.accept 1) ++ [if failAfter then .fail else .accept 0]

/-- what a sink with total budget `B` does to a request of `m` bytes: (written, ok) -/
def budgetOutcome (B : Nat) (failAfter : Bool) (m : Nat) : Nat × Bool :=
  (min B m, decide (m ≤ B) || !failAfter)

theorem writeAllBytes_budget (fuel B : Nat) (failAfter : Bool) (tl : List SinkResp) (len w : Nat)
    (hw : w ≤ len) (hf : len - w < fuel) :
    writeAllBytes fuel (List.replicate B (.accept 1) ++ (if failAfter then SinkResp.fail else .accept 0) :: tl) len w =
      if len - w ≤ B then
        (len, true, List.replicate (B - (len - w)) (.accept 1) ++ (if failAfter then SinkResp.fail else .accept 0) :: tl)
      else (w + B, !failAfter, tl) := by
  induction fuel generalizing B w with
  | zero => omega
  | succ fuel ih =>
    unfold writeAllBytes
    split
    · have : len - w = 0 := by omega
      have : w = len := by omega
      simp [*]
    · cases B with
      | zero =>
        have : ¬ len - w ≤ 0 := by omega
        cases failAfter <;> simp [this]
      | succ B =>
        simp only [List.replicate_succ, List.cons_append]
        have hmin : min 1 (len - w) = 1 := by omega
        simp only [hmin]
        rw [if_neg (by omega), ih B (w + 1) (by omega) (by omega)]
        by_cases hle : len - w ≤ B + 1
        · have : len - (w + 1) ≤ B := by omega
          simp only [this, hle, if_true]
          congr 4; omega
        · have : ¬ len - (w + 1) ≤ B := by omega
          simp only [this, hle, if_false]
          congr 1; omega

/-- against a sink with a total budget `B` the ring split does not matter: the budget goes to the first
segment (`n1` bytes offered), what is left of it to the second (`n2`), and `n1 + n2 = min amount len`
whatever `seg1` is -/
theorem DBuf.drainToSink_budget (b : DBuf) (amount seg1 B : Nat) (failAfter : Bool)
    (hseg : 0 < seg1 ∨ b.content.size = 0) :
    ((b.drainToSink amount seg1 (budgetScript B failAfter)).2.1,
     (b.drainToSink amount seg1 (budgetScript B failAfter)).2.2.1)
      = budgetOutcome B failAfter (min amount b.content.size) := by
  by_cases h0 : amount = 0
  · rw [DBuf.drainToSink_nothing _ _ _ _ (Or.inl h0)]; subst h0; simp [budgetOutcome]
  have hm := (drainSegments_add seg1 b.content.size amount).symm
  generalize hn1d : min (min seg1 b.content.size) amount = n1 at hm
  generalize hn2d : min (b.content.size - min seg1 b.content.size) (amount - n1) = n2 at hm
  by_cases h1 : n1 = 0
  · have : min amount b.content.size = 0 := by clear hn2d hm; omega
    rw [DBuf.drainToSink_nothing _ _ _ _ (Or.inr (by omega))]; simp [budgetOutcome, this]
  have e1 := writeAllBytes_budget (n1 + 1) B failAfter [] n1 0 (Nat.zero_le _) (by omega)
  simp only [Nat.sub_zero, Nat.zero_add] at e1
  by_cases hle : n1 ≤ B
  · rw [if_pos hle] at e1
    rw [budgetScript, DBuf.drainToSink_cases b amount seg1 _ n1 n2 hn1d.symm hn2d.symm h0 h1 _ _ _ e1]
    have e2 := writeAllBytes_budget (n2 + 1) (B - n1) failAfter [] n2 0 (Nat.zero_le _) (by omega)
    simp only [Nat.sub_zero, Nat.zero_add] at e2
    simp only [e2, budgetOutcome, hm]
    by_cases h2 : n2 = 0
    · subst h2
      simp [hle]
    · by_cases hle2 : n2 ≤ B - n1
      · have : n1 + n2 ≤ B := by omega
        simp [h2, hle2, this]
      · have : ¬ n1 + n2 ≤ B := by omega
        simp [h2, hle2, this]; omega
  · rw [if_neg hle] at e1
    rw [budgetScript, DBuf.drainToSink_cases b amount seg1 _ n1 n2 hn1d.symm hn2d.symm h0 h1 _ _ _ e1]
    have hm' : ¬ n1 + n2 ≤ B := by omega
    have hne : ¬ B = n1 := by omega
    cases failAfter <;> simp [budgetOutcome, hm, hm', hne] <;> omega

/-- the script the `dec` driver's model side runs — one response `accept bud`, the whole content as a
single segment — has the outcome of `budgetScript` -/
theorem DBuf.drainToSink_driverScript (b : DBuf) (amount bud : Nat) (failAfter : Bool) :
    ((b.drainToSink amount b.content.size
        ((if bud > 0 then [SinkResp.accept bud] else []) ++ [if failAfter then SinkResp.fail else .accept 0])).2.1,
     (b.drainToSink amount b.content.size
        ((if bud > 0 then [SinkResp.accept bud] else []) ++ [if failAfter then SinkResp.fail else .accept 0])).2.2.1)
      = budgetOutcome bud failAfter (min amount b.content.size) := by
  by_cases h0 : amount = 0
  · rw [DBuf.drainToSink_nothing _ _ _ _ (Or.inl h0)]; subst h0; simp [budgetOutcome]
  generalize hn1d : min (min b.content.size b.content.size) amount = n1
  by_cases h1 : n1 = 0
  · have : min amount b.content.size = 0 := by omega
    rw [DBuf.drainToSink_nothing _ _ _ _ (Or.inr (by omega))]; simp [budgetOutcome, this]
  have hn2 : 0 = min (b.content.size - min b.content.size b.content.size) (amount - n1) := by omega
  have hm : min amount b.content.size = n1 := by rw [← hn1d, Nat.min_self, Nat.min_comm]
  obtain ⟨m', rfl⟩ := Nat.exists_eq_add_one_of_ne_zero h1
  by_cases hb : bud > 0
  · by_cases hle : m' + 1 ≤ bud
    · have e1 : writeAllBytes (m' + 1 + 1) ([SinkResp.accept bud] ++ [if failAfter then SinkResp.fail else .accept 0]) (m' + 1) 0
          = (m' + 1, true, [if failAfter then SinkResp.fail else .accept 0]) := by
        have : min bud (m' + 1) = m' + 1 := by omega
        simp [writeAllBytes, this]
      rw [if_pos hb, DBuf.drainToSink_cases b amount _ _ (m' + 1) 0 hn1d.symm hn2 h0 h1 _ _ _ e1]
      simp [budgetOutcome, hm, hle]
    · have e1 : writeAllBytes (m' + 1 + 1) ([SinkResp.accept bud] ++ [if failAfter then SinkResp.fail else .accept 0]) (m' + 1) 0
          = (bud, !failAfter, []) := by
        have : min bud (m' + 1) = bud := by omega
        have h3 : ¬ bud = 0 := by omega
        have h4 : ¬ m' + 1 ≤ bud := hle
        cases failAfter <;> simp [writeAllBytes, this, h3, h4]
      rw [if_pos hb, DBuf.drainToSink_cases b amount _ _ (m' + 1) 0 hn1d.symm hn2 h0 h1 _ _ _ e1]
      cases failAfter <;> simp [budgetOutcome, hm, hle] <;> omega
  · have hb0 : bud = 0 := by omega
    subst hb0
    have e1 : writeAllBytes (m' + 1 + 1) ([] ++ [if failAfter then SinkResp.fail else .accept 0]) (m' + 1) 0
          = (0, !failAfter, []) := by
      cases failAfter <;> simp [writeAllBytes]
    rw [if_neg hb, DBuf.drainToSink_cases b amount _ _ (m' + 1) 0 hn1d.symm hn2 h0 h1 _ _ _ e1]
    cases failAfter <;> simp [budgetOutcome, hm]

inductive DrainOp where
  | collect
  | read (n : Nat)
  | toWriter (seg1 : Nat) (script : List SinkResp)
  deriving Repr

/-- run a drain operation; second component = the bytes handed to the caller (for the sink: the bytes
the sink accepted, i.e. the first `written` bytes of the buffer) -/
def applyDrain (d : Decoder σ) : DrainOp → Decoder σ × Array Nat
  | .collect => ((d.collect).1, (d.collect).2.getD #[])
  | .read n => d.read n
  | .toWriter seg1 sc => ((d.collectToWriter seg1 sc).1, d.content.extract 0 (d.collectToWriter seg1 sc).2.1)

theorem DBuf.canDrainToWindow_getD (b : DBuf) : b.canDrainToWindow.getD 0 = b.content.size - b.window := by
  simp only [DBuf.canDrainToWindow]; split <;> simp <;> omega

theorem applyDrain_take (d : Decoder σ) (op : DrainOp) :
    (d.state = none ∧ applyDrain d op = (d, #[])) ∨
    ∃ st k, d.state = some st ∧ k ≤ st.buf.content.size ∧
      (st.finished = false → k ≤ st.buf.content.size - st.buf.window) ∧
      applyDrain d op = ({ d with state := some { st with buf := (st.buf.take k).2 } }, (st.buf.take k).1) := by
  cases hst : d.state with
  | none =>
    left
    refine ⟨rfl, ?_⟩
    cases op <;> simp [applyDrain, Decoder.collect, Decoder.read, Decoder.collectToWriter, Decoder.content, hst]
  | some st =>
    right
    have hcd := st.buf.canDrainToWindow_getD
    -- `read` tests `frame_finished` (frame_decoder.rs:623), `collect` and `collect_to_writer` test `is_finished()`, which
    -- also wants the checksum: before the last block both say no
    have hnf : st.finished = false → d.isFinished = false := by
      intro hf; simp only [Decoder.isFinished, hst, hf]; split <;> simp
    cases op with
    | collect =>
      simp only [applyDrain, Decoder.collect, hst]
      split
      · rename_i hfin
        exact ⟨st, st.buf.content.size, rfl, Nat.le_refl _, fun hf => (by rw [hnf hf] at hfin; cases hfin), rfl⟩
      · cases hc : st.buf.canDrainToWindow with
        | none =>
          refine ⟨st, 0, rfl, Nat.zero_le _, fun _ => Nat.zero_le _, ?_⟩
          simp only [Option.getD, DBuf.take_zero]
          cases d; simp_all [DBuf.take]
        | some n =>
          rw [hc, Option.getD_some] at hcd
          exact ⟨st, n, rfl, by omega, fun _ => by omega, rfl⟩
    | read n =>
      simp only [applyDrain, Decoder.read, hst, hcd]
      refine ⟨st, _, rfl, by split <;> omega, fun hf => ?_, rfl⟩
      rw [hf, if_neg Bool.false_ne_true]; omega
    | toWriter seg1 sc =>
      simp only [applyDrain, Decoder.collectToWriter, hst, Decoder.content, hcd]
      generalize hamt : (if d.isFinished = true then st.buf.content.size else st.buf.content.size - st.buf.window) = amount
      have h := DBuf.drainToSink_take st.buf amount seg1 sc
      refine ⟨st, (st.buf.drainToSink amount seg1 sc).2.1, rfl, h.2.2, fun hf => ?_, ?_⟩
      · rw [hnf hf, if_neg Bool.false_ne_true] at hamt; omega
      · rw [← h.1]; rfl

end Zstd.Model
