import Zstd.Model.Fse
import Zstd.Proofs.HufShapeDef
/-
The finite table for one alphabet size `n` (`tableOk`): the shape check of `HufShapeDef`, and, for every
number `z` of unused symbols and every value `d` of the weight that is not transmitted, the crude size
bound of the FSE-compressed weight description, computed from the NORMALISER only (no table is built, no
encoder is run).  Histograms of at most 147 weights need no evaluation (`Huf.boundOf_le`), so `z` starts at
`149 - n`.
This file says WHAT is checked, with the model's functions; `tableOk n = true` for n = 2 … 256 is
`tableOk_all` (Proofs/HufShape), by kernel evaluation of a function that implies it, written for the kernel
(Proofs/HufTableEval).  Imports only the models.
-/
namespace Zstd.Proofs.HufLt128
open Zstd Zstd.Model

/-- `Σ countᵢ · (AL − ⌊log₂ pᵢ⌋)`: worst-case stream bits for the symbols -/
def costSum (al : Nat) : List Nat → List Int → Nat → Nat
  | c :: cs, p :: ps, acc => costSum al cs ps (acc + c * (al - Nat.log2 p.toNat))
  | _, _, acc => acc

/-- upper bound in BITS for `Enc.fseWeights` on a weight vector with value histogram `h`:
table description `4 + (AL+3)·#symbols + 7`, stream `Σ count·cost + 2·AL + 8`.  The error arm is any value
above the limit; on the histogram of a weight vector the normaliser does not fail (`Huf.boundOf_histogram`) -/
def boundOf (h : List Nat) : Nat :=
  match Fse.normalize h 6 true with
  | .ok (probs, al) => 4 + (al + 3) * probs.length + 7 + costSum al h probs 0 + 2 * al + 8
  | .error _ => 100000

/-- leading zeros dropped -/
def trimRev : List Nat → List Nat
  | 0 :: r => trimRev r
  | l => l

/-- drop trailing zeros, but keep at least two entries: `counts[..=max_symbol.max(1)]` -/
def trim (l : List Nat) : List Nat :=
  match (trimRev l.reverse).reverse with
  | [] => [0, 0]
  | [a] => [a, 0]
  | l => l

/-- the histogram `l` with one occurrence of the value at position `d` taken out -/
def lessOne (l : List Nat) (d : Nat) : List Nat := l.modify d (· - 1)

/-- how often each of the values 0 … 11 (a weight is at most 11) occurs in `ws` -/
def valueCounts (ws : List Nat) : List Nat := (List.range 12).map fun v => ws.count v

/-- the weight vectors with `lo ≤ x < lo + k` zeros whose other weights have the value histogram `t`: the bound is at
most 1023 bits, i.e. fewer than 128 bytes -/
def sweepHead (t : List Nat) (lo k : Nat) : Bool :=
  (List.range' lo k).all fun x => decide (boundOf (trim (x :: t)) ≤ 1023)

/-- the finite table for one alphabet size `n`: the shape check, and the size bound for the weights of
`shape n` with `149 - n ≤ z ≤ 256 - n` unused symbols, the last weight not transmitted: one of the zeros
(`z - 1` are left), or one weight `d + 1` of the shape -/
def tableOk (n : Nat) : Bool :=
  HufShape.shapeOk n &&
    match Huf.shape n with
    | .ok ws =>
      let t := (valueCounts ws).tail
      sweepHead t (148 - n) (256 - n - (148 - n)) &&
        (List.range 11).all fun d => t.getD d 0 == 0 || sweepHead (lessOne t d) (149 - n) (257 - n - (149 - n))
    | .error _ => false

end Zstd.Proofs.HufLt128
