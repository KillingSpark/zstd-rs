import Zstd.Proofs.RingExtra
/-
C04, dead code: `extend_from_within_unchecked_branchless` + `copy_with_checks`
(`#[allow(dead_code)]`, unreferenced).  Complete characterisation under the `SAFETY` requirements:
it either refines the queue, or — exactly when the copy would reach the end of the allocation's first
free section — trips its own (over-strict, `>` instead of `>=`) `debug_assert!`.  The code is written in
terms of the four slice lengths, and so is the proof (`Slices`): no case distinction on the geometry except
for the strict assertion.
-/
namespace Zstd.Model
open Zstd RingBuffer

theorem copyIf_ok {site : String} {m : Mem} {src dst n : Nat}
    (hsrc : ∀ i, i < n → (m.cell (src + i)).isSome) (hdst : dst + n ≤ m.size) :
    ∃ m', (if n ≠ 0 then copyExact site m src dst n else pure m) = .ok m' ∧ Copied m m' src dst n := by
  by_cases h0 : n = 0
  · subst h0
    exact ⟨m, by simp [pure_eq_ok], rfl, fun j => by simp; omega⟩
  · obtain ⟨m', h1, hcp⟩ := copyOnce_ok (site := site) (dst := dst) hsrc hdst
    refine ⟨m', ?_, hcp⟩
    rw [if_pos h0, copyExact, Mem.readN_ok hsrc, ok_bind, h1]

theorem copyIf_zero {site : String} {m : Mem} {src dst : Nat} :
    (if (0 : Nat) ≠ 0 then copyExact site m src dst 0 else pure m) = .ok m := by simp [pure_eq_ok]

/-- the last assertion of the branchless variant (not both of `m1_in_f2`, `m2_in_f1` are non-zero) holds
for all lengths: the first source piece spills into the second free section only when it has filled
the first one, and then nothing of the second piece fits there -/
theorem xor_assert (m1Len m2Len f1Len : Nat) :
    ((m1Len - min m1Len f1Len > 0) ≠ (min (f1Len - min m1Len f1Len) m2Len > 0)) ∨
      (m1Len - min m1Len f1Len = 0 ∧ min (f1Len - min m1Len f1Len) m2Len = 0) := by
  simp only [gt_iff_lt, ne_eq, eq_iff_iff]; omega

namespace RingBuffer

variable {r : RingBuffer}

/-- under the `SAFETY` requirements every assertion of the branchless variant holds, whatever the geometry, except the
strict one about the first free section (`buf + cap > f1_ptr + …`; the strict one about the second holds because
`f2 < cap`): the function is that check, `copy_with_checks` and the new `tail`.  `a1`, `a2` are `m1_len`, `m2_len` of
the Rust code; the four facts about them are what `Filled.copyIf` asks for in `efwub_ok`. -/
theorem efwub_eq {start len : Nat}
    (h1 : start + len ≤ r.len) (h2 : len ≤ r.free) {s1 s2 f1 f2 : Nat} (hS : Slices r s1 s2 f1 f2)
    (hd : r.dataSliceLengths = .ok (s1, s2)) (hf : r.freeSliceLengths = .ok (f2, f1)) :
    ∃ a1 a2 : Nat, a1 + a2 = len ∧ (0 < a1 → min s1 start = start) ∧ a1 ≤ s1 - min s1 start ∧
      (0 < a2 → start - s1 + s1 = start + a1) ∧ start - s1 + a2 ≤ s2 ∧
      r.extendFromWithinUncheckedBranchless start len =
      (check (r.cap > r.tail + (min a1 f1 + min (f1 - min a1 f1) a2))
        ("ringbuffer.rs:extend_from_within_unchecked_branchless:" ++ "debug_assert(buf+cap>f1_ptr+..)") >>= fun _ =>
      copyWithChecks r.mem (r.head + min s1 start) (start - s1) r.tail 0 (min a1 f1) (min (f1 - min a1 f1) a2)
        (a1 - min a1 f1) (a2 - min (f1 - min a1 f1) a2) >>= fun m =>
      umod ("ringbuffer.rs:extend_from_within_unchecked_branchless:" ++ "%cap") (r.tail + len) r.cap >>= fun t =>
      pure { r with mem := m, tail := t }) := by
  have hl := hS.len
  -- the arithmetic about `m1_len` once, in a small context; afterwards no `min s1 _` is left for `omega` to split on
  obtain ⟨a1, ha1⟩ : ∃ a1, min s1 (start + len) - min s1 start = a1 := ⟨_, rfl⟩
  have hk1 : a1 ≤ len := by omega
  have hk2 : start - s1 + (len - a1) ≤ s2 := by omega
  have hk3 : a1 ≤ s1 - min s1 start := by omega
  have hk4 : 0 < a1 → min s1 start = start := by omega
  have hk5 : 0 < len - a1 → start - s1 + s1 = start + a1 := by omega
  have hk6 : min s1 start ≤ min s1 (start + len) := by omega
  refine ⟨a1, len - a1, Nat.add_sub_of_le hk1, hk4, hk3, hk5, hk2, ?_⟩
  clear hk3 hk4 hk5
  have hfr := hS.free; have hcp := hS.cap; have hbd := hS.bounds
  have hb : f2 < r.cap := by rcases hS.geom with g | g <;> omega
  unfold extendFromWithinUncheckedBranchless
  rw [hd, hf, ok_bind]
  dsimp only
  -- `len <= s1_len + s2_len`, `m1_len`, `end_in_s1 <= s1_len`, `start_in_s1 <= s1_len`
  rw [check_bind (by omega), usub_bind hk6, check_bind (Nat.min_le_left _ _), check_bind (Nat.min_le_left _ _)]
  rw [ha1]
  clear ha1 hk6
  -- `len - m1_len`, `start_in_s2 <= s2_len`, `end_in_s2 <= s2_len`
  rw [usub_bind hk1, check_bind (by omega), check_bind hk2, ok_bind]
  dsimp only
  rw [Nat.add_sub_cancel_left]
  generalize ha2 : len - a1 = a2 at *
  have hk : a1 + a2 = len := by omega
  clear ha2 hk1
  -- `len == m1_len + m2_len`, and the six assertions about how the two pieces are split over the two free sections
  rw [check_bind hk.symm, check_bind (by omega), check_bind (by omega), check_bind (by omega), check_bind (by omega),
    check_bind (by omega), check_bind (by omega)]
  -- the strict assertion about `f1` stays; the one about `f2` and the last one hold
  congr 1
  funext _
  rw [check_bind (by omega), check_bind (xor_assert _ _ _)]

/-- one of the four guarded copies of `copy_with_checks` -/
theorem Filled.copyIf (hI : r.Inv) (hc : 0 < r.cap) {m : Mem} {start len t : Nat}
    (hF : Filled r m ((r.abs.drop start).take len) t) (site : String)
    {si sn soff di dn doff src dst n : Nat} (hs : Seg r si sn soff) (hd : Seg r di dn doff)
    (hsl : start + len ≤ r.len)
    (h : 0 < n → (si ≤ start + t ∧ start + t + n ≤ si + sn ∧ src + si = soff + (start + t)) ∧
      (di ≤ r.len + t ∧ r.len + t + n ≤ di + dn ∧ dst + di = doff + (r.len + t)))
    (hb : t + n ≤ len ∧ r.len + t + n ≤ r.cap ∧ dst + n ≤ r.cap) :
    ∃ m', (if n ≠ 0 then copyExact site m src dst n else pure m) = .ok m' ∧
      Filled r m' ((r.abs.drop start).take len) (t + n) := by
  have hsrc : Seg r (start + t) n src := hs.sub fun hn => (h hn).1
  have hdst : Seg r (r.len + t) n dst := hd.sub fun hn => (h hn).2
  obtain ⟨m', e, cp⟩ := copyIf_ok (site := site) (m := m) (dst := dst) (hF.init hI hsrc (by omega))
    (by rw [hF.size, hI.alloc]; exact hb.2.2)
  exact ⟨m', e, hF.copied hI hc cp (Nat.le_refl _) (Nat.le_refl _) hb.1 hsl hsrc hdst hb.2.1⟩

theorem efwub_ok (hI : r.Inv) (hc : 0 < r.cap) {start len : Nat}
    (h1 : start + len ≤ r.len) (h2 : len ≤ r.free)
    (hend : ¬ (r.head ≤ r.tail ∧ r.cap - r.tail ≤ len)) :
    ∃ r', r.extendFromWithinUncheckedBranchless start len = .ok r' ∧ r'.Inv ∧
      r'.abs = Queue.copyWithin r.abs start len := by
  obtain ⟨s1, s2, f1, f2, hd, hf, hS⟩ := hI.slices hc
  have hl := hS.len; have hfr := hS.free; have hcp := hS.cap; have hbd := hS.bounds
  -- everything fits into the first free slice, strictly
  have hfit : len < f1 ∧ f1 + r.tail ≤ r.cap := by rcases hS.geom with g | g <;> omega
  -- (before `efwub_eq` brings its facts with `min`s, on which every later `omega` splits)
  have hmin : ∀ a1 a2, a1 + a2 = len → min a1 f1 = a1 ∧ min (f1 - a1) a2 = a2 ∧ r.cap > r.tail + (a1 + a2) := by
    intro a1 a2 hk; omega
  obtain ⟨a1, a2, hk, hA, hA', hB, hB', e⟩ := efwub_eq h1 h2 hS hd hf
  obtain ⟨e1, e2, hchk⟩ := hmin a1 a2 hk
  rw [e, e1, e2, check_bind hchk, Nat.sub_self, Nat.sub_self]
  clear e e1 e2 hchk hmin
  unfold copyWithChecks
  -- the piece in the first data slice, then the piece in the second, one behind the other
  obtain ⟨m1, hm1, hF1⟩ := (Filled.refl r ((r.abs.drop start).take len)).copyIf hI hc
    "ringbuffer.rs:copy_with_checks:m1->f1" (src := r.head + min s1 start) (dst := r.tail) (n := a1)
    hS.data1 hS.free1 h1 (by omega) (by omega)
  obtain ⟨m2, hm2, hF2⟩ := hF1.copyIf hI hc "ringbuffer.rs:copy_with_checks:m2->f1" (src := start - s1)
    (dst := r.tail + a1) (n := a2) hS.data2 hS.free1 h1 (by omega) (by omega)
  rw [Nat.zero_add, hk] at hF2
  rw [hm1, ok_bind, hm2, ok_bind, copyIf_zero, ok_bind, copyIf_zero, ok_bind, umod_ok hc, ok_bind, pure_eq_ok]
  exact ⟨_, rfl, (hF2.copyWithin hI hc h1 h2).1, (hF2.copyWithin hI hc h1 h2).2.1⟩

theorem efwub_overstrict_assert (hI : r.Inv) (hc : 0 < r.cap) {start len : Nat}
    (h1 : start + len ≤ r.len) (h2 : len ≤ r.free)
    (hend : r.head ≤ r.tail ∧ r.cap - r.tail ≤ len) :
    r.extendFromWithinUncheckedBranchless start len =
      .error (.assert ("ringbuffer.rs:extend_from_within_unchecked_branchless:" ++ "debug_assert(buf+cap>f1_ptr+..)")) := by
  obtain ⟨s1, s2, f1, f2, hd, hf, hS⟩ := hI.slices hc
  obtain ⟨a1, a2, hk, -, -, -, -, e⟩ := efwub_eq h1 h2 hS hd hf
  rw [e, check_err (by rcases hS.geom with g | g <;> omega), error_bind]

end RingBuffer

end Zstd.Model
