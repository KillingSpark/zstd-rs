import Zstd.Proofs.FseCoupled
import Zstd.Proofs.FseTableDesc
/-
End-to-end composition for the single-state FSE coder: `FSEEncoder::encode` (= `write_table` followed by
the stream and the end mark), dumped to bytes, is read back by `FSETable::build_decoder` (=
`read_probabilities` then `build_decoding_table`) followed by the single-state decode loop over the
remaining bytes.
-/
namespace Zstd.Proofs.FseEndToEnd
open Zstd Zstd.Spec Zstd.Model.Fse Zstd.Model.BitIO Zstd.Proofs.BitIO Zstd.Proofs.FseStream

theorem suffix_bits {out : Array Nat} {D S : List Bool} (hb : Bytes out.toList)
    (hbits : bitsLE out.toList = D ++ S) (hD : D.length % 8 = 0) :
    Bytes (out.extract (D.length / 8) out.size).toList ∧
      bitsLE (out.extract (D.length / 8) out.size).toList = S := by
  have hx : (out.extract (D.length / 8) out.size).toList = out.toList.drop (D.length / 8) := by
    rw [Array.toList_extract, List.extract_eq_take_drop]
    exact List.take_of_length_le (by simp)
  rw [hx]
  refine ⟨Bytes_drop hb _, ?_⟩
  rw [bitsLE_drop, hbits, show 8 * (D.length / 8) = D.length by omega, List.drop_left]

theorem buildDecoder_of_read {t : DTable} {src : Array Nat} {maxLog al n : Nat} {probs : Array Int}
    {dec : Array DEntry} {ctr : Array Nat}
    (hrd : DTable.readProbabilities { t with accuracyLog := 0 } src maxLog
      = ({ ({ t with accuracyLog := 0 } : DTable) with probs := probs, accuracyLog := al }, .ok n))
    (hdec : buildDecodingTableCore al probs t.maxSymbol = .ok (dec, ctr)) :
    t.buildDecoder src maxLog
      = ({ maxSymbol := t.maxSymbol, decode := dec, accuracyLog := al, probs := probs, symbolCounter := ctr },
         .ok n) := by
  unfold DTable.buildDecoder
  simp only [hrd, DTable.buildDecodingTable, hdec]

theorem skipEndMark_empty : skipEndMark (BitReaderRev.new #[]) = .ok none := by decide

theorem encode_decode_single_full {al : Nat} {probs : List Int} {maxLog : Nat} {et : ETable}
    (hb : FseEncTable.EncBuildable al probs) (hml : al ≤ maxLog) (hlast : probs.getLast? ≠ some 0)
    (het : buildTableFromProbabilities probs al = .ok et)
    (data : List Nat) (hne : data ≠ []) (hu : ∀ x ∈ data, probs.getD x 0 ≠ 0) :
    ∃ w out, encode et BitWriter.new data = .ok w ∧ w.dump = .ok out ∧
      ∃ t used br br', (DTable.new 255).buildDecoder out maxLog = (t, .ok used) ∧
        skipEndMark (BitReaderRev.new (out.extract used out.size)) = .ok (some br) ∧
        decodeStream t data.length br = .ok (data, br') ∧ br'.bitsRemaining = 0 := by
  have hv := hb.valid
  have hms : probs.length ≤ 255 + 1 := hv.length_le
  obtain ⟨dec, ctr, hdec, -⟩ := FseDecTable.fse_build_refines al probs 255 hv hms
  obtain ⟨w1, D, hwt, hinv1, hD8, hread⟩ := FseTableDesc.write_read_table et al probs hv.al_ge
    (by have := hv.al_le; omega) hv.length_le hv.ge_neg_one hv.mass_eq hlast (FseCoupled.carries_of_built hb het)
    WInv_new rfl
  have hc : Coupled et
      ({ maxSymbol := 255, decode := dec, accuracyLog := al, probs := probs.toArray, symbolCounter := ctr } : DTable)
      al (FseCoupled.usableOf probs) :=
    FseCoupled.coupled_of_buildable hb hms het hdec rfl rfl
  obtain ⟨w2, S, henc, hinv2, hal8, hdecS⟩ := encode_decode_stream hc data hne hu hinv1
  simp only [List.nil_append] at hinv1 hinv2 hal8
  -- the stream holds the end mark: on no bytes at all `skipEndMark` finds none
  have hSne : S ≠ [] := by
    intro hS
    obtain ⟨br, _, h, _⟩ := hdecS #[] Bytes_nil (by rw [hS]; rfl)
    rw [skipEndMark_empty] at h
    cases h
  obtain ⟨out, hdump, hbits, hbytes⟩ := bitWriter_dump hinv2 (by rw [List.length_append]; omega)
  obtain ⟨hsb, hsbits⟩ := suffix_bits hbytes hbits hD8
  obtain ⟨br, br', hskip, hds, hrem⟩ := hdecS _ hsb hsbits
  refine ⟨w2, out, ?_, hdump, _, D.length / 8, br, br', ?_, hskip, hds, hrem⟩
  · simp only [encode, hwt, henc]
  · exact buildDecoder_of_read (t := DTable.new 255)
      (hread out S _ maxLog hbytes hbits hml hms (fun _ => hSne)) hdec

end Zstd.Proofs.FseEndToEnd
