import Zstd.Model.FrameFaithful
import Zstd.Proofs.FrameDecoderConcat
import Zstd.Proofs.FrameDecoderNoFault
import Zstd.Proofs.DictCopy
import Zstd.Proofs.BlockNoFault
import Zstd.Proofs.BlockRefines
import Zstd.Proofs.BlkLitFull
/-
Instance B of the frame-level model: the faithful block decoder `Blk.decompressBlock`
(`instBlockDecFaithful`, Model/FrameFaithful.lean) satisfies the frame level's contracts.

* `BlockContract Blk.Scratch`: through the stage factorisation (`decompressBlock_eq_stage`: a buffer-independent
  stage, then one buffer operation).  Hence every theorem of Props C05 / C06 (schedule independence part) / C08 / C10
  and the generic parts of C01 C03 C07 C09 hold for `DecB = Decoder Blk.Scratch`, the decoder the drivers run.
* `NoFaultContract` and `RefinesSpec`: what they need of the block decoder is named once, as
  `NoFaultObligation WF` and `RefinesObligation Coupled`, in the block decoder's own terms
  (`Blk.decompressBlock`, `BOut`: the shape of the final theorems of Proofs/BlockNoFault.lean and
  Proofs/BlockRefines.lean + Proofs/BlkLitFull.lean), whereas the contracts speak of `Blk.run`, `Out` and
  `clean`; `noFaultFaithful` / `refinesSpecFaithful` translate from the one to the other.
-/
namespace Zstd.Model.Blk
open Zstd Zstd.Model Zstd.Proofs.DictCopy
open Zstd.Proofs.BitIO (Bytes)

theorem stageBody_push {s : Scratch} {sec : Hdr.LitSection} {raw : List Nat} {upper : Nat} {s' : Scratch}
    {lits : List Nat} (h : stageBody s sec raw upper = .push s' lits) : sec.regen = lits.length := by
  unfold stageBody at h
  -- the one leaf that is a `push` lies behind the check `regenerated_size == literals.len()`
  repeat' (first | split at h | simp only [] at h)
  all_goals (cases h; try omega)

/-- the literals pushed by a block without sequences are at most `MAX_BLOCK_SIZE` bytes: the code checks
`regenerated_size > MAX_BLOCK_SIZE` (error) and `regenerated_size == literals.len()` (assert) itself -/
theorem stage_push {content : List Nat} {s s' : Scratch} {lits : List Nat}
    (h : stage content s = .push s' lits) : lits.length ≤ Gen.maxBlockSize := by
  unfold stage at h
  repeat' (first | split at h | simp only [] at h)
  all_goals (first | (cases h; done) | skip)
  have := stageBody_push h
  omega

theorem run_eq (content : List Nat) (s : Scratch) (b : DBuf) :
    Blk.run content s b =
      match stage content s with
      | .stop s' _ o => ((b, s'), o.toOut)
      | .push s' lits => ((b.push lits.toArray, s'), .ok ())
      | .exec s' lits seqs =>
        (((executeSequences seqs lits s'.hist 0 b).1.1,
          { s' with hist := (executeSequences seqs lits s'.hist 0 b).1.2 }),
         (executeSequences seqs lits s'.hist 0 b).2) := by
  unfold Blk.run
  rw [decompressBlock_eq_stage]
  cases stage content s with
  | stop s' lits o => rfl
  | push s' lits => rfl
  | exec s' lits seqs =>
    simp only [Stage.apply]
    split <;> rename_i heq <;> simp only [heq] <;> rfl

theorem run_extends (content : List Nat) (s : Scratch) (b : DBuf) :
    ∃ x, DBuf.Extends b (Blk.run content s b).1.1 x ∧ x.size ≤ Gen.maxBlockSize := by
  rw [run_eq]
  cases hst : stage content s with
  | stop s' lits o => exact ⟨#[], .refl b, Nat.zero_le _⟩
  | push s' lits => exact ⟨lits.toArray, DBuf.push_extends b _, by simpa using stage_push hst⟩
  | exec s' lits seqs =>
    obtain ⟨x, hx, hs, -⟩ := executeSequences_extends seqs lits s'.hist 0 b
    exact ⟨x, hx, by have := hs (Nat.zero_le _); omega⟩

theorem run_twin (W : Nat) (d x : Array Nat) (content : List Nat) (s : Scratch) (b : DBuf)
    (hW : W ≤ b.content.size) (hoff : ∀ o ∈ Blk.offsets content s, o ≤ W) :
    Blk.run content s (b.twin d x) =
      (((Blk.run content s b).1.1.twin d x, (Blk.run content s b).1.2), (Blk.run content s b).2) := by
  rw [run_eq, run_eq]
  unfold Blk.offsets at hoff
  cases hst : stage content s with
  | stop s' lits o => rfl
  | push s' lits => simp only [DBuf.twin_push]
  | exec s' lits seqs =>
    rw [hst] at hoff
    simp only [executeSequences_twin W d x seqs lits s'.hist 0 b hW hoff]

end Zstd.Model.Blk

namespace Zstd.Model
open Zstd Zstd.Proofs.DictCopy
open Zstd.Proofs.BitIO (Bytes)

instance instBlockContractFaithful : BlockContract Blk.Scratch where
  appends := fun content e b =>
    have ⟨x, hx, hs⟩ := Blk.run_extends content e b
    ⟨x, hx.toAppends, hs⟩
  counter := fun content e b =>
    have ⟨_, hx, _⟩ := Blk.run_extends content e b
    hx.grows.count
  twin := Blk.run_twin

/-- **C03 at the block level**, for a well-formedness predicate `WF` on the scratch (it holds of
`Blk.WF`: `Blk.decompressBlock_ok` of Proofs/BlockNoFault.lean, with `Blk.Post` unfolded); `literals` / `sequences` are
the two errors after which a table can be left half built. -/
structure NoFaultObligation (WF : Blk.Scratch → Prop) : Prop where
  fresh : WF {}
  block : ∀ (content : List Nat) (s : Blk.Scratch) (b : DBuf), Bytes content → WF s →
    (∀ f, (Blk.decompressBlock content s b).2 ≠ .fault f) ∧
    ((Blk.decompressBlock content s b).2 = .ok → WF (Blk.decompressBlock content s b).1.1) ∧
    (∀ e, (Blk.decompressBlock content s b).2 = .err e → e ≠ .literals → e ≠ .sequences →
      WF (Blk.decompressBlock content s b).1.1)

/-- **C01 at the block level**, for a coupling `Coupled` of Spec entropy state and scratch — `fresh` and `block` are `Proofs.Blk.coupled_fresh` and
`Proofs.Blk.decompressBlock_refines_full` of Proofs/BlockRefines.lean verbatim (with
`Coupled := Proofs.Blk.Coupled`); `seqs` says that the sequences the faithful decoder executes are
the Spec's (from `Proofs.Blk.decodeSequences_refines` and the literals stage `LitStage`), stated on
the ghost offsets, which is all the frame level uses of it. -/
structure RefinesObligation (Coupled : Spec.Entropy → Blk.Scratch → Prop) : Prop where
  fresh : Coupled {} {}
  block : ∀ (window : Nat) (dict : Array Nat) (bytes : List Nat) (e e' : Spec.Entropy) (out out' : Array Nat)
    (s : Blk.Scratch) (b : DBuf),
    Bytes bytes → Coupled e s → b.dict = dict → b.window = window → b.hashed ++ b.content = out →
    CounterOk b → Retained b →
    Spec.decodeCompressedBlock window dict bytes e out = some (out', e') →
    ∃ s' b' lits seqs, Blk.decompressBlock bytes s b = ((s', b', lits, seqs), .ok) ∧ Coupled e' s' ∧
      b'.hashed = b.hashed ∧ b.hashed ++ b'.content = out' ∧ b'.dict = dict ∧ b'.window = window ∧
      CounterOk b' ∧ Retained b'
  seqs : ∀ (bytes : List Nat) (e e1 : Spec.Entropy) (s : Blk.Scratch) (lits : List Nat) (used : Nat)
    (huf : Option Spec.Huffman.Table) (sq : List Spec.Seq),
    Bytes bytes → Coupled e s → Spec.decodeLiterals bytes e.huf = some (lits, used, huf) →
    Spec.decodeSequences (bytes.drop used) { e with huf := huf } = some (sq, e1) →
    ∀ o ∈ Blk.offsets bytes s, o ∈ resolvedOffsets sq (e1.hist.r1, e1.hist.r2, e1.hist.r3)

@[reducible] def noFaultFaithful (WF : Blk.Scratch → Prop) (h : NoFaultObligation WF) : NoFaultContract Blk.Scratch where
  wf := WF
  inp := Bytes
  inp_take := fun _ n hl x hx => hl x (List.mem_of_mem_take hx)
  inp_drop := fun _ n hl x hx => hl x (List.mem_of_mem_drop hx)
  wf_fresh := h.fresh
  wf_run := by
    intro content e b hw hi hc
    obtain ⟨hnf, hok, herr⟩ := h.block content e b hi hw
    show WF (Blk.run content e b).1.2
    have hc' : (Blk.run content e b).2.clean := hc
    unfold Blk.run at hc' ⊢
    cases hd : Blk.decompressBlock content e b with
    | mk p o =>
      obtain ⟨s', b', l, q⟩ := p
      rw [hd] at hnf hok herr hc'
      cases o with
      | ok => exact hok rfl
      | err er =>
        refine herr er rfl ?_ ?_
        · rintro rfl; exact hc'.1 rfl
        · rintro rfl; exact hc'.2 rfl
      | fault f => exact absurd rfl (hnf f)
  noFault := by
    intro content e b f hw hi
    obtain ⟨hnf, -, -⟩ := h.block content e b hi hw
    show (Blk.run content e b).2 ≠ .fault f
    unfold Blk.run
    cases hd : Blk.decompressBlock content e b with
    | mk p o =>
      obtain ⟨s', b', l, q⟩ := p
      rw [hd] at hnf
      cases o with
      | ok => simp [Blk.BOut.toOut]
      | err er => simp [Blk.BOut.toOut]
      | fault f' => exact absurd rfl (hnf f')

end Zstd.Model

namespace Zstd.Model
open Zstd Zstd.Proofs.DictCopy
open Zstd.Proofs.BitIO (Bytes)

/-- the hasher input is a write-only field for the match copy -/
theorem DBuf.repeat_hashed (b : DBuf) (x : Array Nat) (off ml : Nat) :
    ({ b with hashed := x } : DBuf).repeat off ml =
      (b.repeat off ml).map (fun b' => { b' with hashed := x }) := by
  rw [DBuf.repeat_eq, DBuf.repeat_eq]
  simp only [apply_ite (Except.map _)]
  rfl

theorem executeSequences_hashed (x : Array Nat) (seqs : List Spec.Seq) (lits : List Nat)
    (h : Nat × Nat × Nat) (q : Nat) (b : DBuf) :
    executeSequences seqs lits h q { b with hashed := x } =
      (({ (executeSequences seqs lits h q b).1.1 with hashed := x }, (executeSequences seqs lits h q b).1.2),
        (executeSequences seqs lits h q b).2) := by
  exact executeSequences_comm (fun b => { b with hashed := x }) (fun _ _ => rfl) 0 (fun _ => True)
    (fun b off ml _ _ => DBuf.repeat_hashed b x off ml) seqs lits h q b (Nat.zero_le _) (fun _ _ => trivial)

theorem Blk.run_hashed (x : Array Nat) (content : List Nat) (s : Blk.Scratch) (b : DBuf) :
    Blk.run content s { b with hashed := x } =
      (({ (Blk.run content s b).1.1 with hashed := x }, (Blk.run content s b).1.2), (Blk.run content s b).2) := by
  rw [Blk.run_eq, Blk.run_eq]
  cases Blk.stage content s with
  | stop s' lits o => rfl
  | push s' lits => rfl
  | exec s' lits seqs => simp only [executeSequences_hashed]

@[reducible] def refinesSpecFaithful (Coupled : Spec.Entropy → Blk.Scratch → Prop) (h : RefinesObligation Coupled) :
    RefinesSpec Blk.Scratch where
  coupled := fun s e => Coupled e s
  coupled_fresh := h.fresh
  refines := by
    intro bytes s e e' b out' hb hc htot hs
    obtain ⟨s', b', lits, seqs, hrun, hc', hh, hout, hd, hw, hco, -⟩ :=
      h.block b.window b.dict bytes e e' b.content out' s { b with hashed := #[] } hb hc rfl rfl (by simp)
        (by simpa [CounterOk] using htot) (by simpa [Retained] using Nat.min_le_right _ _) hs
    have hrun0 : Blk.run bytes s { b with hashed := #[] } = ((b', s'), .ok ()) := by
      unfold Blk.run; rw [hrun]; rfl
    have hb' := Blk.run_hashed b.hashed bytes s { b with hashed := #[] }
    rw [hrun0] at hb'
    refine ⟨{ b' with hashed := b.hashed }, s', hb', ⟨?_, hd, hw, rfl, ?_⟩, hc'⟩
    · simpa using hout
    · have : b'.hashed = #[] := hh
      simpa [CounterOk, this] using hco
  offsets_le := by
    intro window dict bytes s e e' out out' hb hc hs hbig
    obtain ⟨lits, used, huf, sq, e1, h2, hlit, hseq, hexec, -, -⟩ := Spec.decodeCompressedBlock_eq_some.mp hs
    intro o ho
    exact execSequences_offsets_le window dict sq lits e1.hist h2 out out'
      (Spec.decodeSequences_ov _ _ _ _ hseq) hexec hbig o (h.seqs bytes e e1 s lits used huf sq hb hc hlit hseq o ho)

end Zstd.Model

namespace Zstd.Model
open Zstd Zstd.Proofs.DictCopy Zstd.Proofs.Blk
open Zstd.Proofs.BitIO (Bytes)

theorem noFaultObligation_holds : NoFaultObligation Blk.WF where
  fresh := Blk.WF_new
  block := fun _ _ b hb hw =>
    have p := Blk.decompressBlock_ok hb hw b
    ⟨p.1, p.2.1, fun e he h1 h2 => ⟨((p.2.2 e he).1 h1), ((p.2.2 e he).2 h2)⟩⟩

theorem refinesObligation_holds : RefinesObligation Coupled where
  fresh := coupled_fresh
  block := decompressBlock_refines_full_holds
  seqs := by
    intro bytes e e1 s lits used huf sq hb hc hlit hseq
    have hL := decodeLiterals_refines_full_holds bytes e.huf huf lits used s.huf hb hc.huf hlit
    unfold Blk.offsets
    rcases stage_of_spec hb hc hL hseq with ⟨-, o, hst⟩ | ⟨s', hc', ⟨-, hst⟩ | hst⟩
    · rw [hst]; nofun
    · rw [hst]; nofun
    · rw [hst, ← hc'.hist]
      exact fun o ho => ho

instance instNoFaultFaithful : NoFaultContract Blk.Scratch := noFaultFaithful Blk.WF noFaultObligation_holds

instance instRefinesSpecFaithful : RefinesSpec Blk.Scratch := refinesSpecFaithful Coupled refinesObligation_holds

end Zstd.Model
