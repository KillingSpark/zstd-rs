import Zstd.Model.Fse
/-
What `Fse.histogram` (the `counts[..=max_symbol.max(1)]` of `build_table_from_data`) computes: the list of
`List.count`s of the symbols `0 … max m 1`, `m` the largest symbol below 256 that occurs
(`histogram_eq_map`).
-/
namespace Zstd.Proofs.Huf
open Zstd Zstd.Model

/-- the counting loop `counts[x] += 1` of `build_table_from_data` (and of `HuffmanTable::build_from_data`) -/
def countLoop (data : List Nat) (init : Array Nat) : Array Nat :=
  data.foldl (fun (c : Array Nat) x => c.modify x (· + 1)) init

theorem countLoop_getElem? (data : List Nat) : ∀ (init : Array Nat) (i : Nat),
    (countLoop data init)[i]? = init[i]?.map (· + data.count i) := by
  induction data with
  | nil => intro init i; simp [countLoop]
  | cons x xs ih =>
    intro init i
    have h : countLoop (x :: xs) init = countLoop xs (init.modify x (· + 1)) := rfl
    rw [h, ih, Array.getElem?_modify, List.count_cons]
    by_cases hx : x = i
    · subst hx
      cases init[x]? with
      | none => simp
      | some v => simp; omega
    · have : (x == i) = false := by simpa using hx
      simp [hx]

theorem counts_size (data : List Nat) : ∀ (init : Array Nat), (countLoop data init).size = init.size := by
  induction data with
  | nil => intro init; rfl
  | cons x xs ih =>
    intro init
    have h : countLoop (x :: xs) init = countLoop xs (init.modify x (· + 1)) := rfl
    rw [h, ih, Array.size_modify]

theorem counts_getD (data : List Nat) (i : Nat) :
    (countLoop data (Array.replicate 256 0)).getD i 0 = if i < 256 then data.count i else 0 := by
  rw [Array.getD_eq_getD_getElem?, countLoop_getElem?]
  by_cases hi : i < 256
  · simp [hi]
  · simp [hi]

def maxOf (data : List Nat) : Nat := data.foldl (fun m x => Nat.max m x) 0

theorem foldl_max_ge (data : List Nat) : ∀ (m : Nat), m ≤ data.foldl (fun m x => Nat.max m x) m ∧
    (∀ x ∈ data, x ≤ data.foldl (fun m x => Nat.max m x) m) ∧
    (data.foldl (fun m x => Nat.max m x) m = m ∨ data.foldl (fun m x => Nat.max m x) m ∈ data) := by
  induction data with
  | nil => intro m; simp
  | cons a as ih =>
    intro m
    obtain ⟨h1, h2, h3⟩ := ih (Nat.max m a)
    simp only [List.foldl_cons]
    refine ⟨Nat.le_trans (Nat.le_max_left m a) h1, ?_, ?_⟩
    · intro x hx
      rcases List.mem_cons.mp hx with rfl | hx
      · exact Nat.le_trans (Nat.le_max_right m x) h1
      · exact h2 x hx
    · rcases h3 with h | h
      · rw [h]
        rcases Nat.le_total m a with hle | hle
        · right
          have : Nat.max m a = a := Nat.max_eq_right hle
          rw [this]; exact List.mem_cons_self
        · left; exact Nat.max_eq_left hle
      · right; exact List.mem_cons_of_mem _ h

theorem maxOf_ge {data : List Nat} {x : Nat} (h : x ∈ data) : x ≤ maxOf data := (foldl_max_ge data 0).2.1 x h

theorem maxOf_mem {data : List Nat} (hne : data ≠ []) : maxOf data ∈ data := by
  rcases (foldl_max_ge data 0).2.2 with h | h
  · -- the maximum is 0: every element is 0
    cases data with
    | nil => exact absurd rfl hne
    | cons a as =>
      have ha : a ≤ maxOf (a :: as) := maxOf_ge List.mem_cons_self
      have h0 : maxOf (a :: as) = 0 := h
      have : a = 0 := by omega
      rw [h0, this]; exact List.mem_cons_self
  · exact h

/-- `max_symbol` in `histogram`: the largest symbol below 256 that occurs in `data`, 0 if none does -/
def maxSym (data : List Nat) : Nat := maxOf (data.filter (· < 256))

theorem maxSym_ge {data : List Nat} {x : Nat} (h : x ∈ data) (h256 : x < 256) : x ≤ maxSym data :=
  maxOf_ge (List.mem_filter.mpr ⟨h, by simpa using h256⟩)

theorem maxSym_mem (data : List Nat) : maxSym data = 0 ∨ (maxSym data ∈ data ∧ maxSym data < 256) := by
  unfold maxSym
  by_cases hne : data.filter (· < 256) = []
  · left; rw [hne]; rfl
  · have := List.mem_filter.mp (maxOf_mem hne)
    exact Or.inr ⟨this.1, by simpa using this.2⟩

/-- the maximum-symbol loop of `histogram` -/
def maxLoop (counts : Array Nat) (n : Nat) : Nat :=
  (List.range n).foldl (fun m i => if counts.getD i 0 > 0 then i else m) 0

theorem maxLoop_spec (counts : Array Nat) : ∀ n,
    (maxLoop counts n = 0 ∨ (counts.getD (maxLoop counts n) 0 > 0 ∧ maxLoop counts n < n)) ∧
      ∀ i < n, counts.getD i 0 > 0 → i ≤ maxLoop counts n := by
  intro n
  induction n with
  | zero => exact ⟨Or.inl rfl, fun i hi => absurd hi (Nat.not_lt_zero _)⟩
  | succ n ih =>
    have h : maxLoop counts (n + 1) = if counts.getD n 0 > 0 then n else maxLoop counts n := by
      simp [maxLoop, List.range_succ, List.foldl_append]
    rw [h]
    by_cases hn : counts.getD n 0 > 0
    · rw [if_pos hn]
      refine ⟨Or.inr ⟨hn, by omega⟩, fun i hi _ => by omega⟩
    · rw [if_neg hn]
      refine ⟨ih.1.imp_right fun ⟨h1, h2⟩ => ⟨h1, Nat.lt_succ_of_lt h2⟩, fun i hi hc => ?_⟩
      by_cases hin : i = n
      · subst hin; exact absurd hc hn
      · exact ih.2 i (by omega) hc

theorem maxLoop_counts (data : List Nat) : maxLoop (countLoop data (Array.replicate 256 0)) 256 = maxSym data := by
  obtain ⟨m1, m2⟩ := maxLoop_spec (countLoop data (Array.replicate 256 0)) 256
  simp only [counts_getD] at m1 m2
  apply Nat.le_antisymm
  · rcases m1 with h0 | ⟨hpos, hlt⟩
    · omega
    · rw [if_pos hlt] at hpos
      exact maxSym_ge (List.count_pos_iff.mp hpos) hlt
  · rcases maxSym_mem data with h0 | ⟨hmem, hlt⟩
    · omega
    · exact m2 _ hlt (by rw [if_pos hlt]; exact List.count_pos_iff.mpr hmem)

theorem histogram_eq_map (data : List Nat) :
    Fse.histogram data = (List.range (max (maxSym data) 1 + 1)).map (fun s => data.count s) := by
  have hM : Fse.histogram data =
      ((countLoop data (Array.replicate 256 0)).extract 0
        (max (maxLoop (countLoop data (Array.replicate 256 0)) 256) 1 + 1)).toList := rfl
  have hN : maxSym data < 256 := by rcases maxSym_mem data with h | ⟨_, h⟩ <;> omega
  rw [hM, maxLoop_counts]
  apply List.ext_getElem?
  intro i
  rw [Array.getElem?_toList, Array.getElem?_extract, counts_size, Array.size_replicate, Nat.zero_add,
    List.getElem?_map]
  by_cases hi : i < max (maxSym data) 1 + 1
  · rw [if_pos (by omega), List.getElem?_range hi, countLoop_getElem?, Array.getElem?_replicate,
      if_pos (by omega)]
    simp
  · rw [if_neg (by omega), List.getElem?_eq_none (by rw [List.length_range]; omega)]
    rfl

theorem histogram_length (data : List Nat) : (Fse.histogram data).length = max (maxSym data) 1 + 1 := by
  rw [histogram_eq_map, List.length_map, List.length_range]

theorem histogram_getD (data : List Nat) {i : Nat} (hi : i < (Fse.histogram data).length) :
    (Fse.histogram data).getD i 0 = data.count i := by
  rw [histogram_length] at hi
  rw [histogram_eq_map, List.getD_eq_getElem?_getD, List.getElem?_map, List.getElem?_range hi]
  rfl

/-- 11 is the format's limit for a weight (`MAX_MAX_NUM_BITS`, `huff0_decoder.rs:9`), which the compressor's
weights keep (`Props.C13.shape_valid`) -/
theorem histogram_weights (ws : List Nat) (hle : ∀ w ∈ ws, w ≤ 11) (hpos : ∃ w ∈ ws, 1 ≤ w) :
    let h := Fse.histogram ws
    2 ≤ h.length ∧ h.length ≤ 12 ∧ (∀ i, i < h.length → h.getD i 0 = ws.count i) ∧
      (∀ x ∈ ws, x < h.length) ∧ (∀ c, h.getLast? = some c → c > 0) := by
  intro h
  have hh : h = Fse.histogram ws := rfl
  clear_value h
  subst hh
  have hlen := histogram_length ws
  obtain ⟨w0, hw0, hw01⟩ := hpos
  have hM1 : 1 ≤ maxSym ws := Nat.le_trans hw01 (maxSym_ge hw0 (by have := hle w0 hw0; omega))
  obtain ⟨hmem, -⟩ := (maxSym_mem ws).resolve_left (by omega)
  have hM11 := hle _ hmem
  refine ⟨by omega, by omega, fun i hi => histogram_getD ws hi, fun x hx => ?_, fun c hc => ?_⟩
  · have := maxSym_ge hx (by have := hle x hx; omega)
    omega
  · rw [List.getLast?_eq_getElem?, hlen] at hc
    have hg := histogram_getD ws (i := maxSym ws) (by omega)
    rw [List.getD_eq_getElem?_getD, show maxSym ws = max (maxSym ws) 1 + 1 - 1 by omega, hc] at hg
    rw [show c = ws.count (max (maxSym ws) 1 + 1 - 1) from hg]
    rw [show max (maxSym ws) 1 + 1 - 1 = maxSym ws by omega]
    exact List.count_pos_iff.mpr hmem

end Zstd.Proofs.Huf
