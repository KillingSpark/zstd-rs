import Zstd.Proofs.EncLoop
import Zstd.Spec.Frame
import Zstd.Proofs.Headers
/-
Helper lemmas for C02 / C15 / C16: the block header in closed form, and what the strict Spec
decoder does on the three kinds of block `compress` emits.
-/
namespace Zstd.Proofs.Enc
open Zstd Zstd.Model.Enc

theorem blockHeaderBytes_eq : Gen.blockHeaderBytes = 3 := rfl
theorem blockTypeRaw_eq : Gen.blockTypeRaw = 0 := rfl
theorem blockTypeRle_eq : Gen.blockTypeRle = 1 := rfl
theorem blockTypeCompressed_eq : Gen.blockTypeCompressed = 2 := rfl
theorem maxBlockSize_eq : Gen.maxBlockSize = 131072 := rfl

def headerVal (last : Bool) (ty size : Nat) : Nat := size * 8 + ty * 2 + (if last then 1 else 0)

/-- the block-header writer of the header model (`Hdr.serializeBlockHeader`, a second transcription of
`BlockHeader::serialize`) returns what `blockHeader` is -/
theorem serializeBlockHeader_eq_blockHeader (last : Bool) (ty size : Nat) (hty : ty ≤ 2) :
    Model.Hdr.serializeBlockHeader last ty size = .ok (blockHeader last ty size) := by
  simp only [Model.Hdr.serializeBlockHeader, Headers.encBlockTypeMap_id ty hty, blockHeader]
  cases last <;> rfl

theorem blockHeader_eq (last : Bool) (ty size : Nat) (hty : ty ≤ 2) (hsize : size < 2 ^ 21) :
    blockHeader last ty size =
      [headerVal last ty size % 256, headerVal last ty size / 256 % 256, headerVal last ty size / 256 / 256 % 256] := by
  have h := Headers.serializeBlockHeader_eq last ty size hty hsize
  rw [serializeBlockHeader_eq_blockHeader last ty size hty] at h
  have hv : size * 8 + ty * 2 + last.toNat = headerVal last ty size := by cases last <;> rfl
  rw [Except.ok.inj h, hv, Nat.div_div_eq_div_mul]

theorem blockHeader_length (last : Bool) (ty size : Nat) : (blockHeader last ty size).length = 3 := by
  simp [blockHeader, blockHeaderBytes_eq]

theorem parse_headerVal (last : Bool) (ty size : Nat) (hty : ty < 4) (hsize : size < 2 ^ 21) :
    Spec.parseBlockHeader (headerVal last ty size % 256) (headerVal last ty size / 256 % 256)
        (headerVal last ty size / 256 / 256 % 256) = ⟨last, ty, size⟩ := by
  have hv : headerVal last ty size < 2 ^ 24 := by
    unfold headerVal; cases last <;> simp <;> omega
  have e : headerVal last ty size % 256 + 256 * (headerVal last ty size / 256 % 256)
      + 65536 * (headerVal last ty size / 256 / 256 % 256) = headerVal last ty size := by omega
  simp only [Spec.parseBlockHeader, e]
  -- the three fields come back by `% 2`, `/ 2 % 4`, `/ 8`
  unfold headerVal
  cases last <;> simp <;> omega

/-- `bytes` is one block, flagged `last`, that takes the strict block decoder from entropy state `e` and
output `out` to `e'` and `out'`: it stops there if `last`, and goes on with what follows otherwise -/
def BlockDecodes (window : Nat) (dict : Array Nat) (last : Bool) (bytes : List Byte)
    (e : Spec.Entropy) (out : Array Nat) (e' : Spec.Entropy) (out' : Array Nat) : Prop :=
  ∀ (rest : List Byte) (dfuel consumed : Nat),
    Spec.decodeBlocks window dict (dfuel + 1) (bytes ++ rest) e out consumed =
      if last then some (out', consumed + bytes.length)
      else Spec.decodeBlocks window dict dfuel rest e' out' (consumed + bytes.length)

theorem blockDecodes_raw (window : Nat) (dict : Array Nat) (last : Bool) (blk : List Byte)
    (e : Spec.Entropy) (out : Array Nat) (hsz : blk.length ≤ min window Spec.blockMaxSize) :
    BlockDecodes window dict last (blockHeader last 0 blk.length ++ blk) e out e (out ++ blk.toArray) := by
  intro rest dfuel consumed
  have hlt : blk.length < 2 ^ 21 := by simp [Spec.blockMaxSize] at hsz; omega
  rw [List.append_assoc, blockHeader_eq last 0 blk.length (by omega) hlt]
  simp only [List.cons_append, List.nil_append, Spec.decodeBlocks, parse_headerVal last 0 blk.length (by omega) hlt]
  -- behind the header the decoder tests the type, `size ≤ min window blockMax` and that the bytes are there: `hsz`
  simp [Nat.add_assoc, Nat.add_comm blk.length 3]
  intro h; omega

theorem all_eq_replicate (b : Byte) : ∀ (l : List Byte), l.all (fun x => x == b) = true → l = List.replicate l.length b := by
  intro l
  induction l with
  | nil => intro _; rfl
  | cons a as ih =>
    intro h
    simp only [List.all_cons, Bool.and_eq_true, beq_iff_eq] at h
    rw [List.length_cons, List.replicate_succ, h.1, ← ih h.2]

theorem blockDecodes_rle (window : Nat) (dict : Array Nat) (last : Bool) (b : Byte) (n : Nat)
    (e : Spec.Entropy) (out : Array Nat) (hsz : n ≤ min window Spec.blockMaxSize) :
    BlockDecodes window dict last (blockHeader last 1 n ++ [b]) e out e (out ++ (List.replicate n b).toArray) := by
  intro rest dfuel consumed
  have hlt : n < 2 ^ 21 := by simp [Spec.blockMaxSize] at hsz; omega
  rw [List.append_assoc, blockHeader_eq last 1 n (by omega) hlt]
  simp only [List.cons_append, List.nil_append, Spec.decodeBlocks, parse_headerVal last 1 n (by omega) hlt]
  simp
  intro h; omega

theorem blockDecodes_compressed (window : Nat) (dict : Array Nat) (last : Bool) (body : List Byte)
    (e e' : Spec.Entropy) (out out' : Array Nat) (h2 : 2 ≤ body.length) (hmax : body.length ≤ Spec.blockMaxSize)
    (hdec : Spec.decodeCompressedBlock window dict body e out = some (out', e')) :
    BlockDecodes window dict last (blockHeader last 2 body.length ++ body) e out e' out' := by
  intro rest dfuel consumed
  have hlt : body.length < 2 ^ 21 := by simp [Spec.blockMaxSize] at hmax; omega
  rw [List.append_assoc, blockHeader_eq last 2 body.length (by omega) hlt]
  simp only [List.cons_append, List.nil_append, Spec.decodeBlocks, parse_headerVal last 2 body.length (by omega) hlt]
  simp [hdec, Nat.add_assoc, Nat.add_comm body.length 3]
  omega

end Zstd.Proofs.Enc
