import Zstd.Proofs.EncContracts
/-
C15 helper lemmas: an independent structure walker over the block bytes, the size accounting of the
block loop, with the block encoder an ARBITRARY function.
-/
namespace Zstd.Proofs.Enc
open Zstd Zstd.Model.Enc

structure BlockRec where
  last : Bool
  btype : Nat
  /-- the Block_Size field -/
  size : Nat
  /-- bytes the block occupies after its header -/
  stored : Nat
  deriving Repr, DecidableEq

def storedOf (h : Spec.BlockHeader) : Nat := if h.btype = 1 then 1 else h.size

/-- walk block headers up to and including the first block flagged last; returns the blocks and what
follows them.  Knows nothing about the content of compressed blocks. -/
def walkBlocks : Nat → List Byte → Option (List BlockRec × List Byte)
  | 0, _ => none
  | fuel + 1, b0 :: b1 :: b2 :: body =>
    let h := Spec.parseBlockHeader b0 b1 b2
    let stored := storedOf h
    if h.btype = 3 ∨ body.length < stored then none
    else
      let r : BlockRec := ⟨h.last, h.btype, h.size, stored⟩
      if h.last then some ([r], body.drop stored)
      else
        match walkBlocks fuel (body.drop stored) with
        | some (rs, rest) => some (r :: rs, rest)
        | none => none
  | _ + 1, _ => none

/-- a walk ends at the only block flagged last -/
def OneLast : List BlockRec → Prop
  | [] => False
  | [r] => r.last = true
  | r :: rs => r.last = false ∧ OneLast rs

theorem walkBlocks_oneLast : ∀ fuel bytes recs rest, walkBlocks fuel bytes = some (recs, rest) → OneLast recs := by
  intro fuel bytes
  fun_induction walkBlocks fuel bytes with
  | case1 | case2 | case5 | case6 => intro _ _ h; cases h
  | case3 fuel b0 b1 b2 body h stored hok r hl => intro _ _ h; cases h; exact hl
  | case4 fuel b0 b1 b2 body h stored hok r hl rs rest' hrec ih =>
    intro _ _ h; cases h
    have := ih _ _ hrec
    cases rs with
    | nil => exact this.elim
    | cons r' rs' => exact ⟨by simpa using hl, this⟩

/-- what the walker needs of one emitted block: a header of type raw / RLE / compressed followed by
exactly the bytes that type announces, sizes within 128 KiB.  `maxBlk` bounds the blocks given, that is the matcher's
spaces (a hypothesis of `compressLoop_structure`); `131072` is the format's cap on Block_Size, which C15 states of every
block. -/
def EmitShaped {H : Type} (emit : Emit H) (maxBlk : Nat) : Prop :=
  ∀ (last : Bool) (blk : List Byte) (p : Parse) (st st' : EncState H) (bytes : List Byte),
    blk ≠ [] → blk.length ≤ maxBlk → emit last blk p st = .ok (bytes, st') →
    bytes.length ≤ 3 + blk.length ∧
    ∃ ty size body, ty < 3 ∧ size ≤ 131072 ∧ bytes = blockHeader last ty size ++ body ∧
      body.length = (if ty = 1 then 1 else size)

theorem walk_one (fuel : Nat) (last : Bool) (ty size : Nat) (body rest : List Byte) (hty : ty < 3)
    (hsize : size ≤ 131072) (hbody : body.length = (if ty = 1 then 1 else size)) :
    walkBlocks (fuel + 1) (blockHeader last ty size ++ body ++ rest) =
      if last then some ([⟨last, ty, size, body.length⟩], rest)
      else match walkBlocks fuel rest with
        | some (rs, rest') => some (⟨last, ty, size, body.length⟩ :: rs, rest')
        | none => none := by
  rw [blockHeader_eq last ty size (by omega) (by omega)]
  simp only [List.cons_append, List.nil_append, walkBlocks, parse_headerVal last ty size (by omega) (by omega)]
  have hst : storedOf ⟨last, ty, size⟩ = body.length := by simp only [storedOf]; exact hbody.symm
  rw [hst]
  have h3 : ¬ (ty = 3 ∨ (body ++ rest).length < body.length) := by
    simp; omega
  simp only [h3, ↓reduceIte, List.drop_left]

theorem compressLoop_structure {H : Type} (emit : Emit H) (script : Nat → MBlock) (maxBlk : Nat)
    (hspace : ∀ i, 0 < (script i).space) (hmax : ∀ i, (script i).space ≤ maxBlk)
    (hshape : EmitShaped emit maxBlk) (full : List Byte) :
    ∀ fuel idx st hashed frags r, full.length - blockStart script idx < fuel →
      compressLoop emit script fuel idx st hashed (full.drop (blockStart script idx)) frags = .ok r →
      ∃ recs : List BlockRec, idx + recs.length = r.idx ∧
        r.bytes.length ≤ full.length - blockStart script idx + 3 * recs.length ∧
        (∀ rec ∈ recs, rec.btype < 3 ∧ rec.size ≤ 131072 ∧ rec.stored ≤ 131072) ∧
        ∀ (tail : List Byte) (wfuel : Nat), r.bytes.length ≤ wfuel →
          walkBlocks wfuel (r.bytes ++ tail) = some (recs, tail) := by
  intro fuel idx st hashed frags r hfuel hrun
  -- one emitted block: its size, and what the walker makes of it in front of `rest`
  have hblock : ∀ idx last st st' bytes, blockAt script full idx ≠ [] →
      emit last (blockAt script full idx) (script idx).parse st = .ok (bytes, st') →
      3 ≤ bytes.length ∧ bytes.length ≤ 3 + (blockAt script full idx).length ∧
      ∃ rec : BlockRec, (rec.btype < 3 ∧ rec.size ≤ 131072 ∧ rec.stored ≤ 131072) ∧
        ∀ d rest, walkBlocks (d + 1) (bytes ++ rest) =
          if last then some ([rec], rest)
          else match walkBlocks d rest with
            | some (rs, rest') => some (rec :: rs, rest')
            | none => none := by
    intro idx last st st' bytes hne hem
    obtain ⟨hov, ty, size, body, hty, hsize, rfl, hbody⟩ := hshape last _ _ st st' bytes hne
      (Nat.le_trans (blockAt_length_le script full idx) (hmax idx)) hem
    exact ⟨by simp [blockHeader_length], hov, ⟨last, ty, size, body.length⟩,
      ⟨hty, hsize, by show body.length ≤ 131072; rw [hbody]; split <;> omega⟩,
      fun d rest => walk_one d last ty size body rest hty hsize hbody⟩
  apply compressLoop_ok_induct emit script hspace full _ ?_ ?_ ?_ fuel idx st hashed frags r hfuel hrun
  · intro idx st _ _
    refine ⟨[⟨true, 0, 0, 0⟩], rfl, by simp [empty_block_bytes], by simp, fun tail wfuel hw => ?_⟩
    simp only [empty_block_bytes, List.length_cons, List.length_nil] at hw
    obtain ⟨d, rfl⟩ : ∃ d, wfuel = d + 1 := ⟨wfuel - 1, by omega⟩
    simp [empty_block_bytes, walkBlocks, Spec.parseBlockHeader, storedOf]
  · intro idx st _ bytes st' hne hlt hem
    obtain ⟨hb3, hov, rec, hrec, hwalk⟩ := hblock idx true st st' bytes hne hem
    have hcut : (blockAt script full idx).length ≤ full.length - blockStart script idx := by
      rw [blockAt, List.length_take, List.length_drop]; omega
    refine ⟨[rec], rfl, by simp only [List.length_singleton]; omega, by simpa using hrec, fun tail wfuel hw => ?_⟩
    obtain ⟨d, rfl⟩ : ∃ d, wfuel = d + 1 := ⟨wfuel - 1, by simp only at hw; omega⟩
    rw [hwalk d tail, if_pos rfl]
  · intro idx st _ bytes st' r hne hge hem ih
    obtain ⟨recs, hcount, hlen, hall, hwalkr⟩ := ih
    obtain ⟨hb3, hov, rec, hrec, hwalk⟩ := hblock idx false st st' bytes hne hem
    rw [blockAt_length script full idx hge] at hov
    have hsucc : blockStart script (idx + 1) = blockStart script idx + (script idx).space := rfl
    refine ⟨rec :: recs, by simp only [List.length_cons]; omega, by simp only [List.length_append, List.length_cons]; omega,
      List.forall_mem_cons.mpr ⟨hrec, hall⟩, fun tail wfuel hw => ?_⟩
    simp only [List.length_append] at hw
    obtain ⟨d, rfl⟩ : ∃ d, wfuel = d + 1 := ⟨wfuel - 1, by omega⟩
    rw [List.append_assoc, hwalk d (r.bytes ++ tail), if_neg Bool.false_ne_true, hwalkr tail d (by omega)]

theorem emitBlock_overhead {H : Type} (lvl : Level) (enc : BlockEnc H) (last : Bool) (blk : List Byte) (p : Parse)
    (st st' : EncState H) (bytes : List Byte) (hne : blk ≠ [])
    (hem : emitBlock lvl enc last blk p st = .ok (bytes, st')) : bytes.length ≤ 3 + blk.length := by
  have hpos : 1 ≤ blk.length := List.length_pos_iff.mpr hne
  have hmod : blk.length % 2 ^ 32 ≤ blk.length := Nat.mod_le _ _
  cases lvl with
  | uncompressed =>
    obtain ⟨_, rfl, _⟩ := emitBlock_uncompressed_ok hem
    simp [blockHeader_length]
  | fastest =>
    obtain ⟨_, b, _, rfl, _⟩ | ⟨_, compressed, _, _, ⟨rfl, _⟩ | ⟨_, _, rfl, _⟩⟩ := compressFastest_ok hem
    all_goals simp only [List.length_append, blockHeader_length, List.length_singleton]; omega
  | _ => cases hem

theorem emitBlock_shaped {H : Type} (lvl : Level) (enc : BlockEnc H) : EmitShaped (emitBlock lvl enc) 131072 := by
  intro last blk p st st' bytes hne hle hem
  refine ⟨emitBlock_overhead lvl enc last blk p st st' bytes hne hem, ?_⟩
  have hmod : blk.length % 2 ^ 32 = blk.length := Nat.mod_eq_of_lt (by omega)
  cases lvl with
  | uncompressed =>
    obtain ⟨_, rfl, _⟩ := emitBlock_uncompressed_ok hem
    exact ⟨0, blk.length, blk, by omega, hle, rfl, rfl⟩
  | fastest =>
    obtain ⟨_, b, _, rfl, _⟩ | ⟨_, compressed, _, _, ⟨rfl, _⟩ | ⟨_, hmax, rfl, _⟩⟩ := compressFastest_ok hem
    · exact ⟨1, blk.length, [b], by omega, hle, by rw [hmod], rfl⟩
    · exact ⟨0, blk.length, blk, by omega, hle, by rw [hmod], rfl⟩
    · exact ⟨2, compressed.length, compressed, by omega, hmax, by rw [Nat.mod_eq_of_lt (by omega)], rfl⟩
  | _ => cases hem

end Zstd.Proofs.Enc
