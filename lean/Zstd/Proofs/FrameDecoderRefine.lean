import Zstd.Proofs.FrameDecoderBlocks
import Zstd.Proofs.DictCopy
/-
Sequence execution on a buffer that has never been drained (the whole output is the buffer's content): the statements
of Proofs/DictCopy.lean with nothing in front of the buffer.
-/
namespace Zstd.Model
open Zstd Zstd.Proofs.DictCopy

theorem repeat_refines (b : DBuf) (off ml : Nat) (out2 : Array Nat) (h0 : 0 < off)
    (htot : b.totalOut ≤ b.content.size)
    (hreach : off > b.content.size → b.content.size ≤ b.window ∧ off - b.content.size ≤ b.dict.size)
    (hm : Spec.matchCopy b.dict ml off b.content = some out2) :
    ∃ b2, b.repeat off ml = .ok b2 ∧ b2.content = out2 ∧ b2.dict = b.dict ∧ b2.window = b.window ∧
      b2.hashed = b.hashed ∧ b2.totalOut ≤ b2.content.size := by
  have hin : off ≤ b.content.size + b.dict.size := by
    by_cases h : off > b.content.size
    · have := hreach h; omega
    · omega
  obtain ⟨b2, hr, hc, hd, hw, hh⟩ := repeat_eq_matchCopy b off ml out2 h0 (.inr hin) hm
    (fun h => by have := hreach h; omega)
  have := (grows_repeat b b2 off ml hr).count
  exact ⟨b2, hr, hc, hd, hw, hh, by omega⟩

theorem finalSeqSum_shift (seqs : List Spec.Seq) (lits : List Nat) (q : Nat) :
    finalSeqSum seqs lits q = q + finalSeqSum seqs lits 0 := by
  induction seqs generalizing lits q with
  | nil => simp [finalSeqSum]
  | cons s rest ih =>
    simp only [finalSeqSum]
    rw [ih _ (q + s.ml + s.ll), ih _ (0 + s.ml + s.ll)]; omega

theorem execSequences_size (window : Nat) (dict : Array Nat) (seqs : List Spec.Seq) (lits : List Nat)
    (h h' : Spec.OffHist) (out out' : Array Nat)
    (hs : Spec.execSequences window dict seqs lits h out = some (out', h')) :
    out'.size = out.size + finalSeqSum seqs lits 0 := by
  induction seqs generalizing lits h out with
  | nil =>
    simp only [Spec.execSequences, Option.some.injEq, Prod.mk.injEq] at hs
    rw [← hs.1]; simp [finalSeqSum]
  | cons s rest ih =>
    obtain ⟨hll, -, -, out2, hm, hrec⟩ := Spec.execSequences_cons hs
    have h1 := Spec.matchCopy_size _ _ _ _ _ hm
    rw [finalSeqSum, finalSeqSum_shift, ih _ _ _ hrec, h1]
    simp only [Array.size_append, List.size_toArray, List.length_take]
    omega

/-- the model's buffer `b'` holds what the Spec's executor returns (everything else untouched, counter
still not over-counting) -/
structure RefinesOut (b b' : DBuf) (out' : Array Nat) : Prop where
  content : b'.content = out'
  dict : b'.dict = b.dict
  window : b'.window = b.window
  hashed : b'.hashed = b.hashed
  totalOut : b'.totalOut ≤ b'.content.size

theorem executeSequences_refines_aux (seqs : List Spec.Seq) (lits : List Nat) (h h' : Spec.OffHist) (q : Nat)
    (b : DBuf) (out' : Array Nat)
    (hov : ∀ s ∈ seqs, s.ov ≥ 1) (htot : b.totalOut ≤ b.content.size)
    (hspec : Spec.execSequences b.window b.dict seqs lits h b.content = some (out', h'))
    (hsize : finalSeqSum seqs lits q ≤ Gen.maxBlockSize) :
    ∃ b', executeSequences seqs lits (h.r1, h.r2, h.r3) q b = ((b', (h'.r1, h'.r2, h'.r3)), .ok ()) ∧
      RefinesOut b b' out' := by
  have hsz := execSequences_size _ _ _ _ _ _ _ _ hspec
  have hsh := finalSeqSum_shift seqs lits q
  obtain ⟨b', he, g, hc⟩ :=
    executeSequences_sim b.window b.dict #[] seqs lits h b.content out' h' q b hspec hov rfl rfl
      (Array.empty_append ..) (by simpa using htot) (by simpa using Nat.min_le_right _ _) (by omega)
  rw [Array.empty_append] at hc
  exact ⟨b', he, hc, g.dict, g.window, g.hashed, by simpa using g.count_le (k := 0) (by simpa using htot)⟩

end Zstd.Model
