import Zstd.Proofs.BlkHufBits
/-
On a built table (`HufBuilt`) one backward Huffman stream is decoded without a panic and without
running out of fuel (every round consumes at least one bit, so `bits_remaining + max_num_bits`
strictly decreases while the loop runs; any fuel from that measure on suffices, the model's
`8 * len + max_num_bits + 1` is above it).
-/
namespace Zstd.Proofs.Blk
open Zstd Zstd.Model Zstd.Model.Huf Zstd.Model.Huf.Bits
open Zstd.Proofs.Huf (ReaderOk getBits_ok)

theorem entryAt_ok {t : DecTable} {state : Nat} (h : state < t.decode.size) :
    ∃ e, entryAt t state = .ok e ∧ e ∈ t.decode.toList := by
  unfold entryAt
  rw [Array.getElem?_eq_getElem h]
  exact ⟨_, rfl, Array.getElem_mem_toList h⟩

theorem nextState_ok {t : DecTable} (hb : HufBuilt t) {state : Nat} (hs : state < t.decode.size)
    {br : RevReader} (hr : ReaderOk br) :
    ∃ state' br', nextState t state br = .ok (state', br') ∧ state' < t.decode.size ∧ ReaderOk br' ∧
      br'.bitsRemaining + 1 ≤ br.bitsRemaining := by
  obtain ⟨e, he, hmem⟩ := entryAt_ok hs
  obtain ⟨h1, h2⟩ := hb.entries e hmem
  have hle := hb.le
  unfold nextState
  rw [he]
  simp only
  rw [if_neg (by omega)]
  refine ⟨_, _, rfl, ?_, getBits_ok _ hr _, ?_⟩
  · rw [hb.size]
    apply Nat.or_lt_two_pow
    · apply Nat.and_lt_two_pow
      have := Nat.two_pow_pos t.maxNumBits
      omega
    · have := getBits_lt hr e.numBits
      have := Nat.pow_le_pow_right (n := 2) (by omega) h2
      omega
  · have := bitsRemaining_getBits br e.numBits
    show (br.getBits e.numBits).2.bitsRemaining + 1 ≤ _
    omega

theorem decodeLoop_ok {t : DecTable} (hb : HufBuilt t) :
    ∀ (fuel state : Nat) (br : RevReader) (outRev : List Nat), state < t.decode.size → ReaderOk br →
      br.bitsRemaining + (t.maxNumBits : Int) ≤ (fuel : Int) →
      ∃ r, decodeLoop t fuel state br outRev = .ok r := by
  intro fuel
  induction fuel with
  | zero =>
    intro state br outRev _ _ hf
    unfold decodeLoop
    rw [if_neg (by omega)]
    exact ⟨_, rfl⟩
  | succ fuel ih =>
    intro state br outRev hs hr hf
    unfold decodeLoop
    split
    · obtain ⟨e, he, _⟩ := entryAt_ok hs
      obtain ⟨state', br', hn, hs', hr', hdec⟩ := nextState_ok hb hs hr
      simp only [decodeSymbol, he, hn]
      exact ih state' br' _ hs' hr' (by omega)
    · exact ⟨_, rfl⟩

theorem decodeOneStream_no_fault {t : DecTable} (hb : HufBuilt t) (stream : List Nat) (check : Bool)
    (outRev : List Nat) (f : Fault) : decodeOneStream t stream check outRev ≠ .error (.fault f) := by
  unfold decodeOneStream
  have hr0 := ReaderOk_new stream
  have hb0 := bitsRemaining_new stream
  obtain ⟨hr1, hb1⟩ := skipPadding_inv 9 0 _ hr0
  have hr2 := getBits_ok _ hr1 t.maxNumBits
  have hb2 := bitsRemaining_getBits (skipPadding 9 0 (RevReader.new stream)).2 t.maxNumBits
  have hlt := getBits_lt hr1 t.maxNumBits
  rw [← hb.size] at hlt
  obtain ⟨r, hr⟩ := decodeLoop_ok hb (8 * stream.length + t.maxNumBits + 1) _ _ outRev hlt hr2
    (by omega)
  simp only [initState]
  split
  · intro h; cases h
  · rw [hr]
    simp only
    split
    · intro h; cases h
    · intro h; cases h

end Zstd.Proofs.Blk
