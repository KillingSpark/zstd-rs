import Zstd.Proofs.SeqStream
import Zstd.Proofs.SeqTables
import Zstd.Proofs.EncCodes
import Zstd.Proofs.SeqCodes
/-
The sequences section of a compressed block, end to end against the STRICT specification:
the bytes `encode_seqnum` + `encodeSeqSectionReal` (modes byte, three table descriptions written by
`write_table` from tables built with `build_table_from_data(codes, 9/9/8, true)`, the interleaved
three-state bitstream of `encode_sequences`) are decoded by `Spec.decodeSequences` to exactly the
sequences, and the three tables become the tables in force.
-/
namespace Zstd.Proofs.SeqSection
open Zstd Zstd.Spec Zstd.Model Zstd.Model.Fse Zstd.Model.BitIO Zstd.Model.Enc
open Zstd.Proofs.BitIO Zstd.Proofs.SeqCoupled Zstd.Proofs.SeqStream Zstd.Proofs.SeqTables Zstd.Proofs.Enc

theorem cons_of_bitsLE_byte {l : List Nat} {B : List Bool} {v : Nat} (hb : Bytes l) (hv : v < 256)
    (h : bitsLE l = bitsOfLE 8 v ++ B) : ∃ rest, l = v :: rest ∧ Bytes rest ∧ bitsLE rest = B := by
  cases l with
  | nil =>
    have := congrArg List.length h
    simp [bitsLE] at this
    omega
  | cons b rest =>
    obtain ⟨hb0, hbr⟩ := Bytes_cons.mp hb
    rw [bitsLE, byteBitsLE_eq] at h
    have hsplit := List.append_inj h (by rw [length_bitsOfLE, length_bitsOfLE])
    have hbv : b = v := by
      rw [← valLE_bitsOfLE (n := 8) (v := b) (by omega), hsplit.1, valLE_bitsOfLE (by omega)]
    subst hbv
    exact ⟨rest, rfl, hbr, hsplit.2⟩

theorem parseSeqCount_append {l : List Nat} {n k : Nat} (h : parseSeqCount l = some (n, k)) (r : List Nat) :
    parseSeqCount (l ++ r) = some (n, k) := by
  cases l with
  | nil => cases h
  | cons b0 rest =>
    simp only [List.cons_append, parseSeqCount] at h ⊢
    by_cases h0 : b0 = 0
    · rwa [if_pos h0] at h ⊢
    rw [if_neg h0] at h ⊢
    by_cases h1 : b0 < 128
    · rwa [if_pos h1] at h ⊢
    rw [if_neg h1] at h ⊢
    by_cases h2 : b0 < 255
    · rw [if_pos h2] at h ⊢
      cases rest with
      | nil => cases h
      | cons b1 t => exact h
    · rw [if_neg h2] at h ⊢
      rcases rest with _ | ⟨b1, _ | ⟨b2, t⟩⟩
      · cases h
      · cases h
      · exact h

theorem llCodeTable_length : Spec.llCodeTable.length = 36 := by decide
theorem mlCodeTable_length : Spec.mlCodeTable.length = 53 := by decide

theorem CodedFacts.ll_le {c : CodedSeq} {s : Spec.Seq} (h : CodedFacts c s) : c.ll.1 ≤ 35 := by
  obtain ⟨base, hb, _⟩ := h.llRow
  have := (List.getElem?_eq_some_iff.mp hb).1
  rw [llCodeTable_length] at this; omega

theorem CodedFacts.ml_le {c : CodedSeq} {s : Spec.Seq} (h : CodedFacts c s) : c.ml.1 ≤ 52 := by
  obtain ⟨base, hb, _⟩ := h.mlRow
  have := (List.getElem?_eq_some_iff.mp hb).1
  rw [mlCodeTable_length] at this; omega

def specSeq (r : RSeq) : Spec.Seq := ⟨r.ll, r.ml, r.of⟩

/-- in-range values: what `sequence_codes_in_range` (C16) establishes for every valid parse -/
def InRange (r : RSeq) : Prop := r.ll ≤ 131071 ∧ 3 ≤ r.ml ∧ r.ml ≤ 131074 ∧ 1 ≤ r.of ∧ r.of < 2 ^ 32

theorem rfc_row {table : List (Nat × Nat)} {lookup : Nat → Except Fault (Nat × Nat)} {n : Nat}
    (hlen : table.length = n) (hrfc : ∀ c, c < n → lookup c = .ok (table.getD c (0, 0)))
    {c base bits : Nat} (hc : c < n) (h : lookup c = .ok (base, bits)) : table[c]? = some (base, bits) := by
  rw [hrfc c hc, List.getD_eq_getElem?_getD, List.getElem?_eq_getElem (hlen ▸ hc)] at h
  rw [List.getElem?_eq_getElem (hlen ▸ hc)]
  exact congrArg some (Except.ok.inj h)

theorem codedFacts_of_inRange {r : RSeq} (hr : InRange r) {a b c : Nat × Nat × Nat}
    (ha : encodeLL r.ll = .ok a) (hb : encodeML r.ml = .ok b) (hc : encodeOffset r.of = .ok c) :
    CodedFacts ⟨a, b, c⟩ (specSeq r) := by
  obtain ⟨h1, h2, h3, h4, h5⟩ := hr
  obtain ⟨c1, e1, b1, base1, g1, gc1, gl1, gs1, ge1⟩ := Zstd.Proofs.SeqCodes.encodeLL_roundtrip r.ll h1
  obtain ⟨_, _, _, g1', _, _, gb1⟩ := encodeLL_ok r.ll (by omega)
  obtain ⟨c2, e2, b2, base2, g2, gc2, gl2, gs2, ge2⟩ := Zstd.Proofs.SeqCodes.encodeML_roundtrip r.ml h2 h3
  obtain ⟨_, _, _, g2', _, _, gb2⟩ := encodeML_ok r.ml h2 (by omega)
  rw [g1] at ha g1'; rw [g2] at hb g2'
  cases ha; cases hb; cases g1'; cases g2'
  obtain ⟨cc, ee, bb⟩ := c
  obtain ⟨k1, _, k3, k4, _, k6⟩ := Zstd.Proofs.SeqCodes.encodeOffset_roundtrip r.of cc ee bb h4 h5 hc
  subst k4
  exact ⟨⟨base1, rfc_row llCodeTable_length Zstd.Proofs.SeqCodes.lookupLL_eq_rfc (Nat.lt_succ_of_le gc1) gl1, gs1.symm⟩,
    ⟨base2, rfc_row mlCodeTable_length Zstd.Proofs.SeqCodes.lookupML_eq_rfc (Nat.lt_succ_of_le gc2) gl2, gs2.symm⟩,
    ⟨rfl, k1, k6.symm⟩, ⟨ge1, gb1⟩, ⟨ge2, gb2⟩, k3⟩

/-- the `FSE_Compressed` arm of `Spec.readSeqTable` -/
def TableAt (bytes : List Nat) (maxLog maxSym : Nat) (T : Spec.Fse.Table) (k : Nat) : Prop :=
  ∃ al probs, Spec.Fse.readDescription bytes maxLog maxSym = some (al, probs, k) ∧
    Spec.Fse.buildTable al probs = some T

theorem TableAt.readSeqTable {bytes : List Nat} {maxLog maxSym k : Nat} {T : Spec.Fse.Table}
    (h : TableAt bytes maxLog maxSym T k) (dflt : Nat × List Int) (prev : Option Spec.Fse.Table) :
    Spec.readSeqTable 2 bytes maxLog maxSym dflt prev = some (T, k) := by
  obtain ⟨al, probs, h1, h2⟩ := h
  simp [Spec.readSeqTable, h1, h2]

/-- what the Spec reads behind the modes byte 168 (`2·64 + 2·16 + 2·4`: mode 2, `FSE_Compressed`, for each of the
three tables) -/
def SectionBody (rest : List Nat) (LL OF ML : Spec.Fse.Table) (seqs : List Spec.Seq) : Prop :=
  ∃ k1 k2 k3, TableAt rest 9 35 LL k1 ∧ TableAt (rest.drop k1) 8 31 OF k2 ∧
    TableAt (rest.drop (k1 + k2)) 9 52 ML k3 ∧
    Spec.decodeSeqBits LL OF ML seqs.length (rest.drop (k1 + k2 + k3)) = some seqs

theorem specDecodes_of_body {cnt rest : List Nat} {seqs : List Spec.Seq} {LL OF ML : Spec.Fse.Table}
    (hcnt : parseSeqCount (cnt ++ 168 :: rest) = some (seqs.length, cnt.length))
    (hne : seqs ≠ []) (h : SectionBody rest LL OF ML seqs) (e : Spec.Entropy) :
    Spec.decodeSequences (cnt ++ 168 :: rest) e
      = some (seqs, { e with ll := some LL, of := some OF, ml := some ML }) := by
  obtain ⟨k1, k2, k3, hL, hO, hM, hS⟩ := h
  exact Spec.decodeSequences_eq_some.mpr (.coded seqs.length cnt.length 168 rest LL OF ML k1 k2 k3 seqs hcnt
    (by simpa using hne) (List.drop_left ..) (by decide) (hL.readSeqTable _ _) (hO.readSeqTable _ _)
    (hM.readSeqTable _ _) hS)

theorem fromData_tableAt (codes : List Nat) (maxLog maxSym : Nat) (hlog5 : 5 ≤ maxLog) (hlog9 : maxLog ≤ 9)
    (hsym1 : 1 ≤ maxSym) (hsym255 : maxSym ≤ 255) (hfit : maxSym + 1 ≤ 2 ^ maxLog)
    (hne : codes ≠ []) (hc : ∀ c ∈ codes, c ≤ maxSym) :
    ∃ et al T, buildTableFromData codes maxLog true = .ok et ∧ SCoupled et T al (fun s => s ∈ codes) ∧
      ∀ {w : BitWriter} {L : List Bool}, WInv w L → L.length % 8 = 0 →
        ∃ w' D k, et.writeTable w = .ok w' ∧ WInv w' (L ++ D) ∧ D.length = 8 * k ∧
          ∀ (bytes : List Nat) (rest : List Bool), Bytes bytes → bitsLE bytes = D ++ rest →
            TableAt bytes maxLog maxSym T k ∧ bitsLE (bytes.drop k) = rest := by
  obtain ⟨et, probs, al, dec, ctr, h⟩ :=
    fromData codes maxLog maxSym maxSym hlog5 hlog9 hsym1 (Nat.le_refl _) hsym255 hfit hne hc
  refine ⟨et, al, _, h.build, h.scoupled hlog9, fun hw hL => ?_⟩
  obtain ⟨w', D, hw', hi, hD, hread⟩ := h.description hlog9 hw hL
  have hk : D.length = 8 * (D.length / 8) := by omega
  refine ⟨w', D, D.length / 8, hw', hi, hk, fun bytes rest _ hbits => ⟨⟨al, probs, hread bytes rest hbits, h.spec⟩, ?_⟩⟩
  rw [bitsLE_drop, hbits, ← hk, List.drop_left]

theorem encodeSeqSection_reads (ps : List (CodedSeq × Spec.Seq)) (hne : ps ≠ [])
    (hf : ∀ p ∈ ps, CodedFacts p.1 p.2) :
    ∃ rest LL OF ML, encodeSeqSectionReal (ps.map (·.1)) = .ok (168 :: rest) ∧ Bytes rest ∧
      SectionBody rest LL OF ML (ps.map (·.2)) := by
  have hcne : ∀ (f : CodedSeq → Nat), (ps.map (·.1)).map f ≠ [] := fun f => by simpa using hne
  have hcle : ∀ (f : CodedSeq → Nat) (m : Nat), (∀ p ∈ ps, f p.1 ≤ m) → ∀ c ∈ (ps.map (·.1)).map f, c ≤ m := by
    intro f m h c hc
    simp only [List.mem_map] at hc
    obtain ⟨_, ⟨p, hp, rfl⟩, rfl⟩ := hc
    exact h p hp
  obtain ⟨llT, alL, LL, hbl, hcL, hdL⟩ := fromData_tableAt ((ps.map (·.1)).map (·.ll.1)) 9 35
    (by decide) (by decide) (by decide) (by decide) (by decide) (hcne _) (hcle _ _ fun p hp => (hf p hp).ll_le)
  obtain ⟨mlT, alM, ML, hbm, hcM, hdM⟩ := fromData_tableAt ((ps.map (·.1)).map (·.ml.1)) 9 52
    (by decide) (by decide) (by decide) (by decide) (by decide) (hcne _) (hcle _ _ fun p hp => (hf p hp).ml_le)
  obtain ⟨ofT, alO, OF, hbo, hcO, hdO⟩ := fromData_tableAt ((ps.map (·.1)).map (·.of.1)) 8 31
    (by decide) (by decide) (by decide) (by decide) (by decide) (hcne _) (hcle _ _ fun p hp => (hf p hp).ofRow.2.1)
  obtain ⟨w0, hw0, hi0⟩ := bitWriter_refines (v := 168) (n := 8) WInv_new (by decide) (by decide)
  simp only [List.nil_append] at hi0
  obtain ⟨w1, D1, k1, hw1, hi1, ha1, hr1⟩ := hdL hi0 (by simp)
  obtain ⟨w2, D2, k2, hw2, hi2, ha2, hr2⟩ := hdO hi1 (by simp [List.length_append]; omega)
  obtain ⟨w3, D3, k3, hw3, hi3, ha3, hr3⟩ := hdM hi2 (by simp [List.length_append]; omega)
  have hmem : ∀ (f : CodedSeq → Nat), ∀ p ∈ ps, f p.1 ∈ (ps.map (·.1)).map f :=
    fun f p hp => List.mem_map.mpr ⟨p.1, List.mem_map.mpr ⟨p, hp, rfl⟩, rfl⟩
  obtain ⟨w4, S, hw4, hi4, ha4, hdec⟩ := seq_stream_decodes hcL hcM hcO ps hne
    (fun p hp => ⟨hf p hp, hmem _ p hp, hmem _ p hp, hmem _ p hp⟩) hi3
  obtain ⟨out, hdump, hbits, hbytes⟩ := bitWriter_dump hi4 (by
    simp only [List.length_append, length_bitsOfLE] at ha4 ⊢; omega)
  have hbody : encodeSeqSectionReal (ps.map (·.1)) = .ok out.toList := by
    simp only [encodeSeqSectionReal, Gen.llEncMaxLog, Gen.mlEncMaxLog, Gen.ofEncMaxLog, Gen.seqEncAvoidZeroBits, hbl, hbm, hbo]
    show dumpBytes _ = _
    have h168 : (2 * 64 + 2 * 16 + 2 * 4 : Nat) = 168 := by decide
    simp only [h168, hw0, hw1, hw2, hw3, hw4, dumpBytes, hdump]
  obtain ⟨rest, hout, hb0, hbits0⟩ := cons_of_bitsLE_byte (v := 168) (B := D1 ++ (D2 ++ (D3 ++ S))) hbytes (by decide)
    (by simp only [hbits, List.append_assoc])
  obtain ⟨hT1, hbits1⟩ := hr1 rest _ hb0 hbits0
  obtain ⟨hT2, hbits2⟩ := hr2 _ _ (Bytes_drop hb0 k1) hbits1
  obtain ⟨hT3, hbits3⟩ := hr3 _ _ (Bytes_drop (Bytes_drop hb0 k1) k2) hbits2
  rw [List.drop_drop] at hT3
  rw [List.drop_drop, List.drop_drop, ← Nat.add_assoc] at hbits3
  exact ⟨rest, LL, OF, ML, by rw [hbody, hout], hb0, k1, k2, k3, hT1, hT2, hT3,
    by rw [List.length_map]; exact hdec _ hbits3⟩

theorem encode_decode_sequences_coded (ps : List (CodedSeq × Spec.Seq)) (hne : ps ≠ [])
    (hn : ps.length ≤ 0xFFFF + 0x7F00) (hf : ∀ p ∈ ps, CodedFacts p.1 p.2) :
    ∃ cnt body LL OF ML, encodeSeqnum ps.length = .ok cnt ∧
      encodeSeqSectionReal (ps.map (·.1)) = .ok body ∧ Bytes (cnt ++ body) ∧
      ∀ e : Spec.Entropy, Spec.decodeSequences (cnt ++ body) e
        = some (ps.map (·.2), { e with ll := some LL, of := some OF, ml := some ML }) := by
  obtain ⟨cnt, hcnt, hcb, _, hparse⟩ := Zstd.Proofs.SeqCodes.encodeSeqnum_roundtrip ps.length 168
    (List.length_pos_iff.mpr hne) hn
  obtain ⟨rest, LL, OF, ML, hbody, hbr, hB⟩ := encodeSeqSection_reads ps hne hf
  have hp : parseSeqCount (cnt ++ 168 :: rest) = some ((ps.map (·.2)).length, cnt.length) := by
    simpa using parseSeqCount_append hparse rest
  exact ⟨cnt, 168 :: rest, LL, OF, ML, hcnt, hbody, Bytes_append.mpr ⟨hcb, Bytes_cons.mpr ⟨by decide, hbr⟩⟩,
    specDecodes_of_body hp (by simpa using hne) hB⟩

theorem codedFacts_of_inRange_all : ∀ (rseqs : List RSeq), (∀ r ∈ rseqs, InRange r) →
    ∃ lls mls ofs, ∃ ps : List (CodedSeq × Spec.Seq),
      mapMExcept (fun s : RSeq => encodeLL s.ll) rseqs = .ok lls ∧
      mapMExcept (fun s : RSeq => encodeML s.ml) rseqs = .ok mls ∧
      mapMExcept (fun s : RSeq => encodeOffset s.of) rseqs = .ok ofs ∧
      ps.map (·.1) = (lls.zip (mls.zip ofs)).map (fun (a, b, c) => CodedSeq.mk a b c) ∧
      ps.map (·.2) = rseqs.map specSeq ∧ ps.length = rseqs.length ∧ ∀ p ∈ ps, CodedFacts p.1 p.2
  | [], _ => ⟨[], [], [], [], rfl, rfl, rfl, rfl, rfl, rfl, by simp⟩
  | r :: rest, hr => by
    obtain ⟨lls, mls, ofs, ps, h1, h2, h3, p1, p2, p3, p4⟩ :=
      codedFacts_of_inRange_all rest (fun x hx => hr x (List.mem_cons_of_mem _ hx))
    have hin := hr r (List.mem_cons_self ..)
    obtain ⟨c1, x1, b1, ha, _⟩ := encodeLL_ok r.ll (by have := hin.1; omega)
    obtain ⟨c2, x2, b2, hb, _⟩ := encodeML_ok r.ml hin.2.1 (by have := hin.2.2.1; omega)
    obtain ⟨c3, x3, hc, _⟩ := encodeOffset_ok r.of hin.2.2.2.1 hin.2.2.2.2
    refine ⟨(c1, x1, b1) :: lls, (c2, x2, b2) :: mls, (c3, x3, c3) :: ofs,
      (⟨(c1, x1, b1), (c2, x2, b2), (c3, x3, c3)⟩, specSeq r) :: ps, by simp only [mapMExcept, ha, h1],
      by simp only [mapMExcept, hb, h2], by simp only [mapMExcept, hc, h3], by simp [p1], by simp [p2],
      by simp [p3], ?_⟩
    intro p hp
    rcases List.mem_cons.mp hp with rfl | hp
    · exact codedFacts_of_inRange hin ha hb hc
    · exact p4 p hp

/-- ONE byte string is decoded from EVERY entropy state `e`: the writer does not look at it -/
theorem encode_decode_sequences_all (rseqs : List RSeq) (hne : rseqs ≠ []) (hn : rseqs.length ≤ 0xFFFF + 0x7F00)
    (hr : ∀ r ∈ rseqs, InRange r) :
    ∃ lls mls ofs cnt body LL OF ML,
      mapMExcept (fun s : RSeq => encodeLL s.ll) rseqs = .ok lls ∧
      mapMExcept (fun s : RSeq => encodeML s.ml) rseqs = .ok mls ∧
      mapMExcept (fun s : RSeq => encodeOffset s.of) rseqs = .ok ofs ∧
      encodeSeqnum rseqs.length = .ok cnt ∧
      encodeSeqSectionReal ((lls.zip (mls.zip ofs)).map (fun (a, b, c) => CodedSeq.mk a b c)) = .ok body ∧
      Bytes (cnt ++ body) ∧
      ∀ e : Spec.Entropy, Spec.decodeSequences (cnt ++ body) e
        = some (rseqs.map specSeq, { e with ll := some LL, of := some OF, ml := some ML }) := by
  obtain ⟨lls, mls, ofs, ps, h1, h2, h3, p1, p2, p3, p4⟩ := codedFacts_of_inRange_all rseqs hr
  obtain ⟨cnt, body, LL, OF, ML, hc, hb, hby, hd⟩ := encode_decode_sequences_coded ps
    (by rintro rfl; exact hne (List.eq_nil_of_length_eq_zero p3.symm)) (by omega) p4
  rw [p3] at hc; rw [p1] at hb; rw [p2] at hd
  exact ⟨lls, mls, ofs, cnt, body, LL, OF, ML, h1, h2, h3, hc, hb, hby, hd⟩

theorem encode_decode_sequences (rseqs : List RSeq) (hne : rseqs ≠ []) (hn : rseqs.length ≤ 0xFFFF + 0x7F00)
    (hr : ∀ r ∈ rseqs, InRange r) (e : Spec.Entropy) :
    ∃ lls mls ofs cnt body LL OF ML,
      mapMExcept (fun s : RSeq => encodeLL s.ll) rseqs = .ok lls ∧
      mapMExcept (fun s : RSeq => encodeML s.ml) rseqs = .ok mls ∧
      mapMExcept (fun s : RSeq => encodeOffset s.of) rseqs = .ok ofs ∧
      encodeSeqnum rseqs.length = .ok cnt ∧
      encodeSeqSectionReal ((lls.zip (mls.zip ofs)).map (fun (a, b, c) => CodedSeq.mk a b c)) = .ok body ∧
      Bytes (cnt ++ body) ∧
      Spec.decodeSequences (cnt ++ body) e
        = some (rseqs.map specSeq, { e with ll := some LL, of := some OF, ml := some ML }) :=
  let ⟨lls, mls, ofs, cnt, body, LL, OF, ML, h1, h2, h3, hc, hb, hby, hd⟩ := encode_decode_sequences_all rseqs hne hn hr
  ⟨lls, mls, ofs, cnt, body, LL, OF, ML, h1, h2, h3, hc, hb, hby, hd e⟩

end Zstd.Proofs.SeqSection
