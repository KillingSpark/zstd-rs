import Zstd.Proofs.HufLt128Bound
import Zstd.Proofs.HufRoundtripFse
import Zstd.Proofs.HufShape
/-
`fse_weights_lt_128`, lifted from the finite table to every histogram: the weights of a table that
`build_from_counts` returns are the shape for `n` spread over the used symbols, so the value histogram
of the transmitted weights is `shape n` + `z` zeros − the dropped weight — one of the evaluated cases, or
so short that `boundOf_le` applies (`boundOf_transmitted_le`, `writeTable_total`).
What `build_from_counts` does once the shape is known (`CountsTable`, `countsTable_of_shape`) is used by the rest of
the development as well.
-/
namespace Zstd.Proofs.Huf
open Zstd Zstd.Model Zstd.Model.Huf Zstd.Proofs.HufLt128 Zstd.Proofs.HufShape

theorem valueCounts_getElem? (l : List Nat) (x : Nat) :
    (valueCounts l)[x]? = if x < 12 then some (l.count x) else none := by
  unfold valueCounts
  rw [List.getElem?_map]
  split
  · rw [List.getElem?_range ‹_›]; rfl
  · rw [List.getElem?_eq_none (by simpa using ‹¬ x < 12›)]; rfl

theorem valueCounts_dropLast (ws wd' : List Nat) (d : Nat) (hc : ∀ x, x ≠ 0 → (wd' ++ [d]).count x = ws.count x) :
    valueCounts wd' = wd'.count 0 ::
      match d with
      | 0 => (valueCounts ws).tail
      | d + 1 => lessOne (valueCounts ws).tail d := by
  apply List.ext_getElem?
  intro i
  rw [valueCounts_getElem?]
  cases i with
  | zero => rfl
  | succ i =>
    have hi := hc (i + 1) (by omega)
    rw [List.count_append, List.count_singleton] at hi
    rw [List.getElem?_cons_succ]
    cases d with
    | zero =>
      rw [show ((0 : Nat) == i + 1) = false from rfl] at hi
      rw [List.getElem?_tail, valueCounts_getElem?, ← hi]
      rfl
    | succ d =>
      show _ = ((valueCounts ws).tail.modify d (· - 1))[i]?
      rw [List.getElem?_modify, List.getElem?_tail, valueCounts_getElem?, ← hi]
      by_cases h12 : i + 1 < 12
      · rw [if_pos h12, if_pos h12]
        show _ = some (if d = i then _ else _)
        by_cases hdi : d = i
        · rw [if_pos hdi, hdi, beq_self_eq_true]; rfl
        · rw [if_neg hdi, show (d + 1 == i + 1) = false from by simpa using hdi]; rfl
      · rw [if_neg h12, if_neg h12]; split <;> rfl

theorem trimRev_zeros (k : Nat) (l : List Nat) : trimRev (List.replicate k 0 ++ l) = trimRev l := by
  induction k with
  | zero => rfl
  | succ k ih => simp only [List.replicate_succ, List.cons_append, trimRev, ih]

theorem trim_padded (H : List Nat) (k : Nat) (h2 : 2 ≤ H.length) (hlast : ∀ c, H.getLast? = some c → c > 0) :
    trim (H ++ List.replicate k 0) = H := by
  have hrev : trimRev H.reverse = H.reverse := by
    match hr : H.reverse with
    | [] => rfl
    | 0 :: r =>
      have := hlast 0 (by rw [List.getLast?_eq_head?_reverse, hr]; rfl)
      omega
    | (c + 1) :: r => rfl
  unfold trim
  rw [List.reverse_append, List.reverse_replicate, trimRev_zeros, hrev, List.reverse_reverse]
  match H, h2 with
  | _ :: _ :: _, _ => rfl

theorem histogram_eq_trim (ws : List Nat) (hle : ∀ w ∈ ws, w ≤ 11) (hpos : ∃ w ∈ ws, 1 ≤ w) :
    Fse.histogram ws = trim (valueCounts ws) := by
  obtain ⟨h2, h12, hget, hmem, hlast⟩ := histogram_weights ws hle hpos
  have hpad : valueCounts ws = Fse.histogram ws ++ List.replicate (12 - (Fse.histogram ws).length) 0 := by
    apply List.ext_getElem?
    intro x
    rw [valueCounts_getElem?]
    rcases Nat.lt_or_ge x (Fse.histogram ws).length with hl | hl
    · rw [if_pos (by omega), List.getElem?_append_left hl, ← hget x hl, List.getD_eq_getElem?_getD,
        List.getElem?_eq_getElem hl]
      rfl
    · -- beyond the histogram no value occurs
      have : ws.count x = 0 := List.count_eq_zero.mpr fun hxm => by have := hmem x hxm; omega
      rw [List.getElem?_append_right hl, List.getElem?_replicate, this]
      by_cases hx : x < 12
      · rw [if_pos hx, if_pos (by omega)]
      · rw [if_neg hx, if_neg (by omega)]
  rw [hpad, trim_padded _ _ h2 hlast]

theorem shape_ok_range {n : Nat} {ws : List Nat} (h : shape n = .ok ws) : 2 ≤ n ∧ n ≤ 256 := by
  unfold shape distributeWeights at h
  by_cases h1 : Gen.hufAmountLoOk n Gen.hufAmountLo = true
  · by_cases h2 : Gen.hufAmountHiOk n Gen.hufAmountHi = true
    · simp only [Gen.hufAmountLoOk, Gen.hufAmountLo, Gen.hufAmountHiOk, Gen.hufAmountHi] at h1 h2
      exact ⟨of_decide_eq_true h1, of_decide_eq_true h2⟩
    · have : Gen.hufAmountHiOk n Gen.hufAmountHi = false := by simpa using h2
      simp [h1, this] at h
  · have : Gen.hufAmountLoOk n Gen.hufAmountLo = false := by simpa using h1
    simp [this] at h

theorem shape_facts {n : Nat} {ws : List Nat} (hs : shape n = .ok ws) :
    ws.length = n ∧ (∀ w ∈ ws, 1 ≤ w) ∧ ws.head? = some 1 ∧
    weightSum ws = 2 ^ Nat.log2 (weightSum ws) ∧ Nat.log2 (weightSum ws) ≤ 11 := by
  obtain ⟨h1, h2⟩ := shape_ok_range hs
  have hok := shapeOk_all n h1 h2
  simp only [shapeOk, hs, Bool.and_eq_true, beq_iff_eq, decide_eq_true_eq, allGe1_iff] at hok
  obtain ⟨⟨⟨⟨⟨hl, hge⟩, _⟩, hh⟩, hp⟩, hlog⟩ := hok
  exact ⟨hl, hge, hh, (isPow2_iff.mp hp).2.symm, hlog⟩

/-- `build_from_counts` on a histogram whose occurring symbols get the shape `ws`: `wd` is the weight vector it hands to
`build_from_weights` (a zero for every symbol, one per occurring symbol replaced by a weight of the shape), `2^m` its
Kraft sum, `t` the code of `wd` -/
structure CountsTable (counts ws wd : List Nat) (m : Nat) (t : EncTable) : Prop where
  perm : (wd ++ List.replicate ws.length 0).Perm (List.replicate counts.length 0 ++ ws)
  placed : ∀ p ∈ rankOrder counts, p.2 = false → ∃ w ∈ ws, wd[p.1]? = some w
  ge1 : ∀ w ∈ ws, 1 ≤ w
  one : 1 ∈ ws
  m1 : 1 ≤ m
  m11 : m ≤ 11
  len : wd.length = counts.length
  sum : weightSum wd = 2 ^ m
  le : ∀ w ∈ wd, w ≤ m
  table : buildFromCounts counts = .ok t
  build : buildFromWeights wd = .ok t
  codes : CodesOk wd m t.codes

theorem CountsTable.oneW {counts ws wd : List Nat} {m : Nat} {t : EncTable} (f : CountsTable counts ws wd m t) :
    1 ∈ wd := by
  have := f.perm.symm.subset (List.mem_append_right _ f.one)
  simpa using this

theorem CountsTable.count {counts ws wd : List Nat} {m : Nat} {t : EncTable} (f : CountsTable counts ws wd m t) :
    wd.count 0 + ws.length = counts.length ∧ ∀ x, x ≠ 0 → wd.count x = ws.count x := by
  have h := fun x => f.perm.count_eq x
  simp only [List.count_append, List.count_replicate, beq_iff_eq] at h
  have h0 : ws.count 0 = 0 := List.count_eq_zero.mpr fun hm => by have := f.ge1 0 hm; omega
  refine ⟨by have := h 0; rwa [if_pos rfl, if_pos rfl, h0, Nat.add_zero] at this, fun x hx => ?_⟩
  have := h x
  rwa [if_neg (Ne.symm hx), if_neg (Ne.symm hx), Nat.add_zero, Nat.zero_add] at this

/-- by `boundOf_le` for at most 148 weights (147 of them transmitted), by the finite table otherwise -/
theorem boundOf_transmitted_le {n m : Nat} {counts ws wd : List Nat} {t : EncTable} (hs : shape n = .ok ws)
    (f : CountsTable counts ws wd m t) (hlen : counts.length ≤ 256) (hne : wd ≠ [])
    (hpos : ∃ w ∈ wd.dropLast, 1 ≤ w) : boundOf (Fse.histogram wd.dropLast) ≤ 1023 := by
  obtain ⟨h1, h2⟩ := shape_ok_range hs
  have hwl := (shape_facts hs).1
  obtain ⟨hz, hcount⟩ := f.count
  rw [hwl] at hz
  have hle : ∀ w ∈ wd, w ≤ 11 := fun w hw => Nat.le_trans (f.le w hw) f.m11
  have hle' : ∀ w ∈ wd.dropLast, w ≤ 11 := fun w hw => hle w (List.dropLast_subset _ hw)
  by_cases hsmall : counts.length < 149
  · have := boundOf_le wd.dropLast hle' hpos
    rw [List.length_dropLast, f.len] at this
    omega
  have hok := tableOk_all n h1 h2
  simp only [tableOk, hs, Bool.and_eq_true, sweepHead, List.all_eq_true, List.mem_range'_1, List.mem_range,
    decide_eq_true_eq, Bool.or_eq_true, beq_iff_eq] at hok
  -- `hzero`: the weight not transmitted is one of the zeros; `hdrop d`: it is a weight `d + 1` of the shape
  obtain ⟨_, hzero, hdrop⟩ := hok
  obtain ⟨wd', d, rfl⟩ : ∃ wd' d, wd = wd' ++ [d] := ⟨_, _, (List.dropLast_concat_getLast hne).symm⟩
  rw [List.dropLast_concat] at hle' hpos ⊢
  rw [List.count_append, List.count_singleton] at hz
  rw [histogram_eq_trim wd' hle' hpos, valueCounts_dropLast ws wd' d hcount]
  cases d with
  | zero => exact hzero _ (by simp at hz; omega)
  | succ d =>
    have hd12 : d < 11 := by have := hle (d + 1) (by simp); omega
    have hocc : 1 ≤ ws.count (d + 1) := by
      rw [← hcount (d + 1) (by omega)]; simp
    refine (hdrop d hd12).resolve_left (fun h0' => ?_) _ (by simp at hz; omega)
    rw [List.getD_eq_getElem?_getD, List.getElem?_tail, valueCounts_getElem?, if_pos (by omega)] at h0'
    exact absurd h0' (by simpa using Nat.ne_of_gt hocc)

theorem countsTable_of_shape (counts : List Nat) (hlen : counts.length ≤ 256) {ws : List Nat}
    (hs : shape (counts.length - ((rankOrder counts).filter (·.2)).length) = .ok ws) :
    ∃ wd t, CountsTable counts ws wd (Nat.log2 (weightSum ws)) t := by
  obtain ⟨hn2, _⟩ := shape_ok_range hs
  obtain ⟨hwl, hge1, hhead, hsum, hlog⟩ := shape_facts hs
  obtain ⟨p1, p2, p3⟩ := rankOrder_props counts
  have hcnt : ((rankOrder counts).filter (fun p => !p.2)).length = ws.length := by rw [filter_not_length, p3, hwl]
  obtain ⟨wd, hsc, hwdlen, hperm, _, hplaced, _⟩ := scatter_ok (rankOrder counts) ws (List.replicate counts.length 0) p1
    (fun p hp => by simp [p2 p hp]) hcnt
  have s3 : weightSum wd = 2 ^ Nat.log2 (weightSum ws) := by
    have := weightSum_perm hperm
    rw [weightSum_append, weightSum_append, weightSum_replicate_zero, weightSum_replicate_zero] at this
    omega
  have hone : 1 ∈ ws := List.mem_of_mem_head? (by rw [hhead]; rfl)
  have hm1 : 1 ≤ Nat.log2 (weightSum ws) := by
    have h1 := weightSum_ge_of_mem hge1 hone
    rcases Nat.eq_zero_or_pos (Nat.log2 (weightSum ws)) with h0 | h0
    · rw [h0] at hsum; omega
    · exact h0
  have hwdle : ∀ w ∈ wd, w ≤ Nat.log2 (weightSum ws) := fun w hw => by
    rcases List.mem_append.mp (hperm.mem_iff.mp (List.mem_append_left _ hw)) with h | h
    · have := List.eq_of_mem_replicate h; omega
    · -- a shape weight: `2^(w−1)` is one of at least two summands of `2^m`
      have h1 := weightSum_ge_of_mem hge1 h
      have : 2 ^ (w - 1) < 2 ^ Nat.log2 (weightSum ws) := by omega
      have := (Nat.pow_lt_pow_iff_right (by omega : 1 < 2)).mp this
      omega
  obtain ⟨t, b1, b2⟩ := buildFromWeights_ok wd (Nat.log2 (weightSum ws)) (by rw [hwdlen]; simpa using hlen) (by omega) hwdle s3
  refine ⟨wd, t, hperm, hplaced, hge1, hone, hm1, hlog, by rw [hwdlen]; simp, s3, hwdle, ?_, b1, b2⟩
  rw [buildFromCounts_eq counts hlen, hs]
  simp only [hsc]
  exact b1

/-- **`write_table` is total on the compressor's tables**: for every histogram (at most 256 entries)
for which `build_from_counts` returns a table, `write_table` with the real FSE coder returns a
description — the `assert!(encoded_len < 128)` never fires, nor any other panic site. -/
theorem writeTable_total (counts : List Nat) (t : EncTable) (hlen : counts.length ≤ 256)
    (hb : buildFromCounts counts = .ok t) : ∃ desc, writeTable Enc.fseWeights t = .ok desc := by
  cases hs : shape (counts.length - ((rankOrder counts).filter (·.2)).length) with
  | error f => rw [buildFromCounts_eq counts hlen, hs] at hb; cases hb
  | ok ws =>
    obtain ⟨wd, t', f⟩ := countsTable_of_shape counts hlen hs
    cases f.table.symm.trans hb
    have hweights := weights_of_codesOk f.codes f.oneW f.le
    have hle11 : ∀ w ∈ wd, w ≤ 11 := fun w hw => Nat.le_trans (f.le w hw) f.m11
    have hle11' : ∀ w ∈ wd.dropLast, w ≤ 11 := fun w hw => hle11 w (List.dropLast_subset _ hw)
    by_cases hform : 16 < wd.dropLast.length
    · have hne : wd ≠ [] := by intro h; rw [h] at hform; simp at hform
      -- at least two weights are not zero, so one of them is transmitted
      have hpos : ∃ w ∈ wd.dropLast, 1 ≤ w := by
        apply Classical.byContradiction
        intro hno
        have hall : wd.dropLast.count 0 = wd.dropLast.length :=
          List.count_eq_length.mpr fun b hb => by
            have := not_exists.mp hno b
            simp only [not_and] at this
            have := this hb
            omega
        have hsub := (List.dropLast_sublist wd).count_le 0
        have h0 := f.count.1
        have hdl : wd.dropLast.length = wd.length - 1 := List.length_dropLast
        have := (shape_ok_range hs).1
        have := (shape_facts hs).1
        have := f.len
        omega
      obtain ⟨bytes, hfse, _, _⟩ := fseWeights_roundtrip wd.dropLast (by omega) (by have := f.len; simp; omega) hle11'
      have hsize := fseWeights_size wd.dropLast (by omega) hle11' hpos bytes hfse
      have hbound := boundOf_transmitted_le hs f hlen hne hpos
      refine ⟨bytes.length :: bytes, ?_⟩
      simp only [writeTable_fse Enc.fseWeights hweights hform, hfse, if_pos (show bytes.length < 128 by omega)]
    · obtain ⟨bs, hb1, _, _⟩ := nibbles_directBytes wd.dropLast fun w hw => by have := hle11' w hw; omega
      exact ⟨_, writeTable_direct Enc.fseWeights hweights (by omega) hb1⟩

theorem shape_total (n : Nat) (h1 : 2 ≤ n) (h2 : n ≤ 256) : ∃ ws, shape n = .ok ws := by
  have h := shapeOk_all n h1 h2
  unfold shapeOk at h
  cases hs : shape n with
  | error f => rw [hs] at h; cases h
  | ok ws => exact ⟨ws, rfl⟩

theorem buildFromCounts_canon (counts : List Nat) (hlen : counts.length ≤ 256)
    (hn : 2 ≤ counts.length - ((rankOrder counts).filter (·.2)).length)
    (hlast : ∀ c, counts.getLast? = some c → c ≠ 0) :
    ∃ t wd m, buildFromCounts counts = .ok t ∧ CanonTable t wd m ∧ wd.length = counts.length ∧
      (∀ s (h : s < counts.length), counts[s] ≠ 0 → ∃ h' : s < wd.length, wd[s] > 0) := by
  obtain ⟨ws, hs⟩ := shape_total (counts.length - ((rankOrder counts).filter (·.2)).length) hn (by omega)
  obtain ⟨wd, t, f⟩ := countsTable_of_shape counts hlen hs
  have hocc : ∀ s (h : s < counts.length), counts[s] ≠ 0 → ∃ h' : s < wd.length, wd[s] > 0 := by
    intro s hs hne
    obtain ⟨x, hx, hx'⟩ := f.placed _ (rankOrder_mem counts s hs) (by simpa using hne)
    obtain ⟨hs', hget⟩ := List.getElem?_eq_some_iff.mp hx'
    exact ⟨hs', by rw [hget]; exact f.ge1 x hx⟩
  refine ⟨t, wd, _, f.table, ⟨f.build, by have := f.len; omega, by have := f.len; omega, f.m1, f.m11, f.le, f.sum,
    f.oneW, ?_⟩, f.len, hocc⟩
  intro w hw
  rw [List.getLast?_eq_getElem?, f.len] at hw
  have hL : counts.length - 1 < counts.length := by omega
  obtain ⟨h', hpos⟩ := hocc _ hL (hlast _ (by rw [List.getLast?_eq_getElem?, List.getElem?_eq_getElem hL]))
  rw [List.getElem?_eq_getElem h', Option.some.injEq] at hw
  exact hw ▸ hpos

end Zstd.Proofs.Huf
