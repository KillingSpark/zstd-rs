import Zstd.Proofs.EncContracts
import Zstd.Proofs.EncCodes
import Zstd.Proofs.LitHeader
import Zstd.Proofs.Spec.Block
/-
C16 helper lemmas about `compress_block` above the entropy coders: the model's executor of a parse and what a valid
parse implies for the sequences; the raw-literals section decoded by the strict Spec; the contract of an abstract literal
coder; what `compress_block` has written when it returns.
-/
namespace Zstd.Proofs.Enc
open Zstd Zstd.Model Zstd.Model.Enc

/-- bytes a parse regenerates -/
def parseSpan : List MSeq → List Byte → Nat
  | [], tail => tail.length
  | s :: rest, tail => s.lits.length + s.matchLen + parseSpan rest tail

theorem copyMatch_succ_some {n off : Nat} {out out' : Array Byte} (h : copyMatch (n + 1) off out = some out') :
    1 ≤ off ∧ off ≤ out.size ∧ ∃ b, out[out.size - off]? = some b ∧ copyMatch n off (out.push b) = some out' := by
  simp only [copyMatch] at h
  split at h
  · cases h
  · split at h
    · exact ⟨by omega, by omega, _, ‹_›, h⟩
    · cases h

theorem execParse_cons_some {w : Nat} {s : MSeq} {rest : List MSeq} {tail : List Byte} {out out' : Array Byte}
    (h : execParse w (s :: rest) tail out = some out') :
    3 ≤ s.matchLen ∧ 1 ≤ s.offset ∧ s.offset ≤ w ∧ s.offset ≤ (out ++ s.lits.toArray).size ∧
    ∃ out2, copyMatch s.matchLen s.offset (out ++ s.lits.toArray) = some out2 ∧
      execParse w rest tail out2 = some out' := by
  simp only [execParse] at h
  split at h
  · cases h
  · split at h
    · cases h
    · exact ⟨by omega, by omega, by omega, by omega, _, ‹_›, h⟩

/-- the model's copy is the Spec's copy; the dictionary branch of the Spec is never taken, because
`offset ≤ out.size` is checked by `copyMatch` at every byte -/
theorem copyMatch_matchCopy : ∀ (n off : Nat) (out out' : Array Byte),
    copyMatch n off out = some out' → Spec.matchCopy #[] n off out = some out' := by
  intro n
  induction n with
  | zero =>
    intro off out out' h
    simpa [copyMatch, Spec.matchCopy] using h
  | succ n ih =>
    intro off out out' h
    obtain ⟨_, hle, b, hb, hrec⟩ := copyMatch_succ_some h
    simp only [Spec.matchCopy, hle, ↓reduceIte, hb]
    exact ih _ _ _ hrec

theorem copyMatch_appends {n off : Nat} {out out' : Array Byte} (h : copyMatch n off out = some out') :
    ∃ x, out' = out ++ x ∧ x.size = n :=
  Spec.matchCopy_appends #[] n off out out' (copyMatch_matchCopy n off out out' h)

/-- the last two conjuncts serve `LitCoder.validParse_literals_mem`: the literals handed to the literal coder are bytes
of the data -/
theorem execParse_facts (w : Nat) : ∀ (seqs : List MSeq) (tail : List Byte) (out out' : Array Byte),
    execParse w seqs tail out = some out' →
    out'.size = out.size + parseSpan seqs tail ∧ 3 * seqs.length ≤ parseSpan seqs tail ∧
    (parseLiterals ⟨seqs, tail⟩).length ≤ parseSpan seqs tail ∧
    (∀ s ∈ seqs, 3 ≤ s.matchLen ∧ 1 ≤ s.offset ∧ s.offset ≤ w ∧ s.offset ≤ out'.size ∧
      s.lits.length + s.matchLen ≤ parseSpan seqs tail) ∧
    (∀ x ∈ out.toList, x ∈ out'.toList) ∧ ∀ x ∈ parseLiterals ⟨seqs, tail⟩, x ∈ out'.toList := by
  intro seqs
  induction seqs with
  | nil =>
    intro tail out out' h
    simp only [execParse, Option.some.injEq] at h
    subst h
    simp only [parseSpan, parseLiterals, List.flatMap_nil, List.nil_append]
    exact ⟨by simp, by simp, Nat.le_refl _, by simp, fun x hx => by simp [hx], fun x hx => by simp [hx]⟩
  | cons s rest ih =>
    intro tail out out' h
    obtain ⟨h3, ho1, how, hop, out2, hcm, hrest⟩ := execParse_cons_some h
    obtain ⟨c, rfl, hc⟩ := copyMatch_appends hcm
    obtain ⟨h1, hcount, hlits, hall, hpre, hmem⟩ := ih tail _ out' hrest
    simp only [Array.size_append, List.size_toArray] at h1 hop
    simp only [parseLiterals, List.flatMap_cons, List.length_append, parseSpan, List.length_cons] at hlits ⊢
    refine ⟨by omega, by omega, by omega, ?_, fun x hx => hpre x (by simp [hx]), fun x hx => ?_⟩
    · intro s' hs'
      rcases List.mem_cons.mp hs' with rfl | hs'
      · exact ⟨h3, ho1, how, by omega, by omega⟩
      · obtain ⟨a, b, c, d, e⟩ := hall s' hs'
        exact ⟨a, b, c, d, by omega⟩
    · rcases List.mem_append.mp (by simpa only [List.append_assoc] using hx) with hx | hx
      · exact hpre x (by simp [hx])
      · exact hmem x (by simp only [parseLiterals, List.mem_append]; exact List.mem_append.mp hx)

theorem validParse_exec {w : Nat} {pre blk : List Byte} {p : Parse} (hv : validParse w pre blk p = true) :
    execParse w p.seqs p.tail pre.toArray = some (pre ++ blk).toArray := by
  simp only [validParse] at hv
  split at hv
  · rename_i out hex
    have : out.toList = pre ++ blk := by simpa using hv
    rw [hex, ← this]
  · cases hv

theorem validParse_bounds (w : Nat) (pre blk : List Byte) (seqs : List MSeq) (tail : List Byte)
    (hv : validParse w pre blk ⟨seqs, tail⟩ = true) :
    parseSpan seqs tail = blk.length ∧
    (∀ s ∈ seqs, 3 ≤ s.matchLen ∧ 1 ≤ s.offset ∧ s.offset ≤ w ∧ s.offset ≤ (pre ++ blk).length ∧
      s.lits.length + s.matchLen ≤ blk.length) ∧
    3 * seqs.length ≤ blk.length ∧ (parseLiterals ⟨seqs, tail⟩).length ≤ blk.length := by
  obtain ⟨hsz, hcount, hlits, hall, _⟩ := execParse_facts w seqs tail _ _ (validParse_exec hv)
  simp only [List.size_toArray, List.length_append] at hsz hall
  have hspan : parseSpan seqs tail = blk.length := by omega
  refine ⟨hspan, ?_, by omega, by omega⟩
  intro s hs
  obtain ⟨a, b, c, d, e⟩ := hall s hs
  exact ⟨a, b, c, by simp only [List.length_append]; omega, by omega⟩

theorem rawLitSizeBits_eq : Gen.rawLitSizeBits = 20 := rfl
theorem offsetAdd_eq : Gen.offsetAdd = 3 := rfl

/-- the header `raw_literals` (`ty = 0`) and `rle_literals` (`ty = 1`) write for `n` literals: size
format 3, 20 bits of size, 3 bytes -/
theorem parseLitHeader_size3 (ty n : Nat) (rest : List Byte) (hty : ty < 2) (hn : n < 2 ^ 20) :
    Spec.parseLitHeader (leBytes 3 (ty + 3 * 4 + n * 16) ++ rest) = some ⟨ty, n, 0, 0, 3⟩ := by
  obtain ⟨f1, f2, f3⟩ := Headers.spec_fields_raw ty n hty hn
  rw [show ty + 3 * 4 + n * 16 = 12 + ty + 16 * n by omega, Headers.specLitHeader_leBytes 3 _ rest (by decide) f1 f2, f3]
  rfl

theorem rawLiterals_decodes (lits rest : List Byte) (prev : Option Spec.Huffman.Table) (h : lits.length < 2 ^ 20) :
    ∃ hdr, rawLiterals lits = .ok (hdr ++ lits) ∧ hdr.length = 3 ∧
      Spec.decodeLiterals (hdr ++ lits ++ rest) prev = some (lits, 3 + lits.length, prev) := by
  have hm : lits.length % 2 ^ 32 = lits.length := Nat.mod_eq_of_lt (by omega)
  have h1 : ¬ lits.length ≥ 2 ^ (20 + 1) := by omega
  have h2 : ¬ lits.length ≥ 2 ^ 20 := by omega
  refine ⟨leBytes 3 (0 + 3 * 4 + lits.length * 16), ?_, leBytes_length _ _, ?_⟩
  · simp only [rawLiterals, hm, rawLitSizeBits_eq, h1, h2, ↓reduceIte]
  · rw [List.append_assoc]
    simp only [Spec.decodeLiterals, parseLitHeader_size3 0 _ _ (by omega) h, if_true,
      List.drop_left' (leBytes_length _ _), List.length_append, List.take_left]
    rw [if_neg (by omega)]

/-- CONTRACT of the literal coder (`compress_literals`): whatever it writes, the strict
Spec decodes to the literals, and the table then in force is the one the coder returned, or — when
it returned none (raw literals, or treeless) — still the previous one.
The bound `lits.length < 2^20` (every caller has it: a block holds at most 128 Ki literals) is
NECESSARY for the real coder: `rle_literals` writes `len as u32` into a 20-bit field, so without the
bound the statement is false (`Props.C16.lit_coder_contract_unbounded_false`: 2^32 + 1 equal literals
are written as an RLE section of ONE literal). -/
def LitCoderCorrect {H : Type} (R : H → Spec.Huffman.Table → Prop) (cd : Coders H) : Prop :=
  ∀ (lits : List Byte) (prev : Option H) (bytes : List Byte) (t : Option H)
    (dprev : Option Spec.Huffman.Table) (rest : List Byte),
    lits.length < 2 ^ 20 →
    (∀ h, prev = some h → ∃ d, dprev = some d ∧ R h d) →
    cd.compressLiterals lits prev = .ok (bytes, t) →
    ∃ d', Spec.decodeLiterals (bytes ++ rest) dprev = some (lits, bytes.length, d') ∧
      (∀ h, (t <|> prev) = some h → ∃ d, d' = some d ∧ R h d)

theorem mapMExcept_ok {α β : Type} (f : α → Except Fault β) : ∀ (l : List α),
    (∀ a ∈ l, ∃ b, f a = .ok b) → ∃ bs, mapMExcept f l = .ok bs ∧ bs.length = l.length := by
  intro l
  induction l with
  | nil => intro _; exact ⟨[], rfl, rfl⟩
  | cons a as ih =>
    intro h
    obtain ⟨b, hb⟩ := h a (by simp)
    obtain ⟨bs, hbs, hl⟩ := ih (fun x hx => h x (by simp [hx]))
    exact ⟨b :: bs, by simp [mapMExcept, hb, hbs], by simp [hl]⟩

theorem compressBlock_shape {H : Type} (cd : Coders H) (p : Parse) (st st' : EncState H) (bytes : List Byte)
    (h : compressBlock cd p st = .ok (bytes, st')) :
    ∃ litBytes rest, litStep cd (parseLiterals p) st = .ok (litBytes, st') ∧ bytes = litBytes ++ rest ∧ rest ≠ [] := by
  unfold compressBlock at h
  simp only at h
  split at h
  · cases h
  · rename_i seqs _
    split at h
    · cases h
    · rename_i litBytes st1 hlit
      split at h
      · simp only [Except.ok.injEq, Prod.mk.injEq] at h
        exact ⟨litBytes, [0], by rw [hlit, h.2], h.1.symm, by simp⟩
      · split at h
        · cases h
        · rename_i cnt hcnt
          split at h
          · split at h
            · cases h
            · rename_i body _
              simp only [Except.ok.injEq, Prod.mk.injEq] at h
              refine ⟨litBytes, cnt ++ body, by rw [hlit, h.2], by rw [← h.1, List.append_assoc], ?_⟩
              intro hnil
              exact encodeSeqnum_ne_nil hcnt (List.append_eq_nil_iff.mp hnil).1
          · cases h
          · cases h
          · cases h

end Zstd.Proofs.Enc
