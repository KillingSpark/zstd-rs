import Zstd.Proofs.RingCbo
import Zstd.Proofs.RingSpec
import Zstd.Proofs.Util
/-
The geometry of the ring.  Pointers: `phys` is `%`; a run of logical positions without a wrap inside is a `Seg`; under
the invariant the ring is four such runs, the two data and the two free slices of the Rust code (`Slices`).  Later
files do not unfold `phys`, `free` or `occupied` (`len` only for a buffer with `head = 0`).  Cells: one introduction
rule for "`r` is a valid ring holding `q`" (`inv_abs_of_cells`) and the two pointer moves (`tail_advanced`,
`head_advanced`).  Raw writes: a change of memory confined to a run of free cells keeps what the ring holds
(`Filled.frame`) or appends to it (`Filled.grow`); `Filled.sound` ends an appending operation.
-/
namespace Zstd.Model
open Zstd

namespace RingBuffer

variable {r r' : RingBuffer}

theorem len_cases (r : RingBuffer) :
    (r.head ≤ r.tail ∧ r.len = r.tail - r.head) ∨ (r.tail < r.head ∧ r.len = r.cap - r.head + r.tail) := by
  unfold len; split <;> omega

theorem phys_cases (r : RingBuffer) (i : Nat) :
    (r.head + i < r.cap ∧ r.phys i = r.head + i) ∨ (r.cap ≤ r.head + i ∧ r.phys i = r.head + i - r.cap) := by
  unfold phys; split <;> omega

theorem Inv.head_le (h : r.Inv) : r.head ≤ r.cap := by
  rcases h.bounds with ⟨h0, h1, _⟩ | ⟨hh, _⟩ <;> omega

theorem Inv.tail_le (h : r.Inv) : r.tail ≤ r.cap := by
  rcases h.bounds with ⟨h0, _, h2⟩ | ⟨_, ht⟩ <;> omega

theorem Inv.head_lt (h : r.Inv) (hc : 0 < r.cap) : r.head < r.cap := by
  rcases h.bounds with ⟨h0, _, _⟩ | ⟨hh, _⟩ <;> omega

theorem Inv.tail_lt (h : r.Inv) (hc : 0 < r.cap) : r.tail < r.cap := by
  rcases h.bounds with ⟨h0, _, _⟩ | ⟨_, ht⟩ <;> omega

theorem Inv.len_free_zero_of_cap_zero (h : r.Inv) (hc : r.cap = 0) : r.len = 0 ∧ r.free = 0 := by
  rcases h.bounds with ⟨h0, h1, h2⟩ | ⟨hh, _⟩
  · simp [len, free, h0, h1, h2]
  · omega

theorem Inv.len_free (h : r.Inv) (hc : 0 < r.cap) : r.len + r.free + 1 = r.cap := by
  have := h.head_lt hc; have := h.tail_lt hc
  unfold len free; split <;> split <;> omega

theorem Inv.geom (h : r.Inv) (hc : 0 < r.cap) :
    (r.head ≤ r.tail ∧ r.len + r.head = r.tail ∧ r.free + r.tail + 1 = r.cap + r.head) ∨
    (r.tail < r.head ∧ r.len + r.head = r.cap + r.tail ∧ r.free + r.tail + 1 = r.head) := by
  have := h.head_lt hc; have := h.tail_lt hc
  unfold len free
  by_cases hw : r.head ≤ r.tail
  · rw [if_pos hw, if_neg (by omega)]; omega
  · rw [if_neg hw, if_pos (by omega)]; omega

theorem Inv.len_lt (h : r.Inv) (hc : 0 < r.cap) : r.len < r.cap := by
  have := h.len_free hc; omega

theorem Inv.cap_pos_of_len (h : r.Inv) (hl : 0 < r.len) : 0 < r.cap := by
  rcases Nat.eq_zero_or_pos r.cap with h0 | h0
  · have := (h.len_free_zero_of_cap_zero h0).1; omega
  · exact h0

theorem Inv.cap_pos_of_free (h : r.Inv) (hl : 0 < r.free) : 0 < r.cap := by
  rcases Nat.eq_zero_or_pos r.cap with h0 | h0
  · have := (h.len_free_zero_of_cap_zero h0).2; omega
  · exact h0

theorem Inv.dataSliceLengths_eq (h : r.Inv) :
    r.dataSliceLengths = .ok (if r.tail ≥ r.head then (r.tail - r.head, 0) else (r.cap - r.head, r.tail)) := by
  unfold dataSliceLengths
  split
  · rfl
  · rw [usub_ok h.head_le]; rfl

theorem Inv.freeSliceLengths_eq (h : r.Inv) :
    r.freeSliceLengths = .ok (if r.tail < r.head then (0, r.head - r.tail) else (r.head, r.cap - r.tail)) := by
  unfold freeSliceLengths
  split
  · rfl
  · rw [usub_ok h.tail_le]; rfl

theorem Inv.lenC_eq (h : r.Inv) : r.lenC = .ok r.len := by
  unfold lenC len
  rw [h.dataSliceLengths_eq]
  split <;> simp [ok_bind, pure_eq_ok]

theorem Inv.freeC_eq (h : r.Inv) : r.freeC = .ok r.free := by
  unfold freeC free
  rw [h.freeSliceLengths_eq]
  split <;> simp [ok_bind, pure_eq_ok] <;> omega

theorem phys_eq_mod (hh : r.head < r.cap) {i : Nat} (hi : i ≤ r.cap) : r.phys i = (r.head + i) % r.cap := by
  rw [wrap_eq hh hi]; rfl

theorem phys_add (hh : r.head < r.cap) {i n : Nat} (h : i + n ≤ r.cap) :
    (r.phys i + n) % r.cap = r.phys (i + n) := by
  rw [phys_eq_mod hh (by omega), phys_eq_mod hh h, Nat.mod_add_mod, Nat.add_assoc]

theorem phys_lt_cap (h : r.Inv) {i : Nat} (hi : i < r.cap) : r.phys i < r.cap := by
  rw [phys_eq_mod (h.head_lt (by omega)) (by omega)]; exact Nat.mod_lt _ (by omega)

theorem phys_lt (h : r.Inv) {i : Nat} (hi : i < r.len) : r.phys i < r.cap := by
  have hc := h.cap_pos_of_len (by omega)
  have := h.len_lt hc
  exact phys_lt_cap h (by omega)

theorem phys_inj (h : r.Inv) {i j : Nat} (hi : i < r.cap) (hj : j < r.cap) (he : r.phys i = r.phys j) :
    i = j := by
  have := h.head_lt (by omega); have := phys_cases r i; have := phys_cases r j; omega

theorem phys_len (hh : r.head < r.cap) (ht : r.tail < r.cap) : r.phys r.len = r.tail := by
  have := len_cases r; have := phys_cases r r.len; omega

theorem len_unique (hh : r.head < r.cap) {k : Nat} (hk : k < r.cap) (h : r.phys k = r.tail) : r.len = k := by
  have := len_cases r; have := phys_cases r k; omega

/-- only the bounds part of the invariant is needed -/
theorem occupied_exists_of_bounds
    (hb : (r.cap = 0 ∧ r.head = 0 ∧ r.tail = 0) ∨ (r.head < r.cap ∧ r.tail < r.cap)) {j : Nat}
    (ho : r.occupied j) : ∃ i, i < r.len ∧ r.phys i = j := by
  unfold occupied at ho
  have hl := len_cases r
  by_cases hj : r.head ≤ j
  · exact ⟨j - r.head, by split at ho <;> omega, by have := phys_cases r (j - r.head); split at ho <;> omega⟩
  · exact ⟨r.cap - r.head + j, by split at ho <;> omega,
      by have := phys_cases r (r.cap - r.head + j); split at ho <;> omega⟩

theorem occupied_exists (h : r.Inv) {j : Nat} (ho : r.occupied j) : ∃ i, i < r.len ∧ r.phys i = j :=
  occupied_exists_of_bounds h.bounds ho

theorem occupied_phys_iff (h : r.Inv) {i : Nat} (hi : i < r.cap) : r.occupied (r.phys i) ↔ i < r.len := by
  have hc : 0 < r.cap := by omega
  have := h.head_lt hc; have := h.tail_lt hc
  have := phys_cases r i; have := len_cases r
  unfold occupied; split <;> omega

theorem occupied_phys (h : r.Inv) {i : Nat} (hi : i < r.len) : r.occupied (r.phys i) := by
  have hc := h.cap_pos_of_len (by omega)
  have := h.len_lt hc
  exact (occupied_phys_iff h (by omega)).2 hi

/-- the logical positions `[i, i+n)` lie at the physical offsets `[off, off+n)`: no wrap inside -/
def Seg (r : RingBuffer) (i n off : Nat) : Prop := ∀ u, u < n → off + u = r.phys (i + u)

/-- the piece `[j, j+m)` of a run, wherever it is stated to lie; nothing is asked of an empty piece (`0 < m →`), so
that a slice of length 0 needs no side condition -/
theorem Seg.sub {i n off j m off' : Nat} (h : Seg r i n off)
    (hj : 0 < m → i ≤ j ∧ j + m ≤ i + n ∧ off' + i = off + j) : Seg r j m off' := by
  intro u hu
  have := h (j - i + u) (by omega)
  rw [show i + (j - i + u) = j + u by omega] at this
  omega

theorem seg_lo {i n : Nat} (h : r.head + i + n ≤ r.cap) : Seg r i n (r.head + i) := by
  intro u hu; unfold phys; rw [if_pos (by omega)]; omega

theorem seg_hi {i n : Nat} (h : r.cap ≤ r.head + i) : Seg r i n (r.head + i - r.cap) := by
  intro u hu; unfold phys; rw [if_neg (by omega)]; omega

/-- The ring under its invariant as four runs, in logical order: the data slices `(head, s1)`, `(0, s2)` of
`data_slice_lengths`, the free slices `(tail, f1)`, `(0, f2)` of `free_slice_lengths` (the cell that is never
used is the last of them); only one of the two regions wraps (`geom`). -/
structure Slices (r : RingBuffer) (s1 s2 f1 f2 : Nat) : Prop where
  data1 : Seg r 0 s1 r.head
  data2 : Seg r s1 s2 0
  free1 : Seg r r.len f1 r.tail
  free2 : Seg r (r.len + f1) f2 0
  len : s1 + s2 = r.len
  free : f1 + f2 = r.free + 1
  cap : r.len + r.free + 1 = r.cap
  bounds : r.head < r.cap ∧ r.tail < r.cap
  geom : (r.head ≤ r.tail ∧ s1 + r.head = r.tail ∧ s2 = 0 ∧ f1 + r.tail = r.cap ∧ f2 = r.head) ∨
    (r.tail < r.head ∧ s1 + r.head = r.cap ∧ s2 = r.tail ∧ f1 + r.tail = r.head ∧ f2 = 0)

theorem Inv.slices (hI : r.Inv) (hc : 0 < r.cap) :
    ∃ s1 s2 f1 f2, r.dataSliceLengths = .ok (s1, s2) ∧ r.freeSliceLengths = .ok (f2, f1) ∧
      Slices r s1 s2 f1 f2 := by
  have hlf := hI.len_free hc; have := hI.head_lt hc; have := hI.tail_lt hc
  rw [hI.dataSliceLengths_eq, hI.freeSliceLengths_eq]
  rcases hI.geom hc with ⟨hw, hl, hf⟩ | ⟨hw', hl, hf⟩
  · rw [if_pos hw, if_neg (Nat.not_lt.2 hw)]
    refine ⟨_, _, _, _, rfl, rfl, (seg_lo (i := 0) (n := r.tail - r.head) (by omega)).sub (by omega),
      fun _ h => absurd h (Nat.not_lt_zero _),
      (seg_lo (i := r.len) (n := r.cap - r.tail) (by omega)).sub (by omega),
      (seg_hi (i := r.len + (r.cap - r.tail)) (n := r.head) (by omega)).sub (by omega),
      by omega, by omega, hlf, by omega, .inl (by omega)⟩
  · rw [if_neg (Nat.not_le.2 hw'), if_pos hw']
    refine ⟨_, _, _, _, rfl, rfl, (seg_lo (i := 0) (n := r.cap - r.head) (by omega)).sub (by omega),
      (seg_hi (i := r.cap - r.head) (n := r.tail) (by omega)).sub (by omega),
      (seg_hi (i := r.len) (n := r.head - r.tail) (by omega)).sub (by omega),
      fun _ h => absurd h (Nat.not_lt_zero _), by omega, by omega, hlf, by omega, .inr (by omega)⟩

theorem Inv.initL (h : r.Inv) {i : Nat} (hi : i < r.len) : (r.mem.cell (r.phys i)).isSome :=
  h.init _ (occupied_phys h hi)

theorem Inv.cellL (h : r.Inv) {i : Nat} (hi : i < r.len) : r.mem.cell (r.phys i) = some (r.mem.val (r.phys i)) :=
  Mem.cell_eq_some_val (h.initL hi)

theorem abs_length : r.abs.length = r.len := by simp [abs]

theorem getElem_abs {i : Nat} (hi : i < r.abs.length) : r.abs[i] = r.mem.val (r.phys i) := by
  simp [abs]

theorem getD_abs {i : Nat} (hi : i < r.len) : r.abs.getD i 0 = r.mem.val (r.phys i) := by
  simp [abs, List.getD_eq_getElem?_getD, hi]

theorem Inv.cell_abs (hI : r.Inv) {i : Nat} (hi : i < r.len) : r.mem.cell (r.phys i) = some (r.abs.getD i 0) := by
  rw [getD_abs hi]; exact hI.cellL hi

/-- invariant and content do not depend on the ghost trace -/
theorem same_fields (hI : r.Inv) (h1 : r'.cap = r.cap) (h2 : r'.head = r.head)
    (h3 : r'.tail = r.tail) (h4 : r'.mem = r.mem) :
    r'.Inv ∧ r'.abs = r.abs ∧ r'.len = r.len ∧ r'.cap = r.cap := by
  cases r; cases r'
  simp only at h1 h2 h3 h4
  subst h1 h2 h3 h4
  exact ⟨⟨hI.alloc, hI.init, hI.bounds⟩, rfl, rfl, rfl⟩

theorem inv_abs_of_cells {q : List Byte} (halloc : r.mem.size = r.cap)
    (hb : (r.cap = 0 ∧ r.head = 0 ∧ r.tail = 0) ∨ (r.head < r.cap ∧ r.tail < r.cap)) (hlen : r.len = q.length)
    (hcell : ∀ i, i < r.len → r.mem.cell (r.phys i) = some (q.getD i 0)) : r.Inv ∧ r.abs = q := by
  refine ⟨⟨halloc, fun j hj => ?_, hb⟩, ?_⟩
  · obtain ⟨i, hi, rfl⟩ := occupied_exists_of_bounds hb hj
    rw [hcell i hi]; rfl
  · apply List.ext_getElem
    · rw [abs_length, hlen]
    · intro i h1 h2
      rw [getElem_abs, Mem.val, hcell i (by rwa [abs_length] at h1), Option.getD_some,
        List.getD_eq_getElem?_getD, List.getElem?_eq_getElem h2, Option.getD_some]

theorem tail_advanced (hI : r.Inv) (hc : 0 < r.cap) {n : Nat} (hn : n ≤ r.free) (hcap : r'.cap = r.cap)
    (hhead : r'.head = r.head) (htail : r'.tail = (r.tail + n) % r.cap) :
    (r'.head < r'.cap ∧ r'.tail < r'.cap) ∧ r'.len = r.len + n ∧ ∀ i, r'.phys i = r.phys i := by
  have hh := hI.head_lt hc; have hlf := hI.len_free hc
  have hphys : ∀ i, r'.phys i = r.phys i := by intro i; unfold phys; rw [hcap, hhead]
  rw [← phys_len hh (hI.tail_lt hc), phys_add hh (by omega), ← hphys] at htail
  have hh' : r'.head < r'.cap := by omega
  exact ⟨⟨hh', by rw [htail, hcap]; exact hphys _ ▸ phys_lt_cap hI (by omega)⟩,
    len_unique hh' (by omega) htail.symm, hphys⟩

theorem head_advanced (hI : r.Inv) (hc : 0 < r.cap) {n : Nat} (hn : n ≤ r.len) (hcap : r'.cap = r.cap)
    (htail : r'.tail = r.tail) (hhead : r'.head = (r.head + n) % r.cap) :
    (r'.head < r'.cap ∧ r'.tail < r'.cap) ∧ r'.len = r.len - n ∧ ∀ i, i + n ≤ r.cap → r'.phys i = r.phys (n + i) := by
  have hh := hI.head_lt hc; have hll := hI.len_lt hc
  have hh' : r'.head < r'.cap := by rw [hhead, hcap]; exact Nat.mod_lt _ hc
  have hphys : ∀ i, i + n ≤ r.cap → r'.phys i = r.phys (n + i) := by
    intro i hi
    rw [phys_eq_mod hh' (by omega), phys_eq_mod hh (by omega), hhead, hcap, Nat.mod_add_mod, Nat.add_assoc]
  refine ⟨⟨hh', by rw [htail, hcap]; exact hI.tail_lt hc⟩, len_unique hh' (by omega) ?_, hphys⟩
  rw [hphys _ (by omega), htail, show n + (r.len - n) = r.len by omega, phys_len hh (hI.tail_lt hc)]

theorem readN_seg (hI : r.Inv) (site : String) {off i n : Nat} (hs : Seg r i n off) (hin : i + n ≤ r.len) :
    r.mem.readN site off n = .ok ((r.abs.drop i).take n) := by
  rw [Mem.readN_ok fun u hu => by rw [hs u hu]; exact hI.initL (by omega)]
  congr 1
  apply List.ext_getElem
  · rw [Mem.vals_length, List.length_take, List.length_drop, abs_length]; omega
  · intro u h1 h2
    rw [Mem.vals_length] at h1
    rw [Mem.getElem_vals, List.getElem_take, List.getElem_drop, getElem_abs, hs u h1]

/-- `data_slice_lengths` and the two reads made with them in `as_slices` and `reserve_amortized` -/
theorem dataSlices_ok (hI : r.Inv) (w1 w2 : String) :
    ∃ s : Nat × Nat, r.dataSliceLengths = .ok s ∧ s.1 + s.2 = r.len ∧ (s.1 = 0 → s.2 = 0) ∧
      r.mem.readN w1 r.head s.1 = .ok (r.abs.take s.1) ∧ r.mem.readN w2 0 s.2 = .ok (r.abs.drop s.1) := by
  rcases Nat.eq_zero_or_pos r.cap with h0 | hc
  · -- never allocated: both slices are empty
    have hl := (hI.len_free_zero_of_cap_zero h0).1; have := hI.head_le; have := hI.tail_le
    have ha : r.abs = [] := List.eq_nil_of_length_eq_zero (by rw [abs_length, hl])
    have : r.tail - r.head = 0 := by omega
    rw [hI.dataSliceLengths_eq, if_pos (by omega), this, ha]
    exact ⟨_, rfl, hl.symm, fun _ => rfl, rfl, rfl⟩
  · obtain ⟨s1, s2, f1, f2, e, -, hS⟩ := hI.slices hc
    have hl := hS.len; have := hS.bounds
    refine ⟨_, e, hl, by rcases hS.geom with g | g <;> omega, ?_, ?_⟩
    · rw [readN_seg hI w1 hS.data1 (by omega)]; rfl
    · rw [readN_seg hI w2 hS.data2 (by omega), List.take_of_length_le (by rw [List.length_drop, abs_length]; omega)]

/-- Progress of an operation that appends `data`: the memory `m` differs from the ring's in free cells
only, and the first `t` free cells after `tail` — the logical positions `len, len + 1, …` — hold
`data[0..t)`.  Other free cells may hold anything (zero-fill, over-copy). -/
structure Filled (r : RingBuffer) (m : Mem) (data : List Byte) (t : Nat) : Prop where
  size : m.size = r.mem.size
  old : ∀ i, i < r.len → m.cell (r.phys i) = r.mem.cell (r.phys i)
  new : ∀ u, u < t → m.cell (r.phys (r.len + u)) = some (data.getD u 0)

theorem Filled.refl (r : RingBuffer) (data : List Byte) : Filled r r.mem data 0 :=
  ⟨rfl, fun _ _ => rfl, fun _ h => absurd h (Nat.not_lt_zero _)⟩

variable {m m' : Mem} {data : List Byte} {t : Nat}

theorem Filled.init (hI : r.Inv) (hF : Filled r m data t) {i n off : Nat} (hs : Seg r i n off)
    (hin : i + n ≤ r.len) : ∀ u, u < n → (m.cell (off + u)).isSome := by
  intro u hu
  rw [hs u hu, hF.old _ (by omega)]
  exact hI.initL (by omega)

theorem Filled.frame (hI : r.Inv) (hc : 0 < r.cap) (hF : Filled r m data t) {off k : Nat}
    (hs : Seg r (r.len + t) k off) (hin : r.len + t + k ≤ r.cap)
    (hsize : m'.size = m.size) (hout : ∀ j, ¬ (off ≤ j ∧ j < off + k) → m'.cell j = m.cell j) :
    Filled r m' data t := by
  -- `phys` is injective below `cap`: a logical position outside the run is physically outside it
  have hout' : ∀ i, i < r.cap → (i < r.len + t ∨ r.len + t + k ≤ i) → m'.cell (r.phys i) = m.cell (r.phys i) := by
    intro i hi hik
    refine hout _ fun hr => ?_
    have h1 := hs (r.phys i - off) (by omega)
    rw [show off + (r.phys i - off) = r.phys i by omega] at h1
    have := phys_inj hI hi (by omega) h1
    omega
  have hll := hI.len_lt hc
  exact ⟨hsize.trans hF.size, fun i hi => (hout' i (by omega) (by omega)).trans (hF.old i hi),
    fun u hu => (hout' _ (by omega) (by omega)).trans (hF.new u hu)⟩

theorem Filled.grow (hI : r.Inv) (hc : 0 < r.cap) (hF : Filled r m data t) {off k n : Nat}
    (hs : Seg r (r.len + t) k off) (hin : r.len + t + k ≤ r.cap) (hsize : m'.size = m.size)
    (hout : ∀ j, ¬ (off ≤ j ∧ j < off + k) → m'.cell j = m.cell j) (hn : n ≤ k)
    (hnew : ∀ i, i < n → m'.cell (off + i) = some (data.getD (t + i) 0)) : Filled r m' data (t + n) := by
  have hF' := hF.frame hI hc hs hin hsize hout
  refine ⟨hF'.size, hF'.old, fun u hu => ?_⟩
  by_cases h : u < t
  · exact hF'.new u h
  · have := hs (u - t) (by omega)
    rw [show r.len + t + (u - t) = r.len + u by omega] at this
    rw [← this, hnew _ (by omega), show t + (u - t) = u by omega]

theorem Filled.sound (hI : r.Inv) (hc : 0 < r.cap) (hf : data.length ≤ r.free)
    (hF : Filled r r'.mem data data.length) (hcap : r'.cap = r.cap) (hhead : r'.head = r.head)
    (htail : r'.tail = (r.tail + data.length) % r.cap) :
    r'.Inv ∧ r'.abs = r.abs ++ data ∧ r'.len = r.len + data.length := by
  obtain ⟨hb, hlen, hphys⟩ := tail_advanced hI hc hf hcap hhead htail
  refine and_assoc.1 ⟨inv_abs_of_cells (by rw [hF.size, hcap]; exact hI.alloc) (.inr hb)
    (by rw [hlen, List.length_append, abs_length]) fun i hi => ?_, hlen⟩
  rw [hphys]
  by_cases hil : i < r.len
  · rw [hF.old _ hil, getD_append_left (by rwa [abs_length])]; exact hI.cell_abs hil
  · have := hF.new (i - r.len) (by omega)
    rwa [show r.len + (i - r.len) = i by omega, ← abs_length (r := r),
      ← getD_append_right (by rw [abs_length]; omega)] at this

theorem Filled.unchanged (hI : r.Inv) (hc : 0 < r.cap) (hF : Filled r r'.mem data t) (hcap : r'.cap = r.cap)
    (hhead : r'.head = r.head) (htail : r'.tail = r.tail) :
    r'.Inv ∧ r'.abs = r.abs ∧ r'.len = r.len ∧ r'.cap = r.cap := by
  have := Filled.sound (data := []) hI hc (Nat.zero_le _) ⟨hF.size, hF.old, fun _ h => absurd h (Nat.not_lt_zero _)⟩
    hcap hhead (by rw [htail]; exact (Nat.mod_eq_of_lt (hI.tail_lt hc)).symm)
  exact ⟨this.1, by rw [this.2.1, List.append_nil], this.2.2, hcap⟩

end RingBuffer

end Zstd.Model
