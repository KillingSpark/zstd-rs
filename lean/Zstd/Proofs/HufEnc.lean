import Zstd.Proofs.HufCanon
/-
The encoder's code assignment (`HuffmanTable::build_from_weights`): for Kraft-complete weights the
loop over the (weight, symbol)-sorted entries gives symbol `s` the length `m + 1 − w_s` and a code
`c_s` with `c_s · 2^(w_s − 1)` = the mass of all entries sorted before `s` = the first cell of the
symbol's block in the canonical table (`buildFromWeights_canon`).  The blocks of different symbols are disjoint,
which is prefix-freeness (`buildFromWeights_ok`: `CodesOk`).
-/
namespace Zstd.Proofs.Huf
open Zstd Zstd.Model.Huf

theorem insertSorted_perm {α : Type} (le : α → α → Bool) (x : α) (l : List α) :
    (insertSorted le x l).Perm (x :: l) := by
  induction l with
  | nil => exact List.Perm.refl _
  | cons y ys ih =>
    simp only [insertSorted]
    split
    · exact List.Perm.refl _
    · exact (List.Perm.cons y ih).trans (List.Perm.swap x y ys)

theorem stableSort_perm {α : Type} (le : α → α → Bool) (l : List α) : (stableSort le l).Perm l := by
  induction l with
  | nil => exact List.Perm.refl _
  | cons x xs ih => exact (insertSorted_perm le x _).trans (List.Perm.cons x ih)

theorem insertSorted_pairwise {α : Type} (le : α → α → Bool)
    (htot : ∀ a b, le a b = false → le b a = true)
    (htrans : ∀ a b c, le a b = true → le b c = true → le a c = true)
    (x : α) (l : List α) (h : l.Pairwise (fun a b => le a b = true)) :
    (insertSorted le x l).Pairwise (fun a b => le a b = true) := by
  induction l with
  | nil => simp [insertSorted]
  | cons y ys ih =>
    rw [List.pairwise_cons] at h
    simp only [insertSorted]
    by_cases hxy : le x y = true
    · rw [if_pos hxy, List.pairwise_cons]
      refine ⟨?_, List.pairwise_cons.mpr h⟩
      intro z hz
      rcases List.mem_cons.mp hz with rfl | hz
      · exact hxy
      · exact htrans _ _ _ hxy (h.1 z hz)
    · rw [if_neg hxy, List.pairwise_cons]
      refine ⟨?_, ih h.2⟩
      intro z hz
      rcases List.mem_cons.mp ((insertSorted_perm le x ys).mem_iff.mp hz) with rfl | hz
      · exact htot _ _ (by simpa using hxy)
      · exact h.1 z hz

theorem stableSort_pairwise {α : Type} (le : α → α → Bool)
    (htot : ∀ a b, le a b = false → le b a = true)
    (htrans : ∀ a b c, le a b = true → le b c = true → le a c = true) (l : List α) :
    (stableSort le l).Pairwise (fun a b => le a b = true) := by
  induction l with
  | nil => simp [stableSort]
  | cons x xs ih => exact insertSorted_pairwise le htot htrans x _ ih

theorem entryLe_tot (a b : Nat × Nat) (h : entryLe a b = false) : entryLe b a = true := by
  simp only [entryLe, Bool.or_eq_false_iff, Bool.and_eq_false_iff, decide_eq_false_iff_not, beq_eq_false_iff_ne,
    Bool.or_eq_true, Bool.and_eq_true, decide_eq_true_eq, beq_iff_eq] at *
  omega

theorem entryLe_trans (a b c : Nat × Nat) (h1 : entryLe a b = true) (h2 : entryLe b c = true) :
    entryLe a c = true := by
  simp only [entryLe, Bool.or_eq_true, Bool.and_eq_true, decide_eq_true_eq, beq_iff_eq] at *
  omega

theorem entryLe_weight {a b : Nat × Nat} (h : entryLe a b = true) : a.2 ≤ b.2 := by
  simp only [entryLe, Bool.or_eq_true, Bool.and_eq_true, decide_eq_true_eq, beq_iff_eq] at h
  omega

def massL : List (Nat × Nat) → Nat
  | [] => 0
  | e :: es => 2 ^ (e.2 - 1) + massL es

theorem massL_perm {a b : List (Nat × Nat)} (h : a.Perm b) : massL a = massL b := by
  induction h with
  | nil => rfl
  | cons x _ ih => simp only [massL, ih]
  | swap x y l => simp only [massL]; omega
  | trans _ _ ih1 ih2 => rw [ih1, ih2]

theorem massL_sortEntries (ws : List Nat) (k : Nat) : massL (sortEntries ws k) = weightSum ws := by
  induction ws generalizing k with
  | nil => rfl
  | cons w ws ih =>
    simp only [sortEntries, weightSum]
    split
    · simp only [massL, ih]
    · rw [ih]; omega

theorem zipIdx_pairwise_snd {α : Type} (l : List α) (k : Nat) : (l.zipIdx k).Pairwise (fun a b => a.2 ≠ b.2) := by
  have := List.nodup_range' (s := k) (n := l.length)
  rwa [← List.zipIdx_map_snd, List.Nodup, List.pairwise_map] at this

/-- `k + ws.length ≤ 256`: the symbol numbers are stored as `u8` (`sym % 256` in the model) -/
theorem sortEntries_eq : ∀ (ws : List Nat) (k : Nat), k + ws.length ≤ 256 →
    sortEntries ws k = ((ws.zipIdx k).filter fun p => decide (0 < p.1)).map fun p => (p.2, p.1)
  | [], _, _ => rfl
  | w :: ws, k, h => by
    simp only [List.length_cons] at h
    rw [sortEntries, sortEntries_eq ws (k + 1) (by omega), Nat.mod_eq_of_lt (by omega : k < 256), List.zipIdx_cons,
      List.filter_cons]
    by_cases hw : w > 0
    · rw [if_pos hw, if_pos (decide_eq_true hw), List.map_cons]
    · rw [if_neg hw, if_neg (by simpa using hw)]

theorem mem_sortEntries {ws : List Nat} {k : Nat} (h : k + ws.length ≤ 256) {e : Nat × Nat} :
    e ∈ sortEntries ws k ↔ k ≤ e.1 ∧ ws[e.1 - k]? = some e.2 ∧ 0 < e.2 := by
  rw [sortEntries_eq ws k h, List.mem_map]
  constructor
  · rintro ⟨p, hp, rfl⟩
    obtain ⟨hm, h0⟩ := List.mem_filter.mp hp
    obtain ⟨h1, h2⟩ := List.mem_zipIdx_iff_le_and_getElem?_sub.mp hm
    exact ⟨h1, h2, by simpa using h0⟩
  · rintro ⟨h1, h2, h0⟩
    exact ⟨(e.2, e.1), List.mem_filter.mpr ⟨List.mem_zipIdx_iff_le_and_getElem?_sub.mpr ⟨h1, h2⟩, by simpa using h0⟩, rfl⟩

theorem sortEntries_nodup (ws : List Nat) (k : Nat) (h : k + ws.length ≤ 256) :
    (sortEntries ws k).Pairwise (fun a b => a.1 ≠ b.1) := by
  rw [sortEntries_eq ws k h, List.pairwise_map]
  exact (zipIdx_pairwise_snd ws k).filter _

/-- strictly before `x` in the order of `build_from_weights` -/
def strictLt (x e : Nat × Nat) : Bool := e.2 < x.2 || (e.2 == x.2 && e.1 < x.1)

theorem strictLt_iff (x e : Nat × Nat) : strictLt x e = true ↔ (entryLe e x = true ∧ e ≠ x) := by
  obtain ⟨a, b⟩ := x
  obtain ⟨c, d⟩ := e
  simp only [strictLt, entryLe, Bool.or_eq_true, Bool.and_eq_true, decide_eq_true_eq, beq_iff_eq, ne_eq,
    Prod.mk.injEq]
  omega

theorem entryLe_antisymm {a b : Nat × Nat} (h1 : entryLe a b = true) (h2 : entryLe b a = true) : a = b := by
  obtain ⟨a1, a2⟩ := a
  obtain ⟨b1, b2⟩ := b
  simp only [entryLe, Bool.or_eq_true, Bool.and_eq_true, decide_eq_true_eq, beq_iff_eq] at h1 h2
  simp only [Prod.mk.injEq]; omega

theorem sorted_take_eq_filter (S : List (Nat × Nat)) (hs : S.Pairwise (fun a b => entryLe a b = true))
    (hn : S.Pairwise (fun a b => a ≠ b)) (idx : Nat) (x : Nat × Nat) (hx : S[idx]? = some x) :
    S.take idx = S.filter (strictLt x) := by
  obtain ⟨hlt, hxe⟩ := List.getElem?_eq_some_iff.mp hx
  have hsplit : S = S.take idx ++ x :: S.drop (idx + 1) := by
    rw [← hxe, List.getElem_cons_drop, List.take_append_drop]
  have hs' := hs
  have hn' := hn
  rw [hsplit, List.pairwise_append] at hs' hn'
  obtain ⟨_, hs2, hs3⟩ := hs'
  obtain ⟨_, hn2, hn3⟩ := hn'
  rw [List.pairwise_cons] at hs2 hn2
  have h1 : (S.take idx).filter (strictLt x) = S.take idx :=
    List.filter_eq_self.mpr fun a ha =>
      (strictLt_iff x a).mpr ⟨hs3 a ha x List.mem_cons_self, hn3 a ha x List.mem_cons_self⟩
  have h2 : strictLt x x = false :=
    Bool.eq_false_iff.mpr fun h => ((strictLt_iff x x).mp h).2 rfl
  have h3 : (S.drop (idx + 1)).filter (strictLt x) = [] :=
    List.filter_eq_nil_iff.mpr fun b hb h =>
      ((strictLt_iff x b).mp h).2 (entryLe_antisymm ((strictLt_iff x b).mp h).1 (hs2.1 b hb))
  conv => rhs; rw [hsplit]
  rw [List.filter_append, List.filter_cons, h1, h2, h3]
  simp

/-- for `k = 0` the right-hand side is `canonAt ws (ws.take s) w` -/
theorem massL_before (w s : Nat) (hw : 1 ≤ w) : ∀ (ws : List Nat) (k : Nat), k + ws.length ≤ 256 →
    massL ((sortEntries ws k).filter (strictLt (s, w)))
      = specOff ws (w - 1) + countBits w (ws.take (s - k)) * 2 ^ (w - 1)
  | [], _, _ => by simp [sortEntries, massL, specOff_nil, countBits]
  | x :: xs, k, h => by
    simp only [List.length_cons] at h
    have ih := massL_before w s hw xs (k + 1) (by omega)
    have hk : k % 256 = k := Nat.mod_eq_of_lt (by omega)
    have hlt : strictLt (s, w) (k, x) = decide (x < w ∨ (x = w ∧ k < s)) := by
      rw [Bool.eq_iff_iff]; simp [strictLt]
    have htake : countBits w ((x :: xs).take (s - k)) =
        (if x = w ∧ k < s then 1 else 0) + countBits w (xs.take (s - (k + 1))) := by
      by_cases hks : k < s
      · have e : s - k = (s - (k + 1)) + 1 := by omega
        rw [e, List.take_succ_cons, countBits]; simp [hks]
      · have e1 : s - k = 0 := by omega
        have e2 : s - (k + 1) = 0 := by omega
        rw [e1, e2]; simp [countBits, hks]
    rw [specOff_cons, htake, Nat.add_mul, sortEntries]
    by_cases hx : x > 0
    · rw [if_pos hx, hk, List.filter_cons, hlt]
      by_cases hc : x < w ∨ (x = w ∧ k < s)
      · rw [decide_eq_true hc, if_pos rfl, massL, ih]
        dsimp only
        rcases hc with hc | ⟨rfl, hc⟩
        · rw [if_pos (by omega), if_neg (by omega)]; omega
        · rw [if_neg (by omega), if_pos ⟨rfl, hc⟩]; omega
      · rw [decide_eq_false hc, if_neg (by simp), ih]
        rw [if_neg (by omega), if_neg (by omega)]; omega
    · rw [if_neg hx, ih, if_neg (by omega), if_neg (by omega)]; omega

theorem massSum_ok : ∀ (es : List (Nat × Nat)) (acc : Nat), (∀ e ∈ es, e.2 ≤ 64) → acc + massL es < 2 ^ 64 →
    massSum es acc = .ok (acc + massL es)
  | [], acc, _, _ => by simp [massSum, massL]
  | (s, w) :: es, acc, hb, hlt => by
    have hw : w ≤ 64 := hb (s, w) List.mem_cons_self
    simp only [massL] at hlt
    simp only [massSum]
    rw [if_neg (by omega), if_neg (by omega)]
    rw [massSum_ok es _ (fun e he => hb e (List.mem_cons_of_mem _ he)) (by omega)]
    simp only [massL]; congr 1; omega

theorem setCode_eq : ∀ (codes : List (Nat × Nat)) (i : Nat) (v : Nat × Nat), i < codes.length →
    setCode codes i v = .ok (codes.set i v)
  | [], i, v, h => by simp at h
  | c :: cs, 0, v, _ => rfl
  | c :: cs, i + 1, v, h => by
    rw [setCode, setCode_eq cs i v (by simpa using h)]
    rfl

theorem massL_dvd {es : List (Nat × Nat)} {w : Nat} (h : ∀ e ∈ es, w ≤ e.2) (hw : 1 ≤ w) :
    2 ^ (w - 1) ∣ massL es := by
  induction es with
  | nil => exact Nat.dvd_zero _
  | cons e es ih =>
    simp only [massL]
    have h1 : w ≤ e.2 := h e List.mem_cons_self
    exact Nat.dvd_add (Nat.pow_dvd_pow 2 (by omega)) (ih (fun x hx => h x (List.mem_cons_of_mem _ hx)))

/-- one round of the loop of `build_from_weights`: the branch `weight != current_weight` and the other one give the same
formula (a shift by 0 when the weight stays) -/
theorem assignCodes_cons (m sym w : Nat) (es : List (Nat × Nat)) (curCode curW curNb : Nat) (codes : List (Nat × Nat))
    (hcw : curW ≤ w) (hw64 : w - curW < 64) (hwm : w ≤ m) (hsym : sym < codes.length)
    (hnb : curW = w → curNb = m - w + 1) :
    assignCodes m ((sym, w) :: es) curCode curW curNb codes =
      assignCodes m es (curCode / 2 ^ (w - curW) + 1) w (m - w + 1)
        (codes.set sym (curCode / 2 ^ (w - curW) % 2 ^ 32, (m - w + 1) % 256)) := by
  by_cases hcase : curW = w
  · subst hcase
    simp only [assignCodes, ne_eq, not_true_eq_false, if_false, setCode_eq codes sym _ hsym, hnb rfl, Nat.sub_self,
      Nat.pow_zero, Nat.div_one]
  · simp only [assignCodes, ne_eq, hcase, not_false_eq_true, if_true]
    rw [if_neg (by omega), if_neg (by omega), if_neg (by omega)]
    simp only [setCode_eq codes sym _ hsym]

theorem two_pow_sub_mul {a b c : Nat} (hcb : c ≤ b) (hba : b ≤ a) : 2 ^ (a - c) = 2 ^ (a - b) * 2 ^ (b - c) := by
  rw [← Nat.pow_add, Nat.sub_add_sub_cancel hba hcb]

/-- the shift down to weight `w` loses no set bit when the mass so far, `c · 2^(cw−1)`, is `2^m` minus a multiple of
`2^(w−1)` (stated about variables: in the loop's context each `omega` sees a dozen truncated subtractions) -/
theorem shift_exact {c cw w m R : Nat} (h0 : cw = 0 → c = 0) (hcw : cw ≤ w) (hw1 : 1 ≤ w) (hwm : w ≤ m)
    (hR : 2 ^ (w - 1) ∣ R) (hmass : c * 2 ^ (cw - 1) + R = 2 ^ m) :
    c / 2 ^ (w - cw) * 2 ^ (w - 1) = c * 2 ^ (cw - 1) := by
  by_cases hc0 : cw = 0
  · have := h0 hc0; subst this; simp
  · have hsplit : 2 ^ (w - 1) = 2 ^ (w - cw) * 2 ^ (cw - 1) := two_pow_sub_mul (Nat.pos_of_ne_zero hc0) hcw
    have hdvd : 2 ^ (w - 1) ∣ c * 2 ^ (cw - 1) := by
      rw [show c * 2 ^ (cw - 1) = 2 ^ m - R by omega]
      exact Nat.dvd_sub (Nat.pow_dvd_pow 2 (by omega)) hR
    rw [hsplit] at hdvd ⊢
    rw [← Nat.mul_assoc, Nat.div_mul_cancel (Nat.dvd_of_mul_dvd_mul_right (Nat.two_pow_pos (cw - 1)) hdvd)]

/-- The invariant of the loop of `build_from_weights`: `curCode · 2^(curW−1)` is the mass assigned so far, i.e. the code
counted in table cells.  `m ≤ 32`: the table stores codes as `u32` (`code % 2^32` in the model), and a code is below `2^m`. -/
theorem assignCodes_spec (m : Nat) (hm : m ≤ 32) : ∀ (es : List (Nat × Nat)) (curCode curW curNb : Nat)
    (codes : List (Nat × Nat)),
    es.Pairwise (fun a b => a.2 ≤ b.2) →
    (∀ e ∈ es, curW ≤ e.2 ∧ 1 ≤ e.2 ∧ e.2 ≤ m ∧ e.1 < codes.length) →
    (1 ≤ curW → curNb = m - curW + 1) → (curW = 0 → curCode = 0) →
    curCode * 2 ^ (curW - 1) + massL es = 2 ^ m →
    ∃ codes', assignCodes m es curCode curW curNb codes = .ok codes' ∧ codes'.length = codes.length ∧
      (∀ i, (∀ e ∈ es, e.1 ≠ i) → codes'[i]? = codes[i]?) ∧
      (es.Pairwise (fun a b => a.1 ≠ b.1) → ∀ idx e, es[idx]? = some e →
        ∃ c, codes'[e.1]? = some (c, m - e.2 + 1) ∧
          c * 2 ^ (e.2 - 1) = curCode * 2 ^ (curW - 1) + massL (es.take idx)) := by
  intro es
  induction es with
  | nil =>
    intro curCode curW curNb codes _ _ _ _ _
    exact ⟨codes, rfl, rfl, fun _ _ => rfl, fun _ idx e h => by simp at h⟩
  | cons e0 es ih =>
    intro curCode curW curNb codes hs hb hnb h0 hmass
    obtain ⟨sym, w⟩ := e0
    rw [List.pairwise_cons] at hs
    obtain ⟨hcw, hw1, hwm, hsym⟩ := hb (sym, w) List.mem_cons_self
    simp only at hcw hw1 hwm hsym
    simp only [massL] at hmass
    have hcode : curCode / 2 ^ (w - curW) * 2 ^ (w - 1) = curCode * 2 ^ (curW - 1) :=
      shift_exact h0 hcw hw1 hwm (Nat.dvd_add (Nat.dvd_refl _) (massL_dvd (fun x hx => hs.1 x hx) hw1)) hmass
    have hstep := assignCodes_cons m sym w es curCode curW curNb codes hcw (by omega) hwm hsym
      (fun h => by rw [← h]; exact hnb (by omega))
    generalize curCode / 2 ^ (w - curW) = code at hcode hstep
    have hcodelt : code < 2 ^ 32 := by
      -- code · 2^(w−1) < 2^m ≤ 2^32
      have hpos := Nat.two_pow_pos (w - 1)
      have h1 : code * 2 ^ (w - 1) < 2 ^ m := by omega
      have h2 : 2 ^ m ≤ 2 ^ 32 := Nat.pow_le_pow_right (by omega) hm
      have h3 : code ≤ code * 2 ^ (w - 1) := Nat.le_mul_of_pos_right _ hpos
      omega
    rw [Nat.mod_eq_of_lt hcodelt, Nat.mod_eq_of_lt (by omega : m - w + 1 < 256)] at hstep
    obtain ⟨codes', r1, r2, r3, r4⟩ := ih (code + 1) w (m - w + 1) (codes.set sym (code, m - w + 1)) hs.2
      (fun e he => by
        obtain ⟨_, b, c, d⟩ := hb e (List.mem_cons_of_mem _ he)
        exact ⟨hs.1 e he, b, c, by rw [List.length_set]; exact d⟩)
      (fun _ => rfl) (fun h => by omega)
      (by rw [Nat.add_mul, hcode]; omega)
    refine ⟨codes', hstep.trans r1, by rw [r2, List.length_set], ?_, ?_⟩
    · intro i hi
      rw [r3 i (fun e he => hi e (List.mem_cons_of_mem _ he))]
      exact List.getElem?_set_ne (hi (sym, w) List.mem_cons_self)
    · intro hnd idx e he
      rw [List.pairwise_cons] at hnd
      cases idx with
      | zero =>
        simp only [List.getElem?_cons_zero, Option.some.injEq] at he
        subst he
        refine ⟨code, ?_, by simp [massL, hcode]⟩
        rw [r3 sym (fun e he => (hnd.1 e he).symm)]
        exact List.getElem?_set_self hsym
      | succ idx =>
        simp only [List.getElem?_cons_succ] at he
        obtain ⟨c, q1, q2⟩ := r4 hnd.2 idx e he
        refine ⟨c, q1, ?_⟩
        rw [q2, List.take_succ_cons, massL, Nat.add_mul, hcode]
        simp only
        omega

theorem buildFromWeights_canon (ws : List Nat) (m : Nat) (hlen : ws.length ≤ 256) (hm : m ≤ 32)
    (hle : ∀ w ∈ ws, w ≤ m) (hk : weightSum ws = 2 ^ m) :
    ∃ t, buildFromWeights ws = .ok t ∧ t.codes.length = ws.length ∧
      (∀ s (h : s < ws.length), ws[s] = 0 → t.codes[s]? = some (0, 0)) ∧
      (∀ s (h : s < ws.length), ws[s] > 0 → ∃ c, t.codes[s]? = some (c, m + 1 - ws[s]) ∧
        c * 2 ^ (ws[s] - 1) = canonAt ws (ws.take s) ws[s]) := by
  let E := sortEntries ws 0
  let S := stableSort entryLe E
  have hperm : S.Perm E := stableSort_perm entryLe E
  have hmassS : massL S = 2 ^ m := by rw [massL_perm hperm, massL_sortEntries, hk]
  have hmemS : ∀ e, e ∈ S ↔ ws[e.1]? = some e.2 ∧ 0 < e.2 := fun e => by
    rw [hperm.mem_iff, mem_sortEntries (by omega)]; simp
  have hwS : ∀ e ∈ S, 1 ≤ e.2 ∧ e.2 ≤ m ∧ e.1 < ws.length := fun e he => by
    obtain ⟨h1, h2⟩ := (hmemS e).mp he
    obtain ⟨hlt, hget⟩ := List.getElem?_eq_some_iff.mp h1
    exact ⟨h2, hget ▸ hle _ (List.getElem_mem hlt), hlt⟩
  have hsum : massSum S 0 = .ok (2 ^ m) := by
    have := massSum_ok S 0 (fun e he => by have := (hwS e he).2.1; omega)
      (by rw [Nat.zero_add, hmassS]; exact Nat.pow_lt_pow_right (by omega) (by omega))
    rw [this, Nat.zero_add, hmassS]
  have hpow : isPow2 (2 ^ m) = true := by
    rw [isPow2_iff]; exact ⟨by have := Nat.two_pow_pos m; omega, by rw [Nat.log2_two_pow]⟩
  have hsortedLe : S.Pairwise (fun a b => entryLe a b = true) :=
    stableSort_pairwise entryLe entryLe_tot entryLe_trans E
  have hnodup : S.Pairwise (fun a b => a.1 ≠ b.1) :=
    (List.Perm.pairwise_iff (fun h => Ne.symm h) hperm).mpr (sortEntries_nodup ws 0 (by omega))
  obtain ⟨codes', r1, r2, r3, r4⟩ := assignCodes_spec m hm S 0 0 0 (List.replicate ws.length (0, 0))
    (hsortedLe.imp entryLe_weight)
    (fun e he => by
      obtain ⟨a, b, c⟩ := hwS e he
      exact ⟨Nat.zero_le _, a, b, by simpa using c⟩)
    (fun h => by omega) (fun _ => rfl) (by rw [Nat.zero_mul, Nat.zero_add, hmassS])
  have r4' := r4 hnodup
  simp only [Nat.zero_mul, Nat.zero_add] at r4'
  refine ⟨{ codes := codes' }, ?_, by rw [r2]; simp, ?_, ?_⟩
  · have hsum' : massSum (stableSort entryLe (sortEntries ws 0)) 0 = .ok (2 ^ m) := hsum
    have r1' : assignCodes m (stableSort entryLe (sortEntries ws 0)) 0 0 0 (List.replicate ws.length (0, 0))
        = .ok codes' := r1
    unfold buildFromWeights
    simp only [hsum', hpow, Bool.not_true, Bool.false_eq_true, if_false, Nat.log2_two_pow, r1']
  · intro s h h0
    rw [r3 s (fun e he hes => ?_)]
    · simp [h]
    · obtain ⟨h1, h2⟩ := (hmemS e).mp he
      rw [hes, List.getElem?_eq_getElem h, Option.some.injEq] at h1
      omega
  · intro s h h0
    obtain ⟨idx, hidx⟩ := List.getElem?_of_mem ((hmemS (s, ws[s])).mpr ⟨List.getElem?_eq_getElem h, h0⟩)
    obtain ⟨c, q1, q2⟩ := r4' idx _ hidx
    have hwm : ws[s] ≤ m := hle _ (List.getElem_mem _)
    refine ⟨c, by rw [q1, Nat.sub_add_comm hwm], ?_⟩
    rw [q2, sorted_take_eq_filter S hsortedLe (hnodup.imp (fun h h' => h (by rw [h']))) idx _ hidx,
      massL_perm (hperm.filter _), massL_before _ _ h0 ws 0 (by omega)]
    rfl

/-- `a` is a prefix of `b` (codes as (bits, length), most significant bit first) — the test of the
unit test `weights`: `code2 >> (num_bits2 - num_bits) == code` -/
def IsPrefixOf (a b : Nat × Nat) : Prop := a.2 ≤ b.2 ∧ b.1 / 2 ^ (b.2 - a.2) = a.1

/-- What `build_from_weights` returns for Kraft-complete weights `ws` of depth `m` (`buildFromWeights_ok`): the lengths
`m + 1 − w`, codes that fit them, no code a prefix of another. -/
structure CodesOk (ws : List Nat) (m : Nat) (codes : List (Nat × Nat)) : Prop where
  len : codes.length = ws.length
  unused : ∀ s (h : s < ws.length), ws[s] = 0 → codes[s]? = some (0, 0)
  used : ∀ s (h : s < ws.length), ws[s] > 0 →
    ∃ c, codes[s]? = some (c, m + 1 - ws[s]) ∧ c < 2 ^ (m + 1 - ws[s])
  prefixFree : ∀ s s' (h : s < ws.length) (h' : s' < ws.length), s ≠ s' → ws[s] > 0 → ws[s'] > 0 →
    ∀ a b, codes[s]? = some a → codes[s']? = some b → ¬ IsPrefixOf a b

/-- a code that has another as a prefix names a block that starts inside the other's block (`c` of weight `w` a prefix
of `c'` of weight `w' ≤ w`, counted in cells) -/
theorem block_inside_of_prefix {c c' w w' : Nat} (hw' : 1 ≤ w') (hle : w' ≤ w) (h : c' / 2 ^ (w - w') = c) :
    c * 2 ^ (w - 1) ≤ c' * 2 ^ (w' - 1) ∧ c' * 2 ^ (w' - 1) < c * 2 ^ (w - 1) + 2 ^ (w - 1) := by
  have hD := Nat.two_pow_pos (w - w')
  have l1 : c * 2 ^ (w - w') ≤ c' := by rw [← h]; exact Nat.div_mul_le_self _ _
  have l2 : c' < (c + 1) * 2 ^ (w - w') := by rw [← h, Nat.mul_comm]; exact Nat.lt_mul_div_succ _ hD
  have hsplit : 2 ^ (w - 1) = 2 ^ (w - w') * 2 ^ (w' - 1) := two_pow_sub_mul hw' hle
  refine ⟨?_, ?_⟩
  · rw [hsplit, ← Nat.mul_assoc]; exact Nat.mul_le_mul_right _ l1
  · have := Nat.mul_lt_mul_of_pos_right l2 (Nat.two_pow_pos (w' - 1))
    rw [Nat.mul_assoc, ← hsplit, Nat.add_mul, Nat.one_mul] at this
    exact this

theorem buildFromWeights_ok (ws : List Nat) (m : Nat) (hlen : ws.length ≤ 256) (hm : m ≤ 32)
    (hle : ∀ w ∈ ws, w ≤ m) (hk : weightSum ws = 2 ^ m) :
    ∃ t, buildFromWeights ws = .ok t ∧ CodesOk ws m t.codes := by
  obtain ⟨t, hb, hl, hzero, hpos⟩ := buildFromWeights_canon ws m hlen hm hle hk
  refine ⟨t, hb, hl, hzero, ?_, ?_⟩
  · intro s h h0
    obtain ⟨c, hc, hp⟩ := hpos s h h0
    refine ⟨c, hc, ?_⟩
    have hwm : ws[s] ≤ m := hle _ (List.getElem_mem _)
    have hb := block_le_region (List.getElem?_eq_getElem h) h0 hwm
    rw [← hp, specOff_total hle, hk] at hb
    -- (c + 1)·2^(w−1) ≤ 2^m  ⇒  c < 2^(m+1−w)
    have hsplit : 2 ^ m = 2 ^ (m + 1 - ws[s]) * 2 ^ (ws[s] - 1) :=
      two_pow_sub_mul (a := m + 1) h0 (Nat.le_succ_of_le hwm)
    rw [hsplit, ← Nat.succ_mul] at hb
    exact Nat.le_of_mul_le_mul_right hb (Nat.two_pow_pos _)
  · intro s s' h h' hne h0 h0' a b ha hb ⟨p1, p2⟩
    obtain ⟨c, hc, hp⟩ := hpos s h h0
    obtain ⟨c', hc', hp'⟩ := hpos s' h' h0'
    rw [hc] at ha; rw [hc'] at hb
    simp only [Option.some.injEq] at ha hb
    subst ha; subst hb
    simp only at p1 p2
    have hwm : ws[s] ≤ m := hle _ (List.getElem_mem _)
    have hwm' : ws[s'] ≤ m := hle _ (List.getElem_mem _)
    have hd : m + 1 - ws[s'] - (m + 1 - ws[s]) = ws[s] - ws[s'] := by
      rw [Nat.sub_right_comm, Nat.sub_sub_self (Nat.le_succ_of_le hwm)]
    rw [hd] at p2
    obtain ⟨m1, m2⟩ := block_inside_of_prefix h0' (by omega) p2
    -- so the block of `s'` starts at a cell of the block of `s`: the two are the same block
    rw [hp, hp'] at m1 m2
    exact hne (canonAt_inj (j := canonAt ws (ws.take s') ws[s'] - canonAt ws (ws.take s) ws[s]) (j' := 0)
      (List.getElem?_eq_getElem h) (List.getElem?_eq_getElem h') h0 h0' (by omega) (Nat.two_pow_pos _) (by omega)).1

end Zstd.Proofs.Huf
