import Zstd.Model.Fse
import Zstd.Spec.Fse
import Zstd.Proofs.BitIO
/-
The model's FSE table-description reader (`DTable.readProbabilities`, mirror of
`ruzstd/src/fse/fse_decoder.rs:224-307`) refines the Spec's (`Spec.Fse.readDescription`,
RFC 8878 §4.1.1 on bit lists): on byte input the model returns `Ok` with exactly what the Spec returns, or an `Err`
that is no panic where the Spec rejects (`readProbabilities_agree`).

Differences between the code and the Spec (all of them are differences of FORM: the two readers accept exactly
the same inputs and return the same result):

  1. Symbol-count bound.  The Spec rejects inside the loop (`acc.length > maxSymbol → none`, checked
     whenever another symbol is still needed), bounds the loop by fuel `maxSymbol + 3` and the zero-run
     loop by fuel `maxSymbol + 2`.  The code has no bound inside the loops (`while counter < sum`,
     `loop { .. }`; the model gives them fuel `8·len + 2` / `4·len + 2`, enough because every iteration
     consumes at least one / exactly two bits) and checks `probs.len() > max_symbol + 1` once at the
     very end (`TooManySymbols`).  Since the list only grows, "final length ≤ maxSymbol + 1" implies all
     the Spec's inner checks and fuel bounds; conversely a Spec-accepted input passes the final check
     because `readDescription` repeats it.  A too-long description is therefore rejected by both, but
     the code may read (and allocate) up to `12·len` symbols (a zero-run flag adds three per two bits) /
     report a different error first (e.g. `NotEnoughRemainingBits` instead of `TooManySymbols`).
  2. `mass > remaining → none` (Spec) and `ProbabilityCounterMismatch` (code) are both unreachable:
     the value decoded from `nbits = ⌊log2(remaining+1)⌋+1` bits is at most `remaining + 1`
     (`decodeVal_mass_le`), so the counter never overshoots and the loop exits with `counter = sum`
     exactly (used in `readProbLoop_agree`).
  3. Peek vs. un-read.  The Spec looks at `nbits` bits (`readLE nbits`) and drops `used ∈ {nbits−1, nbits}`;
     the code reads `nbits` bits and calls `return_bits(1)` in the short case.  Both need `nbits` bits to
     be present even if only `nbits − 1` are consumed.  `return_bits` cannot panic (`nbits ≥ 2`).
  4. Accumulator.  Spec: reversed list, `List.replicate z 0 ++ p :: acc`, total zero-run `z = 3 + 3 + … + r`;
     code: `Vec::push` and `resize(len + skip, 0)` per 2-bit flag.
  5. Byte count.  Spec `(usedBits + 7) / 8`; code `if bits_read % 8 == 0 { /8 } else { /8 + 1 }`.
  6. Accuracy log.  `al = 5 + (4 bits) ≤ 20`, so the code's `u8` addition (`fse_decoder.rs:228`) cannot
     overflow and `AccLogIsZero` is unreachable; both compare `al > maxLog` before reading anything else.
     (No hypothesis `maxLog ≤ …` is needed.)
  7. Side effects on failure (`DescAgree` says nothing of the table in that case): the code leaves `accuracy_log` and
     the partially filled `symbol_probabilities` in the table when it returns an error; the Spec has no
     state.
  8. `get_bits(0)`-at-end panic of the forward reader (`bitReader_getBits_zero_at_end_faults`) is not
     reachable here: every request is for 4, 2 or `nbits ≥ 2` bits.
-/
namespace Zstd.Proofs.FseReadDesc
open Zstd Zstd.Spec Zstd.Model.BitIO Zstd.Model.Fse Zstd.Proofs.BitIO

/-- `(value, bits used)` decoded from the `nbits`-bit little-endian field `v` when `remaining`
probability mass is left -/
def decodeVal (remaining v : Nat) : Nat × Nat :=
  let nbits := Nat.log2 (remaining + 1) + 1
  let lowerMask := 2 ^ (nbits - 1) - 1
  let threshold := 2 ^ nbits - 1 - (remaining + 1)
  let low := v % 2 ^ (nbits - 1)
  if low < threshold then (low, nbits - 1)
  else if v > lowerMask then (v - threshold, nbits)
  else (v, nbits)

/-- probability mass of the decoded value `val = p + 1`: `-1` ("less than one") counts as one cell -/
def massOf (val : Nat) : Nat := if ((val : Int) - 1) < 0 then 1 else ((val : Int) - 1).toNat

theorem decodeVal_used (remaining v : Nat) :
    (decodeVal remaining v).2 = Nat.log2 (remaining + 1) + 1 ∨
    (decodeVal remaining v).2 = Nat.log2 (remaining + 1) := by
  unfold decodeVal
  simp only []
  split
  · right; simp
  · split <;> (left; rfl)

theorem log2_pos {r : Nat} (h : r ≠ 0) : 1 ≤ Nat.log2 (r + 1) := by
  have h1 : ¬ Nat.log2 (r + 1) < 1 := by
    rw [Nat.log2_lt (by omega)]; omega
  omega

/-- a request is for at most 21 bits, inside the 64 that `get_bits` accepts -/
theorem nbits_le {r : Nat} (h : r ≤ 2 ^ 20) : Nat.log2 (r + 1) + 1 ≤ 64 := by
  have : Nat.log2 (r + 1) < 21 := by rw [Nat.log2_lt (by omega)]; omega
  omega

theorem decodeVal_used_pos {remaining : Nat} (h : remaining ≠ 0) (v : Nat) :
    1 ≤ (decodeVal remaining v).2 ∧ (decodeVal remaining v).2 ≤ Nat.log2 (remaining + 1) + 1 := by
  have := log2_pos h
  rcases decodeVal_used remaining v with h1 | h1 <;> omega

theorem decodeVal_mass_le {remaining v : Nat} (h : remaining ≠ 0)
    (hv : v < 2 ^ (Nat.log2 (remaining + 1) + 1)) :
    massOf (decodeVal remaining v).1 ≤ remaining := by
  have hlo : 2 ^ Nat.log2 (remaining + 1) ≤ remaining + 1 := Nat.log2_self_le (by omega)
  have hhi : remaining + 1 < 2 ^ (Nat.log2 (remaining + 1) + 1) := Nat.lt_log2_self
  have hmod : v % 2 ^ Nat.log2 (remaining + 1) < 2 ^ Nat.log2 (remaining + 1) :=
    Nat.mod_lt _ (Nat.two_pow_pos _)
  unfold decodeVal massOf
  simp only [Nat.add_sub_cancel]
  generalize 2 ^ Nat.log2 (remaining + 1) = A at *
  generalize 2 ^ (Nat.log2 (remaining + 1) + 1) = B at *
  generalize v % A = low at *
  by_cases h1 : low < B - 1 - (remaining + 1)
  · rw [if_pos h1]; dsimp only; split <;> omega
  · rw [if_neg h1]
    by_cases h2 : v > A - 1
    · rw [if_pos h2]; dsimp only; split <;> omega
    · rw [if_neg h2]; dsimp only; split <;> omega

theorem bytes_of_bits {n i : Nat} (h : i ≤ n) :
    (n - (n - i) + 7) / 8 = if i % 8 = 0 then i / 8 else i / 8 + 1 := by
  split <;> omega

theorem readProbLoop_advance (sum fuel : Nat) (br : BitReader) (counter val : Nat) (probs : Array Int)
    (h : (val : Int) - 1 ≠ 0) :
    (if (val : Int) - 1 > 0 then readProbLoop sum fuel br (counter + ((val : Int) - 1).toNat) probs
      else readProbLoop sum fuel br (counter + 1) probs) = readProbLoop sum fuel br (counter + massOf val) probs := by
  unfold massOf
  split
  · rw [if_neg (by omega)]
  · rw [if_pos (by omega)]

theorem readLE_some {n : Nat} {bits : List Bool} {v : Nat} {rest : List Bool}
    (h : readLE n bits = some (v, rest)) : n ≤ bits.length ∧ rest = bits.drop n ∧ v < 2 ^ n := by
  rw [Zstd.Proofs.BitIO.readLE_def] at h
  split at h
  · cases h
  · rename_i hlen
    cases h
    refine ⟨by omega, rfl, ?_⟩
    have := valLE_lt (bits.take n)
    rwa [List.length_take, Nat.min_eq_left (by omega)] at this

theorem spec_readProbs_succ (fuel maxSymbol remaining : Nat) (bits : List Bool) (acc : List Int) :
    Spec.Fse.readProbs (fuel + 1) maxSymbol remaining bits acc =
      if remaining = 0 then some (acc.reverse, bits)
      else if acc.length > maxSymbol then none
      else
        match readLE (Nat.log2 (remaining + 1) + 1) bits with
        | none => none
        | some (v, _) =>
          let d := decodeVal remaining v
          let p : Int := (d.1 : Int) - 1
          if massOf d.1 > remaining then none
          else if p = 0 then
            match Spec.Fse.readZeroRuns (maxSymbol + 2) (bits.drop d.2) with
            | none => none
            | some (z, rest') =>
              Spec.Fse.readProbs fuel maxSymbol (remaining - massOf d.1) rest' (List.replicate z 0 ++ p :: acc)
          else Spec.Fse.readProbs fuel maxSymbol (remaining - massOf d.1) (bits.drop d.2) (p :: acc) := by
  rw [Spec.Fse.readProbs]
  rfl

theorem model_readProbLoop_succ (sum fuel : Nat) (src : Array Nat) (idx counter : Nat) (probs : Array Int)
    (hlt : counter < sum) (v : Nat)
    (hget : ({ src := src, idx := idx } : BitReader).getBits (Nat.log2 (sum - counter + 1) + 1)
      = .ok (v, { src := src, idx := idx + (Nat.log2 (sum - counter + 1) + 1) })) :
    readProbLoop sum (fuel + 1) { src := src, idx := idx } counter probs =
      (let d := decodeVal (sum - counter) v
       let prob : Int := (d.1 : Int) - 1
       let br' : BitReader := { src := src, idx := idx + d.2 }
       let probs' := probs.push prob
       if prob ≠ 0 then
         if prob > 0 then readProbLoop sum fuel br' (counter + prob.toNat) probs'
         else readProbLoop sum fuel br' (counter + 1) probs'
       else
         match Model.Fse.readZeroRuns (src.size * 4 + 2) br' probs' with
         | (probs, .error e) => (probs, .error e)
         | (probs, .ok br) => readProbLoop sum fuel br counter probs) := by
  rw [readProbLoop, if_neg (by omega)]
  simp only [hget, liftBit, Nat.one_shiftLeft, Nat.and_two_pow_sub_one_eq_mod, decodeVal,
    Nat.add_sub_cancel]
  by_cases h1 : v % 2 ^ Nat.log2 (sum - counter + 1)
      < 2 ^ (Nat.log2 (sum - counter + 1) + 1) - 1 - (sum - counter + 1)
  · simp only [if_pos h1, BitReader.returnBits]
    rw [if_neg (by omega)]
    simp only [show idx + (Nat.log2 (sum - counter + 1) + 1) - 1 = idx + Nat.log2 (sum - counter + 1) by omega]
    rfl
  · simp only [if_neg h1]
    by_cases h2 : v > 2 ^ Nat.log2 (sum - counter + 1) - 1
    · simp only [if_pos h2]; rfl
    · simp only [if_neg h2]; rfl

theorem replicate_append_replicate (a b : Nat) (probs : Array Int) :
    probs ++ Array.replicate a (0 : Int) ++ Array.replicate b 0 = probs ++ Array.replicate (a + b) 0 := by
  apply Array.ext'
  simp

theorem getBits_cases {src : Array Nat} (hb : Bytes src.toList) {idx n : Nat}
    (hidx : idx ≤ 8 * src.size) (hn : n ≤ 64) (hpos : 0 < n) :
    (readLE n ((bitsLE src.toList).drop idx) = none ∧
      ({ src := src, idx := idx } : BitReader).getBits n = .error (.notEnoughRemainingBits n (8 * src.size - idx))) ∨
    (∃ v, readLE n ((bitsLE src.toList).drop idx) = some (v, (bitsLE src.toList).drop (idx + n)) ∧
      ({ src := src, idx := idx } : BitReader).getBits n = .ok (v, { src := src, idx := idx + n }) ∧
      idx + n ≤ 8 * src.size ∧ v < 2 ^ n) := by
  have h1 := bitReader_refines { src := src, idx := idx } n hb hidx hn (Or.inl hpos)
  cases hrd : readLE n ((bitsLE src.toList).drop idx) with
  | none => exact .inl ⟨rfl, by simpa only [hrd] using h1⟩
  | some q =>
    obtain ⟨v, rest⟩ := q
    obtain ⟨hlen, rfl, hv⟩ := readLE_some hrd
    simp only [List.length_drop, length_bitsLE, Array.length_toList] at hlen
    exact .inr ⟨v, by rw [List.drop_drop], by simpa only [hrd] using h1, by omega, hv⟩

/-! ## one statement per loop: what the model's loop does, whatever the outcome -/

/-- outcome of the model's zero-run loop at bit `idx` against the Spec's on the same bits: `z` zeros and
`2·(z/3 + 1)` bits on both sides (the Spec for every fuel that suffices), or no panic and a Spec that rejects -/
def ZeroRunsAgree (src : Array Nat) (idx : Nat) (probs : Array Int) :
    Array Int × Except Err BitReader → Prop
  | (probs', .ok br') => ∃ z, probs' = probs ++ Array.replicate z 0 ∧
      br' = { src := src, idx := idx + 2 * (z / 3 + 1) } ∧ idx + 2 * (z / 3 + 1) ≤ 8 * src.size ∧
      ∀ sfuel, Spec.Fse.readZeroRuns sfuel ((bitsLE src.toList).drop idx) =
        if z / 3 + 1 ≤ sfuel then some (z, (bitsLE src.toList).drop (idx + 2 * (z / 3 + 1))) else none
  | (_, .error e) => (∀ f, e ≠ .fault f) ∧
      ∀ sfuel, Spec.Fse.readZeroRuns sfuel ((bitsLE src.toList).drop idx) = none

theorem readZeroRuns_agree {src : Array Nat} (hb : Bytes src.toList) :
    ∀ (mfuel idx : Nat) (probs : Array Int), idx ≤ 8 * src.size → 8 * src.size - idx < 2 * mfuel →
      ZeroRunsAgree src idx probs (Model.Fse.readZeroRuns mfuel { src := src, idx := idx } probs) := by
  intro mfuel
  induction mfuel with
  | zero => intro idx probs _ h; omega
  | succ m ih =>
    intro idx probs hidx hfuel
    rw [Model.Fse.readZeroRuns]
    rcases getBits_cases hb hidx (by omega : 2 ≤ 64) (by omega) with ⟨hnone, he⟩ | ⟨r, hrd, hget, hle, hr⟩
    · -- fewer than two bits left: both fail
      simp only [he, liftBit, ZeroRunsAgree]
      refine ⟨fun _ => nofun, fun sfuel => ?_⟩
      cases sfuel with
      | zero => rfl
      | succ s => rw [Spec.Fse.readZeroRuns, hnone]
    · simp only [hget, liftBit]
      have hspec : ∀ s, Spec.Fse.readZeroRuns (s + 1) ((bitsLE src.toList).drop idx) =
          if r = 3 then
            match Spec.Fse.readZeroRuns s ((bitsLE src.toList).drop (idx + 2)) with
            | none => none
            | some (more, rest') => some (3 + more, rest')
          else some (r, (bitsLE src.toList).drop (idx + 2)) := by
        intro s; rw [Spec.Fse.readZeroRuns, hrd]; rfl
      by_cases h3 : r = 3
      · rw [if_neg (fun h => h h3)]
        have := ih (idx + 2) (probs ++ Array.replicate r 0) hle (by omega)
        generalize Model.Fse.readZeroRuns m { src := src, idx := idx + 2 } (probs ++ Array.replicate r 0) = out at this
        obtain ⟨p', e | br'⟩ := out
        · simp only [ZeroRunsAgree] at this ⊢
          refine ⟨this.1, fun sfuel => ?_⟩
          cases sfuel with
          | zero => rfl
          | succ s => rw [hspec, if_pos h3, this.2 s]
        · simp only [ZeroRunsAgree] at this ⊢
          obtain ⟨z, hp, hbr, hz, hs⟩ := this
          -- (the quotients are named first: every `omega` below would split on them anew)
          have h3z : (3 + z) / 3 = z / 3 + 1 := by omega
          have hi : idx + 2 + 2 * (z / 3 + 1) = idx + 2 * ((3 + z) / 3 + 1) := by rw [h3z]; omega
          refine ⟨3 + z, by rw [hp, h3, replicate_append_replicate], by rw [hbr, hi], by rw [← hi]; exact hz,
            fun sfuel => ?_⟩
          cases sfuel with
          | zero => rw [if_neg (Nat.not_succ_le_zero _)]; rfl
          | succ s =>
            rw [hspec, if_pos h3, hs s, h3z]
            by_cases hf : z / 3 + 1 ≤ s
            · rw [if_pos hf, if_pos (Nat.succ_le_succ hf), hi, h3z]
            · rw [if_neg hf, if_neg (fun h => hf (Nat.le_of_succ_le_succ h))]
      · rw [if_pos h3]
        simp only [ZeroRunsAgree]
        have hr3 : r / 3 = 0 := by omega
        refine ⟨r, rfl, by rw [hr3], by rw [hr3]; exact hle, fun sfuel => ?_⟩
        cases sfuel with
        | zero => rw [if_neg (Nat.not_succ_le_zero _)]; rfl
        | succ s => rw [hspec, if_neg h3, hr3, if_pos (Nat.succ_le_succ (Nat.zero_le s))]

/-- outcome of the model's probability loop against the Spec's.  The Spec's fuel and alphabet bound are
quantified, not fixed: with ANY of them the Spec returns the model's result or nothing, and it does return it as soon
as they fit the result.  So a success of the Spec with its own parameters can only be the model's result, and both
directions follow without comparing the two sides' fuels. -/
def ProbLoopAgree (src : Array Nat) (sum idx counter : Nat) (probs : Array Int) (acc : List Int) :
    Array Int × Except Err (BitReader × Nat) → Prop
  | (res, .ok (br', c')) => c' = sum ∧ probs.size ≤ res.size ∧
      ∃ idx', br' = { src := src, idx := idx' } ∧ idx' ≤ 8 * src.size ∧
      ∀ sfuel ms, (let s := Spec.Fse.readProbs sfuel ms (sum - counter) ((bitsLE src.toList).drop idx) acc
        (s = none ∨ s = some (res.toList, (bitsLE src.toList).drop idx')) ∧
        (res.size ≤ ms + 1 → res.size + 1 ≤ sfuel + probs.size →
          s = some (res.toList, (bitsLE src.toList).drop idx')))
  | (_, .error e) => (∀ f, e ≠ .fault f) ∧
      ∀ sfuel ms, Spec.Fse.readProbs sfuel ms (sum - counter) ((bitsLE src.toList).drop idx) acc = none

/-- one iteration seen from the Spec; the guard `G` (its alphabet test, the fuel of a zero run) holds whenever the
result fits the alphabet -/
theorem ProbLoopAgree.of_step {src : Array Nat} {sum idx counter idx2 counter2 : Nat} {probs probs2 : Array Int}
    {acc acc2 : List Int} {out : Array Int × Except Err (BitReader × Nat)} (G : Nat → Prop) [DecidablePred G]
    (hrec : ProbLoopAgree src sum idx2 counter2 probs2 acc2 out) (hsz : probs.size + 1 ≤ probs2.size)
    (hG : ∀ ms, probs2.size ≤ ms + 1 → G ms)
    (hspec : ∀ s ms, Spec.Fse.readProbs (s + 1) ms (sum - counter) ((bitsLE src.toList).drop idx) acc =
      if G ms then Spec.Fse.readProbs s ms (sum - counter2) ((bitsLE src.toList).drop idx2) acc2 else none) :
    ProbLoopAgree src sum idx counter probs acc out := by
  obtain ⟨res, e | ⟨br', c'⟩⟩ := out
  · simp only [ProbLoopAgree] at hrec ⊢
    refine ⟨hrec.1, fun sfuel ms => ?_⟩
    cases sfuel with
    | zero => rfl
    | succ s =>
      rw [hspec]
      split
      · exact hrec.2 s ms
      · rfl
  · simp only [ProbLoopAgree] at hrec ⊢
    obtain ⟨hc, hsz', idx', hbr, hi, hs⟩ := hrec
    refine ⟨hc, by omega, idx', hbr, hi, fun sfuel ms => ?_⟩
    cases sfuel with
    | zero => exact ⟨.inl rfl, fun _ h => by omega⟩
    | succ s =>
      rw [hspec]
      by_cases hg : G ms
      · rw [if_pos hg]
        exact ⟨(hs s ms).1, fun h1 h2 => (hs s ms).2 h1 (by omega)⟩
      · rw [if_neg hg]
        exact ⟨.inl rfl, fun h _ => absurd (hG ms (by omega)) hg⟩

/-- (stated apart: `omega` inside `readProbLoop_agree` sees twenty hypotheses) -/
theorem fuel_step {n i j k m : Nat} (h : n - i < m + 1) (hj : 1 ≤ j) (hle : i + j + k ≤ n) : n - (i + j + k) < m := by
  omega

theorem zeroRun_guard {a z ms : Nat} (h : a + 1 + z ≤ ms + 1) : a ≤ ms ∧ z / 3 + 1 ≤ ms + 2 := by omega

theorem readProbLoop_agree {src : Array Nat} (hb : Bytes src.toList) (sum : Nat) (hsum : sum ≤ 2 ^ 20) :
    ∀ (mfuel idx counter : Nat) (probs : Array Int) (acc : List Int),
      idx ≤ 8 * src.size → 8 * src.size - idx < mfuel → counter ≤ sum → probs.toList = acc.reverse →
      ProbLoopAgree src sum idx counter probs acc (readProbLoop sum mfuel { src := src, idx := idx } counter probs) := by
  intro mfuel
  induction mfuel with
  | zero => intro idx counter probs acc _ h; omega
  | succ m ih =>
    intro idx counter probs acc hidx hfuel hcs hacc
    have hacclen : acc.length = probs.size := by
      have := congrArg List.length hacc; simp at this; omega
    by_cases hlt : counter < sum
    · have hrem : sum - counter ≠ 0 := by omega
      rcases getBits_cases hb hidx (nbits_le (show sum - counter ≤ 2 ^ 20 by omega)) (by omega) with
        ⟨hnone, he⟩ | ⟨v, hrd, hget, hle, hv⟩
      · -- not enough bits for the next value: both fail
        rw [readProbLoop, if_neg (by omega)]
        simp only [he, liftBit, ProbLoopAgree]
        refine ⟨fun _ => nofun, fun sfuel ms => ?_⟩
        cases sfuel with
        | zero => rfl
        | succ s =>
          rw [spec_readProbs_succ, if_neg hrem, hnone]
          by_cases hms : acc.length > ms
          · rw [if_pos hms]
          · rw [if_neg hms]
      · rw [model_readProbLoop_succ sum m src idx counter probs hlt v hget]
        simp only []
        obtain ⟨hu1, hu2⟩ := decodeVal_used_pos hrem v
        have hmass := decodeVal_mass_le hrem hv
        clear hv
        generalize hd : decodeVal (sum - counter) v = d at *
        have hidx2 : idx + d.2 ≤ 8 * src.size := by omega
        have hpush : (probs.push ((d.1 : Int) - 1)).toList = (((d.1 : Int) - 1) :: acc).reverse := by
          rw [Array.toList_push, hacc, List.reverse_cons]
        -- the Spec's side of this iteration
        have hspec : ∀ s ms, Spec.Fse.readProbs (s + 1) ms (sum - counter) ((bitsLE src.toList).drop idx) acc =
            if acc.length > ms then none
            else if (d.1 : Int) - 1 = 0 then
              match Spec.Fse.readZeroRuns (ms + 2) ((bitsLE src.toList).drop (idx + d.2)) with
              | none => none
              | some (z, rest') =>
                Spec.Fse.readProbs s ms (sum - counter - massOf d.1) rest'
                  (List.replicate z 0 ++ ((d.1 : Int) - 1) :: acc)
            else Spec.Fse.readProbs s ms (sum - counter - massOf d.1)
              ((bitsLE src.toList).drop (idx + d.2)) (((d.1 : Int) - 1) :: acc) := by
          intro s ms
          rw [spec_readProbs_succ, if_neg hrem, hrd]
          simp only [hd]
          rw [if_neg (show ¬ massOf d.1 > sum - counter by omega), List.drop_drop]
        by_cases hp0 : (d.1 : Int) - 1 = 0
        · rw [if_neg (by omega)]
          have hm0 : massOf d.1 = 0 := by unfold massOf; rw [hp0]; simp
          have hz := readZeroRuns_agree hb (src.size * 4 + 2) (idx + d.2) (probs.push ((d.1 : Int) - 1)) hidx2 (by omega)
          generalize Model.Fse.readZeroRuns (src.size * 4 + 2) { src := src, idx := idx + d.2 }
            (probs.push ((d.1 : Int) - 1)) = zout at hz
          obtain ⟨p2, e | br2⟩ := zout
          · simp only [ZeroRunsAgree] at hz
            simp only [ProbLoopAgree]
            refine ⟨hz.1, fun sfuel ms => ?_⟩
            cases sfuel with
            | zero => rfl
            | succ s => rw [hspec, if_pos hp0, hz.2]; split <;> rfl
          · simp only [ZeroRunsAgree] at hz
            obtain ⟨z, rfl, rfl, hz2, hzs⟩ := hz
            simp only []
            have hacc2 : (probs.push ((d.1 : Int) - 1) ++ Array.replicate z (0 : Int)).toList
                = (List.replicate z (0 : Int) ++ ((d.1 : Int) - 1) :: acc).reverse := by
              rw [Array.toList_append, hpush, List.reverse_append]; simp
            refine .of_step (fun ms => acc.length ≤ ms ∧ z / 3 + 1 ≤ ms + 2)
              (ih (idx + d.2 + 2 * (z / 3 + 1)) counter _ _ hz2 (fuel_step hfuel hu1 hz2) hcs hacc2)
              (by simp only [Array.size_append, Array.size_push, Array.size_replicate]; exact Nat.le_add_right _ _)
              (fun ms h => by
                simp only [Array.size_append, Array.size_push, Array.size_replicate] at h
                rw [hacclen]; exact zeroRun_guard h)
              (fun s ms => ?_)
            rw [hspec, if_pos hp0, hzs, hm0, Nat.sub_zero]
            by_cases hms : acc.length > ms
            · rw [if_pos hms, if_neg (fun h => Nat.not_le_of_gt hms h.1)]
            · rw [if_neg hms]
              by_cases hzf : z / 3 + 1 ≤ ms + 2
              · rw [if_pos hzf, if_pos ⟨Nat.le_of_not_gt hms, hzf⟩]
              · rw [if_neg hzf, if_neg (fun h => hzf h.2)]
        · rw [if_pos hp0, readProbLoop_advance _ _ _ _ _ _ hp0]
          refine .of_step (fun ms => acc.length ≤ ms)
            (ih (idx + d.2) (counter + massOf d.1) _ _ hidx2 (fuel_step (k := 0) hfuel hu1 hidx2) (by omega) hpush)
            (by rw [Array.size_push]; exact Nat.le_refl _)
            (fun ms h => by rw [Array.size_push] at h; rw [hacclen]; exact Nat.le_of_succ_le_succ h) (fun s ms => ?_)
          rw [hspec, if_neg hp0, Nat.sub_sub]
          by_cases hms : acc.length > ms
          · rw [if_pos hms, if_neg (by omega)]
          · rw [if_neg hms, if_pos (by omega)]
    · rw [readProbLoop, if_pos hlt]
      simp only [ProbLoopAgree]
      refine ⟨by omega, Nat.le_refl _, idx, rfl, hidx, fun sfuel ms => ?_⟩
      cases sfuel with
      | zero => exact ⟨.inl rfl, fun _ h => by omega⟩
      | succ s =>
        rw [spec_readProbs_succ, if_pos (by omega), hacc]
        exact ⟨.inr rfl, fun _ _ => rfl⟩

/-- outcome of `read_probabilities` against `Spec.Fse.readDescription`; on success only `probs` and `accuracyLog` of the
table change -/
def DescAgree (t : DTable) (src : Array Nat) (maxLog : Nat) : DTable × Except Err Nat → Prop
  | (t', .ok used) =>
      Spec.Fse.readDescription src.toList maxLog t.maxSymbol = some (t'.accuracyLog, t'.probs.toList, used) ∧
      t' = { t with probs := t'.probs, accuracyLog := t'.accuracyLog }
  | (_, .error e) => (∀ f, e ≠ .fault f) ∧ Spec.Fse.readDescription src.toList maxLog t.maxSymbol = none

theorem readProbabilities_agree (src : Array Nat) (hb : Bytes src.toList) (t : DTable) (maxLog : Nat) :
    DescAgree t src maxLog (t.readProbabilities src maxLog) := by
  unfold DTable.readProbabilities
  simp only [BitReader.new]
  rcases getBits_cases hb (by omega : 0 ≤ 8 * src.size) (by omega : 4 ≤ 64) (by omega) with
    ⟨hnone, he⟩ | ⟨a, hrd, hget, hle, ha⟩
  · rw [List.drop_zero] at hnone
    simp only [he, liftBit, DescAgree, Spec.Fse.readDescription, hnone]
    exact ⟨fun _ => nofun, trivial⟩
  · rw [List.drop_zero] at hrd
    simp only [hget, liftBit, Gen.accLogOffset, Nat.one_shiftLeft]
    rw [if_neg (by omega)]
    by_cases hal : 5 + a > maxLog
    · simp only [if_pos hal, DescAgree, Spec.Fse.readDescription, hrd, Nat.add_comm a 5]
      exact ⟨fun _ => nofun, trivial⟩
    · rw [if_neg hal, if_neg (by omega)]
      have hsum : 2 ^ (5 + a) ≤ 2 ^ 20 := Nat.pow_le_pow_right (by omega) (by omega)
      have hl := readProbLoop_agree hb (2 ^ (5 + a)) hsum (src.size * 8 + 2) (0 + 4) 0 #[] [] hle (by omega)
        (Nat.zero_le _) rfl
      generalize readProbLoop (2 ^ (5 + a)) (src.size * 8 + 2) { src := src, idx := 0 + 4 } 0 #[] = out at hl
      obtain ⟨ps, e | ⟨br, c⟩⟩ := out
      · simp only [ProbLoopAgree, Nat.sub_zero] at hl
        simp only [DescAgree, Spec.Fse.readDescription, hrd, Nat.add_comm a 5, if_neg hal, hl.2]
        exact ⟨hl.1, trivial⟩
      · simp only [ProbLoopAgree, Nat.sub_zero] at hl
        obtain ⟨rfl, _, idx', rfl, hi, hs⟩ := hl
        obtain ⟨hs1, hs2⟩ := hs (t.maxSymbol + 3) t.maxSymbol
        simp only [ne_eq, not_true_eq_false, if_false]
        by_cases hlen : ps.size > t.maxSymbol + 1
        · simp only [if_pos hlen, DescAgree, Spec.Fse.readDescription, hrd, Nat.add_comm a 5, if_neg hal]
          refine ⟨fun _ => nofun, ?_⟩
          rcases hs1 with h | h <;> simp only [h]
          rw [if_pos (by simpa using hlen)]
        · simp only [if_neg hlen, DescAgree, Spec.Fse.readDescription, hrd, Nat.add_comm a 5, if_neg hal]
          rw [hs2 (by omega) (by simp; omega)]
          simp only [Array.length_toList, if_neg hlen, BitReader.bitsRead, List.length_drop, length_bitsLE]
          exact ⟨by rw [bytes_of_bits hi]; rfl, trivial⟩

theorem fse_readProbabilities_complete (src : Array Nat) (hb : Bytes src.toList) (t : DTable)
    (maxLog : Nat) {t' : DTable} {used : Nat}
    (hm : t.readProbabilities src maxLog = (t', .ok used)) :
    Spec.Fse.readDescription src.toList maxLog t.maxSymbol = some (t'.accuracyLog, t'.probs.toList, used) := by
  have := readProbabilities_agree src hb t maxLog
  rw [hm] at this
  exact this.1

theorem fse_readProbabilities_refines (src : Array Nat) (hb : Bytes src.toList) (t : DTable)
    (maxLog maxSymbol : Nat) (hms : t.maxSymbol = maxSymbol)
    {al : Nat} {probs : List Int} {used : Nat}
    (hs : Spec.Fse.readDescription src.toList maxLog maxSymbol = some (al, probs, used)) :
    t.readProbabilities src maxLog = ({ t with probs := probs.toArray, accuracyLog := al }, .ok used) := by
  subst hms
  have := readProbabilities_agree src hb t maxLog
  generalize t.readProbabilities src maxLog = out at this
  obtain ⟨t', e | used'⟩ := out
  · rw [this.2] at hs; cases hs
  · obtain ⟨h1, h2⟩ := this
    cases h1.symm.trans hs
    rw [h2]

theorem fse_readProbabilities_ok_iff (src : Array Nat) (hb : Bytes src.toList) (t : DTable)
    (maxLog al : Nat) (probs : List Int) (used : Nat) :
    t.readProbabilities src maxLog = ({ t with probs := probs.toArray, accuracyLog := al }, .ok used) ↔
      Spec.Fse.readDescription src.toList maxLog t.maxSymbol = some (al, probs, used) := by
  constructor
  · intro h
    have := fse_readProbabilities_complete src hb t maxLog h
    simpa using this
  · intro h
    exact fse_readProbabilities_refines src hb t maxLog t.maxSymbol rfl h

/-- a successful `read_probabilities` changes `symbol_probabilities` and `accuracy_log` of the table and
nothing else -/
theorem fse_readProbabilities_ok_eq (src : Array Nat) (hb : Bytes src.toList) (t : DTable)
    (maxLog : Nat) {t' : DTable} {used : Nat}
    (hm : t.readProbabilities src maxLog = (t', .ok used)) :
    t' = { t with probs := t'.probs, accuracyLog := t'.accuracyLog } := by
  have := readProbabilities_agree src hb t maxLog
  rw [hm] at this
  exact this.2

end Zstd.Proofs.FseReadDesc
