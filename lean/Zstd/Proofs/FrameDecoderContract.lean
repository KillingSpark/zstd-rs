import Zstd.Proofs.FrameDecoderBuf
/-
What the frame-level proofs need of a block decoder (`BlockDec σ`, Model/FrameDecoder.lean): `BlockContract` (buffer
discipline; C05, C06, C08, C10), `NoFaultContract` (C03) and, in FrameDecoderRefineBlocks.lean, `RefinesSpec` (C01).
Every frame-level theorem is proved for EVERY block decoder satisfying them.  Instance A (the Spec stand-in):
FrameDecoderStandIn.lean; instance B (the faithful `Blk.decompressBlock`): FrameFaithful.lean.
-/
namespace Zstd.Model
open Zstd

/-- the "never drained" twin of a buffer: the bytes `d` the caller has already taken are still in
front, and the hasher field is `x` (decode operations never read it) -/
def DBuf.twin (d x : Array Nat) (b : DBuf) : DBuf := { b with content := d ++ b.content, hashed := x }

class BlockContract (σ : Type) [BlockDec σ] : Prop where
  /-- on EVERY outcome (ok, error, fault), and at most `MAX_BLOCK_SIZE` bytes -/
  appends : ∀ (content : List Nat) (e : σ) (b : DBuf),
    ∃ x, DBuf.Appends b (BlockDec.run content e b).1.1 x ∧ x.size ≤ Gen.maxBlockSize
  /-- `total_output_counter` advances by at most the number of bytes appended -/
  counter : ∀ (content : List Nat) (e : σ) (b : DBuf),
    (BlockDec.run content e b).1.1.totalOut + b.content.size ≤ b.totalOut + (BlockDec.run content e b).1.1.content.size
  /-- a block's effect is local: with at least `W` bytes retained and every offset of the block ≤ `W`, the block does
  the same on the drained buffer and on its never-drained twin -/
  twin : ∀ (W : Nat) (d x : Array Nat) (content : List Nat) (e : σ) (b : DBuf),
    W ≤ b.content.size → (∀ o ∈ BlockDec.offsets content e, o ≤ W) →
    BlockDec.run content e (b.twin d x) =
      (((BlockDec.run content e b).1.1.twin d x, (BlockDec.run content e b).1.2), (BlockDec.run content e b).2)

/-- the operation did not end in one of the two decode errors that can leave an entropy table half
built (`FSETable::build_decoder` stores the new `accuracy_log` before it validates the description,
`HuffmanTable::build_decoder` clears `decode` before it rejects the weights): after
`err literals` / `err sequences` the caller may drain, query and `reset`, but must not decode on in
that frame -/
def Out.clean {α : Type} (o : Out α) : Prop := o ≠ .err .literals ∧ o ≠ .err .sequences

theorem Out.clean_ok {α : Type} (a : α) : (Out.ok a).clean := ⟨by simp, by simp⟩

theorem Out.clean_err {α : Type} (e : DErr) (h1 : e ≠ .literals) (h2 : e ≠ .sequences) : (Out.err e : Out α).clean :=
  ⟨fun h => h1 (by injection h), fun h => h2 (by injection h)⟩

theorem Out.clean_cast {α β : Type} {e : DErr} (h : (Out.err e : Out α).clean) : (Out.err e : Out β).clean :=
  ⟨fun h' => h.1 (by injection h' with h'; rw [h']), fun h' => h.2 (by injection h' with h'; rw [h'])⟩

/-- the conclusion of C03 for one operation, `r` = (state left behind, outcome) -/
structure Safe {S α : Type} (P Q : S → Prop) (r : S × Out α) : Prop where
  clean : r.2.clean → P r.1
  always : Q r.1
  noFault : ∀ f, r.2 ≠ .fault f

theorem Safe.ok {S α : Type} {P Q : S → Prop} {x : S} (a : α) (hp : P x) (hq : Q x) : Safe P Q (x, Out.ok a) :=
  ⟨fun _ => hp, hq, fun _ => nofun⟩

theorem Safe.err {S α : Type} {P Q : S → Prop} {x : S} {e : DErr} (hp : (Out.err e : Out α).clean → P x) (hq : Q x) :
    Safe P Q (x, (Out.err e : Out α)) :=
  ⟨hp, hq, fun _ => nofun⟩

theorem Safe.err_cast {S α β : Type} {P Q : S → Prop} {x : S} {e : DErr} (h : Safe P Q (x, (Out.err e : Out α))) :
    Safe P Q (x, (Out.err e : Out β)) :=
  ⟨fun hc => h.clean (Out.clean_cast hc), h.always, fun _ => nofun⟩

theorem Safe.of_ok {S α : Type} {P Q : S → Prop} {x : S} {a : α} (h : Safe P Q (x, Out.ok a)) : P x :=
  h.clean (Out.clean_ok a)

theorem Safe.not_fault {S α : Type} {P Q : S → Prop} {x : S} {f : Fault} (h : Safe P Q (x, (Out.fault f : Out α))) :
    False :=
  h.noFault f rfl

/-- C03 at the block level: a well-formedness predicate `wf` on the entropy state that `fresh`
satisfies and every block preserves unless it ends in `err literals` / `err sequences`
(`Out.clean`), and a predicate `inp` on input byte lists (closed under `take`/`drop`; "every element
is a byte" for the faithful decoder, nothing for the stand-in), under which a block never faults -/
class NoFaultContract (σ : Type) [BlockDec σ] where
  wf : σ → Prop
  inp : List Nat → Prop
  inp_take : ∀ (l : List Nat) (n : Nat), inp l → inp (l.take n)
  inp_drop : ∀ (l : List Nat) (n : Nat), inp l → inp (l.drop n)
  wf_fresh : wf (BlockDec.fresh : σ)
  wf_run : ∀ (content : List Nat) (e : σ) (b : DBuf), wf e → inp content →
    (BlockDec.run content e b).2.clean → wf (BlockDec.run content e b).1.2
  noFault : ∀ (content : List Nat) (e : σ) (b : DBuf) (f : Fault), wf e → inp content →
    (BlockDec.run content e b).2 ≠ .fault f

end Zstd.Model
