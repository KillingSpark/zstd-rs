import Zstd.Proofs.BlockNoFault
import Zstd.Proofs.LitHeader
/-
C01 at block level, literals section: the two RFC transcriptions of the literals header agree
(`Headers.specLitHeader_agree`: `Spec.parseLitHeader` of Spec/Block.lean, used by `Spec.decodeLiterals`, and
`Spec.Hdr.parseLitHeader` of Spec/Headers.lean, which C14 proves equal to the code's parser), hence the model's
`Hdr.parseLitHeader` refines the Spec's.
-/
namespace Zstd.Proofs.Blk
open Zstd Zstd.Model Zstd.Model.Blk Zstd.Model.Hdr Zstd.Proofs.BitIO Zstd.Proofs.Headers

theorem parseLitHeader_refines {bs : List Nat} (hb : Bytes bs) {H : Spec.LitHeader}
    (h : Spec.parseLitHeader bs = some H) :
    ∃ sec, Hdr.parseLitHeader LitSection.new bs = .ok (sec, H.hdrLen) ∧ sec.ty = H.ltype ∧ sec.regen = H.regen ∧
      (H.ltype < 2 → sec.comp = none) ∧
      (¬ H.ltype < 2 → sec.comp = some H.comp ∧ sec.streams = some H.streams) := by
  rw [specLitHeader_agree bs hb] at h
  cases hh : Spec.Hdr.parseLitHeader bs with
  | none => rw [hh] at h; cases h
  | some h' =>
    rw [hh] at h
    simp only [Option.map_some, Option.some.injEq] at h
    subst h
    have hshape := specLitHeader_shape hh
    have hp := Zstd.Proofs.Headers.parseLitHeader_eq_rfc LitSection.new bs hb
    cases bs with
    | nil => cases hh
    | cons b0 tl =>
      simp only [hh] at hp
      refine ⟨_, hp, rfl, rfl, ?_, ?_⟩
      · intro hlt
        rcases hshape with ⟨_, hc⟩ | ⟨hge, _⟩
        · exact hc
        · exact absurd hlt hge
      · intro hge
        rcases hshape with ⟨hlt, _⟩ | ⟨_, ⟨c, hc⟩, hst⟩
        · exact absurd hlt hge
        · have hge' : ¬ h'.ltype < 2 := hge
          simp only [litConv, hc, if_neg hge', Option.getD_some, true_and]
          rcases hst with hst | hst <;> rw [hst, Option.getD_some]

end Zstd.Proofs.Blk
