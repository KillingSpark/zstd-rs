import Zstd.Spec.Block
import Zstd.Proofs.LitCoderFse
import Zstd.Proofs.HufRoundtrip
import Zstd.Proofs.HufCanon
/-
The tree description against the STRICT specification (the stream half is
Proofs/LitCoderStream.lean).

For every canonical encoder table (`CanonTable`, i.e. every table `build_from_data` returns),
whatever `write_table` writes — direct form or FSE-compressed form — `Spec.Huffman.readTable` accepts,
consumes exactly, and the table it builds from the transmitted weights (last weight inferred,
`Max_Number_of_Bits` from the Kraft sum) `SpecDecodes` the encoder's code.
-/
namespace Zstd.Proofs.LitCoder

open Zstd Zstd.Model Zstd.Model.Huf Zstd.Proofs.Huf

theorem spec_table_of_canon {t : EncTable} {wd : List Nat} {m : Nat} (c : CanonTable t wd m) :
    ∃ T, Spec.Huffman.tableOfWeights wd.dropLast = some T ∧ T.maxBits = m ∧ SpecDecodes T t := by
  obtain ⟨hgood, hmb, hrec⟩ := c.transmitted
  have hcw := (Zstd.Proofs.Huf.spec_complete_iff wd.dropLast _ _).mpr ⟨hgood, rfl, rfl⟩
  rw [hmb, hrec] at hcw
  have hT : Spec.Huffman.tableOfWeights wd.dropLast = some (Spec.Huffman.buildTable m wd) := by
    unfold Spec.Huffman.tableOfWeights
    rw [hcw]
    exact if_neg (by have := c.len256; omega)
  -- the Spec's table is the canonical one, and the encoder's codes are its block starts
  refine ⟨_, hT, rfl, ⟨fun s cd nb hcode hnb _ => ?_⟩⟩
  obtain ⟨h1, _, h3⟩ := c.decodes (spec_canonical m c.le) s cd nb hcode hnb
  exact ⟨h1, fun j hj => specCell_eq_some (h3 j hj)⟩

theorem writeTable_canon {t : EncTable} {wd : List Nat} {m : Nat} (c : CanonTable t wd m) {desc : List Nat}
    (h : writeTable Enc.fseWeights t = .ok desc) :
    (wd.length - 1 ≤ 16 ∧ ∃ bs, desc = (wd.dropLast.length + 127) :: bs ∧ bs.length = (wd.dropLast.length + 1) / 2 ∧
        ∀ tail, nibbles wd.dropLast.length (bs ++ tail) = .ok wd.dropLast) ∨
    (16 < wd.length - 1 ∧ ∃ bytes, desc = bytes.length :: bytes ∧ Enc.fseWeights wd.dropLast = .ok bytes ∧
        bytes.length < 128) := by
  have k := c.kraft
  obtain ⟨_, _, _, hlt16⟩ := kraft_weights_good k
  have hwAll := c.weights
  rw [c.encWeights_eq] at hlt16
  have hdl' : wd.dropLast.length = wd.length - 1 := by simp
  by_cases hform : wd.length - 1 ≤ 16
  · obtain ⟨bs, hb1, hb2, hb3⟩ := nibbles_directBytes wd.dropLast hlt16
    rw [writeTable_direct Enc.fseWeights hwAll (by omega) hb1] at h
    cases h
    exact .inl ⟨hform, bs, rfl, hb2, hb3⟩
  · rw [writeTable_fse Enc.fseWeights hwAll (by omega)] at h
    split at h
    · cases h
    · rename_i bytes hf
      split at h
      · rename_i hsm
        cases h
        exact .inr ⟨by omega, bytes, rfl, hf, hsm⟩
      · cases h

theorem spec_readWeights_direct (ws bs tail : List Nat) (hn1 : 1 ≤ ws.length) (hn2 : ws.length ≤ 128)
    (hlen : bs.length = (ws.length + 1) / 2) (hnib : nibbles ws.length (bs ++ tail) = .ok ws) :
    Spec.Huffman.readWeights ((ws.length + 127) :: (bs ++ tail)) = some (ws, 1 + bs.length) := by
  unfold Spec.Huffman.readWeights
  simp only
  rw [if_pos (by omega)]
  have hn : ws.length + 127 - 127 = ws.length := by omega
  rw [hn, if_neg (by simp only [List.length_append]; omega)]
  have := Zstd.Proofs.Huf.nibbles_eq (bs ++ tail) ws.length (by simp only [List.length_append]; omega)
  rw [hnib] at this
  simp only [Except.ok.injEq] at this
  simp only [Option.some.injEq, Prod.mk.injEq]
  exact ⟨this.symm, by omega⟩

theorem spec_readTable_written {t : EncTable} {wd : List Nat} {m : Nat} (c : CanonTable t wd m) {desc : List Nat}
    (h : writeTable Enc.fseWeights t = .ok desc) (tail : List Nat) :
    ∃ T, Spec.Huffman.readTable (desc ++ tail) = some (T, desc.length) ∧ T.maxBits = m ∧ SpecDecodes T t := by
  obtain ⟨T, hT, hm, sd⟩ := spec_table_of_canon c
  refine ⟨T, ?_, hm, sd⟩
  have hdl' : wd.dropLast.length = wd.length - 1 := by simp
  have hrw : Spec.Huffman.readWeights (desc ++ tail) = some (wd.dropLast, desc.length) := by
    rcases writeTable_canon c h with ⟨hform, bs, rfl, hbl, hnib⟩ | ⟨hform, bytes, rfl, hf, hsm⟩
    · have := spec_readWeights_direct wd.dropLast bs tail (by have := c.two; omega) (by omega) hbl (hnib tail)
      simp only [List.cons_append, List.length_cons]
      rw [this, Nat.add_comm]
    · have hle12 : ∀ w ∈ wd.dropLast, w ≤ 12 := by
        intro w hw
        have := c.le w (List.dropLast_subset wd hw)
        have := c.m11
        omega
      have := spec_readWeights_fse wd.dropLast bytes (by omega) (by have := c.len256; omega) hle12 hf hsm tail
      simp only [List.cons_append, List.length_cons]
      rw [this, Nat.add_comm]
  unfold Spec.Huffman.readTable
  rw [hrw]
  simp only [hT]

end Zstd.Proofs.LitCoder
