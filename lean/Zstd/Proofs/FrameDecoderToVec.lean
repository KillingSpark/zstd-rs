import Zstd.Proofs.FrameDecoderSched
/-
`decode_all_to_vec` in terms of the `decode_all` call it makes; the C10 theorems about the vector (unchanged on
failure, existing content never touched, exactly the reported bytes appended) are read off this equation.
-/
namespace Zstd.Model
open Zstd

variable {σ : Type} [BlockDec σ] [BlockContract σ]

theorem Decoder.decodeAllToVec_eq (d : Decoder σ) (s : Src) (vec : Array Nat) (room : Nat) :
    d.decodeAllToVec s vec room =
      match d.decodeAll s room with
      | (d', .ok out) => (d', vec ++ out, .ok ())
      | (d', .err e) => (d', vec, .err e)
      | (d', .fault f) => (d', vec, .fault f) := by
  unfold Decoder.decodeAllToVec
  -- the spare capacity the vector is resized by is the room `decode_all` gets
  have hroom : (vec ++ Array.replicate (vec.size + room - vec.size) 0).size - vec.size = room := by simp
  simp only [hroom]
  have hpre : (vec ++ Array.replicate (vec.size + room - vec.size) 0).extract 0 vec.size = vec := by
    simp [Array.extract_append]
  cases h : d.decodeAll s room with
  | mk d' o =>
    cases o with
    | err e => simp only [hpre]
    | fault f => simp only [hpre]
    | ok out =>
      have hle : out.size ≤ room := by
        obtain ⟨x, hx, hs⟩ := decodeAllLoop_ok _ _ _ _ _ _ _ h
        rw [hx]; simpa using hs
      simp only [hpre]
      refine congrArg (fun x => (d', x, Out.ok ())) ?_
      have hmin : min (vec.size + out.size) (vec.size + room) = vec.size + out.size := by omega
      rw [hmin]
      apply Array.ext
      · simp only [Array.size_extract, Array.size_append, Array.size_replicate]
        omega
      · intro i h1 h2
        simp only [Array.size_append] at h2
        simp only [Array.getElem_extract, Nat.zero_add]
        by_cases hi : i < vec.size
        · rw [Array.getElem_append_left (by simp; omega)]
        · rw [Array.getElem_append_left (by simp; omega)]

end Zstd.Model
