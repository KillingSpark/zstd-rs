import Zstd.Proofs.RingInv
/-
`reserve` / `reserve_amortized`, and the shapes in which the operations of the ring state their results (`CapStep`,
`Reserved`, `Grown`).
-/
namespace Zstd.Model
open Zstd

namespace RingBuffer

variable {r : RingBuffer}

/-- how the capacity can change in an operation that reserves room for `n` more bytes: it never
shrinks, and when it grows the new capacity is at most `2·(len + n) + 2` -/
structure CapStep (r r' : RingBuffer) (n : Nat) : Prop where
  mono : r.cap ≤ r'.cap
  bound : r'.cap = r.cap ∨ r'.cap ≤ 2 * (r.len + n) + 2

theorem CapStep.of_eq {r r' : RingBuffer} (h : r'.cap = r.cap) (n : Nat) : CapStep r r' n :=
  ⟨by omega, Or.inl h⟩

/-- what `reserve(n)` leaves: the same queue in a ring with room for `n` more bytes -/
structure Reserved (r r' : RingBuffer) (n : Nat) : Prop where
  inv : r'.Inv
  abs : r'.abs = r.abs
  len : r'.len = r.len
  free : n ≤ r'.free
  capStep : CapStep r r' n

/-- what an operation that appends `n` bytes leaves (`extend`, `push_back`, `extend_and_fill`, the two copies from
within): a valid ring whose queue is `content` and `n` cells longer, the capacity changed as `reserve(n)` may change it -/
structure Grown (r r' : RingBuffer) (content : List Byte) (n : Nat) : Prop where
  inv : r'.Inv
  abs : r'.abs = content
  len : r'.len = r.len + n
  capStep : CapStep r r' n

theorem CapStep.trans_eq {r r1 r' : RingBuffer} {n : Nat} (h : CapStep r r1 n) (he : r'.cap = r1.cap) :
    CapStep r r' n := ⟨by rw [he]; exact h.mono, by rw [he]; exact h.bound⟩

/-- a buffer whose content was moved to the front of a bigger block -/
theorem linearised (hI : r.Inv) {r' : RingBuffer} (hcap : r.cap < r'.cap)
    (hhead : r'.head = 0) (htail : r'.tail = r.len) (hsize : r'.mem.size = r'.cap)
    (hcell : ∀ j, j < r.len → r'.mem.cell j = some (r.abs.getD j 0)) :
    r'.Inv ∧ r'.abs = r.abs ∧ r'.len = r.len := by
  have hlen : r'.len = r.len := by
    have := len_cases r'; omega
  have hlt : r.len ≤ r.cap := by
    rcases Nat.eq_zero_or_pos r.cap with h0 | h0
    · have := hI.len_free_zero_of_cap_zero h0; omega
    · have := hI.len_lt h0; omega
  refine and_assoc.1 ⟨inv_abs_of_cells hsize (.inr (by omega)) (by rw [hlen, abs_length]) fun i hi => ?_, hlen⟩
  rw [show r'.phys i = i by have := phys_cases r' i; omega]
  exact hcell i (by omega)

theorem reserveAmortized_ok (hI : r.Inv) {a : Nat} (ha : 0 < a) :
    ∃ r', r.reserveAmortized a = .ok r' ∧
      r'.cap = max (npow2 r.cap) (npow2 (r.cap + a)) + 1 ∧
      (r'.Inv ∧ r'.abs = r.abs ∧ r'.len = r.len) := by
  unfold reserveAmortized
  simp only []
  have hp1 := le_npow2 r.cap
  have hp2 := le_npow2 (r.cap + a)
  generalize hN : max (npow2 r.cap) (npow2 (r.cap + a)) + 1 = newCap
  have hNc : r.cap + a < newCap := by omega
  by_cases hc : 0 < r.cap
  · rw [if_pos hc]
    have hlf := hI.len_free hc
    obtain ⟨s, es, hsum, _, er1, er2⟩ := dataSlices_ok hI "ringbuffer.rs:reserve_amortized:read-s1"
      "ringbuffer.rs:reserve_amortized:read-s2"
    have hl1 : (r.abs.take s.1).length = s.1 := by rw [List.length_take, abs_length]; omega
    have hl2 : (r.abs.drop s.1).length = s.2 := by rw [List.length_drop, abs_length]; omega
    rw [es, ok_bind, er1, ok_bind]
    obtain ⟨m1, hw1, hz1, hc1⟩ := Mem.writeL_ok (site := "ringbuffer.rs:reserve_amortized:write-s1")
      (l := r.abs.take s.1) (m := Mem.fresh newCap) (off := 0) (by rw [hl1, Mem.size_fresh]; omega)
    rw [hw1, ok_bind, er2, ok_bind]
    obtain ⟨m2, hw2, hz2, hc2⟩ := Mem.writeL_ok (site := "ringbuffer.rs:reserve_amortized:write-s2")
      (l := r.abs.drop s.1) (m := m1) (off := s.1) (by rw [hl2, hz1, Mem.size_fresh]; omega)
    rw [hw2, ok_bind, pure_eq_ok]
    rw [hl1] at hc1; rw [hl2] at hc2
    refine ⟨_, rfl, rfl, linearised hI ?_ rfl ?_ ?_ fun j hj => ?_⟩
    · show r.cap < newCap; omega
    · show s.1 + s.2 = r.len; omega
    · show m2.size = newCap; rw [hz2, hz1, Mem.size_fresh]
    · -- the first slice went to `[0, s.1)`, the second behind it
      show m2.cell j = _
      rw [hc2 j]
      by_cases h2 : s.1 ≤ j
      · rw [if_pos (by omega), getD_drop]; congr 3; omega
      · rw [if_neg (by omega), hc1 j, if_pos (by omega), getD_take (by omega)]; rfl
  · have hc0 : r.cap = 0 := by omega
    rw [if_neg hc, pure_eq_ok]
    have hl0 := (hI.len_free_zero_of_cap_zero hc0).1
    rcases hI.bounds with ⟨_, h1, h2⟩ | ⟨hh, _⟩
    · refine ⟨_, rfl, rfl, linearised hI ?_ h1 ?_ ?_ fun j hj => ?_⟩
      · show r.cap < newCap; omega
      · show r.tail = r.len; omega
      · show (Mem.fresh newCap).size = newCap; exact Mem.size_fresh _
      · omega
    · omega

theorem reserve_ok (hI : r.Inv) (n : Nat) : ∃ r', r.reserve n = .ok r' ∧ Reserved r r' n := by
  unfold reserve
  rw [hI.freeC_eq, ok_bind]
  simp only [gen_reserveEnough]
  by_cases hf : r.free ≥ n
  · simp only [hf, ↓reduceIte, pure_eq_ok]
    exact ⟨r, rfl, hI, rfl, rfl, hf, CapStep.of_eq rfl _⟩
  · simp only [hf, ↓reduceIte]
    obtain ⟨r', h1, hcap, hI', habs, hlen⟩ := reserveAmortized_ok hI (a := n - r.free) (by omega)
    have hp1 := le_npow2 r.cap
    have hp2 := le_npow2 (r.cap + (n - r.free))
    have hp3 := npow2_lt (r.cap + (n - r.free)) (by omega)
    have hlf' := hI'.len_free (by omega)
    -- the old buffer: never allocated and empty (`npow2 0 = 1`), or one cell stays free
    have hold : (r.cap = 0 ∧ r.len = 0 ∧ r.free = 0 ∧ npow2 r.cap = 1) ∨
        (r.len + r.free + 1 = r.cap ∧ npow2 r.cap < 2 * r.cap) := by
      rcases Nat.eq_zero_or_pos r.cap with h0 | h0
      · exact .inl ⟨h0, (hI.len_free_zero_of_cap_zero h0).1, (hI.len_free_zero_of_cap_zero h0).2, by rw [h0]; decide⟩
      · exact .inr ⟨hI.len_free h0, npow2_lt r.cap h0⟩
    -- room for `n`, never smaller, and the bound: the new capacity is `max (npow2 cap) (npow2 (cap + a)) + 1` with
    -- `a = n - free`; `cap + a = len + n + 1` (one cell stays free) and `npow2 x < 2·x`, hence `≤ 2·(len + n) + 2`
    exact ⟨r', h1, hI', habs, hlen, by omega, by omega, by omega⟩

theorem reserve_slices (hI : r.Inv) {n : Nat} (hn : 0 < n) :
    ∃ r1 s1 s2 f1 f2, r.reserve n = .ok r1 ∧ Reserved r r1 n ∧ 0 < r1.cap ∧
      r1.freeSliceLengths = .ok (f2, f1) ∧ Slices r1 s1 s2 f1 f2 ∧ n ≤ f1 + f2 := by
  obtain ⟨r1, hres, hR⟩ := reserve_ok hI n
  have hf1 := hR.free
  have hc1 : 0 < r1.cap := hR.inv.cap_pos_of_free (by omega)
  obtain ⟨s1, s2, f1, f2, -, efs, hS⟩ := hR.inv.slices hc1
  have hfr := hS.free
  exact ⟨r1, s1, s2, f1, f2, hres, hR, hc1, efs, hS, by omega⟩

end RingBuffer

end Zstd.Model
