import Zstd.Proofs.FseDecTable.Defs
/-
The decoding table of a distribution as a function of its *layout*: the list `syms` that says which symbol
each of the `2^al` cells carries.  Symbol `s` owns `nStates probs s` cells; the `k`-th of them in table order
is state number `k` of `s` and carries `rfcEntry al (nStates probs s) k` (`finEntry`).  What the properties ask
of a built table — size, cells per symbol, entries by rank, intervals inside the table — is proved here of
`decOf`, from the two facts of `Layout`; no builder occurs.  That the intervals of one symbol tile `[0, 2^al)`
follows in `Char.lean` (`fse_ranges_partition`).
-/
namespace Zstd.Proofs.FseDecTable
open Zstd Zstd.Model.Fse Zstd.Proofs.FseFin

/-- the cells that carry `s`, in increasing order -/
def positions (l : List Nat) (s : Nat) : List Nat := (List.range l.length).filter (fun c => l.getD c 0 = s)

theorem filter_range_length (l : List Nat) (s : Nat) : ∀ {i : Nat}, i ≤ l.length →
    ((List.range i).filter (fun c => l.getD c 0 = s)).length = (l.take i).count s := by
  intro i
  induction i with
  | zero => intro _; rfl
  | succ i ih =>
    intro hi
    rw [List.range_succ, List.filter_append, List.length_append, ih (by omega), List.take_add_one,
      List.count_append, List.getElem?_eq_getElem (by omega)]
    simp only [List.filter_cons, List.filter_nil, List.getD_eq_getElem?_getD,
      List.getElem?_eq_getElem (show i < l.length by omega), Option.getD_some, Option.toList_some,
      List.count_singleton, decide_eq_true_eq, beq_iff_eq]
    split
    · rfl
    · rfl

theorem positions_length (l : List Nat) (s : Nat) : (positions l s).length = l.count s := by
  rw [positions, filter_range_length l s (Nat.le_refl _), List.take_length]

theorem mem_positions {l : List Nat} {s c : Nat} : c ∈ positions l s ↔ c < l.length ∧ l.getD c 0 = s := by
  simp only [positions, List.mem_filter, List.mem_range, decide_eq_true_eq]

theorem positions_pairwise (l : List Nat) (s : Nat) : (positions l s).Pairwise (· < ·) :=
  List.pairwise_lt_range.filter _

theorem positions_nodup (l : List Nat) (s : Nat) : (positions l s).Nodup :=
  (positions_pairwise l s).imp Nat.ne_of_lt

theorem filter_range_rank (P : Nat → Bool) : ∀ {n c : Nat}, c < n → P c = true →
    ((List.range n).filter P)[((List.range c).filter P).length]? = some c := by
  intro n
  induction n with
  | zero => intro c hc; omega
  | succ n ih =>
    intro c hc hP
    rw [List.range_succ, List.filter_append]
    by_cases h : c < n
    · have := ih h hP
      rw [List.getElem?_append_left]
      · exact this
      · exact (List.getElem?_eq_some_iff.1 this).1
    · have : c = n := by omega
      subst this
      rw [List.getElem?_append_right (Nat.le_refl _)]
      simp [hP]

theorem positions_count {l : List Nat} {i : Nat} (hi : i < l.length) :
    (positions l (l.getD i 0))[(l.take i).count (l.getD i 0)]? = some i := by
  rw [← filter_range_length l _ (Nat.le_of_lt hi)]
  exact filter_range_rank (fun c => decide (l.getD c 0 = l.getD i 0)) hi (by simp)

theorem count_positions {l : List Nat} {s k : Nat} (hk : k < (positions l s).length) :
    (positions l s)[k] < l.length ∧ l.getD (positions l s)[k] 0 = s ∧
      (l.take (positions l s)[k]).count s = k := by
  obtain ⟨hc, hs⟩ := mem_positions.1 (List.getElem_mem hk)
  refine ⟨hc, hs, ?_⟩
  have h := positions_count hc
  rw [hs, ← List.getElem?_eq_getElem hk] at h
  exact ((List.getElem?_inj hk (positions_nodup l s)).1 h.symm).symm

theorem count_take_lt {l : List Nat} {i : Nat} (h : i < l.length) :
    (l.take i).count (l.getD i 0) < l.count (l.getD i 0) := by
  rw [← positions_length l]
  exact (List.getElem?_eq_some_iff.1 (positions_count h)).1

/-- `syms` gives every symbol as many of the `2^al` cells as it has states.  This is all that the table
builders have to establish about where the symbols sit; the rest is the closed form. -/
structure Layout (al : Nat) (probs : List Int) (syms : List Nat) : Prop where
  ge : ∀ p ∈ probs, -1 ≤ p
  length : syms.length = 2 ^ al
  count : ∀ s, syms.count s = nStates probs s

def decOf (al : Nat) (probs : List Int) (syms : List Nat) : Array DEntry :=
  ((List.range (2 ^ al)).map (finEntry al probs syms)).toArray

theorem decOf_size (al : Nat) (probs : List Int) (syms : List Nat) : (decOf al probs syms).size = 2 ^ al := by
  simp [decOf]

theorem decOf_getElem? {al : Nat} (probs : List Int) (syms : List Nat) {i : Nat} (hi : i < 2 ^ al) :
    (decOf al probs syms)[i]? = some (finEntry al probs syms i) := by
  simp [decOf, hi]

theorem decOf_getD {al : Nat} (probs : List Int) (syms : List Nat) {i : Nat} (hi : i < 2 ^ al) :
    (decOf al probs syms).getD i {} = finEntry al probs syms i := by
  rw [Array.getD_eq_getD_getElem?, decOf_getElem? probs syms hi]
  rfl

theorem decOf_symbols {al : Nat} (probs : List Int) {syms : List Nat} (hl : syms.length = 2 ^ al) :
    (decOf al probs syms).toList.map (·.symbol) = syms := by
  apply List.ext_getElem
  · simp [decOf, hl]
  · intro i h1 h2
    simp [decOf, finEntry, List.getD_eq_getElem?_getD, h2]

/-- `rank` counts over the table what `finEntry` counts over the layout -/
theorem rank_decOf {al : Nat} {probs : List Int} {syms : List Nat} (hl : syms.length = 2 ^ al) {i : Nat}
    (hi : i < 2 ^ al) : rank (decOf al probs syms) i = (syms.take i).count (syms.getD i 0) := by
  rw [← filter_range_length syms _ (by omega : i ≤ syms.length)]
  unfold rank
  rw [decOf_getD probs syms hi]
  congr 1
  refine List.filter_congr fun j hj => ?_
  rw [decOf_getD probs syms (by have := List.mem_range.1 hj; omega)]
  rfl

section
variable {al : Nat} {probs : List Int} {syms : List Nat} (h : Layout al probs syms)
include h

theorem Layout.nStates_le (s : Nat) : nStates probs s ≤ 2 ^ al := by
  rw [← h.count, ← h.length]
  exact List.count_le_length

theorem Layout.rank_lt {i : Nat} (hi : i < 2 ^ al) :
    (syms.take i).count (syms.getD i 0) < nStates probs (syms.getD i 0) := by
  rw [← h.count]
  exact count_take_lt (by rw [h.length]; exact hi)

theorem Layout.usable {i : Nat} (hi : i < 2 ^ al) : probs.getD (syms.getD i 0) 0 ≠ 0 :=
  (nStates_pos_iff h.ge).1 (Nat.lt_of_le_of_lt (Nat.zero_le _) (h.rank_lt hi))

theorem Layout.positions_length (s : Nat) : (positions syms s).length = nStates probs s := by
  rw [FseDecTable.positions_length, h.count]

theorem Layout.entry_at {s k : Nat} (hk : k < nStates probs s) :
    ∃ c, (positions syms s)[k]? = some c ∧ c < 2 ^ al ∧
      finEntry al probs syms c = { symbol := s, baseLine := (rfcEntry al (nStates probs s) k).1,
                                   numBits := (rfcEntry al (nStates probs s) k).2 } := by
  rw [← h.positions_length] at hk
  obtain ⟨h1, h2, h3⟩ := count_positions hk
  refine ⟨_, List.getElem?_eq_getElem hk, h.length ▸ h1, ?_⟩
  simp only [finEntry, h2, h3]

/-- every entry's interval lies inside the table (so `update_state` never indexes out of bounds), and no
entry reads more than `al` bits -/
theorem Layout.entry_within {i : Nat} (hi : i < 2 ^ al) :
    (finEntry al probs syms i).numBits ≤ al ∧
      (finEntry al probs syms i).baseLine + 2 ^ (finEntry al probs syms i).numBits ≤ 2 ^ al :=
  have hk := h.rank_lt hi
  ⟨Nat.sub_le _ _, (within (by omega) (h.nStates_le _) hk).1⟩

theorem Layout.rank_ne {i j : Nat} (hi : i < 2 ^ al) (hj : j < 2 ^ al) (hs : syms.getD i 0 = syms.getD j 0)
    (hij : i ≠ j) : (syms.take i).count (syms.getD i 0) ≠ (syms.take j).count (syms.getD j 0) := by
  intro he
  have hpi := positions_count (h.length ▸ hi)
  have hpj := positions_count (h.length ▸ hj)
  rw [hs] at he hpi
  rw [he, hpj] at hpi
  exact hij (Option.some.inj hpi).symm

end

end Zstd.Proofs.FseDecTable
