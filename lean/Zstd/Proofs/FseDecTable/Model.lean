import Zstd.Proofs.FseDecTable.Defs
/-
The three loops of the model's `buildDecodingTableCore`, each walked once: under the hypotheses that a `Spread`
(`Spread.lean`) supplies the loop succeeds, its result is characterised, and (first two loops) the corresponding
fold of `Spec.Fse.spread` over the same list arrives at the symbols of that result.
-/
namespace Zstd.Proofs.FseDecTable
open Zstd Zstd.Model.Fse Zstd.Proofs.FseFin

/-- the entry of a "less than one" symbol: its interval is the whole table -/
def negEntry (al s : Nat) : DEntry := { symbol := s, baseLine := 0, numBits := al }

/-- the first fold of `Spec.Fse.spread`: a "less than one" symbol goes into the highest free cell -/
def negStep (acc : Array Nat × Nat) (ps : Int × Nat) : Array Nat × Nat :=
  if ps.1 = -1 ∧ acc.2 > 0 then (acc.1.setIfInBounds (acc.2 - 1) ps.2, acc.2 - 1) else acc

/-- the second fold of `Spec.Fse.spread`: a symbol of positive probability gets its cells along the walk -/
def spreadStep (size high : Nat) (acc : Array Nat × Nat) (ps : Int × Nat) : Array Nat × Nat :=
  if ps.1 > 0 then Spec.Fse.spreadSym ps.1.toNat size high ps.2 acc.2 acc.1 else acc

theorem spread_unfold (al : Nat) (probs : List Int) : Spec.Fse.spread al probs =
    (let r1 := probs.zipIdx.foldl negStep (Array.replicate (2 ^ al) 0, 2 ^ al)
     let r2 := probs.zipIdx.foldl (spreadStep (2 ^ al) r1.2) (r1.1, 0)
     if r2.2 = 0 then some r2.1 else none) := rfl

/-- `x.2 < 256`: the model's `s % 256` (`entry.symbol = symbol as u8`, `fse_decoder.rs:171`) is then the identity -/
theorem placeNegatives_ok (al : Nat) : ∀ (ps : List (Int × Nat)) (dec : Array DEntry) (neg : Nat),
    (∀ x ∈ ps, x.2 < 256) → (negSyms ps).length ≤ neg → neg ≤ dec.size →
    ∃ dec1, placeNegatives al ps dec neg = .ok (dec1, neg - (negSyms ps).length) ∧ dec1.size = dec.size ∧
      (∀ q, q < neg - (negSyms ps).length ∨ neg ≤ q → dec1[q]? = dec[q]?) ∧
      (∀ j, j < (negSyms ps).length → dec1[neg - 1 - j]? = ((negSyms ps)[j]?).map (negEntry al)) ∧
      ps.foldl negStep (dec.map (·.symbol), neg) = (dec1.map (·.symbol), neg - (negSyms ps).length) := by
  intro ps
  induction ps with
  | nil =>
    intro dec neg _ _ _
    exact ⟨dec, by simp [placeNegatives, negSyms], rfl, fun _ _ => rfl, by simp [negSyms], by simp [negSyms]⟩
  | cons x rest ih =>
    obtain ⟨p, s⟩ := x
    intro dec neg h256 hlen hsz
    have hrest : ∀ x ∈ rest, x.2 < 256 := fun x hx => h256 x (List.mem_cons_of_mem _ hx)
    have hs256 : s % 256 = s := Nat.mod_eq_of_lt (h256 (p, s) (List.mem_cons_self ..))
    rw [negSyms_cons] at hlen ⊢
    rw [List.foldl_cons]
    by_cases hp : p = -1
    · have hnf : negF (p, s) = [s] := by simp [negF, hp]
      rw [hnf] at hlen ⊢
      simp only [List.length_append, List.length_cons, List.length_nil] at hlen ⊢
      have h0 : ¬ (neg = 0) := by omega
      have h1 : neg - 1 < dec.size := by omega
      obtain ⟨dec1, he, hs, hout, hin, hfold⟩ := ih (dec.set! (neg - 1) { symbol := s, baseLine := 0, numBits := al })
        (neg - 1) hrest (by omega) (by simp only [Array.set!_eq_setIfInBounds, Array.size_setIfInBounds]; omega)
      have hidx : neg - 1 - (negSyms rest).length = neg - (0 + 1 + (negSyms rest).length) := by omega
      refine ⟨dec1, ?_, ?_, ?_, ?_, ?_⟩
      · simp only [placeNegatives, hp, if_true, h0, if_false, h1, hs256]
        rw [he, hidx]
      · rw [hs]; simp only [Array.set!_eq_setIfInBounds, Array.size_setIfInBounds]
      · intro q hq
        rw [hout q (by omega)]
        simp only [Array.set!_eq_setIfInBounds, Array.getElem?_setIfInBounds]
        have : ¬ (neg - 1 = q) := by omega
        simp only [this, if_false]
      · intro j hj
        cases j with
        | zero =>
          rw [Nat.sub_zero, hout (neg - 1) (by omega)]
          simp only [Array.set!_eq_setIfInBounds, Array.getElem?_setIfInBounds, if_true, h1]
          simp [negEntry]
        | succ j =>
          have := hin j (by omega)
          have he2 : neg - 1 - (j + 1) = neg - 1 - 1 - j := by omega
          rw [he2, this]
          simp
      · -- the Spec writes the symbol into the cell the model writes the entry into
        rw [← hidx, ← hfold]
        congr 1
        simp only [negStep, hp, show neg > 0 by omega, and_self, if_true, Array.set!_eq_setIfInBounds,
          Array.map_setIfInBounds]
    · have hnf : negF (p, s) = [] := by simp [negF, hp]
      rw [hnf] at hlen ⊢
      simp only [List.nil_append] at hlen ⊢
      obtain ⟨dec1, he, hs, hout, hin, hfold⟩ := ih dec neg hrest hlen hsz
      refine ⟨dec1, ?_, hs, hout, hin, ?_⟩
      · simp only [placeNegatives, hp, if_false]
        exact he
      · rw [← hfold]
        congr 1
        simp only [negStep, hp, false_and, if_false]

def setSym (d : Array DEntry) (p s : Nat) : Array DEntry := d.set! p { d.getD p {} with symbol := s }

/-- `writeSyms d ps ss`: the symbols `ss` written into the cells `ps`, pair by pair; what the spreading loop
does along its walk -/
def writeSyms : Array DEntry → List Nat → List Nat → Array DEntry
  | d, p :: ps, s :: ss => writeSyms (setSym d p s) ps ss
  | d, _, _ => d

theorem setSym_size (d : Array DEntry) (p s : Nat) : (setSym d p s).size = d.size := by
  simp [setSym]

theorem setSym_getElem? (d : Array DEntry) (p s q : Nat) :
    (setSym d p s)[q]? = if p = q then (d[p]?).map (fun e => { e with symbol := s }) else d[q]? := by
  simp only [setSym, Array.set!_eq_setIfInBounds, Array.getElem?_setIfInBounds]
  by_cases hpq : p = q
  · subst hpq
    simp only [if_true]
    by_cases hp : p < d.size
    · simp [hp, Array.getD_eq_getD_getElem?]
    · simp [hp]
  · simp [hpq]

theorem writeSyms_size : ∀ (l syms : List Nat) (d : Array DEntry), (writeSyms d l syms).size = d.size := by
  intro l
  induction l with
  | nil => intro syms d; simp [writeSyms]
  | cons p ps ih =>
    intro syms d
    cases syms with
    | nil => simp [writeSyms]
    | cons s ss => simp only [writeSyms]; rw [ih, setSym_size]

theorem writeSyms_append : ∀ (l1 s1 : List Nat) (l2 s2 : List Nat) (d : Array DEntry), l1.length = s1.length →
    writeSyms d (l1 ++ l2) (s1 ++ s2) = writeSyms (writeSyms d l1 s1) l2 s2 := by
  intro l1
  induction l1 with
  | nil =>
    intro s1 l2 s2 d h
    cases s1 with
    | nil => simp [writeSyms]
    | cons _ _ => simp at h
  | cons p ps ih =>
    intro s1 l2 s2 d h
    cases s1 with
    | nil => simp at h
    | cons s ss =>
      simp only [List.cons_append, writeSyms]
      exact ih ss l2 s2 _ (by simpa using h)

theorem writeSyms_spec : ∀ (l syms : List Nat) (d : Array DEntry), l.Nodup → l.length = syms.length →
    (∀ q, q ∉ l → (writeSyms d l syms)[q]? = d[q]?) ∧
    (∀ j (h : j < l.length), (writeSyms d l syms)[l[j]]? = (d[l[j]]?).map (fun e => { e with symbol := syms.getD j 0 })) := by
  intro l
  induction l with
  | nil => intro syms d _ _; simp [writeSyms]
  | cons p ps ih =>
    intro syms d hnd hlen
    cases syms with
    | nil => simp at hlen
    | cons s ss =>
      rw [List.nodup_cons] at hnd
      obtain ⟨h1, h2⟩ := ih ss (setSym d p s) hnd.2 (by simpa using hlen)
      simp only [writeSyms]
      refine ⟨?_, ?_⟩
      · intro q hq
        rw [List.mem_cons, not_or] at hq
        rw [h1 q hq.2, setSym_getElem?]
        have : ¬ (p = q) := fun h => hq.1 h.symm
        simp only [this, if_false]
      · intro j hj
        cases j with
        | zero =>
          simp only [List.getElem_cons_zero, List.getD_cons_zero]
          rw [h1 p hnd.1, setSym_getElem?]
          simp
        | succ j =>
          simp only [List.getElem_cons_succ, List.getD_cons_succ]
          have hj' : j < ps.length := by simpa using hj
          rw [h2 j hj', setSym_getElem?]
          have : ¬ (p = ps[j]) := fun h => hnd.1 (h ▸ List.getElem_mem hj')
          simp only [this, if_false]

theorem setSym_symbols (d : Array DEntry) (p s : Nat) :
    (setSym d p s).map (·.symbol) = (d.map (·.symbol)).setIfInBounds p s := by
  simp only [setSym, Array.set!_eq_setIfInBounds, Array.map_setIfInBounds]

theorem spec_step_eq (size p : Nat) : Spec.Fse.step size p = (p + (size / 2 + size / 8 + 3)) % size := by
  unfold Spec.Fse.step
  congr 1
  omega

section
variable {size neg st : Nat} (hstep : ∀ p, nextPosition p size = (p + st) % size)
  (hspec : ∀ p, Spec.Fse.step size p = (p + st) % size)

include hspec in
theorem nextPos_orbit (pos : Nat) : ∀ (f k j x : Nat), Spec.Fse.step size x = orbit size st pos (k + 1) →
    k + 1 ≤ j → j ≤ k + f →
    (∀ i, k + 1 ≤ i → i < j → neg ≤ orbit size st pos i) → orbit size st pos j < neg →
    Spec.Fse.nextPos f size neg x = orbit size st pos j := by
  intro f
  induction f with
  | zero => intro k j x _ h1 h2; omega
  | succ f ih =>
    intro k j x hx h1 h2 hall hj
    simp only [Spec.Fse.nextPos, hx]
    by_cases hjk : j = k + 1
    · subst hjk
      simp only [hj, if_true]
    · have hge := hall (k + 1) (by omega) (by omega)
      have : ¬ (orbit size st pos (k + 1) < neg) := by omega
      simp only [this, if_false]
      exact ih (k + 1) j _ (by rw [hspec, orbit_succ]) (by omega) (by omega)
        (fun i hi1 hi2 => hall i (by omega) hi2) hj

include hstep hspec

/-- the Spec's skip arrives where the model's does.  The model's extra unit of fuel is never needed: the orbit has
period `size`, so a skip that had not succeeded within `size` tests would be back at its first, failed, test -/
theorem skip_sim (hsize : 0 < size) (pos r : Nat)
    (h : skipHigh size neg (size + 1) (nextPosition pos size) = .ok r) :
    Spec.Fse.nextPos size size neg pos = r := by
  rw [hstep, ← orbit_one] at h
  obtain ⟨j, h1, h2, h3, h4, h5⟩ := skipHigh_orbit hstep pos (size + 1) 1 r h
  have hj : j ≤ size := by
    apply Classical.byContradiction
    intro hgt
    have hje : j = 1 + size := by omega
    have h6 := h5 1 (by omega) (by omega)
    rw [hje, orbit_period] at h3
    omega
  rw [h3]
  exact nextPos_orbit hspec pos size 0 j pos (by rw [hspec, orbit_one]) h1 (by omega)
    (fun i hi1 hi2 => h5 i hi1 hi2) (h3 ▸ h4)

theorem spreadSymbol_walk (hsize : 0 < size) (sym : Nat) :
    ∀ (n : Nat) (dec : Array DEntry) (pos : Nat) (l : List Nat) (e : Nat),
    walk size neg n pos = .ok (l, e) → (∀ p ∈ l, p < dec.size) →
    spreadSymbol size neg sym n dec pos = .ok (writeSyms dec l (List.replicate n sym), e) ∧
      Spec.Fse.spreadSym n size neg sym pos (dec.map (·.symbol))
        = ((writeSyms dec l (List.replicate n sym)).map (·.symbol), e) := by
  intro n
  induction n with
  | zero =>
    intro dec pos l e h _
    cases h
    exact ⟨rfl, rfl⟩
  | succ n ih =>
    intro dec pos l e h hlt
    obtain ⟨pos', l', hsk, hw, rfl⟩ := walk_succ_ok h
    have hpos : pos < dec.size := hlt pos (List.mem_cons_self ..)
    have hget : dec[pos]? = some dec[pos] := Array.getElem?_eq_getElem hpos
    have hset : dec.set! pos { dec[pos] with symbol := sym } = setSym dec pos sym := by
      simp [setSym, Array.getD_eq_getD_getElem?, hget]
    obtain ⟨h1, h2⟩ := ih (setSym dec pos sym) pos' l' e hw
      (fun p hp => by rw [setSym_size]; exact hlt p (List.mem_cons_of_mem _ hp))
    refine ⟨?_, ?_⟩
    · simp only [spreadSymbol, hget, hsk, List.replicate_succ, writeSyms, hset]
      exact h1
    · simp only [Spec.Fse.spreadSym, skip_sim hstep hspec hsize pos pos' hsk, List.replicate_succ, writeSyms,
        ← setSym_symbols]
      exact h2

theorem spreadAll_walk (hsize : 0 < size) :
    ∀ (ps : List (Int × Nat)) (dec : Array DEntry) (pos : Nat) (l : List Nat) (e : Nat),
    (∀ x ∈ ps, x.2 < 256) →
    walk size neg (slotSyms ps).length pos = .ok (l, e) → (∀ p ∈ l, p < dec.size) →
    spreadAll size neg ps dec pos = .ok (writeSyms dec l (slotSyms ps), e) ∧
      ps.foldl (spreadStep size neg) (dec.map (·.symbol), pos) = ((writeSyms dec l (slotSyms ps)).map (·.symbol), e) := by
  intro ps
  induction ps with
  | nil =>
    intro dec pos l e _ h _
    cases h
    exact ⟨rfl, rfl⟩
  | cons x rest ih =>
    obtain ⟨p, s⟩ := x
    intro dec pos l e h256 h hlt
    have hrest : ∀ x ∈ rest, x.2 < 256 := fun x hx => h256 x (List.mem_cons_of_mem _ hx)
    have hs256 : s % 256 = s := Nat.mod_eq_of_lt (h256 (p, s) (List.mem_cons_self ..))
    rw [slotSyms_cons] at h ⊢
    rw [List.foldl_cons]
    by_cases hp : p ≤ 0
    · have hsf : slotF (p, s) = [] := by simp [slotF]; omega
      rw [hsf] at h ⊢
      simp only [List.nil_append] at h ⊢
      simp only [spreadAll, hp, if_true, spreadStep, if_neg (show ¬ p > 0 by omega)]
      exact ih dec pos l e hrest h hlt
    · have hsf : slotF (p, s) = List.replicate p.toNat s := by
        simp only [slotF]; rw [if_pos (by omega)]
      rw [hsf] at h ⊢
      rw [List.length_append, List.length_replicate] at h
      obtain ⟨l1, l2, m, hw1, hw2, hl⟩ := walk_append _ _ _ h
      subst hl
      obtain ⟨h1, h1'⟩ := spreadSymbol_walk hstep hspec hsize s p.toNat dec pos l1 m hw1
        (fun q hq => hlt q (List.mem_append_left _ hq))
      obtain ⟨h2, h2'⟩ := ih (writeSyms dec l1 (List.replicate p.toNat s)) m l2 e hrest hw2
        (fun q hq => by rw [writeSyms_size]; exact hlt q (List.mem_append_right _ hq))
      rw [writeSyms_append _ _ _ _ _ (by rw [walk_length hw1, List.length_replicate])]
      refine ⟨?_, ?_⟩
      · simp only [spreadAll, hp, if_false, hs256, h1]
        exact h2
      · simp only [spreadStep, if_pos (show p > 0 by omega), h1']
        exact h2'

end

theorem asU32_pos {p : Int} (hp : 0 < p) : asU32 p = p.toNat := by
  unfold asU32; split
  · omega
  · rfl

/-- the third loop writes base line and bit count only -/
theorem symbols_set (dec : Array DEntry) {i : Nat} (h : i < dec.size) (b n : Nat) :
    (dec.set! i { dec[i] with baseLine := b, numBits := n }).map (·.symbol) = dec.map (·.symbol) := by
  rw [Array.set!_eq_setIfInBounds, Array.map_setIfInBounds]
  apply Array.ext_getElem?
  intro j
  rw [Array.getElem?_setIfInBounds]
  split
  · rename_i hij
    subst hij
    simp [h]
  · rfl

theorem symbols_getElem {dec : Array DEntry} {syms : List Nat} (h : dec.map (·.symbol) = syms.toArray) {i : Nat}
    (hi : i < dec.size) : dec[i].symbol = syms.getD i 0 := by
  have := congrArg (·[i]?) h
  simp only [Array.getElem?_map, Array.getElem?_eq_getElem hi, Option.map_some, List.getElem?_toArray] at this
  rw [List.getD_eq_getElem?_getD, ← this]
  rfl

theorem count_take_succ {l : List Nat} {i : Nat} (hi : i < l.length) (s : Nat) :
    (l.take (i + 1)).count s = (l.take i).count s + if l[i] = s then 1 else 0 := by
  rw [List.take_add_one, List.getElem?_eq_getElem hi, List.count_append, Option.toList_some, List.count_singleton]
  simp only [beq_iff_eq]

/-- the third loop on a table whose cells carry the symbols `syms`: the counter of a symbol stands at the number of
its cells passed so far, so cell `i` gets `finEntry al probs syms i` -/
theorem assignStates_ok (al : Nat) (hal : al < 32) (probs : List Int) (syms : List Nat) (neg : Nat)
    (hneg : neg ≤ syms.length)
    (hsym : ∀ i, i < neg → 0 < probs.getD (syms.getD i 0) 0 ∧
      (syms.take i).count (syms.getD i 0) < (probs.getD (syms.getD i 0) 0).toNat ∧
      (probs.getD (syms.getD i 0) 0).toNat ≤ 2 ^ al) :
    ∀ (n idx : Nat) (dec : Array DEntry) (ctr : Array Nat), idx + n = neg → dec.map (·.symbol) = syms.toArray →
      ctr.size = probs.length → (∀ s, s < probs.length → ctr.getD s 0 = (syms.take idx).count s) →
      ∃ dec' ctr', assignStates al (2 ^ al) probs.toArray n idx dec ctr = .ok (dec', ctr') ∧ dec'.size = dec.size ∧
        (∀ i, i < idx ∨ neg ≤ i → dec'[i]? = dec[i]?) ∧
        (∀ i, idx ≤ i → i < neg → dec'[i]? = some (finEntry al probs syms i)) := by
  intro n
  induction n with
  | zero =>
    intro idx dec ctr hidx _ _ _
    exact ⟨dec, ctr, by simp [assignStates], rfl, fun _ _ => rfl, fun i h1 h2 => by omega⟩
  | succ n ih =>
    intro idx dec ctr hidx hsyms hcsz hctr
    have hsz : dec.size = syms.length := by simpa using congrArg Array.size hsyms
    have hidx' : idx < dec.size := by omega
    obtain ⟨hp0, hcnt, hple⟩ := hsym idx (by omega)
    have hget : dec[idx]? = some dec[idx] := Array.getElem?_eq_getElem hidx'
    have hes : dec[idx].symbol = syms.getD idx 0 := symbols_getElem hsyms hidx'
    have hsl : syms[idx]'(by omega) = syms.getD idx 0 := (list_getD_of_lt (by omega)).symm
    generalize hs : syms.getD idx 0 = s at *
    have hslt : s < probs.length := lt_length_of_getD_ne (by omega)
    have hpget : probs.toArray[s]? = some (probs.getD s 0) := by
      simp [List.getD_eq_getElem?_getD, hslt]
    have hcget : ctr[s]? = some ((syms.take idx).count s) := by
      rw [← hctr s hslt, Array.getD_eq_getD_getElem?, Array.getElem?_eq_getElem (by omega)]
      rfl
    generalize hpv : probs.getD s 0 = p at *
    generalize hcv : (syms.take idx).count s = c at *
    have hcf := calc_eq_rfcEntry (al := al) (p := p.toNat) (k := c) hal (by omega) hple hcnt
    have hnb : ¬ ((rfcEntry al p.toNat c).2 > al) := by simp only [rfcEntry]; omega
    have hfin : { dec[idx] with baseLine := (rfcEntry al p.toNat c).1, numBits := (rfcEntry al p.toNat c).2 }
        = finEntry al probs syms idx := by
      simp only [finEntry, hs, hcv, hes, nStates_of_ne (show probs.getD s 0 ≠ -1 by omega), hpv]
    obtain ⟨dec', ctr', he, hs', hout, hin⟩ := ih (idx + 1)
      (dec.set! idx { dec[idx] with baseLine := (rfcEntry al p.toNat c).1, numBits := (rfcEntry al p.toNat c).2 })
      (ctr.set! s (c + 1)) (by omega) ((symbols_set dec hidx' _ _).trans hsyms)
      (by simp only [Array.set!_eq_setIfInBounds, Array.size_setIfInBounds]; exact hcsz)
      (by
        -- the counter of `s` has moved on, the others stand
        intro s' hs'
        rw [count_take_succ (by omega), hsl, arr_getD_set!]
        by_cases hss : s = s'
        · subst hss
          rw [if_pos ⟨rfl, by omega⟩, if_pos rfl, hcv]
        · rw [if_neg (fun h => hss h.1), if_neg hss, hctr s' hs', Nat.add_zero])
    rw [hfin] at hs' hout
    have hset : ∀ i, (dec.set! idx (finEntry al probs syms idx))[i]?
        = if idx = i then some (finEntry al probs syms idx) else dec[i]? := by
      intro i
      rw [Array.set!_eq_setIfInBounds, Array.getElem?_setIfInBounds, if_pos hidx']
    refine ⟨dec', ctr', ?_, ?_, ?_, ?_⟩
    · simp only [hes] at he
      simp only [assignStates, hget, hes, hpget, hcget, asU32_pos hp0, hcf, hnb, if_false]
      exact he
    · rw [hs']
      simp only [Array.set!_eq_setIfInBounds, Array.size_setIfInBounds]
    · intro i hi'
      rw [hout i (by omega), hset, if_neg (by omega)]
    · intro i h1 h2
      by_cases hii : idx = i
      · subst hii
        rw [hout idx (by omega), hset, if_pos rfl]
      · exact hin i (by omega) h2

end Zstd.Proofs.FseDecTable
