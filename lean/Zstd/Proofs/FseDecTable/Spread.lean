import Zstd.Proofs.FseDecTable.Model
import Zstd.Proofs.FseDecTable.Layout
/-
Where the symbols sit.  `Spread al probs W syms`: the spreading walk hands out the cells `W`, a rearrangement
of `[0, neg)`; slot `t` goes to cell `W[t]`, the `j`-th "less than one" symbol to cell `2^al − 1 − j`.  That is
all the three builders (`build_decoding_table`, the Spec's `buildTable`, the encoder's
`build_table_from_probabilities`) know about the layout; every distribution of mass `2^al` has a spread
(`spread_exists`, from `walk_perm_of_ge4`), and a spread is a `Layout` (`Spread.layout`).

Then the model: on a spread the three loops of `buildDecodingTableCore` succeed and return the decoding table of
the layout (`Spread.decoder`).  The encoder's `Spread.positions_perm` and `Spread.encoder` are declared in
`FseEncTable/Tables.lean`.
-/
namespace Zstd.Proofs.FseDecTable
open Zstd Zstd.Model.Fse Zstd.Proofs.FseFin

def negsOf (probs : List Int) : List Nat := negSyms probs.zipIdx
def slotsOf (probs : List Int) : List Nat := slotSyms probs.zipIdx
/-- first cell of the "less than one" zone -/
def negIdx (al : Nat) (probs : List Int) : Nat := 2 ^ al - (negsOf probs).length

theorem count_slotsOf (probs : List Int) (s : Nat) :
    (slotsOf probs).count s = if probs.getD s 0 > 0 then (probs.getD s 0).toNat else 0 := by
  have := count_flatMap_replicate (fun p => if p > 0 then p.toNat else 0) rfl probs 0 s
  rw [if_pos (Nat.zero_le s), Nat.sub_zero] at this
  rw [← this]
  unfold slotsOf slotSyms
  congr 2
  funext q
  simp only [slotF]
  split
  · rfl
  · rfl

theorem count_negsOf (probs : List Int) (s : Nat) :
    (negsOf probs).count s = if probs.getD s 0 = -1 then 1 else 0 := by
  have := count_flatMap_replicate (fun p => if p = -1 then 1 else 0) rfl probs 0 s
  rw [if_pos (Nat.zero_le s), Nat.sub_zero] at this
  rw [← this]
  unfold negsOf negSyms
  congr 2
  funext q
  simp only [negF]
  split
  · rfl
  · rfl

theorem count_sum {probs : List Int} (hge : ∀ p ∈ probs, -1 ≤ p) (s : Nat) :
    (slotsOf probs).count s + (negsOf probs).count s = nStates probs s := by
  rw [count_slotsOf, count_negsOf]
  have := getD_ge hge s
  unfold nStates
  generalize probs.getD s 0 = p at *
  by_cases h1 : p = -1
  · subst h1; simp
  · by_cases h2 : p > 0
    · simp [h1, h2]
    · have : p = 0 := by omega
      subst this; simp

theorem mem_slotsOf {probs : List Int} {s : Nat} (h : s ∈ slotsOf probs) : 0 < probs.getD s 0 := by
  have h1 := List.count_pos_iff.mpr h
  rw [count_slotsOf] at h1
  split at h1
  · assumption
  · omega

theorem mem_negsOf {probs : List Int} {s : Nat} (h : s ∈ negsOf probs) : probs.getD s 0 = -1 := by
  have h1 := List.count_pos_iff.mpr h
  rw [count_negsOf] at h1
  split at h1
  · assumption
  · omega

theorem slots_length {al : Nat} {probs : List Int} (hmass : mass probs = 2 ^ al) :
    (slotsOf probs).length = negIdx al probs ∧ (negsOf probs).length ≤ 2 ^ al := by
  have hm := mass_eq probs 0
  unfold negIdx negsOf slotsOf
  omega

/-- the walk `W` and the layout `syms` it produces: not a condition on the distribution but what the builder proofs
take as hypothesis — every distribution of mass `2^al`, `al ≥ 4`, has one (`spread_exists`) -/
structure Spread (al : Nat) (probs : List Int) (W syms : List Nat) : Prop where
  walk : walk (2 ^ al) (negIdx al probs) (negIdx al probs) 0 = .ok (W, 0)
  nodup : W.Nodup
  lt : ∀ c ∈ W, c < negIdx al probs
  slotsLen : (slotsOf probs).length = negIdx al probs
  negsLen : (negsOf probs).length ≤ 2 ^ al
  length : syms.length = 2 ^ al
  slot : ∀ t (h : t < W.length), syms.getD W[t] 0 = (slotsOf probs).getD t 0
  neg : ∀ j, j < (negsOf probs).length → syms.getD (2 ^ al - 1 - j) 0 = (negsOf probs).getD j 0

/-- for every accuracy log from 4 on (the walk is a rearrangement of the free cells from there on) -/
theorem spread_exists {al : Nat} {probs : List Int} (h4 : 4 ≤ al) (hmass : mass probs = 2 ^ al) :
    ∃ W syms, Spread al probs W syms := by
  obtain ⟨hsl, hnl⟩ := slots_length hmass
  obtain ⟨W, hw, hlen, hnd, hlt⟩ := walk_perm_of_ge4 (neg := negIdx al probs) h4 (Nat.sub_le _ _)
  refine ⟨W, (List.range (2 ^ al)).map fun c =>
    if c < negIdx al probs then (slotsOf probs).getD (W.idxOf c) 0 else (negsOf probs).getD (2 ^ al - 1 - c) 0,
    hw, hnd, hlt, hsl, hnl, by rw [List.length_map, List.length_range], fun t ht => ?_, fun j hj => ?_⟩
  · have h1 := hlt _ (List.getElem_mem ht)
    have h2 : W[t] < 2 ^ al := by unfold negIdx at h1; omega
    simp only [List.getD_eq_getElem?_getD, List.getElem?_map, List.getElem?_range h2, Option.map_some, if_pos h1,
      Option.getD_some, hnd.idxOf_getElem t ht]
  · have h1 : ¬ 2 ^ al - 1 - j < negIdx al probs := by unfold negIdx; omega
    have h2 : 2 ^ al - 1 - j < 2 ^ al := by have := Nat.two_pow_pos al; omega
    simp only [List.getD_eq_getElem?_getD, List.getElem?_map, List.getElem?_range h2, Option.map_some, if_neg h1,
      Option.getD_some]
    rw [Nat.sub_sub_self (by omega)]

theorem spread_of_valid {al : Nat} {probs : List Int} (hv : ValidDist al probs) : ∃ W syms, Spread al probs W syms :=
  spread_exists (by have := hv.al_ge; omega) hv.mass_eq

section
variable {al : Nat} {probs : List Int} {W syms : List Nat} (hS : Spread al probs W syms)
include hS

theorem Spread.wlen : W.length = negIdx al probs := walk_length hS.walk

theorem Spread.walk_index {i : Nat} (hi : i < negIdx al probs) : ∃ t, ∃ ht : t < W.length, W[t] = i :=
  List.getElem_of_mem ((perm_range_of_nodup hS.nodup hS.wlen hS.lt).mem_iff.2 (List.mem_range.2 hi))

theorem Spread.low {i : Nat} (hi : i < negIdx al probs) : syms.getD i 0 ∈ slotsOf probs := by
  obtain ⟨t, ht, rfl⟩ := hS.walk_index hi
  rw [hS.slot t ht, List.getD_eq_getElem?_getD,
    List.getElem?_eq_getElem (by rw [hS.slotsLen, ← hS.wlen]; exact ht)]
  exact List.getElem_mem _

theorem Spread.high {i : Nat} (h1 : negIdx al probs ≤ i) (h2 : i < 2 ^ al) :
    ∃ hj : 2 ^ al - 1 - i < (negsOf probs).length, syms.getD i 0 = (negsOf probs)[2 ^ al - 1 - i] := by
  have hj : 2 ^ al - 1 - i < (negsOf probs).length := by unfold negIdx at h1; omega
  have := hS.neg _ hj
  rw [Nat.sub_sub_self (by omega), list_getD_of_lt hj] at this
  exact ⟨hj, this⟩

/-- the cells are the walk's cells, carrying the slots, followed by the "less than one" symbols in reverse:
summing the counts gives every symbol its number of states -/
theorem Spread.layout (hge : ∀ p ∈ probs, -1 ≤ p) : Layout al probs syms := by
  refine ⟨hge, hS.length, fun s => ?_⟩
  have hsplit : 2 ^ al = negIdx al probs + (negsOf probs).length := by
    have := hS.negsLen
    unfold negIdx
    omega
  have hsy : syms = (List.range (2 ^ al)).map (fun c => syms.getD c 0) := by
    apply List.ext_getElem
    · simp [hS.length]
    · intro i h1 h2
      simp [List.getD_eq_getElem?_getD, h1]
  have hlow : W.map (fun c => syms.getD c 0) = slotsOf probs := by
    apply List.ext_getElem
    · rw [List.length_map, hS.wlen, hS.slotsLen]
    · intro t h1 h2
      rw [List.getElem_map, hS.slot t (by simpa using h1), List.getD_eq_getElem?_getD, List.getElem?_eq_getElem h2]
      rfl
  have hhigh : ((List.range (negsOf probs).length).map (fun x => negIdx al probs + x)).map
      (fun c => syms.getD c 0) = (negsOf probs).reverse := by
    apply List.ext_getElem
    · simp
    · intro j h1 h2
      have hj : j < (negsOf probs).length := by simpa using h2
      obtain ⟨_, he⟩ := hS.high (Nat.le_add_right _ j) (by omega)
      simp only [List.getElem_map, List.getElem_range, he, List.getElem_reverse]
      congr 1
      omega
  have hperm := (perm_range_of_nodup hS.nodup hS.wlen hS.lt).map (fun c => syms.getD c 0)
  rw [hlow] at hperm
  rw [← count_sum hge, hsy, hsplit, List.range_add, List.map_append, List.count_append, hhigh,
    List.count_reverse, hperm.symm.count_eq]

/-- the first two loops: every cell has its symbol, the "less than one" cells are complete -/
theorem Spread.cells (hlen : probs.length ≤ 256) :
    ∃ dec1 dec2, placeNegatives al probs.zipIdx (Array.replicate (2 ^ al) {}) (2 ^ al) = .ok (dec1, negIdx al probs) ∧
      spreadAll (2 ^ al) (negIdx al probs) probs.zipIdx dec1 0 = .ok (dec2, 0) ∧
      dec2.map (·.symbol) = syms.toArray ∧
      (∀ i, negIdx al probs ≤ i → i < 2 ^ al → dec2[i]? = some (negEntry al (syms.getD i 0))) ∧
      Spec.Fse.spread al probs = some syms.toArray := by
  obtain ⟨dec1, hp1, hs1, -, hin1, hspec1⟩ := placeNegatives_ok al probs.zipIdx (Array.replicate (2 ^ al) {}) (2 ^ al)
    (zipIdx_lt hlen) hS.negsLen (by simp)
  have hin1 : ∀ j, j < (negsOf probs).length → dec1[2 ^ al - 1 - j]? = ((negsOf probs)[j]?).map (negEntry al) := hin1
  have hs1' : dec1.size = 2 ^ al := by rw [hs1]; simp
  obtain ⟨hp2, hspec2⟩ := spreadAll_walk (nextPosition_two_pow al) (spec_step_eq _) (Nat.two_pow_pos al) probs.zipIdx dec1 0 W 0
    (zipIdx_lt hlen) (by rw [show (slotSyms probs.zipIdx).length = _ from hS.slotsLen]; exact hS.walk)
    (fun p hp => by have := hS.lt p hp; unfold negIdx at this; omega)
  have hp2 : spreadAll (2 ^ al) (negIdx al probs) probs.zipIdx dec1 0 = .ok (writeSyms dec1 W (slotsOf probs), 0) := hp2
  obtain ⟨hout2, hin2⟩ := writeSyms_spec W (slotsOf probs) dec1 hS.nodup (by rw [hS.wlen, hS.slotsLen])
  have hhigh : ∀ i, negIdx al probs ≤ i → i < 2 ^ al →
      (writeSyms dec1 W (slotsOf probs))[i]? = some (negEntry al (syms.getD i 0)) := by
    intro i h1 h2
    obtain ⟨hj, he⟩ := hS.high h1 h2
    have := hin1 _ hj
    rw [Nat.sub_sub_self (by omega)] at this
    rw [hout2 i (fun hm => by have := hS.lt i hm; omega), this, he, List.getElem?_eq_getElem hj]
    rfl
  have hs2 : (writeSyms dec1 W (slotsOf probs)).size = 2 ^ al := by rw [writeSyms_size, hs1']
  have hsym : (writeSyms dec1 W (slotsOf probs)).map (·.symbol) = syms.toArray := by
    apply Array.ext_getElem?
    intro i
    have hr : syms.toArray[i]? = syms[i]? := List.getElem?_toArray
    rw [Array.getElem?_map, hr]
    by_cases hi : i < 2 ^ al
    · rw [List.getElem?_eq_getElem (by rw [hS.length]; exact hi), ← list_getD_of_lt]
      by_cases hlt : i < negIdx al probs
      · obtain ⟨t, ht, rfl⟩ := hS.walk_index hlt
        rw [hin2 t ht, Array.getElem?_eq_getElem (by omega), hS.slot t ht]
        rfl
      · rw [hhigh i (by omega) hi]
        rfl
    · rw [Array.getElem?_eq_none (by omega), List.getElem?_eq_none (by rw [hS.length]; omega)]
      rfl
  refine ⟨dec1, _, hp1, hp2, hsym, hhigh, ?_⟩
  -- the Spec's two folds arrive at the symbols of `dec2`
  rw [Array.map_replicate] at hspec1
  rw [spread_unfold]
  simp only [hspec1]
  rw [show 2 ^ al - (negSyms probs.zipIdx).length = negIdx al probs from rfl, hspec2,
    show slotSyms probs.zipIdx = slotsOf probs from rfl, hsym]
  simp only [if_true]

/-- `al < 32` for `calc_eq_rfcEntry`, at most 256 symbols for the `% 256` of the model -/
theorem Spread.decoder (hal : al < 32) (hlen : probs.length ≤ 256) (hge : ∀ p ∈ probs, -1 ≤ p) {maxSymbol : Nat}
    (hms : probs.length ≤ maxSymbol + 1) :
    ∃ ctr, buildDecodingTableCore al probs.toArray maxSymbol = .ok (decOf al probs syms, ctr) := by
  have hL := hS.layout hge
  obtain ⟨dec1, dec2, hp1, hp2, hsym, hneg, -⟩ := hS.cells hlen
  have hs2 : dec2.size = 2 ^ al := by simpa [hS.length] using congrArg Array.size hsym
  have hnegle : negIdx al probs ≤ 2 ^ al := Nat.sub_le _ _
  obtain ⟨dec, ctr, hp3, hs3, hout3, hin3⟩ := assignStates_ok al hal probs syms (negIdx al probs)
    (by rw [hS.length]; exact hnegle)
    (fun i hi => by
      have hpos := mem_slotsOf (hS.low hi)
      have hns : nStates probs (syms.getD i 0) = (probs.getD (syms.getD i 0) 0).toNat := nStates_of_ne (by omega)
      exact ⟨hpos, hns ▸ hL.rank_lt (by omega), hns ▸ hL.nStates_le _⟩)
    (negIdx al probs) 0 dec2 (Array.replicate probs.length 0) (by omega) hsym (by simp)
    (by intro s hs; simp [Array.getD_eq_getD_getElem?, hs])
  refine ⟨ctr, ?_⟩
  have hdec : dec = decOf al probs syms := by
    apply Array.ext_getElem?
    intro i
    by_cases hi : i < 2 ^ al
    · rw [decOf_getElem? probs syms hi]
      by_cases hlt : i < negIdx al probs
      · exact hin3 i (by omega) hlt
      · -- a "less than one" cell: the one state of its symbol
        rw [hout3 i (by omega), hneg i (by omega) hi]
        obtain ⟨hj, he⟩ := hS.high (by omega) hi
        have hns : nStates probs (syms.getD i 0) = 1 := nStates_neg (mem_negsOf (he ▸ List.getElem_mem hj))
        have hc := hL.rank_lt hi
        rw [hns] at hc
        simp only [finEntry, hns, show (syms.take i).count (syms.getD i 0) = 0 by omega, rfcEntry_one, negEntry]
    · rw [Array.getElem?_eq_none (by omega), Array.getElem?_eq_none (by rw [decOf_size]; omega)]
  subst hdec
  have h1 : ¬ (probs.length > maxSymbol + 1) := by omega
  have h2 : ¬ (al ≥ 64) := by omega
  simp only [buildDecodingTableCore, List.size_toArray, h1, h2, if_false, Nat.one_shiftLeft, zipIdx, hp1, hp2, hp3]

end

end Zstd.Proofs.FseDecTable
