import Zstd.Proofs.FseDecTable.Spread
/-
The table `buildDecodingTableCore` returns on a valid distribution is the decoding table of a layout
(`dec_eq`); the statements about the built table are that table's facts (`FseDecTable/Layout.lean`) read
through `decOf_getD`.
-/
namespace Zstd.Proofs.FseDecTable
open Zstd Zstd.Model.Fse Zstd.Proofs.FseFin

theorem dec_eq {al : Nat} {probs : List Int} {maxSymbol : Nat} (hv : ValidDist al probs)
    (hms : probs.length ≤ maxSymbol + 1) {dec : Array DEntry} {ctr : Array Nat}
    (hb : buildDecodingTableCore al probs.toArray maxSymbol = .ok (dec, ctr)) :
    ∃ syms, Layout al probs syms ∧ dec = decOf al probs syms := by
  obtain ⟨W, syms, hS⟩ := spread_of_valid hv
  obtain ⟨ctr', h⟩ := hS.decoder (by have := hv.al_le; omega) hv.length_le hv.ge_neg_one hms
  rw [hb] at h
  cases h
  exact ⟨syms, hS.layout hv.ge_neg_one, rfl⟩

theorem dec_table_char (al : Nat) (probs : List Int) (maxSymbol : Nat)
    (hv : ValidDist al probs) (hms : probs.length ≤ maxSymbol + 1)
    (dec : Array DEntry) (ctr : Array Nat)
    (hb : buildDecodingTableCore al probs.toArray maxSymbol = .ok (dec, ctr)) :
    dec.size = 2 ^ al ∧
    (∀ i, i < 2 ^ al → (dec.getD i {}).symbol < probs.length ∧ probs.getD (dec.getD i {}).symbol 0 ≠ 0) ∧
    (∀ s, s < probs.length → (dec.toList.filter (·.symbol = s)).length = nStates probs s) ∧
    (∀ i, i < 2 ^ al → ((dec.getD i {}).baseLine, (dec.getD i {}).numBits)
        = rfcEntry al (nStates probs (dec.getD i {}).symbol) (rank dec i)) ∧
    (∀ i, i < 2 ^ al → rank dec i < nStates probs (dec.getD i {}).symbol) := by
  obtain ⟨syms, hL, rfl⟩ := dec_eq hv hms hb
  refine ⟨decOf_size .., fun i hi => ?_, fun s _ => ?_, fun i hi => ?_, fun i hi => ?_⟩
  · rw [decOf_getD probs syms hi]
    exact ⟨lt_length_of_getD_ne (hL.usable hi), hL.usable hi⟩
  · rw [← hL.count s, List.count_eq_length_filter]
    conv => rhs; rw [← decOf_symbols probs hL.length, List.filter_map, List.length_map]
    congr 1
  · rw [rank_decOf hL.length hi, decOf_getD probs syms hi]
    rfl
  · rw [rank_decOf hL.length hi, decOf_getD probs syms hi]
    exact hL.rank_lt hi

theorem dec_rank_bij (al : Nat) (probs : List Int) (maxSymbol : Nat)
    (hv : ValidDist al probs) (hms : probs.length ≤ maxSymbol + 1)
    (dec : Array DEntry) (ctr : Array Nat)
    (hb : buildDecodingTableCore al probs.toArray maxSymbol = .ok (dec, ctr)) :
    (∀ s k, k < nStates probs s → ∃ i, i < 2 ^ al ∧ (dec.getD i {}).symbol = s ∧ rank dec i = k) ∧
    (∀ i j, i < 2 ^ al → j < 2 ^ al → (dec.getD i {}).symbol = (dec.getD j {}).symbol →
      rank dec i = rank dec j → i = j) := by
  obtain ⟨syms, hL, rfl⟩ := dec_eq hv hms hb
  refine ⟨fun s k hk => ?_, fun i j hi hj hs hr => ?_⟩
  · rw [← hL.positions_length] at hk
    obtain ⟨h1, h2, h3⟩ := count_positions hk
    rw [hL.length] at h1
    exact ⟨_, h1, by rw [decOf_getD probs syms h1]; exact h2, by rw [rank_decOf hL.length h1, h2, h3]⟩
  · rw [decOf_getD probs syms hi, decOf_getD probs syms hj] at hs
    rw [rank_decOf hL.length hi, rank_decOf hL.length hj] at hr
    exact Classical.byContradiction fun hij => hL.rank_ne hi hj hs hij hr

/-- for every symbol the intervals `[baseline, baseline + 2^bits)` of its states are pairwise disjoint
and cover `[0, 2^al)` -/
theorem fse_ranges_partition (al : Nat) (probs : List Int) (maxSymbol : Nat)
    (hv : ValidDist al probs) (hms : probs.length ≤ maxSymbol + 1)
    (dec : Array DEntry) (ctr : Array Nat)
    (hb : buildDecodingTableCore al probs.toArray maxSymbol = .ok (dec, ctr)) :
    ∀ s, s < probs.length → probs.getD s 0 ≠ 0 →
      (∀ x, x < 2 ^ al → ∃ i, i < 2 ^ al ∧ (dec.getD i {}).symbol = s ∧
        (dec.getD i {}).baseLine ≤ x ∧ x < (dec.getD i {}).baseLine + 2 ^ (dec.getD i {}).numBits) ∧
      (∀ i j, i < 2 ^ al → j < 2 ^ al → i ≠ j → (dec.getD i {}).symbol = s → (dec.getD j {}).symbol = s →
        (dec.getD i {}).baseLine + 2 ^ (dec.getD i {}).numBits ≤ (dec.getD j {}).baseLine ∨
        (dec.getD j {}).baseLine + 2 ^ (dec.getD j {}).numBits ≤ (dec.getD i {}).baseLine) := by
  obtain ⟨syms, hL, rfl⟩ := dec_eq hv hms hb
  intro s _ hs
  have hp1 : 1 ≤ nStates probs s := (nStates_pos_iff hL.ge).2 hs
  refine ⟨fun x hx => ?_, fun i j hi hj hij hsi hsj => ?_⟩
  · -- the state of `s` whose interval contains `x`, and the cell that carries it
    obtain ⟨k, hk, h1, h2⟩ := cover hp1 (hL.nStates_le s) hx
    obtain ⟨c, _, hc, he⟩ := hL.entry_at hk
    rw [← decOf_getD probs syms hc] at he
    exact ⟨c, hc, by rw [he], by rw [he]; exact h1, by rw [he]; exact h2⟩
  · rw [decOf_getD probs syms hi] at hsi ⊢
    rw [decOf_getD probs syms hj] at hsj ⊢
    have hsi : syms.getD i 0 = s := hsi
    have hsj : syms.getD j 0 = s := hsj
    have hne := hL.rank_ne hi hj (hsi.trans hsj.symm) hij
    have hki := hL.rank_lt hi
    have hkj := hL.rank_lt hj
    rw [hsi] at hne hki
    rw [hsj] at hne hkj
    have := disjoint hp1 (hL.nStates_le s) hki hkj hne
    simpa only [finEntry, hsi, hsj, interval] using this

theorem dec_entry_within (al : Nat) (probs : List Int) (maxSymbol : Nat)
    (hv : ValidDist al probs) (hms : probs.length ≤ maxSymbol + 1)
    (dec : Array DEntry) (ctr : Array Nat)
    (hb : buildDecodingTableCore al probs.toArray maxSymbol = .ok (dec, ctr)) :
    ∀ i, i < 2 ^ al → (dec.getD i {}).numBits ≤ al ∧
      (dec.getD i {}).baseLine + 2 ^ (dec.getD i {}).numBits ≤ 2 ^ al := by
  obtain ⟨syms, hL, rfl⟩ := dec_eq hv hms hb
  intro i hi
  rw [decOf_getD probs syms hi]
  exact hL.entry_within hi

end Zstd.Proofs.FseDecTable
