import Zstd.Proofs.FseDecTable.Spread
/-
`Spec.Fse.buildTable` on a spread: its `spread` arrives at the symbols of the model's first two loops
(`Spread.cells`), its last fold hands out the RFC entries by rank (`entFold`); so it returns the decoding table of
the layout (`Spread.spec`), which is what the model returns (`Spread.decoder`): `fse_build_refines`.
-/
namespace Zstd.Proofs.FseDecTable
open Zstd Zstd.Model.Fse Zstd.Proofs.FseFin

/-- the entry `Spec.Fse.buildTable` makes for a cell of symbol `sym` when the symbol's counter stands at `next` -/
def mkE (al sym next : Nat) : Spec.Fse.Entry :=
  { symbol := sym, nbBits := al - Spec.Fse.log2 next, baseline := next * 2 ^ (al - Spec.Fse.log2 next) - 2 ^ al }

/-- one step of the last fold of `buildTable`: push the entry of the cell's symbol, advance that symbol's counter -/
def entStep (al : Nat) (acc : Array Spec.Fse.Entry × Array Nat) (sym : Nat) : Array Spec.Fse.Entry × Array Nat :=
  (acc.1.push (mkE al sym (acc.2.getD sym 1)), acc.2.setIfInBounds sym (acc.2.getD sym 1 + 1))

/-- the counters at the start of that fold: per symbol its number of states -/
def initOf (probs : List Int) : Array Nat :=
  (probs.map fun p => if p = -1 then 1 else if p > 0 then p.toNat else 0).toArray

theorem buildTable_unfold (al : Nat) (probs : List Int) : Spec.Fse.buildTable al probs =
    if mass probs ≠ 2 ^ al ∨ probs.any (fun p => p < -1) then none
    else
      match Spec.Fse.spread al probs with
      | none => none
      | some cells => some { accLog := al, entries := (cells.foldl (entStep al) (#[], initOf probs)).1 } := rfl

/-- the last fold of `buildTable` over the cells `rest`, entered after the cells `pre` (the counters `nx` are
`init` plus the occurrences in `pre`): one entry is appended per cell, and the entry of cell `i` is made from
`init` plus the occurrences of its symbol in `pre ++ rest.take i` -/
theorem entFold (al : Nat) (init : Array Nat) : ∀ (rest pre : List Nat) (acc : Array Spec.Fse.Entry) (nx : Array Nat),
    nx.size = init.size → (∀ s ∈ rest, s < init.size) →
    (∀ s, s < init.size → nx.getD s 1 = init.getD s 1 + pre.count s) →
    (rest.foldl (entStep al) (acc, nx)).1.size = acc.size + rest.length ∧
    (∀ i, i < acc.size → (rest.foldl (entStep al) (acc, nx)).1[i]? = acc[i]?) ∧
    (∀ i, i < rest.length → (rest.foldl (entStep al) (acc, nx)).1[acc.size + i]? =
      some (mkE al (rest.getD i 0) (init.getD (rest.getD i 0) 1 + (pre ++ rest.take i).count (rest.getD i 0)))) := by
  intro rest
  induction rest with
  | nil =>
    intro pre acc nx _ _ _
    simp
  | cons s rest ih =>
    intro pre acc nx hsz hlt hnx
    have hs : s < init.size := hlt s (List.mem_cons_self ..)
    rw [List.foldl_cons]
    obtain ⟨h1, h2, h3⟩ := ih (pre ++ [s]) (acc.push (mkE al s (nx.getD s 1))) (nx.setIfInBounds s (nx.getD s 1 + 1))
      (by rw [Array.size_setIfInBounds]; exact hsz)
      (fun x hx => hlt x (List.mem_cons_of_mem _ hx))
      (by
        intro s' hs'
        rw [Array.getD_eq_getD_getElem?, Array.getElem?_setIfInBounds, List.count_append]
        by_cases hss : s = s'
        · subst hss
          have : s < nx.size := by omega
          simp only [if_true, this, Option.getD_some, hnx s hs, List.count_singleton_self]
          omega
        · simp only [hss, if_false]
          have := hnx s' hs'
          rw [Array.getD_eq_getD_getElem?] at this
          rw [this]
          simp [hss])
    simp only [entStep]
    refine ⟨?_, ?_, ?_⟩
    · rw [h1]; simp only [Array.size_push, List.length_cons]; omega
    · intro i hi
      rw [h2 i (by simp only [Array.size_push]; omega), Array.getElem?_push]
      have : ¬ (i = acc.size) := by omega
      simp only [this, if_false]
    · intro i hi
      cases i with
      | zero =>
        have he0 : acc.size + 0 = acc.size := rfl
        rw [he0, h2 acc.size (by simp only [Array.size_push]; omega), Array.getElem?_push]
        simp only [if_true, List.getD_cons_zero, List.take_zero, List.append_nil, hnx s hs]
      | succ i =>
        have := h3 i (by simpa using hi)
        simp only [Array.size_push] at this
        have he : acc.size + (i + 1) = acc.size + 1 + i := by omega
        rw [he, this]
        simp only [List.getD_cons_succ, List.take_succ_cons, List.append_assoc, List.singleton_append]

theorem initOf_getD {probs : List Int} (hge : ∀ p ∈ probs, -1 ≤ p) {s : Nat} (hs : s < probs.length) :
    (initOf probs).getD s 1 = nStates probs s := by
  unfold initOf nStates
  have h1 := hge _ (List.getElem_mem hs)
  simp only [Array.getD_eq_getD_getElem?, List.getElem?_toArray, List.getElem?_map, List.getD_eq_getElem?_getD,
    List.getElem?_eq_getElem hs, Option.map_some, Option.getD_some]
  generalize probs[s] = p at *
  by_cases hp1 : p = -1
  · simp [hp1]
  · by_cases hp2 : p > 0
    · simp [hp1, hp2]
    · have : p = 0 := by omega
      subst this; simp

/-- no bound on the accuracy log: the Spec has no machine integers -/
theorem Spread.spec {al : Nat} {probs : List Int} {W syms : List Nat} (hS : Spread al probs W syms)
    (hlen : probs.length ≤ 256) (hge : ∀ p ∈ probs, -1 ≤ p) (hmass : mass probs = 2 ^ al) :
    Spec.Fse.buildTable al probs = some { accLog := al, entries := (decOf al probs syms).map toSpecEntry } := by
  have hL := hS.layout hge
  obtain ⟨-, -, -, -, -, -, hspread⟩ := hS.cells hlen
  have hsz : (initOf probs).size = probs.length := by simp [initOf]
  have hmem : ∀ s ∈ syms, s < (initOf probs).size := by
    intro s hs'
    rw [hsz]
    exact lt_length_of_getD_ne ((nStates_pos_iff hge).1 (by rw [← hL.count]; exact List.count_pos_iff.mpr hs'))
  obtain ⟨he1, _, he3⟩ := entFold al (initOf probs) syms [] #[] (initOf probs) rfl hmem (by intro s _; simp)
  rw [buildTable_unfold]
  have hc1 : ¬ (mass probs ≠ 2 ^ al ∨ probs.any (fun p => p < -1) = true) := by
    rintro (h | h)
    · exact h hmass
    · rw [List.any_eq_true] at h
      obtain ⟨p, hp, hlt⟩ := h
      have := hge p hp
      simp only [decide_eq_true_eq] at hlt
      omega
  simp only [hc1, if_false, hspread, List.foldl_toArray]
  congr 2
  apply Array.ext_getElem?
  intro i
  by_cases hi : i < 2 ^ al
  · have h3 := he3 i (by rw [hS.length]; exact hi)
    simp only [List.size_toArray, List.length_nil, Nat.zero_add, List.nil_append] at h3
    rw [h3, Array.getElem?_map, decOf_getElem? probs syms hi]
    have hsi : syms.getD i 0 < probs.length := lt_length_of_getD_ne (hL.usable hi)
    rw [initOf_getD hge hsi]
    rfl
  · rw [Array.getElem?_eq_none (by simp only [List.size_toArray, List.length_nil, hS.length] at he1; omega),
      Array.getElem?_eq_none (by rw [Array.size_map, decOf_size]; omega)]

theorem fse_build_refines (al : Nat) (probs : List Int) (maxSymbol : Nat)
    (hv : ValidDist al probs) (hms : probs.length ≤ maxSymbol + 1) :
    ∃ dec ctr, Model.Fse.buildDecodingTableCore al probs.toArray maxSymbol = .ok (dec, ctr) ∧
      Spec.Fse.buildTable al probs = some { accLog := al, entries := dec.map toSpecEntry } := by
  obtain ⟨W, syms, hS⟩ := spread_of_valid hv
  obtain ⟨ctr, h⟩ := hS.decoder (by have := hv.al_le; omega) hv.length_le hv.ge_neg_one hms
  exact ⟨_, ctr, h, hS.spec hv.length_le hv.ge_neg_one hv.mass_eq⟩

end Zstd.Proofs.FseDecTable
