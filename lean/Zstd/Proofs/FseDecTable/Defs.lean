import Zstd.Model.Fse
import Zstd.Spec.Fse
import Zstd.Proofs.FseFin
/-
FSE decoding table: definitions shared by the refinement proofs, the list combinatorics of a
normalised distribution (slot list, "less than one" list, their lengths and symbol counts), and at the end three
facts about lists and arrays that both table developments use (`arr_getD_set!`, `list_getD_of_lt`,
`perm_range_of_nodup`).
-/
namespace Zstd.Proofs.FseDecTable
open Zstd Zstd.Model.Fse Zstd.Proofs.FseFin

def massF (p : Int) : Nat := if p = -1 then 1 else if p > 0 then p.toNat else 0

/-- probability mass, the expression `Spec.Fse.buildTable` uses -/
def mass (probs : List Int) : Nat :=
  probs.foldl (fun (a : Nat) p => a + (if p = -1 then 1 else if p > 0 then p.toNat else 0)) 0

/-- a valid normalised distribution for accuracy log `al`.  `5 ≤ al ≤ 9` is what the format allows (`al = 5 +` a
4-bit field; the callers' maximal logs are 9, 9, 8 for the sequence tables and 6 for Huffman weights); the table
proofs use `4 ≤ al < 32` only (`spread_exists`, `Spread.decoder`). -/
def ValidDist (al : Nat) (probs : List Int) : Prop :=
  5 ≤ al ∧ al ≤ 9 ∧ probs.length ≤ 256 ∧ (∀ p ∈ probs, -1 ≤ p) ∧ mass probs = 2 ^ al

instance (al : Nat) (probs : List Int) : Decidable (ValidDist al probs) := by unfold ValidDist; infer_instance

namespace ValidDist
variable {al : Nat} {probs : List Int}
theorem al_ge (h : ValidDist al probs) : 5 ≤ al := h.1
theorem al_le (h : ValidDist al probs) : al ≤ 9 := h.2.1
theorem length_le (h : ValidDist al probs) : probs.length ≤ 256 := h.2.2.1
theorem ge_neg_one (h : ValidDist al probs) : ∀ p ∈ probs, -1 ≤ p := h.2.2.2.1
theorem mass_eq (h : ValidDist al probs) : mass probs = 2 ^ al := h.2.2.2.2
end ValidDist

def toSpecEntry (e : Model.Fse.DEntry) : Spec.Fse.Entry :=
  { symbol := e.symbol, nbBits := e.numBits, baseline := e.baseLine }

/-- the number of states (cells) of symbol `s`: its probability, one for `-1` -/
def nStates (probs : List Int) (s : Nat) : Nat :=
  let p := probs.getD s 0; if p = -1 then 1 else p.toNat

/-- rank of cell `i` among the cells that carry the same symbol: the notion the statements about a built table use;
the proofs count over the layout instead (`finEntry`), the two agree by `rank_decOf` -/
def rank (dec : Array DEntry) (i : Nat) : Nat :=
  ((List.range i).filter fun j => (dec.getD j {}).symbol = (dec.getD i {}).symbol).length

theorem nStates_neg {probs : List Int} {s : Nat} (h : probs.getD s 0 = -1) : nStates probs s = 1 := by
  simp only [nStates, h, if_true]

theorem nStates_of_ne {probs : List Int} {s : Nat} (h : probs.getD s 0 ≠ -1) :
    nStates probs s = (probs.getD s 0).toNat := by
  simp only [nStates, if_neg h]

theorem getD_ge {probs : List Int} (hge : ∀ p ∈ probs, -1 ≤ p) (s : Nat) : -1 ≤ probs.getD s 0 := by
  rw [List.getD_eq_getElem?_getD]
  cases h : probs[s]? with
  | none => decide
  | some p => exact hge p (List.mem_of_getElem? h)

theorem nStates_pos_iff {probs : List Int} (hge : ∀ p ∈ probs, -1 ≤ p) {s : Nat} :
    0 < nStates probs s ↔ probs.getD s 0 ≠ 0 := by
  have := getD_ge hge s
  unfold nStates
  dsimp only
  split
  · omega
  · omega

theorem lt_length_of_getD_ne {probs : List Int} {s : Nat} (h : probs.getD s 0 ≠ 0) : s < probs.length := by
  apply Classical.byContradiction
  intro hs
  rw [List.getD_eq_getElem?_getD, List.getElem?_eq_none (by omega)] at h
  exact h rfl

/-- the final entry of cell `i`, given the symbols of all cells: the `k`-th cell of a symbol (in table order)
carries the RFC entry of state number `k` -/
def finEntry (al : Nat) (probs : List Int) (syms : List Nat) (i : Nat) : DEntry :=
  { symbol := syms.getD i 0,
    baseLine := (rfcEntry al (nStates probs (syms.getD i 0)) ((syms.take i).count (syms.getD i 0))).1,
    numBits := (rfcEntry al (nStates probs (syms.getD i 0)) ((syms.take i).count (syms.getD i 0))).2 }

theorem finEntry_symbol (al : Nat) (probs : List Int) (syms : List Nat) (i : Nat) :
    (finEntry al probs syms i).symbol = syms.getD i 0 := rfl

theorem mass_foldl_acc (l : List Int) : ∀ (a : Nat),
    l.foldl (fun (a : Nat) p => a + (if p = -1 then 1 else if p > 0 then p.toNat else 0)) a
      = a + mass l := by
  induction l with
  | nil => intro a; simp [mass]
  | cons p rest ih =>
    intro a
    simp only [mass, List.foldl_cons]
    rw [ih, ih (0 + _)]
    simp only [mass]
    omega

theorem mass_cons (p : Int) (l : List Int) : mass (p :: l) = massF p + mass l := by
  show List.foldl _ 0 (p :: l) = _
  rw [List.foldl_cons, mass_foldl_acc]
  simp only [massF]
  omega

theorem mass_nil : mass [] = 0 := rfl

theorem mass_append (a b : List Int) : mass (a ++ b) = mass a + mass b := by
  induction a with
  | nil => simp [mass_nil]
  | cons p rest ih => rw [List.cons_append, mass_cons, mass_cons, ih]; omega

theorem mass_reverse (l : List Int) : mass l.reverse = mass l := by
  induction l with
  | nil => rfl
  | cons p rest ih => rw [List.reverse_cons, mass_append, mass_cons, mass_cons, ih, mass_nil]; omega

theorem mass_replicate_zero (z : Nat) : mass (List.replicate z 0) = 0 := by
  induction z with
  | zero => rfl
  | succ z ih => rw [List.replicate_succ, mass_cons, ih]; simp [massF]

def slotF (ps : Int × Nat) : List Nat := if ps.1 > 0 then List.replicate ps.1.toNat ps.2 else []

def negF (ps : Int × Nat) : List Nat := if ps.1 = -1 then [ps.2] else []

/-- symbols in the order in which the spreading loop hands out cells -/
def slotSyms (ps : List (Int × Nat)) : List Nat := ps.flatMap slotF

/-- "less than one" symbols in the order in which the first loop places them (from the top down) -/
def negSyms (ps : List (Int × Nat)) : List Nat := ps.flatMap negF

theorem slotSyms_cons (x : Int × Nat) (ps : List (Int × Nat)) : slotSyms (x :: ps) = slotF x ++ slotSyms ps := by
  simp [slotSyms]

theorem negSyms_cons (x : Int × Nat) (ps : List (Int × Nat)) : negSyms (x :: ps) = negF x ++ negSyms ps := by
  simp [negSyms]

theorem zipIdx_lt {probs : List Int} (hlen : probs.length ≤ 256) : ∀ x ∈ probs.zipIdx, x.2 < 256 := by
  intro x hx
  obtain ⟨p, s⟩ := x
  have := List.mem_zipIdx' hx
  simp only at this ⊢
  omega

theorem mass_eq (probs : List Int) : ∀ k,
    mass probs = (slotSyms (probs.zipIdx k)).length + (negSyms (probs.zipIdx k)).length := by
  induction probs with
  | nil => intro k; rfl
  | cons p rest ih =>
    intro k
    rw [mass_cons, ih (k + 1), List.zipIdx_cons, slotSyms_cons, negSyms_cons]
    simp only [List.length_append, massF, slotF, negF]
    by_cases h1 : p = -1
    · subst h1
      simp
      omega
    · by_cases h2 : p > 0
      · simp [h1, h2]
        omega
      · simp [h1, h2]

/-- both loops give symbol `s` a number of cells that depends only on its probability -/
theorem count_flatMap_replicate (m : Int → Nat) (hm : m 0 = 0) (probs : List Int) : ∀ (k s : Nat),
    ((probs.zipIdx k).flatMap (fun q => List.replicate (m q.1) q.2)).count s
      = if k ≤ s then m (probs.getD (s - k) 0) else 0 := by
  induction probs with
  | nil => intro k s; simp [hm]
  | cons p rest ih =>
    intro k s
    rw [List.zipIdx_cons, List.flatMap_cons, List.count_append, ih (k + 1) s, List.count_replicate]
    by_cases hs : s = k
    · subst hs
      rw [if_neg (show ¬ s + 1 ≤ s by omega), if_pos (Nat.le_refl s), Nat.sub_self, List.getD_cons_zero]
      simp
    · have hne : ¬ (k == s) = true := by simpa using fun h => hs h.symm
      rw [if_neg hne, Nat.zero_add]
      by_cases hlt : k < s
      · rw [if_pos (show k + 1 ≤ s from hlt), if_pos (Nat.le_of_lt hlt),
          show s - k = (s - (k + 1)) + 1 by omega, List.getD_cons_succ]
      · rw [if_neg (by omega), if_neg (by omega)]

theorem arr_getD_set! {α : Type} (a : Array α) (i j : Nat) (v d : α) :
    (a.set! i v).getD j d = if i = j ∧ i < a.size then v else a.getD j d := by
  simp only [Array.getD_eq_getD_getElem?, Array.set!_eq_setIfInBounds, Array.getElem?_setIfInBounds]
  by_cases h1 : i = j
  · subst h1
    by_cases h2 : i < a.size
    · simp [h2]
    · have : a[i]? = none := by simp; omega
      simp [h2]
  · simp [h1]

theorem list_getD_of_lt {l : List Nat} {k : Nat} (hk : k < l.length) : l.getD k 0 = l[k] := by
  rw [List.getD_eq_getElem?_getD, List.getElem?_eq_getElem hk]
  rfl

theorem perm_range_of_nodup {l : List Nat} {n : Nat} (hn : l.Nodup) (hlen : l.length = n)
    (hlt : ∀ p ∈ l, p < n) : l.Perm (List.range n) := by
  rw [List.perm_ext_iff_of_nodup hn List.nodup_range]
  intro a
  constructor
  · intro ha; exact List.mem_range.mpr (hlt a ha)
  · intro ha
    apply Classical.byContradiction
    intro hna
    have hnd : (a :: l).Nodup := List.nodup_cons.mpr ⟨hna, hn⟩
    have hsub : (a :: l) ⊆ List.range n := by
      intro x hx
      rw [List.mem_cons] at hx
      rcases hx with rfl | hx
      · exact ha
      · exact List.mem_range.mpr (hlt x hx)
    have := List.Nodup.length_le_of_subset hnd hsub
    simp only [List.length_cons, List.length_range] at this
    omega

end Zstd.Proofs.FseDecTable
