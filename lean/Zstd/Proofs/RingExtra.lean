import Zstd.Proofs.DecodeBufRun
/-
The read-confinement of `copy_bytes_overshooting` made explicit with a poisoned memory, and the behaviour
outside the decoder's contract (never-allocated buffer, offset 0).
-/
namespace Zstd.Model
open Zstd RingBuffer

/-- the memory with every cell outside `[lo, lo+len)` made uninitialised (same allocation size) -/
def Mem.eraseOutside (m : Mem) (lo len : Nat) : Mem :=
  m.mapIdx (fun i c => if lo ≤ i ∧ i < lo + len then c else none)

theorem Mem.size_eraseOutside (m : Mem) (lo len : Nat) : (m.eraseOutside lo len).size = m.size := by
  simp [Mem.eraseOutside]

theorem Mem.cell_eraseOutside (m : Mem) (lo len j : Nat) :
    (m.eraseOutside lo len).cell j = if lo ≤ j ∧ j < lo + len then m.cell j else none := by
  unfold Mem.eraseOutside Mem.cell
  rw [Array.getD_eq_getD_getElem?, Array.getD_eq_getD_getElem?, Array.getElem?_mapIdx]
  by_cases hj : j < m.size
  · rw [Array.getElem?_eq_getElem hj]
    simp only [Option.map_some, Option.getD_some]
  · rw [Array.getElem?_eq_none (by omega)]
    simp

theorem cbo_reads_confined {C : Nat} (hC : 0 < C) {m : Mem} {c : CboCall} (h : CboPre m c) :
    ∃ m', cbo C (m.eraseOutside c.srcOff (min c.srcLen c.dstLen)) c = .ok m' := by
  have h' : CboPre (m.eraseOutside c.srcOff (min c.srcLen c.dstLen)) c := by
    refine ⟨?_, by rw [Mem.size_eraseOutside]; exact h.dstIn, h.disj, h.nSrc, h.nDst⟩
    intro i hi
    rw [Mem.cell_eraseOutside]
    have : c.srcOff ≤ c.srcOff + i ∧ c.srcOff + i < c.srcOff + min c.srcLen c.dstLen := by omega
    simp only [this, and_self, ↓reduceIte]
    exact h.srcInit i hi
  obtain ⟨m', k, e, _⟩ := cbo_ok hC h'
  exact ⟨m', e⟩

namespace RingBuffer

variable {r : RingBuffer}

theorem dropFirstN_unallocated (hI : r.Inv) (hc : r.cap = 0) (n : Nat) : ∃ f, r.dropFirstN n = .error f := by
  rw [dropFirstN_eq hI, if_pos hc]
  split
  · exact ⟨_, rfl⟩
  · exact ⟨_, rfl⟩

end RingBuffer

namespace DecodeBuffer

/-- with `offset = 0` the chunk loop makes no progress: every iteration copies 0 bytes (successfully) -/
theorem repeatInChunks_zero {C : Nat} (hC : 0 < C) : ∀ (fuel : Nat) {b : RingBuffer} {left startIdx : Nat},
    b.Inv → 0 < b.cap → 0 < left → startIdx ≤ b.len →
    repeatInChunks C fuel b 0 left startIdx = .error (hang "decode_buffer.rs:repeat_in_chunks")
  | 0, b, left, startIdx, _, _, hl, _ => by simp [repeatInChunks, hl]
  | fuel + 1, b, left, startIdx, hI, hc, hl, hs => by
    unfold repeatInChunks
    simp only [hl, ↓reduceIte, Nat.zero_min]
    obtain ⟨b1, e1, hI1, _, hl1, hc1, _⟩ := efwu_ok hC hI hc (start := startIdx) (len := 0) (by omega) (by omega)
    rw [e1, ok_bind]
    exact repeatInChunks_zero hC fuel hI1 (by omega) (by omega) (by omega)

theorem repeat_offset_zero_hangs {C : Nat} (hC : 0 < C) {d : DecodeBuffer} (hI : d.Inv) {ml : Nat}
    (hml : 0 < ml) : d.repeat C 0 ml = .error (hang "decode_buffer.rs:repeat_in_chunks") := by
  unfold DecodeBuffer.repeat repeatF
  rw [RingBuffer.Inv.lenC_eq hI, ok_bind]
  simp only [Nat.not_lt_zero, gt_iff_lt, ↓reduceIte, Nat.sub_zero]
  obtain ⟨b, eb, hR⟩ := reserve_ok hI ml
  rw [eb, ok_bind]
  have hc : 0 < b.cap := hR.inv.cap_pos_of_free (by have := hR.free; omega)
  have hgt : d.buffer.len < d.buffer.len + ml := by omega
  simp only [hgt, ↓reduceIte]
  rw [repeatInChunks_zero hC ml hR.inv hc hml (by rw [hR.len]; omega), error_bind]

end DecodeBuffer

end Zstd.Model
