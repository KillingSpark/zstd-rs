import Zstd.Proofs.FrameDecoderRefineBlocks
import Zstd.Proofs.FrameDecoderTwin
/-
C01 + C06 together: a decoder that is drained in ANY way keeps following the Spec's run on a frame
the Spec accepts — block by block, for every strategy and every drain schedule.

`Sim d st e out` is the simulation relation: `d ++ buffered` = the Spec's output so far, entropy coupled, the window
still buffered — for whatever `d` is no longer in the buffer.  `d = #[]` is the decoder that was never drained
(`SpecState`), `d = st.buf.hashed` the decoder drained in any way (`Follows`).  `FrameInv` packages the relation for a
whole frame.
-/
set_option linter.unusedSectionVars false
namespace Zstd.Model
open Zstd Zstd.Proofs.DictCopy

variable {σ : Type} [BlockDec σ] [BlockContract σ] [RefinesSpec σ]

theorem execSequences_offsets_le (window : Nat) (dict : Array Nat) (seqs : List Spec.Seq) (lits : List Nat)
    (h h' : Spec.OffHist) (out out' : Array Nat) (hov : ∀ s ∈ seqs, s.ov ≥ 1)
    (hs : Spec.execSequences window dict seqs lits h out = some (out', h')) (hbig : window < out.size) :
    ∀ o ∈ resolvedOffsets seqs (h.r1, h.r2, h.r3), o ≤ window := by
  induction seqs generalizing lits h out with
  | nil => intro o ho; simp [resolvedOffsets] at ho
  | cons s rest ih =>
    obtain ⟨-, -, hwin, out2, hm, hrest⟩ := Spec.execSequences_cons hs
    have h2 := Spec.matchCopy_size _ _ _ _ _ hm
    simp only [Array.size_append] at hwin h2
    simp only [resolvedOffsets, offsetHistory_refines s.ov s.ll h (hov s List.mem_cons_self)]
    intro o ho
    rcases List.mem_cons.mp ho with rfl | ho
    · split at hwin <;> omega
    · exact ih _ _ _ (fun s' hm => hov s' (List.mem_cons_of_mem _ hm)) hrest (by omega) o ho

theorem blockOffsets_le (window : Nat) (dict : Array Nat) (bytes : List Nat) (e e' : Spec.Entropy)
    (out out' : Array Nat) (hs : Spec.decodeCompressedBlock window dict bytes e out = some (out', e'))
    (hbig : window < out.size) : ∀ o ∈ blockOffsets bytes e, o ≤ window := by
  obtain ⟨lits, used, huf, seqs, e1, h2, hlit, hseq, hexec, -, -, hll⟩ := decodeCompressedBlock_some hs
  obtain ⟨hd, hlitM⟩ := decodeLiteralsM_of_spec bytes e.huf lits used huf hlit hll
  simp only [blockOffsets, hlitM]
  cases hcnt : Spec.parseSeqCount (bytes.drop used) with
  | none => intro o ho; simp at ho
  | some p =>
    obtain ⟨n, u⟩ := p
    simp only
    by_cases hn : n = 0
    · simp [hn]
    · simp only [hn, if_false, decodeSequencesM, hseq]
      exact execSequences_offsets_le window dict seqs lits e1.hist h2 out out'
        (Spec.decodeSequences_ov _ _ _ _ hseq) hexec hbig

/-- the invariant of a decoder (drained in any way) that is following a Spec run: `out` is everything
the frame has produced so far.  It is `Sim st.buf.hashed` (`Follows.sim`, `Sim.follows`); `retains` is `Retained`
(Proofs/DictCopy.lean) as a disjunction, with `window < out.size` added so that `RefinesSpec.offsets_le` applies. -/
structure Follows (st : FState σ) (e : Spec.Entropy) (out : Array Nat) : Prop where
  entropy : RefinesSpec.coupled st.entropy e
  stream : st.buf.hashed ++ st.buf.content = out
  totalOut : st.buf.totalOut ≤ out.size
  retains : st.buf.hashed = #[] ∨ (st.buf.window ≤ st.buf.content.size ∧ st.buf.window < out.size)

/-- what a block the Spec accepts leaves of the frame state (`BlockStep` is what holds on every outcome; `BlockRefines`
has the same fields for the never-drained decoder) -/
structure FollowStep (st st1 : FState σ) (n : Nat) : Prop where
  bytesRead : st1.bytesRead = st.bytesRead + n
  header : st1.header = st.header
  finished : st1.finished = st.finished
  checksum : st1.checksum = st.checksum
  hashed : st1.buf.hashed = st.buf.hashed
  window : st1.buf.window = st.buf.window
  dict : st1.buf.dict = st.buf.dict
  grows : st.buf.content.size ≤ st1.buf.content.size

theorem FollowStep.refl (st : FState σ) : FollowStep st st 0 :=
  ⟨rfl, rfl, rfl, rfl, rfl, rfl, rfl, Nat.le_refl _⟩

theorem FollowStep.trans {a b c : FState σ} {n m : Nat} (h1 : FollowStep a b n) (h2 : FollowStep b c m) :
    FollowStep a c (n + m) :=
  ⟨by rw [h2.bytesRead, h1.bytesRead]; omega, h2.header.trans h1.header, h2.finished.trans h1.finished,
   h2.checksum.trans h1.checksum, h2.hashed.trans h1.hashed, h2.window.trans h1.window, h2.dict.trans h1.dict,
   Nat.le_trans h1.grows h2.grows⟩

/-- `Follows` with the delivered bytes `st.buf.hashed` replaced by any array `d` that is no longer in the buffer: `out`
is everything the frame has produced so far, `d ++ buffered` -/
structure Sim (d : Array Nat) (st : FState σ) (e : Spec.Entropy) (out : Array Nat) : Prop where
  entropy : RefinesSpec.coupled st.entropy e
  stream : d ++ st.buf.content = out
  totalOut : st.buf.totalOut ≤ out.size
  retains : d = #[] ∨ (st.buf.window ≤ st.buf.content.size ∧ st.buf.window < out.size)

theorem Follows.sim {st : FState σ} {e : Spec.Entropy} {out : Array Nat} (h : Follows st e out) :
    Sim st.buf.hashed st e out := ⟨h.entropy, h.stream, h.totalOut, h.retains⟩

theorem Sim.follows {d : Array Nat} {st : FState σ} {e : Spec.Entropy} {out : Array Nat} (h : Sim d st e out)
    (hd : st.buf.hashed = d) : Follows st e out := by
  subst hd; exact ⟨h.entropy, h.stream, h.totalOut, h.retains⟩

theorem SpecState.sim {st : FState σ} {e : Spec.Entropy} (h : SpecState st e st.buf.content) :
    Sim #[] st e st.buf.content := ⟨h.entropy, Array.empty_append, h.totalOut, .inl rfl⟩

theorem DBuf.twin_nil (b : DBuf) : b.twin #[] b.hashed = b := by
  cases b; simp [DBuf.twin]

/-- a Compressed_Block the Spec accepts on the output `d ++ b.content`, decoded on the buffer `b` that holds all of it
(`d = #[]`) or at least its last `window` bytes: `RefinesSpec.refines` on the twin that still has `d` in front, carried
over by `BlockContract.twin` (the block's offsets are within the window: `RefinesSpec.offsets_le`) -/
theorem run_sim (d : Array Nat) (body : List Nat) (hb : Proofs.BitIO.Bytes body) (s : σ) (e e1 : Spec.Entropy) (b : DBuf)
    (out1 : Array Nat) (hc : RefinesSpec.coupled s e) (htot : b.totalOut ≤ (d ++ b.content).size)
    (hret : d = #[] ∨ (b.window ≤ b.content.size ∧ b.window < (d ++ b.content).size))
    (hs : Spec.decodeCompressedBlock b.window b.dict body e (d ++ b.content) = some (out1, e1)) :
    ∃ b1 s1, BlockDec.run body s b = ((b1, s1), .ok ()) ∧ d ++ b1.content = out1 ∧ RefinesSpec.coupled s1 e1 ∧
      b1.totalOut ≤ out1.size := by
  obtain ⟨b', s', hrun, hro, hc'⟩ := RefinesSpec.refines body s e e1 (b.twin d b.hashed) out1 hb hc htot hs
  have htw : BlockDec.run body s (b.twin d b.hashed) =
      (((BlockDec.run body s b).1.1.twin d b.hashed, (BlockDec.run body s b).1.2), (BlockDec.run body s b).2) := by
    rcases hret with rfl | ⟨hw, hbig⟩
    · -- nothing in front: the twin is the buffer itself
      obtain ⟨x, hx, -⟩ := BlockContract.appends body s b
      rw [DBuf.twin_nil]
      conv => rhs; rw [← hx.hashed, DBuf.twin_nil]
    · exact BlockContract.twin b.window d b.hashed body s b hw
        (RefinesSpec.offsets_le b.window b.dict body s e e1 _ out1 hb hc hs hbig)
  generalize BlockDec.run body s b = r at htw
  obtain ⟨⟨b1, s1⟩, o⟩ := r
  rw [hrun] at htw
  simp only [Prod.mk.injEq] at htw
  obtain ⟨⟨rfl, rfl⟩, rfl⟩ := htw
  exact ⟨b1, s', rfl, hro.content, hc', by have := hro.totalOut; rwa [hro.content] at this⟩

theorem decodeOneBlock_sim (d : Array Nat) (bytes : List Nat) (hb : ∀ x ∈ bytes, x < 256) (e : Spec.Entropy) (st : FState σ)
    (out out1 : Array Nat) (e1 : Spec.Entropy) (n : Nat) (last : Bool) (hf : Sim d st e out)
    (hs : specBlockStep st.buf.window st.buf.dict bytes e out = some (out1, e1, n, last)) :
    ∃ st1 bh, decodeOneBlock st bytes = (st1, .ok (bh, bytes.drop n)) ∧ bh.last = last ∧ n = 3 + bh.contentSize ∧
      n ≤ bytes.length ∧ Sim d st1 e1 out1 ∧ FollowStep st st1 n := by
  obtain ⟨bh, h3, hp, hlast, hn, hle, hcase⟩ := specBlockStep_some hs
  obtain ⟨-, -, hc1, hc0⟩ := parseBlockHeader_ok _ _ _ _ hp
  have hsz := congrArg Array.size hf.stream
  rw [Array.size_append] at hsz
  rw [decodeOneBlock_eq, if_neg (by omega), hp]
  simp only []
  rw [if_neg (by omega), ← hn]
  -- Raw and RLE blocks append to the content, whatever is in front of it
  have happ : ∀ (x : Array Nat) (st1 : FState σ), out1 = out ++ x → e1 = e → st1.entropy = st.entropy →
      st1.buf = { st.buf with content := st.buf.content ++ x } → Sim d st1 e1 out1 := by
    rintro x st1 rfl rfl he hbuf
    refine ⟨he ▸ hf.entropy, by rw [hbuf, ← hf.stream, Array.append_assoc], ?_, hf.retains.imp id ?_⟩
    · have := hf.totalOut
      simp only [hbuf, Array.size_append] at this ⊢
      omega
    · simp only [hbuf, Array.size_append]
      omega
  rcases hcase with ⟨ht, he, ho⟩ | ⟨ht, he, ho⟩ | ⟨ht1, ht0, hcb⟩
  · simp only [blockBody, ht, (by decide : ¬ (0:Nat) = 1), if_false, if_true, Out.mapOk]
    exact ⟨_, bh, rfl, hlast, hn, hle, happ _ _ ho he rfl rfl,
      { bytesRead := by simp only [hn, hc0 ht]; omega, header := rfl, finished := rfl, checksum := rfl, hashed := rfl,
        window := rfl, dict := rfl, grows := by simp }⟩
  · simp only [blockBody, ht, if_true, Out.mapOk]
    exact ⟨_, bh, rfl, hlast, hn, hle, happ _ _ ho he rfl rfl,
      { bytesRead := by simp only [hn, hc1 ht], header := rfl, finished := rfl, checksum := rfl, hashed := rfl,
        window := rfl, dict := rfl, grows := by simp }⟩
  · rw [← hf.stream] at hcb
    obtain ⟨b1, s1, hrun, hstr, hcp, htot⟩ := run_sim d _ (fun x hx => hb x (List.mem_of_mem_drop (List.mem_of_mem_take hx)))
      st.entropy e e1 st.buf out1 hf.entropy (by rw [hf.stream]; exact hf.totalOut) (by rw [hf.stream]; exact hf.retains) hcb
    obtain ⟨x, hx, -⟩ := BlockContract.appends ((bytes.drop 3).take bh.contentSize) st.entropy st.buf
    rw [hrun] at hx
    have hsz1 := congrArg Array.size hstr
    rw [Array.size_append, hx.size] at hsz1
    simp only [blockBody, ht0, ht1, if_false, hrun, Out.mapOk]
    refine ⟨_, bh, rfl, hlast, hn, hle, ⟨hcp, hstr, htot, hf.retains.imp id ?_⟩,
      { bytesRead := by simp only [hn]; omega, header := rfl, finished := rfl, checksum := rfl, hashed := hx.hashed,
        window := hx.window, dict := hx.dict, grows := by rw [hx.size]; omega }⟩
    rintro ⟨hw, hbig⟩
    exact ⟨by show b1.window ≤ b1.content.size; rw [hx.window, hx.size]; omega,
      by show b1.window < out1.size; rw [hx.window]; omega⟩

/-- `decodeOneBlock_sim` at `d = #[]`, the decoder that was never drained, in the vocabulary of `SpecState` and
`BlockRefines` -/
theorem decodeOneBlock_refines (bytes : List Nat) (hb : ∀ x ∈ bytes, x < 256) (e : Spec.Entropy) (st : FState σ)
    (out1 : Array Nat) (e1 : Spec.Entropy) (n : Nat) (last : Bool)
    (hst : SpecState st e st.buf.content)
    (hs : specBlockStep st.buf.window st.buf.dict bytes e st.buf.content = some (out1, e1, n, last)) :
    ∃ st1 bh, decodeOneBlock st bytes = (st1, .ok (bh, bytes.drop n)) ∧ bh.last = last ∧ 3 ≤ n ∧ n ≤ bytes.length ∧
      BlockRefines st st1 e1 out1 n := by
  obtain ⟨st1, bh, h1, h2, h3, h4, h5, h6⟩ := decodeOneBlock_sim #[] bytes hb e st _ out1 e1 n last hst.sim hs
  have hc : st1.buf.content = out1 := by rw [← h5.stream, Array.empty_append]
  exact ⟨st1, bh, h1, h2, by omega, h4, ⟨hc, h5.entropy, by rw [hc]; exact h5.totalOut⟩, h6.bytesRead, h6.header,
    h6.finished, h6.checksum, h6.hashed, h6.window, h6.dict⟩

theorem decodeOneBlock_follows (bytes : List Nat) (hb : ∀ x ∈ bytes, x < 256) (e : Spec.Entropy) (st : FState σ)
    (out out1 : Array Nat) (e1 : Spec.Entropy) (n : Nat) (last : Bool) (hf : Follows st e out)
    (hs : specBlockStep st.buf.window st.buf.dict bytes e out = some (out1, e1, n, last)) :
    ∃ st1 bh, decodeOneBlock st bytes = (st1, .ok (bh, bytes.drop n)) ∧ bh.last = last ∧ 3 ≤ n ∧ n ≤ bytes.length ∧
      Follows st1 e1 out1 ∧ FollowStep st st1 n := by
  obtain ⟨st1, bh, h1, h2, h3, h4, h5, h6⟩ := decodeOneBlock_sim _ bytes hb e st out out1 e1 n last hf.sim hs
  exact ⟨st1, bh, h1, h2, by omega, h4, h5.follows h6.hashed, h6⟩

theorem specDecodeBlocks_sim (d : Array Nat) (fuelS : Nat) (bytes : List Nat) (hb : ∀ x ∈ bytes, x < 256) (e : Spec.Entropy)
    (st : FState σ) (out out' : Array Nat) (consumed consumed' : Nat) (hf : Sim d st e out)
    (hs : Spec.decodeBlocks st.buf.window st.buf.dict (fuelS + 1) bytes e out consumed = some (out', consumed')) :
    ∃ st1 bh e1 out1 n1, decodeOneBlock st bytes = (st1, .ok (bh, bytes.drop n1)) ∧ n1 = 3 + bh.contentSize ∧
      n1 ≤ bytes.length ∧ Sim d st1 e1 out1 ∧ FollowStep st st1 n1 ∧
      (if bh.last = true then out1 = out' ∧ consumed' = consumed + n1
       else Spec.decodeBlocks st1.buf.window st1.buf.dict fuelS (bytes.drop n1) e1 out1 (consumed + n1)
              = some (out', consumed')) := by
  rw [specDecodeBlocks_succ] at hs
  cases hstep : specBlockStep st.buf.window st.buf.dict bytes e out with
  | none => rw [hstep] at hs; cases hs
  | some p =>
    obtain ⟨out1, e1, n1, last⟩ := p
    rw [hstep] at hs
    simp only at hs
    obtain ⟨st1, bh, hdec, hlast, hn', hn1, hf1, hfs⟩ := decodeOneBlock_sim d bytes hb e st out out1 e1 n1 last hf hstep
    refine ⟨st1, bh, e1, out1, n1, hdec, hn', hn1, hf1, hfs, ?_⟩
    rw [hlast, hfs.window, hfs.dict]
    split at hs
    · rename_i hl
      rw [if_pos hl]
      simpa [eq_comm] using hs
    · rename_i hl
      rw [if_neg hl]
      exact hs

theorem min_sub_lt {a b c f : Nat} (hc : 0 < c) (ha : c ≤ a) (hb : c ≤ b) (h : min a b < f + 1) :
    min (a - c) (b - c) < f := by
  omega

/-- The block loop, given the chunk `bytes.take k` of the source, on a decoder in the relation `Sim d`, the Spec
accepting the blocks in `bytes`: the loop decodes blocks `Ok` as long as it goes on, the relation holding after
each, and it is left either at a block boundary — a `stop`, or a source the `guard` does not let in — with the Spec's
run going on behind it, or through `fin` after the frame's last block, with `d ++ buffered` = the Spec's output.
`hfit`: a block the loop starts on lies within the chunk. -/
theorem blockLoop_sim {ρ : Type} {guard : Src → Bool} {stop : FState σ → Bool} {fin : FState σ → Src → FState σ × Out ρ}
    {ret : Src → ρ} (d : Array Nat) (fuelS fuel k : Nat) (bytes : List Nat)
    (hfit : (∀ s', guard s' = true → blockComplete s' = true) ∨ bytes.length ≤ k)
    (hb : ∀ x ∈ bytes, x < 256) (e : Spec.Entropy) (st : FState σ) (out out' : Array Nat) (consumed consumed' : Nat)
    (hfuel : (bytes.take k).length < fuel) (hf : Sim d st e out)
    (hs : Spec.decodeBlocks st.buf.window st.buf.dict fuelS bytes e out consumed = some (out', consumed')) :
    (∃ st1 n e1 out1 fuelS1, n ≤ k ∧ n ≤ bytes.length ∧
        blockLoop guard stop fin ret fuel st (bytes.take k) = (st1, .ok (ret ((bytes.take k).drop n))) ∧
        Sim d st1 e1 out1 ∧
        Spec.decodeBlocks st.buf.window st.buf.dict fuelS1 (bytes.drop n) e1 out1 (consumed + n) = some (out', consumed') ∧
        FollowStep st st1 n ∧ ((0 < n ∧ stop st1 = true) ∨ guard ((bytes.take k).drop n) = false)) ∨
    (∃ st' n, consumed' = consumed + n ∧ n ≤ k ∧ n ≤ bytes.length ∧
        blockLoop guard stop fin ret fuel st (bytes.take k) = fin st' ((bytes.take k).drop n) ∧
        d ++ st'.buf.content = out' ∧ FollowStep st st' n) := by
  induction fuelS generalizing fuel k bytes e st out consumed with
  | zero => simp [Spec.decodeBlocks] at hs
  | succ fuelS ih =>
    obtain ⟨fuel, rfl⟩ : ∃ g, fuel = g + 1 := ⟨fuel - 1, by omega⟩
    obtain ⟨st1, bh, e1, out1, n1, hdec, hn1eq, hn1, hf1, hfs, hrest⟩ :=
      specDecodeBlocks_sim d fuelS bytes hb e st out out' consumed consumed' hf hs
    rw [blockLoop]
    by_cases hg : guard (bytes.take k) = true
    · rw [if_pos hg]
      -- the block the Spec accepts next is the one the loop starts on: it lies within the chunk
      have hkn : n1 ≤ k := by
        rcases hfit with hc | hc
        · have hc := hc _ hg
          simp only [blockComplete, Bool.and_eq_true, decide_eq_true_eq, List.length_take] at hc
          rw [getD_take (by omega), getD_take (by omega), getD_take (by omega),
            (decodeOneBlock_ok _ _ _ _ _ hdec).header] at hc
          simp only [decide_eq_true_eq] at hc
          omega
        · omega
      rw [decodeOneBlock_take_fits st st1 bytes (bytes.drop n1) bh k hdec (by omega)]
      simp only
      have hdt : (bytes.drop n1).take (k - (3 + bh.contentSize)) = (bytes.take k).drop n1 := by
        rw [List.drop_take, hn1eq]
      by_cases hl : bh.last = true
      · rw [if_pos hl] at hrest ⊢
        obtain ⟨rfl, rfl⟩ := hrest
        exact .inr ⟨st1, n1, rfl, hkn, hn1, by rw [hdt], hf1.stream, hfs⟩
      · rw [if_neg hl] at hrest ⊢
        by_cases hstop : stop st1 = true
        · rw [if_pos hstop, hdt]
          exact .inl ⟨st1, n1, e1, out1, fuelS, hkn, hn1, rfl, hf1, by rw [← hfs.window, ← hfs.dict]; exact hrest, hfs,
            .inl ⟨by omega, hstop⟩⟩
        · rw [if_neg hstop, ← hn1eq]
          have hfuel' : ((bytes.drop n1).take (k - n1)).length < fuel := by
            rw [List.length_take, List.length_drop]
            rw [List.length_take] at hfuel
            -- (`omega` here and in the two `exact`s below would go over the whole context of the induction step)
            exact min_sub_lt (by rw [hn1eq]; exact Nat.add_pos_left (by decide) _) hkn hn1 hfuel
          have hdt' : ∀ n, ((bytes.drop n1).take (k - n1)).drop n = (bytes.take k).drop (n1 + n) := fun n => by
            simp only [List.drop_take, List.drop_drop, Nat.sub_sub]
          rcases ih fuel (k - n1) (bytes.drop n1) (hfit.imp id (fun h => by rw [List.length_drop]; omega))
            (fun x hx => hb x (List.mem_of_mem_drop hx)) e1 st1 out1 (consumed + n1) hfuel' hf1 hrest with
            ⟨st2, n, e2, out2, fS, hnk, hn, hrun, hf2, hs2, hfs2, hwhy⟩ | ⟨st', n, hc, hnk, hn, hrun, hstr, hfs2⟩
          · rw [List.length_drop] at hn
            rw [List.drop_drop, hfs.window, hfs.dict, Nat.add_assoc] at hs2
            rw [hdt'] at hrun hwhy
            exact .inl ⟨st2, n1 + n, e2, out2, fS, Nat.add_le_of_le_sub' hkn hnk, Nat.add_le_of_le_sub' hn1 hn, hrun, hf2, hs2,
              hfs.trans hfs2, hwhy.imp (fun h => ⟨Nat.add_pos_right _ h.1, h.2⟩) id⟩
          · rw [List.length_drop] at hn
            rw [hdt'] at hrun
            exact .inr ⟨st', n1 + n, by rw [hc, Nat.add_assoc], Nat.add_le_of_le_sub' hkn hnk, Nat.add_le_of_le_sub' hn1 hn, hrun,
              hstr, hfs.trans hfs2⟩
    · -- the chunk does not hold the next block: nothing is decoded
      rw [if_neg hg]
      exact .inl ⟨st, 0, e, out, fuelS + 1, Nat.zero_le _, Nat.zero_le _, rfl, hf, by simpa using hs, FollowStep.refl st,
        .inr (by simpa using hg)⟩

/-- `blockLoop_sim` for `decode_blocks`, any strategy: it stops before the last block only when the strategy's budget is
reached -/
theorem decodeBlocksLoop_sim (d : Array Nat) (strat : Strategy) (a c : Nat) (fuelS fuel : Nat) (bytes : List Nat)
    (hb : ∀ x ∈ bytes, x < 256) (e : Spec.Entropy) (st : FState σ) (out out' : Array Nat) (consumed consumed' : Nat)
    (hfuel : bytes.length < fuel) (hf : Sim d st e out)
    (hs : Spec.decodeBlocks st.buf.window st.buf.dict fuelS bytes e out consumed = some (out', consumed')) :
    (∃ st1 n e1 out1 fuelS1, n ≤ bytes.length ∧
        decodeBlocksLoop strat a c fuel st bytes = (st1, .ok (bytes.drop n)) ∧ Sim d st1 e1 out1 ∧
        Spec.decodeBlocks st.buf.window st.buf.dict fuelS1 (bytes.drop n) e1 out1 (consumed + n) = some (out', consumed') ∧
        FollowStep st st1 n ∧ (0 < n) ∧ stratStop strat a c st1 = true) ∨
    (∃ st' n, consumed' = consumed + n ∧ n ≤ bytes.length ∧
        decodeBlocksLoop strat a c fuel st bytes = finishFrame st' (bytes.drop n) ∧
        d ++ st'.buf.content = out' ∧ FollowStep st st' n) := by
  have h := blockLoop_sim (guard := fun _ => true) (stop := stratStop strat a c) (fin := finishFrame) (ret := id)
    d fuelS fuel bytes.length bytes (.inr (Nat.le_refl _)) hb e st out out' consumed consumed'
    (by rw [List.take_length]; exact hfuel) hf hs
  rw [List.take_length, ← decodeBlocksLoop_eq] at h
  rcases h with ⟨st1, n, e1, out1, fS, -, hn, hrun, hf1, hs1, hfs, hwhy⟩ | ⟨st', n, hc, -, hn, hrun, hstr, hfs⟩
  · rcases hwhy with ⟨hpos, hstop⟩ | hg
    · exact .inl ⟨st1, n, e1, out1, fS, hn, hrun, hf1, hs1, hfs, hpos, hstop⟩
    · cases hg
  · exact .inr ⟨st', n, hc, hn, hrun, hstr, hfs⟩

/-- The invariant of a decoder working through a frame the Spec accepts (`out'` = the frame's content,
`sEnd` = the source behind the frame, `cons` = the frame's length, `cks` = its stored checksum):
either it is still following the Spec's block run, or the frame's blocks are all in. -/
def FrameInv (out' : Array Nat) (sEnd : Src) (cons : Nat) (cks : Option Nat) (d : Decoder σ) (s : Src) : Prop :=
  ∃ st, d.state = some st ∧
    ((st.finished = false ∧ st.checksum = none ∧ (∀ x ∈ s, x < 256) ∧
      ∃ e out fuelS consumed n, Follows st e out ∧
        Spec.decodeBlocks st.buf.window st.buf.dict fuelS s e out consumed = some (out', consumed + n) ∧
        n ≤ s.length ∧
        (st.header.checksumFlag = true → ∃ cb, readExact 4 (s.drop n) = some (cb, sEnd) ∧ cks = some (leNat cb) ∧
            st.bytesRead + n + 4 = cons) ∧
        (st.header.checksumFlag = false → s.drop n = sEnd ∧ cks = none ∧ st.bytesRead + n = cons))
     ∨ (st.finished = true ∧ st.buf.hashed ++ st.buf.content = out' ∧ s = sEnd ∧ st.bytesRead = cons ∧
        st.checksum = cks ∧ d.isFinished = true))

theorem Follows.take {st : FState σ} {e : Spec.Entropy} {out : Array Nat} (h : Follows st e out) (k : Nat)
    (hk : k = 0 ∨ (st.buf.window ≤ st.buf.content.size - k ∧ k ≤ st.buf.content.size)) :
    Follows { st with buf := (st.buf.take k).2 } e out := by
  refine ⟨h.entropy, ?_, h.totalOut, ?_⟩
  · simp only [DBuf.take_hashed]
    rw [Array.append_assoc, DBuf.take_partition]; exact h.stream
  · rcases hk with rfl | ⟨hw, hk⟩
    · rw [DBuf.take_zero]; exact h.retains
    · by_cases hk0 : k = 0
      · subst hk0; rw [DBuf.take_zero]; exact h.retains
      · right
        simp only [DBuf.take_content_size, DBuf.take_window]
        refine ⟨hw, ?_⟩
        have := congrArg Array.size h.stream
        rw [Array.size_append] at this
        omega

theorem FrameInv.drain {out' : Array Nat} {sEnd : Src} {cons : Nat} {cks : Option Nat} {d : Decoder σ} {s : Src}
    (h : FrameInv out' sEnd cons cks d s) (op : DrainOp) : FrameInv out' sEnd cons cks (applyDrain d op).1 s := by
  obtain ⟨st, hst, hcase⟩ := h
  rcases applyDrain_take d op with ⟨hn, -⟩ | ⟨st', k, hs', hk, -, he⟩
  · rw [hst] at hn; cases hn
  · rw [hst] at hs'; cases hs'
    rw [he]
    refine ⟨_, rfl, ?_⟩
    rcases hcase with ⟨hnf, hcs, hb, e, out, fuelS, consumed, n, hf, hsp, hn, hc1, hc2⟩ | ⟨hfin, hstr, hs, hbr, hck, hif⟩
    · left
      have hnd : d.blocksDone = false := by simp [Decoder.blocksDone, hst, hnf]
      have hret := (applyDrain_retains d op hnd).1
      rw [he] at hret
      simp only [Decoder.window, Decoder.content, hst, DBuf.take_content_size] at hret
      refine ⟨hnf, hcs, hb, e, out, fuelS, consumed, n, hf.take k ?_, hsp, hn, hc1, hc2⟩
      by_cases hw : st.buf.window ≤ st.buf.content.size
      · right; exact ⟨by omega, hk⟩
      · left; omega
    · right
      refine ⟨hfin, ?_, hs, hbr, hck, ?_⟩
      · simp only [DBuf.take_hashed]
        rw [Array.append_assoc, DBuf.take_partition]; exact hstr
      · simpa [Decoder.isFinished, hst] using hif

theorem FrameInv.advance {out' : Array Nat} {sEnd : Src} {cons : Nat} {cks : Option Nat} (d : Decoder σ) {s : Src}
    {st st1 : FState σ} {e1 : Spec.Entropy} {out1 : Array Nat} {fS1 consumed n m : Nat}
    (hnf : st.finished = false) (hcs : st.checksum = none) (hb : ∀ x ∈ s, x < 256) (hn : n ≤ s.length)
    (hc1 : st.header.checksumFlag = true → ∃ cb, readExact 4 (s.drop n) = some (cb, sEnd) ∧ cks = some (leNat cb) ∧
      st.bytesRead + n + 4 = cons)
    (hc2 : st.header.checksumFlag = false → s.drop n = sEnd ∧ cks = none ∧ st.bytesRead + n = cons)
    (hfs : FollowStep st st1 m) (hf1 : Follows st1 e1 out1)
    (hs1 : Spec.decodeBlocks st.buf.window st.buf.dict fS1 (s.drop m) e1 out1 (consumed + m) = some (out', consumed + n)) :
    FrameInv out' sEnd cons cks { d with state := some st1 } (s.drop m) := by
  have hge := (specDecodeBlocks_consumed _ _ _ _ _ _ _ _ _ hs1).1
  have hmn : m + (n - m) = n := by omega
  refine ⟨st1, rfl, Or.inl ⟨by rw [hfs.finished, hnf], by rw [hfs.checksum, hcs],
    fun x hx => hb x (List.mem_of_mem_drop hx), e1, out1, fS1, consumed + m, n - m, hf1, ?_, ?_, ?_, ?_⟩⟩
  · rw [hfs.window, hfs.dict, show consumed + m + (n - m) = consumed + n by omega]; exact hs1
  · rw [List.length_drop]; omega
  · intro hflag
    rw [hfs.header] at hflag
    obtain ⟨cb, hre, hck, hbr⟩ := hc1 hflag
    exact ⟨cb, by rw [List.drop_drop, hmn]; exact hre, hck, by rw [hfs.bytesRead]; omega⟩
  · intro hflag
    rw [hfs.header] at hflag
    obtain ⟨hse, hck, hbr⟩ := hc2 hflag
    exact ⟨by rw [List.drop_drop, hmn]; exact hse, hck, by rw [hfs.bytesRead]; omega⟩

theorem FrameInv.done {out' : Array Nat} {cons : Nat} {cks : Option Nat} (d : Decoder σ) (sEnd : Src) {st2 : FState σ}
    (hfin : st2.finished = true) (hstr : st2.buf.hashed ++ st2.buf.content = out') (hbr : st2.bytesRead = cons)
    (hck : st2.checksum = cks) (hsome : st2.header.checksumFlag = true → st2.checksum.isSome = true) :
    FrameInv out' sEnd cons cks { d with state := some st2 } sEnd ∧
      ({ d with state := some st2 } : Decoder σ).isFinished = true := by
  have hif : ({ d with state := some st2 } : Decoder σ).isFinished = true := by
    simp only [Decoder.isFinished, hfin, Bool.true_and]
    split
    · exact hsome ‹_›
    · rfl
  exact ⟨⟨st2, rfl, Or.inr ⟨hfin, hstr, rfl, hbr, hck, hif⟩⟩, hif⟩

theorem FrameInv.blocks_ok {out' : Array Nat} {sEnd : Src} {cons : Nat} {cks : Option Nat} {d : Decoder σ} {s : Src}
    (h : FrameInv out' sEnd cons cks d s) (hnd : d.blocksDone = false) (strat : Strategy) :
    ∃ d1 s1, d.decodeBlocks s strat = (d1, .ok (s1, d1.blocksDone)) ∧ FrameInv out' sEnd cons cks d1 s1 ∧
      (s1.length < s.length ∨ d1.isFinished = true) ∧ d1.dicts = d.dicts ∧ d1.maxWindow = d.maxWindow ∧
      (strat = .all → d1.blocksDone = true) ∧ d1.hashed = d.hashed := by
  obtain ⟨st, hst, hcase⟩ := h
  rcases hcase with ⟨hnf, hcs, hb, e, out, fuelS, consumed, n, hf, hsp, hn, hc1, hc2⟩ | ⟨hfin, -⟩
  · rw [Decoder.decodeBlocks_some d st s strat hst]
    rcases decodeBlocksLoop_sim _ strat st.buf.content.size st.blockCounter fuelS (s.length + 1) s hb e st out out'
        consumed (consumed + n) (by omega) hf.sim hsp with
      ⟨st1, m, e1, out1, fS1, hm, hrun, hf1, hs1, hfs, hpos, hstop⟩ | ⟨st', m, hcm, hm, hrun, hstr, hfs⟩
    · -- stopped at a block boundary, still inside the frame
      rw [hrun]
      have hb1 : st1.finished = false := by rw [hfs.finished, hnf]
      exact ⟨_, _, by simp only [Decoder.blocksDone, hb1],
        FrameInv.advance d hnf hcs hb hn hc1 hc2 hfs (hf1.follows hfs.hashed) hs1,
        Or.inl (by rw [List.length_drop]; omega), rfl, rfl, fun hs => by subst hs; simp [stratStop] at hstop,
        by simp only [Decoder.hashed, hst, hfs.hashed]⟩
    · -- the frame's last block
      have hmn : m = n := by omega
      subst hmn
      rw [← hfs.hashed] at hstr
      rw [hrun]
      simp only [finishFrame]
      by_cases hflag : st.header.checksumFlag = true
      · obtain ⟨cb, hre, hck, hbr⟩ := hc1 hflag
        rw [if_pos (by rw [hfs.header]; exact hflag), hre]
        obtain ⟨hinv, hif⟩ := FrameInv.done (cons := cons) (cks := cks) d sEnd
          (st2 := { st' with finished := true, bytesRead := st'.bytesRead + 4, checksum := some (leNat cb) })
          rfl hstr (by simp only; rw [hfs.bytesRead]; omega) hck.symm (fun _ => rfl)
        exact ⟨_, _, rfl, hinv, Or.inr hif, rfl, rfl, fun _ => rfl, by simp only [Decoder.hashed, hst, hfs.hashed]⟩
      · have hflag' : st.header.checksumFlag = false := by simpa using hflag
        obtain ⟨hse, hck, hbr⟩ := hc2 hflag'
        rw [if_neg (by rw [hfs.header]; exact hflag), hse]
        obtain ⟨hinv, hif⟩ := FrameInv.done (cons := cons) (cks := cks) d sEnd (st2 := { st' with finished := true })
          rfl hstr (by simp only; rw [hfs.bytesRead]; omega) (by simp only; rw [hfs.checksum, hcs, hck])
          (fun h => by rw [hfs.header, hflag'] at h; cases h)
        exact ⟨_, _, rfl, hinv, Or.inr hif, rfl, rfl, fun _ => rfl, by simp only [Decoder.hashed, hst, hfs.hashed]⟩
  · simp [Decoder.blocksDone, hst, hfin] at hnd

/-- `FrameInv.blocks_ok` without what it says of the call's result -/
theorem FrameInv.blocks {out' : Array Nat} {sEnd : Src} {cons : Nat} {cks : Option Nat} {d : Decoder σ} {s : Src}
    (h : FrameInv out' sEnd cons cks d s) (hnd : d.blocksDone = false) (strat : Strategy) :
    ∃ d1 s1 fin, d.decodeBlocks s strat = (d1, .ok (s1, fin)) ∧ FrameInv out' sEnd cons cks d1 s1 := by
  obtain ⟨d1, s1, h1, h2, -⟩ := h.blocks_ok hnd strat
  exact ⟨d1, s1, _, h1, h2⟩

/-- documented use: `decode_blocks` is only called while the frame's last block is not in -/
def DocOk (d : Decoder σ) (s : Src) : List SOp → Prop
  | [] => True
  | .drain o :: ops => DocOk (applyDrain d o).1 s ops
  | .blocks strat :: ops =>
    d.blocksDone = false ∧
    match d.decodeBlocks s strat with
    | (d1, .ok (s1, _)) => DocOk d1 s1 ops
    | _ => True

theorem runSched_frameInv {out' : Array Nat} {sEnd : Src} {cons : Nat} {cks : Option Nat} (d : Decoder σ) (s : Src)
    (ops : List SOp) (h : FrameInv out' sEnd cons cks d s) (hdoc : DocOk d s ops) :
    (runSched d s ops).2.2.2 = none ∧ FrameInv out' sEnd cons cks (runSched d s ops).1 (runSched d s ops).2.1 ∧
    (runSched d s ops).1.hashed = d.hashed ++ (runSched d s ops).2.2.1 := by
  induction ops generalizing d s with
  | nil => exact ⟨rfl, h, by simp [runSched]⟩
  | cons op ops ih =>
    cases op with
    | drain o =>
      simp only [DocOk] at hdoc
      obtain ⟨h1, h2, h3⟩ := ih _ _ (h.drain o) hdoc
      simp only [runSched]
      refine ⟨h1, h2, ?_⟩
      rw [h3, (applyDrain_dstep d o).hashed, Array.append_assoc]
    | blocks strat =>
      simp only [DocOk] at hdoc
      obtain ⟨hnd, hrest⟩ := hdoc
      obtain ⟨d1, s1, hd, hinv, -, -, -, -, hh⟩ := h.blocks_ok hnd strat
      rw [hd] at hrest
      obtain ⟨h1, h2, h3⟩ := ih _ _ hinv hrest
      simp only [runSched, hd]
      exact ⟨h1, h2, by rw [h3, hh]⟩

theorem FrameInv.prefix {out' : Array Nat} {sEnd : Src} {cons : Nat} {cks : Option Nat} {d : Decoder σ} {s : Src}
    (h : FrameInv out' sEnd cons cks d s) : ∃ st tail, d.state = some st ∧ out' = st.buf.hashed ++ st.buf.content ++ tail := by
  obtain ⟨st, hst, hcase⟩ := h
  rcases hcase with ⟨hnf, hcs, hb, e, out, fuelS, consumed, n, hf, hsp, hn, hc1, hc2⟩ | ⟨hfin, hstr, -⟩
  · rcases decodeBlocksLoop_sim _ .all st.buf.content.size st.blockCounter fuelS (s.length + 1) s hb e st out out'
        consumed (consumed + n) (by omega) hf.sim hsp with
      ⟨st2, m, e2, out2, fS2, hm, hrun, hf2, hs2, hfs2, hpos, hstop⟩ | ⟨st', m, hcm, hm, hrun, hstr', hfs'⟩
    · simp [stratStop] at hstop
    · have hls := decodeBlocksLoop_step .all st.buf.content.size st.blockCounter (s.length + 1) st s
      rw [hrun] at hls
      obtain ⟨y, hy⟩ := hls.appends
      have hbuf : (finishFrame st' (s.drop m)).1.buf = st'.buf := by
        simp only [finishFrame]
        split
        · split <;> rfl
        · rfl
      rw [hbuf] at hy
      exact ⟨st, y, hst, by rw [← hstr', hy.content, Array.append_assoc]⟩
  · exact ⟨st, #[], hst, by rw [hstr]; simp⟩

theorem FrameInv.facts {out' : Array Nat} {sEnd : Src} {cons : Nat} {cks : Option Nat} {d : Decoder σ} {s : Src}
    (h : FrameInv out' sEnd cons cks d s) :
    ∃ st tail, d.state = some st ∧ d.isFinished = st.finished ∧ out' = st.buf.hashed ++ st.buf.content ++ tail ∧
      (st.finished = true → tail = #[] ∧ s = sEnd ∧ st.bytesRead = cons ∧ st.checksum = cks) := by
  obtain ⟨st, tail, hst, hpre⟩ := h.prefix
  obtain ⟨st', hst', hcase⟩ := h
  rw [hst] at hst'; cases hst'
  refine ⟨st, tail, hst, ?_, hpre, ?_⟩
  · rcases hcase with ⟨hnf, -⟩ | ⟨hfin, -, -, -, -, hif⟩
    · simp only [Decoder.isFinished, hst, hnf]; split <;> simp
    · rw [hif, hfin]
  · intro hfin
    rcases hcase with ⟨hnf, -⟩ | ⟨-, hstr, hs', hbr, hck, -⟩
    · rw [hfin] at hnf; cases hnf
    · refine ⟨?_, hs', hbr, hck⟩
      have := hpre
      rw [← hstr] at this
      have hsz := congrArg Array.size this
      simp only [Array.size_append] at hsz
      exact Array.eq_empty_of_size_eq_zero (by omega)

theorem frameInv_of_decodeFrame (d : Decoder σ) (sdicts : List Spec.Dict) (hdc : DictsCoupled d.dicts sdicts)
    (f : List Nat) (hb : ∀ x ∈ f, x < 256) (r : Spec.FrameResult)
    (hs : Spec.decodeFrame f sdicts = some r) (hlim : r.header.window ≤ d.maxWindow) :
    ∃ d0 rest, d.reset f = (d0, .ok rest) ∧ d0.hashed = #[] ∧
      FrameInv r.content.toArray (f.drop r.consumed) r.consumed r.checksum d0 rest ∧ r.consumed ≤ f.length := by
  obtain ⟨st0, e0, consumed, out, hreset, hent, hblocks, hrc, hrk⟩ := decodeFrame_setup d sdicts hdc f hb r hs hlim
  have hff := resetCore_replace _ _ _ _ _ hreset
  obtain ⟨hge, hcle⟩ := specDecodeBlocks_consumed _ _ _ _ _ _ _ _ _ hblocks
  rw [List.length_drop] at hcle
  have hhl := hff.hdr_le
  have hcons : st0.bytesRead + (consumed - st0.bytesRead) = consumed := by omega
  refine ⟨{ d with state := some st0 }, f.drop st0.bytesRead, by simp only [Decoder.reset, hreset],
    by simp [Decoder.hashed, hff.hashed],
    ⟨st0, rfl, Or.inl ⟨hff.finished, hff.checksum, fun x hx => hb x (List.mem_of_mem_drop hx), e0, #[], f.length + 1,
      st0.bytesRead, consumed - st0.bytesRead,
      ⟨hent, by rw [hff.hashed, hff.content]; rfl, by rw [hff.totalOut]; exact Nat.zero_le _, Or.inl hff.hashed⟩,
      by rw [hrc, hcons]; exact hblocks, by rw [List.length_drop]; omega, ?_, ?_⟩⟩, ?_⟩
  · intro hflag
    rcases hrk with ⟨-, hl4, hrcons, hrck⟩ | ⟨hcks, -, -⟩
    · refine ⟨(f.drop consumed).take 4, ?_, hrck, by rw [hrcons]; omega⟩
      rw [List.drop_drop, hcons, readExact_eq_some]
      exact ⟨hl4, rfl, by rw [List.drop_drop, hrcons]⟩
    · rw [hflag] at hcks
      cases hcks
  · intro hflag
    rcases hrk with ⟨hcks, -, -, -⟩ | ⟨-, hrcons, hrck⟩
    · rw [hflag] at hcks
      cases hcks
    · exact ⟨by rw [List.drop_drop, hcons, hrcons], hrck, by rw [hrcons]; omega⟩
  · -- the frame lies within the input: the Spec's block run consumes no more than there is, then the checksum
    rcases hrk with ⟨-, hl4, hrcons, -⟩ | ⟨-, hrcons, -⟩
    · rw [List.length_drop] at hl4
      omega
    · omega

/-- what drivers deliver is a prefix of the content, and all of it in the end (DESIGN.md §8, C06): every frame the Spec
accepts, every documented program (`DocOk`) of drain calls and `decode_blocks` calls after `reset`; in the terms of the
Rust API: Props/C06.lean `valid_frame_any_schedule` -/
theorem valid_frame_any_schedule (d : Decoder σ) (sdicts : List Spec.Dict) (hdc : DictsCoupled d.dicts sdicts)
    (f : List Nat) (hb : ∀ x ∈ f, x < 256) (r : Spec.FrameResult)
    (hs : Spec.decodeFrame f sdicts = some r) (hlim : r.header.window ≤ d.maxWindow)
    (ops : List SOp) :
    ∃ d0 rest, d.reset f = (d0, .ok rest) ∧ (DocOk d0 rest ops →
      (runSched d0 rest ops).2.2.2 = none ∧
      ∃ st tail, (runSched d0 rest ops).1.state = some st ∧
        st.buf.hashed = (runSched d0 rest ops).2.2.1 ∧
        r.content = (st.buf.hashed ++ st.buf.content ++ tail).toList ∧
        (st.finished = true → tail = #[] ∧ (runSched d0 rest ops).1.isFinished = true ∧
          (runSched d0 rest ops).2.1 = f.drop r.consumed ∧ st.bytesRead = r.consumed ∧ st.checksum = r.checksum)) := by
  obtain ⟨d0, rest, hres, hh0, hinv, -⟩ := frameInv_of_decodeFrame d sdicts hdc f hb r hs hlim
  refine ⟨d0, rest, hres, fun hdoc => ?_⟩
  obtain ⟨h1, h2, h3⟩ := runSched_frameInv d0 rest ops hinv hdoc
  refine ⟨h1, ?_⟩
  obtain ⟨st, tail, hst, hif, hpre, hdone⟩ := h2.facts
  have hhash : st.buf.hashed = (runSched d0 rest ops).2.2.1 := by
    rw [hh0] at h3
    simpa only [Decoder.hashed, hst, Array.empty_append] using h3
  refine ⟨st, tail, hst, hhash, by rw [← hpre], fun hfin => ?_⟩
  obtain ⟨ht, hs', hbr, hck⟩ := hdone hfin
  exact ⟨ht, by rw [hif, hfin], hs', hbr, hck⟩

/-- C01 at the frame level, for every block decoder that refines the Spec: `reset` + `decode_blocks(All)` on a frame the
Spec accepts -/
theorem decodeFrame_refines (d : Decoder σ) (sdicts : List Spec.Dict) (hdc : DictsCoupled d.dicts sdicts)
    (f : List Nat) (hb : ∀ x ∈ f, x < 256) (r : Spec.FrameResult)
    (hs : Spec.decodeFrame f sdicts = some r) (hlim : r.header.window ≤ d.maxWindow) :
    ∃ d0 d1 rest st1, d.reset f = (d0, .ok rest) ∧
      d0.decodeBlocks rest .all = (d1, .ok (f.drop r.consumed, true)) ∧ d1.state = some st1 ∧
      st1.buf.content.toList = r.content ∧ d1.isFinished = true ∧ st1.bytesRead = r.consumed ∧
      st1.checksum = r.checksum ∧ st1.buf.hashed = #[] ∧ r.consumed ≤ f.length := by
  obtain ⟨d0, rest, hres, hh0, hinv, hle⟩ := frameInv_of_decodeFrame d sdicts hdc f hb r hs hlim
  obtain ⟨st0, rfl, -, hff⟩ := Decoder.reset_ok d d0 f rest hres
  obtain ⟨d1, s1, hdb, hinv1, -, -, -, hall, hh⟩ := hinv.blocks_ok hff.finished .all
  obtain ⟨st1, tail, hst1, hif, hpre, hdone⟩ := hinv1.facts
  have hfin : st1.finished = true := by simpa [Decoder.blocksDone, hst1] using hall rfl
  obtain ⟨rfl, rfl, hbr, hck⟩ := hdone hfin
  -- nothing was drained: the content is what is buffered
  have hh1 : st1.buf.hashed = #[] := by
    rw [hh0] at hh
    simpa [Decoder.hashed, hst1] using hh
  rw [hall rfl] at hdb
  rw [hh1] at hpre
  exact ⟨_, d1, rest, st1, hres, hdb, hst1, by simpa using congrArg Array.toList hpre.symm,
    by rw [hif, hfin], hbr, hck, hh1, hle⟩

end Zstd.Model
