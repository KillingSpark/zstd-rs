import Zstd.Proofs.FrameDecoderLoops
/-
The public operations of `FrameDecoder`: the step relation `FStep` / `DStep` (what any operation but `reset` may do
to the state); `decode_blocks` as a step; `reset` (`readFrameHeader_reads`; `FreshFrame`, what it installs);
`decode_from_to` (its loop as an instance of `blockLoop`; `fromToCore`, the call behind the optional `init`;
`Out.delivered`, what a call handed to the caller); memory bounds.  The loops that drive them are in
FrameDecoderSched.lean.
-/
set_option linter.unusedSectionVars false
namespace Zstd.Model
open Zstd

variable {σ : Type} [BlockDec σ] [BlockContract σ]

/-- One step of the frame state under ANY operation (decode or drain): `dl` are the bytes handed to
the caller.  The byte stream `hashed ++ content` only ever grows at the back; drains move bytes from
the front of `content` to the back of `hashed`. -/
structure FStep (st st' : FState σ) (dl : Array Nat) : Prop where
  header : st'.header = st.header
  usingDict : st'.usingDict = st.usingDict
  dict : st'.buf.dict = st.buf.dict
  window : st'.buf.window = st.buf.window
  hashed : st'.buf.hashed = st.buf.hashed ++ dl
  stream : ∃ x, dl ++ st'.buf.content = st.buf.content ++ x
  bytesRead_le : st.bytesRead ≤ st'.bytesRead
  blockCounter_le : st.blockCounter ≤ st'.blockCounter
  finished_mono : st.finished = true → st'.finished = true
  checksum_keep : st'.finished = false → st'.checksum = st.checksum

theorem FStep.refl (st : FState σ) : FStep st st #[] :=
  ⟨rfl, rfl, rfl, rfl, by simp, ⟨#[], by simp⟩, Nat.le_refl _, Nat.le_refl _, id, fun _ => rfl⟩

theorem FStep.trans {a b c : FState σ} {d1 d2 : Array Nat} (h1 : FStep a b d1) (h2 : FStep b c d2) :
    FStep a c (d1 ++ d2) := by
  obtain ⟨x, hx⟩ := h1.stream
  obtain ⟨y, hy⟩ := h2.stream
  exact ⟨h2.header.trans h1.header, h2.usingDict.trans h1.usingDict, h2.dict.trans h1.dict,
    h2.window.trans h1.window, by rw [h2.hashed, h1.hashed, Array.append_assoc],
    ⟨x ++ y, by rw [Array.append_assoc, hy, ← Array.append_assoc, hx, Array.append_assoc]⟩,
    Nat.le_trans h1.bytesRead_le h2.bytesRead_le, Nat.le_trans h1.blockCounter_le h2.blockCounter_le,
    fun h => h2.finished_mono (h1.finished_mono h),
    fun hf => (h2.checksum_keep hf).trans (h1.checksum_keep (eq_false_of_mono h2.finished_mono hf))⟩

theorem LoopStep.fstep {st st' : FState σ} (h : LoopStep st st') : FStep st st' #[] := by
  obtain ⟨x, hx⟩ := h.appends
  exact ⟨h.header, h.usingDict, hx.dict, hx.window, by simp [hx.hashed], ⟨x, by simp [hx.content]⟩,
    h.bytesRead_le, h.blockCounter_le, h.finished_mono, h.checksum_keep⟩

theorem FStep.take (st : FState σ) (k : Nat) :
    FStep st { st with buf := (st.buf.take k).2 } (st.buf.take k).1 :=
  ⟨rfl, rfl, rfl, rfl, rfl, ⟨#[], by rw [DBuf.take_partition]; simp⟩, Nat.le_refl _, Nat.le_refl _, id, fun _ => rfl⟩

theorem FStep.wf {st st' : FState σ} {dl : Array Nat} (h : FStep st st' dl) (hw : st.WF) : st'.WF :=
  fun hf => (h.checksum_keep hf).trans (hw (eq_false_of_mono h.finished_mono hf))

theorem LoopStep.wf {st st' : FState σ} (h : LoopStep st st') (hw : st.WF) : st'.WF :=
  h.fstep.wf hw

def DStep (d d' : Decoder σ) (dl : Array Nat) : Prop :=
  d'.dicts = d.dicts ∧ d'.maxWindow = d.maxWindow ∧
  ((d.state = none ∧ d'.state = none ∧ dl = #[]) ∨
   ∃ st st', d.state = some st ∧ d'.state = some st' ∧ FStep st st' dl)

theorem DStep.refl (d : Decoder σ) : DStep d d #[] := by
  refine ⟨rfl, rfl, ?_⟩
  cases h : d.state with
  | none => exact Or.inl ⟨rfl, rfl, rfl⟩
  | some st => exact Or.inr ⟨st, st, rfl, rfl, FStep.refl st⟩

theorem DStep.of_fstep {d : Decoder σ} {st st' : FState σ} {dl : Array Nat} (hs : d.state = some st)
    (h : FStep st st' dl) : DStep d { d with state := some st' } dl :=
  ⟨rfl, rfl, Or.inr ⟨st, st', hs, rfl, h⟩⟩

theorem DStep.trans {a b c : Decoder σ} {d1 d2 : Array Nat} (h1 : DStep a b d1) (h2 : DStep b c d2) :
    DStep a c (d1 ++ d2) := by
  refine ⟨h2.1.trans h1.1, h2.2.1.trans h1.2.1, ?_⟩
  rcases h1.2.2 with ⟨ha, hb, rfl⟩ | ⟨st, st', ha, hb, hs⟩
  · rcases h2.2.2 with ⟨_, hc, rfl⟩ | ⟨st2, _, hb2, _, _⟩
    · exact Or.inl ⟨ha, hc, by simp⟩
    · rw [hb] at hb2; cases hb2
  · rcases h2.2.2 with ⟨hb2, _, _⟩ | ⟨st2, st2', hb2, hc, hs2⟩
    · rw [hb] at hb2; cases hb2
    · rw [hb] at hb2; cases hb2
      exact Or.inr ⟨st, st2', ha, hc, hs.trans hs2⟩

theorem DStep.hashed {d d' : Decoder σ} {dl : Array Nat} (h : DStep d d' dl) : d'.hashed = d.hashed ++ dl := by
  rcases h.2.2 with ⟨ha, hb, rfl⟩ | ⟨st, st', ha, hb, hs⟩
  · simp [Decoder.hashed, ha, hb]
  · simp [Decoder.hashed, ha, hb, hs.hashed]

theorem applyDrain_dstep (d : Decoder σ) (op : DrainOp) : DStep d (applyDrain d op).1 (applyDrain d op).2 := by
  rcases applyDrain_take d op with ⟨hn, he⟩ | ⟨st, k, hs, hk, -, he⟩
  · rw [he]; exact DStep.refl d
  · rw [he]; exact DStep.of_fstep hs (FStep.take st k)

theorem Decoder.read_dstep (d : Decoder σ) (n : Nat) : DStep d (d.read n).1 (d.read n).2 :=
  applyDrain_dstep d (.read n)

theorem Decoder.decodeBlocks_none (d : Decoder σ) (s : Src) (strat : Strategy) (h : d.state = none) :
    d.decodeBlocks s strat = (d, .err .notInitialized) := by
  simp only [Decoder.decodeBlocks, h]

theorem Decoder.decodeBlocks_some (d : Decoder σ) (st : FState σ) (s : Src) (strat : Strategy) (h : d.state = some st) :
    d.decodeBlocks s strat =
      ({ d with state := some (decodeBlocksLoop strat st.buf.content.size st.blockCounter (s.length + 1) st s).1 },
        match (decodeBlocksLoop strat st.buf.content.size st.blockCounter (s.length + 1) st s).2 with
        | .ok s' => .ok (s', (decodeBlocksLoop strat st.buf.content.size st.blockCounter (s.length + 1) st s).1.finished)
        | .err e => .err e
        | .fault f => .fault f) := by
  simp only [Decoder.decodeBlocks, h]
  split <;> rename_i heq <;> simp [heq]

theorem Decoder.decodeBlocks_ok_loop {d d' : Decoder σ} {s rest : Src} {strat : Strategy} {fin : Bool}
    (h : d.decodeBlocks s strat = (d', .ok (rest, fin))) :
    ∃ st st', d.state = some st ∧
      decodeBlocksLoop strat st.buf.content.size st.blockCounter (s.length + 1) st s = (st', .ok rest) ∧
      d' = { d with state := some st' } ∧ fin = st'.finished := by
  cases hst : d.state with
  | none => simp [Decoder.decodeBlocks, hst] at h
  | some st =>
    rw [Decoder.decodeBlocks_some d st s strat hst] at h
    cases hl : decodeBlocksLoop strat st.buf.content.size st.blockCounter (s.length + 1) st s with
    | mk st' o =>
      rw [hl] at h
      cases o with
      | err e => cases h
      | fault f => cases h
      | ok r =>
        simp only [Prod.mk.injEq, Out.ok.injEq] at h
        obtain ⟨rfl, rfl, rfl⟩ := h
        exact ⟨st, st', rfl, hl, rfl, rfl⟩

theorem Decoder.decodeBlocks_ok_consumes (d d' : Decoder σ) (s rest : Src) (strat : Strategy) (fin : Bool)
    (h : d.decodeBlocks s strat = (d', .ok (rest, fin))) :
    rest.length + 3 ≤ s.length ∧ ∃ n, n ≤ s.length ∧ rest = s.drop n ∧ d'.bytesRead = d.bytesRead + n := by
  obtain ⟨st, st', hst, hl, rfl, rfl⟩ := Decoder.decodeBlocks_ok_loop h
  have hran := decodeBlocksLoop_ran strat st.buf.content.size st.blockCounter (s.length + 1) st s
  rw [hl] at hran
  obtain ⟨n, h1, h4, h2, h3⟩ := hran.consumed rest rfl
  have := h4 rfl (Nat.succ_ne_zero _)
  exact ⟨by rw [h2, id, List.length_drop]; omega, n, h1, h2, by simpa [Decoder.bytesRead, hst] using h3⟩

theorem Decoder.decodeBlocks_dstep (d : Decoder σ) (s : Src) (strat : Strategy) :
    DStep d (d.decodeBlocks s strat).1 #[] := by
  cases h : d.state with
  | none => rw [Decoder.decodeBlocks_none d s strat h]; exact DStep.refl d
  | some st =>
    rw [Decoder.decodeBlocks_some d st s strat h]
    exact DStep.of_fstep h (decodeBlocksLoop_step _ _ _ _ _ _).fstep

/-- the chunk holds the next block completely (a header that does not parse counts: the block decoder
reports it) -/
def blockComplete (s : Src) : Bool :=
  decide (3 ≤ s.length) &&
    match parseBlockHeader (s.getD 0 0) (s.getD 1 0) (s.getD 2 0) with
    | .error _ => true
    | .ok bh => decide (3 + bh.contentSize ≤ s.length)

/-- what the loop of `decode_from_to` does after the last block: the checksum is taken if the chunk still
holds it, else it stays outstanding -/
def finishFromTo (st1 : FState σ) (s1 : Src) : FState σ × Out Unit :=
  if st1.header.checksumFlag ∧ 4 ≤ s1.length then
    ({ st1 with finished := true, bytesRead := st1.bytesRead + 4, checksum := some (leNat (s1.take 4)) }, .ok ())
  else ({ st1 with finished := true }, .ok ())

theorem finishFromTo_finishes : Finishes (finishFromTo (σ := σ)) (fun _ => ()) := by
  intro st1 s1
  unfold finishFromTo
  split
  · rename_i h
    exact ⟨4, _, _, rfl, nofun, fun _ _ => ⟨h.2, rfl⟩⟩
  · exact ⟨0, st1.checksum, _, rfl, nofun, fun _ _ => ⟨Nat.zero_le _, rfl⟩⟩

theorem decodeFromToLoop_eq (fuel : Nat) (st : FState σ) (s : Src) :
    decodeFromToLoop fuel st s = blockLoop blockComplete (fun _ => false) finishFromTo (fun _ => ()) fuel st s := by
  induction fuel generalizing st s with
  | zero => rfl
  | succ fuel ih =>
    rw [decodeFromToLoop, blockLoop, blockComplete]
    by_cases h3 : s.length < 3
    · rw [if_pos (by rw [List.length_take]; omega), if_neg (by simp; omega)]
    · rw [if_neg (by rw [List.length_take]; omega)]
      cases hp : parseBlockHeader (s.getD 0 0) (s.getD 1 0) (s.getD 2 0) with
      | error e =>
        have : decodeOneBlock st s = (st, .err e) := by rw [decodeOneBlock_eq, if_neg h3, hp]
        simp [this, Nat.not_lt.mp h3]
      | ok bh =>
        simp only
        by_cases hc : s.length < 3 + bh.contentSize
        · rw [if_pos (by rw [List.length_take, List.length_drop]; omega), if_neg (by simp; omega)]
        · rw [if_neg (by rw [List.length_take, List.length_drop]; omega), if_pos (by simp; omega)]
          cases hd : decodeOneBlock st s with
          | mk st1 o =>
            cases o with
            | err e => rfl
            | fault f => rfl
            | ok p =>
              -- the header the loop parsed is the one the block decoder parsed
              have hbh : p.1 = bh := by
                have := (decodeOneBlock_ok _ _ _ _ _ hd).header
                rw [hp] at this
                cases this
                rfl
              have e4 : ((p.2.take 4).length ≥ 4) = (4 ≤ p.2.length) := by
                rw [List.length_take]
                exact propext (by omega)
              simp only [hbh, ih, finishFromTo, e4, Bool.false_eq_true, if_false]

theorem decodeFromToLoop_ran (fuel : Nat) (st : FState σ) (s : Src) :
    BlocksRan blockComplete (fun _ => false) finishFromTo (fun _ => ()) fuel st s (decodeFromToLoop fuel st s) := by
  rw [decodeFromToLoop_eq]
  exact blockLoop_ran finishFromTo_finishes fuel st s

theorem decodeFromToLoop_fuel (f1 f2 : Nat) (st : FState σ) (s : Src) (h1 : s.length < f1) (h2 : s.length < f2) :
    decodeFromToLoop f1 st s = decodeFromToLoop f2 st s := by
  rw [decodeFromToLoop_eq, decodeFromToLoop_eq]
  exact blockLoop_fuel f1 f2 st s h1 h2

theorem readFrameHeader_reads {s : Src} {h : FHeader} {n : Nat} {rest : Src}
    (hr : readFrameHeader s = .ok (h, n, rest)) :
    5 ≤ n ∧ n ≤ s.length ∧ ∀ s' : Src, s'.take n = s.take n → readFrameHeader s' = .ok (h, n, s'.drop n) := by
  -- `hr` is opened read by read (magic, descriptor, window descriptor, dictionary id, content size: `h4`, `h1`, `hw`,
  -- `hdid`, `hf`); `readExact_agree` then replays each read on `s'`, the agreeing prefix shrinking by what was read
  simp only [readFrameHeader] at hr
  split at hr
  · cases hr
  · rename_i m s1 h4
    obtain ⟨l4, -, r4⟩ := readExact_eq_some.mp h4
    -- (the two tests of the magic number are named: `split at hr` is dear with the rest of the function in the else branch)
    by_cases hskip : Gen.skipMagicLo ≤ leNat m ∧ leNat m ≤ Gen.skipMagicHi
    · rw [if_pos hskip] at hr
      split at hr <;> cases hr
    · rw [if_neg hskip] at hr
      by_cases hmag : leNat m ≠ Gen.magicNum
      · rw [if_pos hmag] at hr
        cases hr
      · rw [if_neg hmag] at hr
        split at hr
        · cases hr
        · rename_i dd s2 h1
          obtain ⟨l1, -, r1⟩ := readExact_eq_some.mp h1
          split at hr
          · cases hr
          · rename_i wd s3 hw
            split at hr
            · cases hr
            · rename_i db s4 hdid
              obtain ⟨ld, -, rd⟩ := readExact_eq_some.mp hdid
              split at hr
              · cases hr
              · rename_i fb s5 hf
                obtain ⟨lf, -, -⟩ := readExact_eq_some.mp hf
                simp only [Except.ok.injEq, Prod.mk.injEq] at hr
                obtain ⟨hh, hnn, -⟩ := hr
                -- the window descriptor is read only when the frame is not single-segment
                obtain ⟨wl, hwl, lw, rw3, ew⟩ : ∃ wl, (if dd.headD 0 / 32 % 2 = 1 then 0 else 1) = wl ∧
                    wl ≤ s2.length ∧ s3 = s2.drop wl ∧ ∀ (Y : Src) (b : Nat), wl ≤ b → Y.take b = s2.take b →
                      (if dd.headD 0 / 32 % 2 = 1 then some ([0], Y) else readExact 1 Y) = some (wd, Y.drop wl) ∧
                      (Y.drop wl).take (b - wl) = s3.take (b - wl) := by
                  by_cases hsi : dd.headD 0 / 32 % 2 = 1
                  · simp only [hsi, if_true, Option.some.injEq, Prod.mk.injEq] at hw ⊢
                    obtain ⟨rfl, rfl⟩ := hw
                    exact ⟨0, rfl, Nat.zero_le _, rfl, fun Y b _ ha => ⟨⟨rfl, rfl⟩, ha⟩⟩
                  · simp only [hsi, if_false] at hw ⊢
                    obtain ⟨lw, -, rw3⟩ := readExact_eq_some.mp hw
                    exact ⟨1, rfl, lw, rw3, fun Y b hb ha => readExact_agree hw hb ha⟩
                rw [hwl] at hnn
                refine ⟨by omega, ?_, fun s' ha => ?_⟩
                · rw [rd, rw3, r1, r4] at lf
                  rw [rw3, r1, r4] at ld
                  rw [r1, r4] at lw
                  rw [r4] at l1
                  simp only [List.length_drop] at lf ld lw l1
                  omega
                · obtain ⟨e4, a4⟩ := readExact_agree h4 (by omega) ha
                  obtain ⟨e1, a1⟩ := readExact_agree h1 (by omega) a4
                  obtain ⟨ew, aw⟩ := ew _ (n - 4 - 1) (by omega) a1
                  obtain ⟨ed, ad⟩ := readExact_agree hdid (by omega) aw
                  obtain ⟨ef, -⟩ := readExact_agree hf (by omega) ad
                  simp only [readFrameHeader]
                  rw [e4]
                  simp only
                  rw [if_neg hskip, if_neg hmag, e1]
                  simp only
                  rw [ew]
                  simp only
                  rw [ed]
                  simp only
                  rw [ef]
                  simp only [Except.ok.injEq, Prod.mk.injEq]
                  refine ⟨hh, by rw [hwl]; exact hnn, ?_⟩
                  simp only [List.drop_drop]
                  exact congrArg (fun k => s'.drop k) hnn

theorem readFrameHeader_ok (s : Src) (h : FHeader) (n : Nat) (rest : Src)
    (hr : readFrameHeader s = .ok (h, n, rest)) : 5 ≤ n ∧ n ≤ s.length ∧ rest = s.drop n := by
  obtain ⟨h5, hn, hc⟩ := readFrameHeader_reads hr
  have := hc s rfl
  rw [hr] at this
  simp only [Except.ok.injEq, Prod.mk.injEq, true_and] at this
  exact ⟨h5, hn, this⟩

theorem readFrameHeader_congr {s s' : Src} {h : FHeader} {n : Nat} {rest : Src}
    (hr : readFrameHeader s = .ok (h, n, rest)) (ha : s'.take n = s.take n) :
    readFrameHeader s' = .ok (h, n, s'.drop n) :=
  (readFrameHeader_reads hr).2.2 s' ha

/-- the state `reset` installs for the frame at the front of `s`, and the outcome `o` it reports -/
structure FreshFrame (s : Src) (st : FState σ) (o : Out Src) : Prop where
  finished : st.finished = false
  checksum : st.checksum = none
  blockCounter : st.blockCounter = 0
  hashed : st.buf.hashed = #[]
  content : st.buf.content = #[]
  totalOut : st.buf.totalOut = 0
  hdr_ge : 5 ≤ st.bytesRead
  hdr_le : st.bytesRead ≤ s.length
  rest : ∀ rest, o = .ok rest → rest = s.drop st.bytesRead
  noFault : ∀ f, o ≠ .fault f

theorem resetCore_replace (dicts : List (Dict σ)) (mw : Nat) (s : Src) (st : FState σ) (o : Out Src)
    (h : resetCore dicts mw s = .replace st o) : FreshFrame s st o := by
  obtain ⟨hd, n, rest, w, hr, -, -, hc⟩ := resetCore_eq_replace h
  obtain ⟨h5, hn, hrest⟩ := readFrameHeader_ok _ _ _ _ hr
  obtain ⟨hst, ho⟩ := applyDictChoice_cases hc
  have hout : (∀ r, o = .ok r → r = s.drop n) ∧ ∀ f, o ≠ .fault f := by
    rcases ho with rfl | ⟨id, rfl⟩
    · exact ⟨fun r hr => (by cases hr; exact hrest), fun f hf => nomatch hf⟩
    · exact ⟨fun r hr => (nomatch hr), fun f hf => nomatch hf⟩
  rcases hst with rfl | ⟨dict, -, rfl⟩
  · exact ⟨rfl, rfl, rfl, rfl, rfl, rfl, h5, hn, hout.1, hout.2⟩
  · exact ⟨rfl, rfl, rfl, rfl, rfl, rfl, h5, hn, hout.1, hout.2⟩

theorem Decoder.reset_cases (d : Decoder σ) (s : Src) :
    (∃ e, d.reset s = (d, .err e)) ∨
    (∃ st o, d.reset s = ({ d with state := some st }, o) ∧ resetCore d.dicts d.maxWindow s = .replace st o) := by
  simp only [Decoder.reset]
  cases h : resetCore d.dicts d.maxWindow s with
  | keep e => exact Or.inl ⟨e, rfl⟩
  | replace st o => exact Or.inr ⟨st, o, rfl, rfl⟩

theorem Decoder.reset_ok (d d1 : Decoder σ) (s s1 : Src) (h : d.reset s = (d1, .ok s1)) :
    ∃ st, d1 = { d with state := some st } ∧ resetCore d.dicts d.maxWindow s = .replace st (.ok s1) ∧
      FreshFrame s st (.ok s1) := by
  rcases Decoder.reset_cases d s with ⟨e, he⟩ | ⟨st, o, he, hr⟩
  · rw [he] at h; cases h
  · rw [he] at h; cases h; exact ⟨st, rfl, hr, resetCore_replace _ _ _ _ _ hr⟩

/-- `decode_from_to` after the optional `init`, with the start value of the byte counter as a parameter -/
def fromToCore (d1 : Decoder σ) (st : FState σ) (s1 : Src) (startRead n : Nat) : Decoder σ × Out (Nat × Array Nat) :=
  if st.header.checksumFlag ∧ st.finished ∧ st.checksum.isNone then
    if s1.length ≥ 4 then
      ({ d1 with state := some { st with bytesRead := st.bytesRead + 4, checksum := some (leNat (s1.take 4)) } }, .ok (4, #[]))
    else (d1, .ok (0, #[]))
  else
    match decodeFromToLoop (s1.length + 1) st s1 with
    | (st', .ok ()) =>
      (({ d1 with state := some st' } : Decoder σ).read n |>.1,
        .ok ((({ d1 with state := some st' } : Decoder σ).read n).1.bytesRead - startRead,
             (({ d1 with state := some st' } : Decoder σ).read n).2))
    | (st', .err e) => ({ d1 with state := some st' }, .err e)
    | (st', .fault f) => ({ d1 with state := some st' }, .fault f)

theorem Decoder.read_state (d : Decoder σ) (st : FState σ) (n : Nat) (h : d.state = some st) :
    ∃ k, k ≤ n ∧ k ≤ st.buf.content.size ∧
      d.read n = ({ d with state := some { st with buf := (st.buf.take k).2 } }, (st.buf.take k).1) := by
  simp only [Decoder.read, h, DBuf.canDrainToWindow_getD]
  exact ⟨_, Nat.min_le_right _ _, by split <;> omega, rfl⟩

theorem Decoder.read_size_le (d : Decoder σ) (n : Nat) : (d.read n).2.size ≤ n := by
  cases hst : d.state with
  | none => simp [Decoder.read, hst]
  | some st =>
    obtain ⟨k, hk, -, hr⟩ := Decoder.read_state d st n hst
    rw [hr, DBuf.take_fst_size]; omega

theorem Decoder.decodeFromTo_some (d : Decoder σ) (st : FState σ) (s : Src) (n : Nat) (h : d.state = some st) :
    d.decodeFromTo s n =
      if d.isFinished then ((d.read n).1, .ok (0, (d.read n).2))
      else fromToCore d st s st.bytesRead n := by
  obtain ⟨k, -, -, hread⟩ := Decoder.read_state d st n h
  simp only [Decoder.decodeFromTo, h, Option.isNone_some, Bool.false_eq_true, or_false, if_false]
  cases hf : d.isFinished
  · simp only [Bool.not_false, if_true, fromToCore, Bool.false_eq_true, if_false]
    split
    · rfl
    · cases hl : decodeFromToLoop (s.length + 1) st s with
      | mk st' o =>
        cases o with
        | ok u =>
          obtain ⟨k', -, -, hread'⟩ := Decoder.read_state { d with state := some st' } st' n rfl
          simp [hread', Decoder.bytesRead]
        | err e => rfl
        | fault f => rfl
  · simp [hread]

theorem Decoder.decodeFromTo_none (d : Decoder σ) (s : Src) (n : Nat) (h : d.state = none) :
    d.decodeFromTo s n =
      match resetCore d.dicts d.maxWindow s with
      | .keep e => (d, .err e)
      | .replace st (.ok s1) => fromToCore { d with state := some st } st s1 0 n
      | .replace st (.err e) => ({ d with state := some st }, .err e)
      | .replace st (.fault f) => ({ d with state := some st }, .fault f) := by
  simp only [Decoder.decodeFromTo, h, Option.isNone_none, or_true, if_true, Decoder.reset]
  cases hr : resetCore d.dicts d.maxWindow s with
  | keep e => rfl
  | replace st o =>
    cases o with
    | err e => rfl
    | fault f => rfl
    | ok s1 =>
      simp only [fromToCore]
      split
      · rfl
      · cases hl : decodeFromToLoop (s1.length + 1) st s1 with
        | mk st' o =>
          cases o with
          | ok u =>
            obtain ⟨k', -, -, hread'⟩ := Decoder.read_state { d with state := some st' } st' n rfl
            simp [hread', Decoder.bytesRead]
          | err e => rfl
          | fault f => rfl

def Out.delivered {α} (f : α → Array Nat) : Out α → Array Nat
  | .ok a => f a
  | _ => #[]

/-- `startRead` is the value of the byte counter sampled when the call began.  `h2`: the branch that finds only the
checksum outstanding reports the literal 4 (or 0), not a difference; that is the counter's advance because in a
finished state `startRead` is the counter itself. -/
theorem fromToCore_spec (d1 : Decoder σ) (st : FState σ) (s1 : Src) (startRead n : Nat)
    (hs : d1.state = some st) (h1 : startRead ≤ st.bytesRead) (h2 : st.finished = true → startRead = st.bytesRead) :
    DStep d1 (fromToCore d1 st s1 startRead n).1 ((fromToCore d1 st s1 startRead n).2.delivered (·.2)) ∧
    ∀ rd out, (fromToCore d1 st s1 startRead n).2 = .ok (rd, out) →
      out.size ≤ n ∧ (fromToCore d1 st s1 startRead n).1.bytesRead = startRead + rd ∧
      rd ≤ (st.bytesRead - startRead) + s1.length := by
  simp only [fromToCore]
  split
  · rename_i hc
    have hsr := h2 hc.2.1
    split
    · refine ⟨DStep.of_fstep hs ?_, ?_⟩
      · exact ⟨rfl, rfl, rfl, rfl, by simp [Out.delivered], ⟨#[], by simp [Out.delivered]⟩, Nat.le_add_right _ _,
          Nat.le_refl _, id, fun hf => by simp only at hf; rw [hc.2.1] at hf; cases hf⟩
      · rintro rd out ⟨⟩
        exact ⟨Nat.zero_le _, by simp [Decoder.bytesRead]; omega, by omega⟩
    · refine ⟨DStep.refl d1, ?_⟩
      rintro rd out ⟨⟩
      exact ⟨Nat.zero_le _, by simp [Decoder.bytesRead, hs]; omega, Nat.zero_le _⟩
  · have hran := decodeFromToLoop_ran (s1.length + 1) st s1
    cases hloop : decodeFromToLoop (s1.length + 1) st s1 with
    | mk st' o =>
      rw [hloop] at hran
      have hd : DStep d1 { d1 with state := some st' } #[] := DStep.of_fstep hs hran.step.fstep
      cases o with
      | ok u =>
        obtain ⟨k, hk1, hk2, hread⟩ := Decoder.read_state { d1 with state := some st' } st' n rfl
        have hb := hran.step.bytesRead_le
        -- on `Ok` every block the loop decoded was complete: the counter stays within the chunk
        obtain ⟨m, hm, -, -, hu⟩ := hran.consumed u rfl
        simp only at hu
        simp only [hread]
        refine ⟨by simpa [Out.delivered] using hd.trans (DStep.of_fstep rfl (FStep.take st' k)), ?_⟩
        rintro rd out ⟨⟩
        exact ⟨by rw [DBuf.take_fst_size]; omega, by simp only [Decoder.bytesRead]; omega,
          by simp only [Decoder.bytesRead]; omega⟩
      | err e => exact ⟨hd, fun rd out h => nomatch h⟩
      | fault f => exact ⟨hd, fun rd out h => nomatch h⟩

/-- `decode_from_to` as a whole, the implicit `init` of a fresh decoder (which starts from the empty hash) included.  The
count reported is what `bytes_read_from_source()` advanced by (no underflow in `bytes_read_at_end -
bytes_read_at_start`) in every state, also in the call that finds only the checksum outstanding (F2's branch). -/
theorem Decoder.decodeFromTo_spec (d : Decoder σ) (s : Src) (n : Nat) :
    (d.decodeFromTo s n).1.hashed = d.hashed ++ (d.decodeFromTo s n).2.delivered (·.2) ∧
    ∀ r out, (d.decodeFromTo s n).2 = .ok (r, out) →
      r ≤ s.length ∧ out.size ≤ n ∧ (d.decodeFromTo s n).1.bytesRead = d.bytesRead + r := by
  cases hst : d.state with
  | some st =>
    rw [Decoder.decodeFromTo_some d st s n hst]
    split
    · refine ⟨(Decoder.read_dstep d n).hashed, fun r out h => ?_⟩
      simp only [Out.ok.injEq, Prod.mk.injEq] at h
      obtain ⟨rfl, rfl⟩ := h
      obtain ⟨k, -, -, hr⟩ := Decoder.read_state d st n hst
      exact ⟨Nat.zero_le _, Decoder.read_size_le d n, by rw [hr]; simp [Decoder.bytesRead, hst]⟩
    · obtain ⟨hd, hm⟩ := fromToCore_spec d st s st.bytesRead n hst (Nat.le_refl _) (fun _ => rfl)
      refine ⟨hd.hashed, fun r out h => ?_⟩
      obtain ⟨h1, h2, h3⟩ := hm r out h
      exact ⟨by omega, h1, by simpa only [Decoder.bytesRead, hst] using h2⟩
  | none =>
    rw [Decoder.decodeFromTo_none d s n hst]
    cases hr : resetCore d.dicts d.maxWindow s with
    | keep e => exact ⟨by simp [Out.delivered], fun r out h => nomatch h⟩
    | replace st o =>
      have hrc := resetCore_replace _ _ _ _ _ hr
      have hh : ({ d with state := some st } : Decoder σ).hashed = d.hashed := by
        simp [Decoder.hashed, hst, hrc.hashed]
      cases o with
      | err e => exact ⟨by simpa [Out.delivered] using hh, fun r out h => nomatch h⟩
      | fault f => exact ⟨by simpa [Out.delivered] using hh, fun r out h => nomatch h⟩
      | ok s1 =>
        obtain ⟨hd, hm⟩ := fromToCore_spec { d with state := some st } st s1 0 n rfl (Nat.zero_le _)
          (fun hf => by rw [hrc.finished] at hf; cases hf)
        refine ⟨by rw [← hh]; exact hd.hashed, fun r out h => ?_⟩
        obtain ⟨h1, h2, h3⟩ := hm r out h
        -- the header `init` read is counted too: it is what `s1` is short of `s`
        have hl : s1.length = s.length - st.bytesRead := by rw [hrc.rest s1 rfl, List.length_drop]
        have := hrc.hdr_le
        refine ⟨by omega, h1, ?_⟩
        simp only [Decoder.bytesRead, hst] at h2 ⊢
        omega

theorem Decoder.decodeFromTo_hashed (d : Decoder σ) (s : Src) (n : Nat) :
    (d.decodeFromTo s n).1.hashed = d.hashed ++ (d.decodeFromTo s n).2.delivered (·.2) :=
  (Decoder.decodeFromTo_spec d s n).1

theorem Decoder.decodeFromTo_accounting (d d' : Decoder σ) (s : Src) (n r : Nat) (out : Array Nat)
    (h : d.decodeFromTo s n = (d', .ok (r, out))) :
    r ≤ s.length ∧ out.size ≤ n ∧ d'.bytesRead = d.bytesRead + r := by
  have := (Decoder.decodeFromTo_spec d s n).2 r out
  rw [h] at this
  exact this rfl

theorem DStep.window {d d' : Decoder σ} {dl : Array Nat} (h : DStep d d' dl) : d'.window = d.window := by
  rcases h.2.2 with ⟨ha, hb, -⟩ | ⟨st, st', ha, hb, hs⟩
  · simp [Decoder.window, ha, hb]
  · simp [Decoder.window, ha, hb, hs.window]

theorem Decoder.decodeBlocks_window (d : Decoder σ) (s : Src) (strat : Strategy) :
    (d.decodeBlocks s strat).1.window = d.window :=
  (Decoder.decodeBlocks_dstep d s strat).window

theorem Decoder.decodeBlocks_bound_bytes (d : Decoder σ) (s : Src) (n : Nat) :
    (d.decodeBlocks s (.uptoBytes n)).1.content.size ≤ d.content.size + n + Gen.maxBlockSize := by
  cases h : d.state with
  | none => simp [Decoder.decodeBlocks_none d s _ h, Decoder.content, h]
  | some st =>
    rw [Decoder.decodeBlocks_some d st s _ h]
    simp only [Decoder.content, h]
    -- the loop stops as soon as `n` bytes were added, and one block adds at most `MAX_BLOCK_SIZE`
    obtain ⟨st1, -, h2, -, h3⟩ :=
      (decodeBlocksLoop_ran (.uptoBytes n) st.buf.content.size st.blockCounter (s.length + 1) st s).before
    rcases h2 with rfl | h2
    · omega
    · simp only [stratStop, ge_iff_le, decide_eq_false_iff_not] at h2
      omega

theorem Decoder.decodeBlocks_bound_blocks (d : Decoder σ) (s : Src) (k : Nat) :
    (d.decodeBlocks s (.uptoBlocks k)).1.content.size ≤ d.content.size + max k 1 * Gen.maxBlockSize := by
  cases h : d.state with
  | none => simp [Decoder.decodeBlocks_none d s _ h, Decoder.content, h]
  | some st =>
    rw [Decoder.decodeBlocks_some d st s _ h]
    simp only [Decoder.content, h]
    -- the loop tests the budget only after a block: at most `max k 1` blocks, each at most `MAX_BLOCK_SIZE`
    obtain ⟨st1, h1, h2, h3, h4⟩ :=
      (decodeBlocksLoop_ran (.uptoBlocks k) st.buf.content.size st.blockCounter (s.length + 1) st s).before
    have hle : st1.blockCounter - st.blockCounter + 1 ≤ max k 1 := by
      rcases h2 with rfl | h2
      · omega
      · simp only [stratStop, ge_iff_le, decide_eq_false_iff_not] at h2
        omega
    have := Nat.mul_le_mul_right Gen.maxBlockSize hle
    rw [Nat.add_mul] at this
    omega

theorem Decoder.canCollect_eq (d : Decoder σ) :
    d.canCollect = if d.isFinished then d.content.size else d.content.size - d.window := by
  cases h : d.state with
  | none => simp [Decoder.canCollect, Decoder.content, h]
  | some st =>
    simp only [Decoder.canCollect, Decoder.content, Decoder.window, h, DBuf.canDrainToWindow_getD]

theorem Decoder.collect_bound (d : Decoder σ) : (d.collect).1.content.size ≤ d.window := by
  cases h : d.state with
  | none => simp [Decoder.collect, h, Decoder.content]
  | some st =>
    simp only [Decoder.collect, h, Decoder.window]
    split
    · simp [Decoder.content, DBuf.take]
    · simp only [DBuf.canDrainToWindow]
      by_cases hgt : st.buf.content.size > st.buf.window
      · simp only [hgt, if_true, Decoder.content, DBuf.take_content_size]; omega
      · simp only [hgt, if_false, Decoder.content, h]; omega

theorem Decoder.read_bound (d : Decoder σ) (n : Nat) :
    (d.read n).1.content.size ≤ max (d.content.size - n) (if d.blocksDone then 0 else d.window) := by
  cases h : d.state with
  | none => simp [Decoder.read, h, Decoder.content]
  | some st =>
    simp only [Decoder.read, h, Decoder.content, Decoder.window, Decoder.blocksDone, DBuf.take_content_size,
      DBuf.canDrainToWindow_getD]
    split <;> omega

end Zstd.Model
