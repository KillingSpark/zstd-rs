import Zstd.Proofs.HufEnc
import Zstd.Proofs.LitCoderStream
import Zstd.Proofs.HufDesc
import Zstd.Proofs.HufCounts
import Zstd.Proofs.HufLiterals
/-
From a canonical encoder table to the literals round trips: the table the decoder builds from the
description decodes the encoder's code (`DecodesCode`); `decode_literals` on a Compressed or Treeless
section is the table step followed by `decodeStreams`, which regenerates what `encode_stream` wrote,
for one stream and for four.
-/
namespace Zstd.Proofs.Huf
open Zstd Zstd.Model.Huf Zstd.Model.Huf.Bits

/-- A table as the compressor builds it: `build_from_weights` of Kraft-complete weights over at most
256 symbols, depth `m ≤ 11`, with a symbol of weight 1 (so that the decoder's Max_Number_of_Bits is
`m`) and the last symbol used (its weight is the one that is not transmitted).
The hypothesis of the description and stream theorems; `buildFromCounts_canon` (Proofs/HufLt128Lift) and
`LitCoder.buildFromData_canon` establish it. -/
structure CanonTable (t : EncTable) (wd : List Nat) (m : Nat) : Prop where
  build : buildFromWeights wd = .ok t
  two : 2 ≤ wd.length
  len256 : wd.length ≤ 256
  m1 : 1 ≤ m
  m11 : m ≤ 11
  le : ∀ w ∈ wd, w ≤ m
  sum : weightSum wd = 2 ^ m
  one : 1 ∈ wd
  lastUsed : ∀ w, wd.getLast? = some w → 1 ≤ w

theorem CanonTable.codesOk {t : EncTable} {wd : List Nat} {m : Nat} (c : CanonTable t wd m) :
    CodesOk wd m t.codes := by
  obtain ⟨t', h1, h2⟩ := buildFromWeights_ok wd m c.len256 (by have := c.m11; omega) c.le c.sum
  rw [c.build] at h1
  cases h1
  exact h2

theorem CodesOk.bits {ws : List Nat} {m : Nat} {codes : List (Nat × Nat)} (ok : CodesOk ws m codes) :
    bitsOf m ws = codes.map (·.2) := by
  refine List.ext_getElem (by simp [bitsOf, ok.len]) fun s h1 _ => ?_
  have hs : s < ws.length := by simpa [bitsOf] using h1
  simp only [bitsOf, List.getElem_map]
  by_cases h0 : ws[s] > 0
  · obtain ⟨cd, q, _⟩ := ok.used s hs h0
    rw [if_pos h0, (List.getElem?_eq_some_iff.mp q).2]
  · rw [if_neg h0, (List.getElem?_eq_some_iff.mp (ok.unused s hs (by omega))).2]

theorem CodesOk.bits_le {ws : List Nat} {m : Nat} {codes : List (Nat × Nat)} (ok : CodesOk ws m codes) :
    ∀ c ∈ codes, c.2 ≤ m := fun c hc => by
  have : c.2 ∈ bitsOf m ws := ok.bits ▸ List.mem_map_of_mem hc
  obtain ⟨w, _, h⟩ := List.mem_map.mp this
  rw [← h]; split <;> omega

theorem CodesOk.has_max {ws : List Nat} {m : Nat} {codes : List (Nat × Nat)} (ok : CodesOk ws m codes)
    (hone : 1 ∈ ws) : ∃ c ∈ codes, c.2 = m :=
  List.mem_map.mp (ok.bits ▸ List.mem_map.mpr ⟨1, hone, by simp⟩ : m ∈ codes.map (·.2))

theorem CodesOk.encWeights_eq {t : EncTable} {ws : List Nat} {m : Nat} (ok : CodesOk ws m t.codes)
    (hle : ∀ w ∈ ws, w ≤ m) : encWeights t m = ws := by
  have h : encWeights t m = (t.codes.map (·.2)).map fun b => if b = 0 then 0 else m - b + 1 := by
    rw [encWeights, List.map_map]; rfl
  rw [h, ← ok.bits, bitsOf, List.map_map]
  refine (List.map_congr_left fun w hw => ?_).trans (List.map_id ws)
  have := hle w hw
  simp only [Function.comp, id]
  by_cases h0 : w > 0
  · rw [if_pos h0, if_neg (by omega)]; omega
  · rw [if_neg h0, if_pos rfl]; omega

theorem weights_of_codesOk {t : EncTable} {wd : List Nat} {m : Nat} (ok : CodesOk wd m t.codes)
    (hone : 1 ∈ wd) (hle : ∀ w ∈ wd, w ≤ m) : weights t = .ok wd := by
  rw [weights_eq_encWeights ok.bits_le (ok.has_max hone), ok.encWeights_eq hle]

theorem CanonTable.weights {t : EncTable} {wd : List Nat} {m : Nat} (c : CanonTable t wd m) : weights t = .ok wd :=
  weights_of_codesOk c.codesOk c.one c.le

theorem CanonTable.code {t : EncTable} {wd : List Nat} {m : Nat} (c : CanonTable t wd m)
    (s : Nat) (cd : Nat × Nat) (hc : t.codes[s]? = some cd) :
    ∃ (h : s < wd.length), cd.2 = (if wd[s] = 0 then 0 else m + 1 - wd[s]) := by
  have h : (bitsOf m wd)[s]? = some cd.2 := by rw [c.codesOk.bits, List.getElem?_map, hc]; rfl
  rw [bitsOf, List.getElem?_map] at h
  obtain ⟨w, hw, h⟩ := Option.map_eq_some_iff.mp h
  obtain ⟨hs, rfl⟩ := List.getElem?_eq_some_iff.mp hw
  refine ⟨hs, ?_⟩
  by_cases h0 : wd[s] = 0
  · rw [← h, if_pos h0, if_neg (by omega)]
  · rw [← h, if_neg h0, if_pos (by omega)]

theorem CanonTable.encWeights_eq {t : EncTable} {wd : List Nat} {m : Nat} (c : CanonTable t wd m) :
    encWeights t m = wd := c.codesOk.encWeights_eq c.le

theorem CanonTable.kraft {t : EncTable} {wd : List Nat} {m : Nat} (c : CanonTable t wd m) : KraftTable t m := by
  have ok := c.codesOk
  refine ⟨by rw [ok.len]; exact c.two, by rw [ok.len]; exact c.len256, ok.bits_le, ok.has_max c.one, c.m1, c.m11,
    fun cd hcd => ?_, ?_⟩
  · have : (bitsOf m wd).getLast? = some cd.2 := by rw [ok.bits, List.getLast?_map, hcd]; rfl
    rw [bitsOf, List.getLast?_map] at this
    obtain ⟨w, hw, h⟩ := Option.map_eq_some_iff.mp this
    have := c.lastUsed w hw
    have := c.le w (List.mem_of_getLast? hw)
    rw [← h, if_pos (by omega)]; omega
  · show weightSum (encWeights t m) = 2 ^ m
    rw [c.encWeights_eq]; exact c.sum

/-- the code `codes` is decoded by the table `cell` of depth `m`: every cell whose index starts with the code of
`s` holds `(s, length of the code)`.  `DecodesCode` says it of the model's table and `LitCoder.SpecDecodes` of the Spec's,
each in terms of its own table type (from `Decodes (decCell ·)` / `Decodes (specCell ·)` by `decCell_eq_some` /
`specCell_eq_some`).  `SpecDecodes.cells` takes `c < 2 ^ nb` as a hypothesis; here and in `DecodesCode` it is concluded. -/
def Decodes (cell : Nat → Option (Nat × Nat)) (m : Nat) (codes : List (Nat × Nat)) : Prop :=
  ∀ s c nb, codes[s]? = some (c, nb) → 0 < nb →
    nb ≤ m ∧ c < 2 ^ nb ∧ ∀ j, j < 2 ^ (m - nb) → cell (c * 2 ^ (m - nb) + j) = some (s, nb)

/-- the encoder's codes are the block starts, so every canonical table of the weights decodes them -/
theorem CanonTable.decodes {t : EncTable} {wd : List Nat} {m : Nat} (c : CanonTable t wd m)
    {cell : Nat → Option (Nat × Nat)} (h : Canonical m wd cell) : Decodes cell m t.codes := by
  intro s cd nb hcode hnb
  obtain ⟨t', hb', _, hzero, hpos⟩ := buildFromWeights_canon wd m c.len256 (by have := c.m11; omega) c.le c.sum
  cases hb'.symm.trans c.build
  obtain ⟨hs, _⟩ := c.code s (cd, nb) hcode
  have hw0 : wd[s] > 0 := by
    rcases Nat.eq_zero_or_pos wd[s] with h0 | h0
    · rw [hzero s hs h0] at hcode; cases hcode; omega
    · exact h0
  have hwm : wd[s] ≤ m := c.le _ (List.getElem_mem _)
  obtain ⟨c', p1, p2⟩ := hpos s hs hw0
  obtain ⟨_, u1, u2⟩ := c.codesOk.used s hs hw0
  cases p1.symm.trans hcode
  cases u1.symm.trans hcode
  have e1 : m - (m + 1 - wd[s]) = wd[s] - 1 := by omega
  refine ⟨by omega, u2, fun j hj => ?_⟩
  rw [e1] at hj ⊢
  rw [p2]
  exact h s wd[s] (List.getElem?_eq_getElem hs) hw0 j hj

theorem CanonTable.transmitted {t : EncTable} {wd : List Nat} {m : Nat} (c : CanonTable t wd m) :
    GoodWeights wd.dropLast ∧ maxBitsOf wd.dropLast = m ∧ wd.dropLast ++ [lastWeightOf wd.dropLast] = wd :=
  goodWeights_dropLast c.m1 c.m11 c.le c.lastUsed c.sum

theorem decodes_of_canon {t : EncTable} {wd : List Nat} {m : Nat} (c : CanonTable t wd m) (st : DecTable)
    (hst : st.weights = wd.dropLast) :
    ∃ st', buildTableFromWeights st = (st', .ok ()) ∧ DecodesCode st' t m ∧ st'.bits = t.codes.map (·.2) ∧
      st'.weights = wd.dropLast := by
  obtain ⟨hgood, hmb, hrec⟩ := c.transmitted
  rw [← hst] at hgood
  obtain ⟨ri, dec, hbuild, hinv⟩ := buildTable_good st
    (by rw [hst, List.length_dropLast]; have := c.len256; omega) hgood
  rw [hst, hmb, hrec] at hinv
  rw [hst, allBitsOf, hmb, hrec] at hbuild
  refine ⟨_, hbuild, ⟨rfl, hinv.size, c.m1, c.m11, fun s cd nb hcode hnb => ?_⟩, c.codesOk.bits, rfl⟩
  obtain ⟨h1, h2, h3⟩ := c.decodes (hinv.canonical c.len256) s cd nb hcode hnb
  exact ⟨h1, h2, fun j hj => decCell_eq_some (h3 j hj)⟩

theorem buildDecoder_of_reads {t : EncTable} {wd : List Nat} {m : Nat} (c : CanonTable t wd m)
    (desc : List Nat) (hr : DescReads desc wd.dropLast) (st : DecTable) (tail : List Nat)
    (htail : ∀ b ∈ tail, b < 256) :
    ∃ st', buildDecoder st (desc ++ tail) = (st', .ok desc.length) ∧ DecodesCode st' t m ∧
      st'.bits = t.codes.map (·.2) := by
  obtain ⟨st', h1, h2, h3, _⟩ := decodes_of_canon c
    { decode := #[], weights := wd.dropLast, maxNumBits := st.maxNumBits, bits := st.bits } rfl
  exact ⟨st', buildDecoder_ok (hr { st with decode := #[] } tail htail) h1, h2, h3⟩

theorem descReads_direct (fseEnc : List Nat → Except Fault (List Nat)) {t : EncTable} {wd : List Nat} {m : Nat}
    (c : CanonTable t wd m) (hdirect : wd.length - 1 ≤ 16) :
    ∃ desc, writeTable fseEnc t = .ok desc ∧ DescReads desc wd.dropLast := by
  have hw := c.weights
  have hlen : wd.dropLast.length = wd.length - 1 := List.length_dropLast
  obtain ⟨bs, hb1, hb2, hb3⟩ := nibbles_directBytes wd.dropLast fun w hw => by
    have := c.le w (List.dropLast_subset _ hw); have := c.m11; omega
  refine ⟨_, writeTable_direct fseEnc hw (by omega) hb1, fun st tail _ => ?_⟩
  rw [List.cons_append, List.length_cons, Nat.add_comm bs.length]
  exact readWeights_direct st wd.dropLast bs tail (by have := c.two; omega) (by omega) hb2 (hb3 tail)

theorem codeBits_ok {t : EncTable} {wd : List Nat} {m : Nat} (c : CanonTable t wd m) :
    ∀ (data : List Nat), (∀ s ∈ data, ∃ h : s < wd.length, wd[s] > 0) → ∃ bits, codeBits t data = .ok bits
  | [], _ => ⟨[], rfl⟩
  | s :: rest, h => by
    obtain ⟨hs, h0⟩ := h s List.mem_cons_self
    obtain ⟨bits, hb⟩ := codeBits_ok c rest (fun x hx => h x (List.mem_cons_of_mem _ hx))
    obtain ⟨cd, q1, q2⟩ := c.codesOk.used s hs h0
    have hwm : wd[s] ≤ m := c.le _ (List.getElem_mem _)
    refine ⟨bitsBE (m + 1 - wd[s]) cd ++ bits, ?_⟩
    simp only [codeBits, q1, hb]
    rw [if_neg (by omega), if_neg (by omega)]

theorem encodeStream_ok {t : EncTable} {wd : List Nat} {m : Nat} (c : CanonTable t wd m)
    (data : List Nat) (h : ∀ s ∈ data, ∃ h : s < wd.length, wd[s] > 0) : ∃ bytes, encodeStream t data = .ok bytes := by
  obtain ⟨bits, hb⟩ := codeBits_ok c data h
  exact ⟨_, by unfold encodeStream; rw [hb]⟩

theorem encodeStream_length_pos {t : EncTable} {data bytes : List Nat} (h : encodeStream t data = .ok bytes) :
    1 ≤ bytes.length := by
  obtain ⟨S, _, rfl⟩ := encodeStream_eq_ok h
  have h8 := packRev_length _ (finishStream_length_mod8 S)
  have := finishStream_length_bounds S
  omega

def litSection (ty : LitType) (regen csize streams : Nat) : LitSection :=
  { lsType := ty, regeneratedSize := regen, compressedSize := some csize, numStreams := some streams }

/-- What `decompress_literals` does once the table `t` is in place (just built from the description,
or kept from an earlier block): decode the streams in `source` onto `target` and compare the count.
`bytesRead` is the size of the description. -/
def decodeStreams (t : DecTable) (regen nstreams bytesRead : Nat) (source target : List Nat) :
    DecTable × DRes LitErr (List Nat × Nat) :=
  litFinish regen t (litStreams t nstreams bytesRead source target)

theorem decodeLiterals_compressed {st st' : DecTable} {sec : List Nat} {used : Nat}
    (hb : buildDecoder st sec = (st', .ok used)) (regen n : Nat) (tail target : List Nat) :
    decodeLiterals (litSection .compressed regen sec.length n) st (sec ++ tail) target
      = decodeStreams st' regen n used (sec.drop used) target := by
  rw [decodeLiterals_huffman (Or.inl rfl), decompressLiterals_eq]
  simp only [litSection, litStep1]
  rw [if_neg (by simp), List.take_left' rfl, hb]
  rfl

theorem decodeLiterals_treeless {st : DecTable} (hmb : st.maxNumBits ≠ 0) (sec : List Nat) (regen n : Nat)
    (tail target : List Nat) :
    decodeLiterals (litSection .treeless regen sec.length n) st (sec ++ tail) target
      = decodeStreams st regen n 0 sec target := by
  rw [decodeLiterals_huffman (Or.inr rfl), decompressLiterals_eq]
  simp only [litSection, litStep1]
  rw [if_neg (by simp), List.take_left' rfl, if_neg hmb]
  rfl

theorem streamsFold_encoded {α : Type} {st : DecTable} {t : EncTable} {m : Nat} (dc : DecodesCode st t m)
    (check : Bool) (k : List Nat → DRes LitErr α) :
    ∀ (ps : List (List Nat × List Nat)), (∀ p ∈ ps, encodeStream t p.1 = .ok p.2) → ∀ o,
      streamsFold st check k (ps.map (·.2)) o = k ((ps.map (·.1)).flatten.reverse ++ o)
  | [], _, o => rfl
  | (d, s) :: ps, h, o => by
    rw [List.map_cons, streamsFold, decodeOneStream_encodeStream st t m dc d s (h _ List.mem_cons_self) check o]
    simp only
    rw [streamsFold_encoded dc check k ps (fun p hp => h p (List.mem_cons_of_mem _ hp)), List.map_cons,
      List.flatten_cons, List.reverse_append, List.append_assoc]

theorem decodeStreams_one {st : DecTable} {t : EncTable} {m : Nat} (dc : DecodesCode st t m)
    {data stream : List Nat} (henc : encodeStream t data = .ok stream) (k : Nat) (target : List Nat) :
    decodeStreams st (target.length + data.length) 1 k stream target
      = (st, .ok (target ++ data, k + stream.length)) := by
  unfold decodeStreams litStreams
  rw [if_neg (by omega), if_neg (by simp)]
  rw [show streamsFold st false _ [stream] _ = _ from
    streamsFold_encoded dc false _ [(data, stream)] (by simpa using henc) _]
  simp only [litFinish, List.map_cons, List.map_nil, List.flatten_cons, List.flatten_nil, List.append_nil,
    List.reverse_append, List.reverse_reverse, List.length_append]
  rw [if_neg (by simp)]

theorem leBytes2 (n : Nat) : leBytes 2 n = [n % 256, n / 256 % 256] := rfl

def body4 (s1 s2 s3 s4 : List Nat) : List Nat :=
  leBytes 2 s1.length ++ leBytes 2 s2.length ++ leBytes 2 s3.length ++ s1 ++ s2 ++ s3 ++ s4

theorem body4_length (s1 s2 s3 s4 : List Nat) :
    (body4 s1 s2 s3 s4).length = 6 + s1.length + s2.length + s3.length + s4.length := by
  simp [body4, leBytes_length]; omega

theorem jump_split (s1 s2 s3 s4 : List Nat) (l1 : s1.length < 65536) (l2 : s2.length < 65536) (l3 : s3.length < 65536) :
    ∃ b0 b1 b2 b3 b4 b5, body4 s1 s2 s3 s4 = b0 :: b1 :: b2 :: b3 :: b4 :: b5 :: (s1 ++ s2 ++ s3 ++ s4) ∧
      b0 + b1 * 256 = s1.length ∧ b2 + b3 * 256 = s2.length ∧ b4 + b5 * 256 = s3.length := by
  refine ⟨s1.length % 256, s1.length / 256 % 256, s2.length % 256, s2.length / 256 % 256,
    s3.length % 256, s3.length / 256 % 256, ?_, by omega, by omega, by omega⟩
  simp [body4, leBytes2, List.append_assoc]

theorem streams_split (s1 s2 s3 s4 : List Nat) :
    (s1 ++ s2 ++ s3 ++ s4).take s1.length = s1 ∧
      ((s1 ++ s2 ++ s3 ++ s4).drop s1.length).take s2.length = s2 ∧
      ((s1 ++ s2 ++ s3 ++ s4).drop (s1.length + s2.length)).take s3.length = s3 ∧
      (s1 ++ s2 ++ s3 ++ s4).drop (s1.length + s2.length + s3.length) = s4 := by
  have e2 : s1.length + s2.length = (s1 ++ s2).length := (List.length_append ..).symm
  have e3 : s1.length + s2.length + s3.length = (s1 ++ s2 ++ s3).length := by simp only [List.length_append]
  refine ⟨?_, ?_, ?_, ?_⟩
  · rw [List.append_assoc, List.append_assoc]; exact List.take_left' rfl
  · rw [List.append_assoc, List.append_assoc, List.drop_left' rfl]; exact List.take_left' rfl
  · rw [e2, List.append_assoc (s1 ++ s2), List.drop_left' rfl]; exact List.take_left' rfl
  · rw [e3]; exact List.drop_left' rfl

/-- four streams are decoded with `check`: `bits_remaining == -max_num_bits` is tested after each -/
theorem decodeStreams_four {st : DecTable} {t : EncTable} {m : Nat} (dc : DecodesCode st t m)
    {d1 d2 d3 d4 s1 s2 s3 s4 : List Nat}
    (h1 : encodeStream t d1 = .ok s1) (h2 : encodeStream t d2 = .ok s2)
    (h3 : encodeStream t d3 = .ok s3) (h4 : encodeStream t d4 = .ok s4)
    (l1 : s1.length < 65536) (l2 : s2.length < 65536) (l3 : s3.length < 65536) (k : Nat) (target : List Nat) :
    decodeStreams st (target.length + (d1 ++ d2 ++ d3 ++ d4).length) 4 k (body4 s1 s2 s3 s4) target
      = (st, .ok (target ++ (d1 ++ d2 ++ d3 ++ d4), k + (body4 s1 s2 s3 s4).length)) := by
  obtain ⟨b0, b1, b2, b3, b4, b5, hb, j1, j2, j3⟩ := jump_split s1 s2 s3 s4 l1 l2 l3
  obtain ⟨e1, e2, e3, e4⟩ := streams_split s1 s2 s3 s4
  unfold decodeStreams
  rw [body4_length, hb, litStreams_four st k _ target j1 j2 j3 (by simp only [List.length_append]; omega)]
  rw [e1, e2, e3, e4]
  rw [show streamsFold st true _ [s1, s2, s3, s4] _ = _ from
    streamsFold_encoded dc true _ [(d1, s1), (d2, s2), (d3, s3), (d4, s4)] (by simp [h1, h2, h3, h4]) _]
  simp only [litFinish, List.map_cons, List.map_nil, List.flatten_cons, List.flatten_nil, List.append_nil,
    List.reverse_append, List.reverse_reverse]
  -- the count check passes: the four pieces in a row are the data
  rw [if_neg (by simp [List.append_assoc])]
  simp [List.append_assoc]
  omega

theorem codeBits_length_le {t : EncTable} {wd : List Nat} {m : Nat} (c : CanonTable t wd m) :
    ∀ {data : List Nat} {bits : List Bool}, codeBits t data = .ok bits → bits.length ≤ m * data.length
  | [], _, h => by simp only [codeBits, Except.ok.injEq] at h; subst h; simp
  | s :: rest, bits, h => by
    obtain ⟨cd, nb, bits', hcode, hnb, _, hr, rfl⟩ := codeBits_cons h
    have := codeBits_length_le c hr
    obtain ⟨hs, q⟩ := c.code s (cd, nb) hcode
    simp only at q
    have hnbm : nb ≤ m := by rw [q]; split <;> omega
    rw [List.length_append, bitsBE_length, List.length_cons, Nat.mul_succ]; omega

theorem encodeStream_length_le {t : EncTable} {wd : List Nat} {m : Nat} (c : CanonTable t wd m)
    {data bytes : List Nat} (h : encodeStream t data = .ok bytes) : 8 * bytes.length ≤ 11 * data.length + 8 := by
  obtain ⟨S, hcb, rfl⟩ := encodeStream_eq_ok h
  rw [packRev_length _ (finishStream_length_mod8 S)]
  have h1 := codeBits_length_le c hcb
  have h2 : m * data.length ≤ 11 * data.length := Nat.mul_le_mul_right _ c.m11
  have := finishStream_length_bounds S
  omega

/-- a quarter of at most 128 KiB of literals is encoded into fewer than 64 KiB, so its size fits the jump table -/
theorem encodeStream_lt_64k {t : EncTable} {wd : List Nat} {m : Nat} (c : CanonTable t wd m)
    {data bytes : List Nat} (h : encodeStream t data = .ok bytes) (hd : data.length ≤ 32768) : bytes.length < 65536 := by
  have := encodeStream_length_le c h
  omega

/-- the symbols the encoder accepts: those with a code -/
def Encodable (wd : List Nat) (data : List Nat) : Prop := ∀ s ∈ data, ∃ h : s < wd.length, wd[s] > 0

theorem Encodable.take {wd data : List Nat} (h : Encodable wd data) (n : Nat) : Encodable wd (data.take n) :=
  fun s hs => h s (List.mem_of_mem_take hs)
theorem Encodable.drop {wd data : List Nat} (h : Encodable wd data) (n : Nat) : Encodable wd (data.drop n) :=
  fun s hs => h s (List.mem_of_mem_drop hs)

/-- given the first, the second conjunct fails for 5 literals only (`&data[split*2..split*3]` with `split = 2`); `65535` is `u16::MAX`,
which `encode4x` asserts of the first three sizes -/
theorem encode4x_ok_iff (fseEnc : List Nat → Except Fault (List Nat)) (t : EncTable) (data : List Nat) (withTable : Bool)
    (enc : List Nat) :
    encode4x fseEnc t data withTable = .ok enc ↔
      4 ≤ data.length ∧ (data.length + 3) / 4 * 3 ≤ data.length ∧
      ∃ desc s1 s2 s3 s4, (if withTable then writeTable fseEnc t else .ok []) = .ok desc ∧
        encodeStream t (data.take ((data.length + 3) / 4)) = .ok s1 ∧
        encodeStream t ((data.drop ((data.length + 3) / 4)).take ((data.length + 3) / 4)) = .ok s2 ∧
        encodeStream t ((data.drop ((data.length + 3) / 4 * 2)).take ((data.length + 3) / 4)) = .ok s3 ∧
        encodeStream t (data.drop ((data.length + 3) / 4 * 3)) = .ok s4 ∧
        s1.length ≤ 65535 ∧ s2.length ≤ 65535 ∧ s3.length ≤ 65535 ∧ enc = desc ++ body4 s1 s2 s3 s4 := by
  have hsplit : (data.length + Gen.hufSplitDiv - 1) / Gen.hufSplitDiv = (data.length + 3) / 4 := by
    simp only [Gen.hufSplitDiv]; omega
  have hok : Gen.hufEnc4LenOk data.length Gen.hufEnc4MinLen = decide (4 ≤ data.length) := rfl
  unfold encode4x
  simp only [hok, hsplit]
  constructor
  · intro h
    by_cases h4 : 4 ≤ data.length
    · simp only [decide_eq_true h4, Bool.not_true, Bool.false_eq_true, if_false] at h
      by_cases h3 : (data.length + 3) / 4 * 3 > data.length
      · rw [if_pos h3] at h; cases h
      · rw [if_neg h3] at h
        refine ⟨h4, by omega, ?_⟩
        split at h
        · cases h
        · rename_i desc hdesc
          split at h
          · rename_i s1 s2 s3 s4 e1 e2 e3 e4
            by_cases hl : s1.length > 65535 ∨ s2.length > 65535 ∨ s3.length > 65535
            · rw [if_pos hl] at h; cases h
            · rw [if_neg hl] at h
              refine ⟨desc, s1, s2, s3, s4, hdesc, e1, e2, e3, e4, by omega, by omega, by omega, ?_⟩
              rw [← Except.ok.inj h]
              simp [body4, List.append_assoc]
          all_goals cases h
    · simp only [decide_eq_false h4, Bool.not_false, if_true] at h
      cases h
  · rintro ⟨h4, h3, desc, s1, s2, s3, s4, hdesc, e1, e2, e3, e4, l1, l2, l3, rfl⟩
    simp only [decide_eq_true h4, Bool.not_true, Bool.false_eq_true, if_false]
    rw [if_neg (by omega), hdesc]
    simp only [e1, e2, e3, e4]
    rw [if_neg (by omega)]
    simp [body4, List.append_assoc]

theorem split4 (data : List Nat) :
    data.take ((data.length + 3) / 4) ++ (data.drop ((data.length + 3) / 4)).take ((data.length + 3) / 4)
      ++ (data.drop ((data.length + 3) / 4 * 2)).take ((data.length + 3) / 4)
      ++ data.drop ((data.length + 3) / 4 * 3) = data := by
  have e2 : (data.length + 3) / 4 * 2 = (data.length + 3) / 4 + (data.length + 3) / 4 := by omega
  have e3 : (data.length + 3) / 4 * 3 = (data.length + 3) / 4 + ((data.length + 3) / 4 + (data.length + 3) / 4) := by omega
  rw [e2, e3, ← List.drop_drop, ← List.drop_drop, ← List.drop_drop]
  rw [List.append_assoc, List.append_assoc, List.take_append_drop, List.take_append_drop, List.take_append_drop]

theorem body4_bytes {t : EncTable} {d1 d2 d3 d4 s1 s2 s3 s4 : List Nat}
    (h1 : encodeStream t d1 = .ok s1) (h2 : encodeStream t d2 = .ok s2)
    (h3 : encodeStream t d3 = .ok s3) (h4 : encodeStream t d4 = .ok s4) : ∀ b ∈ body4 s1 s2 s3 s4, b < 256 := by
  intro b hb
  simp only [body4, List.mem_append] at hb
  rcases hb with (((((hb | hb) | hb) | hb) | hb) | hb) | hb
  · exact leBytes_lt _ _ b hb
  · exact leBytes_lt _ _ b hb
  · exact leBytes_lt _ _ b hb
  · exact encodeStream_bytes h1 b hb
  · exact encodeStream_bytes h2 b hb
  · exact encodeStream_bytes h3 b hb
  · exact encodeStream_bytes h4 b hb

theorem encode4x_streams (fseEnc : List Nat → Except Fault (List Nat)) {t : EncTable} {wd : List Nat} {m : Nat}
    (c : CanonTable t wd m) (data : List Nat) (hdata : Encodable wd data)
    (hlen : 4 ≤ data.length) (h5 : data.length ≠ 5) (hmax : data.length ≤ 131072) :
    ∃ d1 d2 d3 d4 s1 s2 s3 s4, d1 ++ d2 ++ d3 ++ d4 = data ∧
      encodeStream t d1 = .ok s1 ∧ encodeStream t d2 = .ok s2 ∧ encodeStream t d3 = .ok s3 ∧
      encodeStream t d4 = .ok s4 ∧ s1.length < 65536 ∧ s2.length < 65536 ∧ s3.length < 65536 ∧
      ∀ (withTable : Bool) (desc : List Nat), (if withTable then writeTable fseEnc t else .ok []) = .ok desc →
        encode4x fseEnc t data withTable = .ok (desc ++ body4 s1 s2 s3 s4) := by
  obtain ⟨s1, h1⟩ := encodeStream_ok c _ (hdata.take ((data.length + 3) / 4))
  obtain ⟨s2, h2⟩ := encodeStream_ok c _ ((hdata.drop ((data.length + 3) / 4)).take ((data.length + 3) / 4))
  obtain ⟨s3, h3⟩ := encodeStream_ok c _ ((hdata.drop ((data.length + 3) / 4 * 2)).take ((data.length + 3) / 4))
  obtain ⟨s4, h4⟩ := encodeStream_ok c _ (hdata.drop ((data.length + 3) / 4 * 3))
  have hq : (data.length + 3) / 4 ≤ 32768 := by omega
  have b1 := encodeStream_lt_64k c h1 (Nat.le_trans (List.length_take_le _ _) hq)
  have b2 := encodeStream_lt_64k c h2 (Nat.le_trans (List.length_take_le _ _) hq)
  have b3 := encodeStream_lt_64k c h3 (Nat.le_trans (List.length_take_le _ _) hq)
  exact ⟨_, _, _, _, s1, s2, s3, s4, split4 data, h1, h2, h3, h4, b1, b2, b3,
    fun withTable desc hdesc => (encode4x_ok_iff fseEnc t data withTable _).mpr
      ⟨hlen, by omega, desc, s1, s2, s3, s4, hdesc, h1, h2, h3, h4, by omega, by omega, by omega, rfl⟩⟩

end Zstd.Proofs.Huf
