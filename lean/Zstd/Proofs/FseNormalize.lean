import Zstd.Model.Fse

/-!
# `build_table_from_counts`: the histogram normaliser produces a valid distribution

Subject: `Zstd.Model.Fse.normalize`, the mirror of `fse_encoder.rs:246-311`
(`build_table_from_counts` up to the call of `build_table_from_probabilities` in line 312).  Line numbers in the
comments are those of the source; the fault-site strings of the model are two smaller.

Structure: `normalize = normTail ∘ preNorm` (`normalize_eq`, by `rfl`), where `normTail` is
`raiseOrDecrease` followed by `avoidStep`; each stage has an `_ok`/`_spec` lemma.  What every stage keeps
is `Keeps`; the sum is followed by `foldl_add_modifyAt`.

The hypothesis `counts.length ≤ 2 ^ maxLog` is necessary (see the 33-symbol `example` at the end);
`maxLog ≤ 30` is not needed because the model computes in `Nat`/`Int` (the Rust code computes in
`i32`/`usize`; the model does not mirror `count as i32` truncation for counts ≥ 2^31).
-/

namespace Zstd.Proofs.FseNormalize
open Zstd Zstd.Model.Fse

/-- the sum as the model computes it -/
def lsum (l : List Int) : Int := l.foldl (· + ·) 0

theorem foldl_add_init (l : List Int) (a : Int) : l.foldl (· + ·) a = a + lsum l := by
  induction l generalizing a with
  | nil => simp [lsum]
  | cons x xs ih =>
    have h0 : lsum (x :: xs) = List.foldl (· + ·) (0 + x) xs := rfl
    rw [List.foldl_cons, ih (a + x), h0, ih (0 + x)]; omega

theorem lsum_nil : lsum [] = 0 := rfl

theorem lsum_cons (x : Int) (xs : List Int) : lsum (x :: xs) = x + lsum xs := by
  show List.foldl (· + ·) 0 (x :: xs) = _
  rw [List.foldl_cons, foldl_add_init]; omega

theorem foldl_add_modifyAt (l : List Int) (i : Nat) (f : Int → Int) (h : i < l.length) :
    lsum (modifyAt l i f) = lsum l - l.getD i 0 + f (l.getD i 0) := by
  unfold modifyAt
  induction l generalizing i with
  | nil => simp at h
  | cons x xs ih =>
    cases i with
    | zero => simp only [List.modify_zero_cons, lsum_cons, List.getD_cons_zero]; omega
    | succ i =>
      simp only [List.modify_succ_cons, lsum_cons, List.getD_cons_succ]
      rw [ih i (by simpa using h)]; omega

theorem length_modifyAt (l : List Int) (i : Nat) (f : Int → Int) :
    (modifyAt l i f).length = l.length := by
  simp [modifyAt]

theorem getD_modifyAt (l : List Int) (i k : Nat) (f : Int → Int) :
    (modifyAt l i f).getD k 0 = if k = i ∧ i < l.length then f (l.getD i 0) else l.getD k 0 := by
  unfold modifyAt
  simp only [List.getD_eq_getElem?_getD, List.getElem?_modify]
  by_cases hk : k < l.length
  · simp only [List.getElem?_eq_getElem hk, Option.map_eq_map, Option.map_some, Option.getD_some]
    by_cases hik : i = k
    · subst hik; simp [hk]
    · have : ¬ (k = i ∧ i < l.length) := fun h => hik h.1.symm
      simp [hik, this]
  · have hn : l[k]? = none := List.getElem?_eq_none (by omega)
    have : ¬ (k = i ∧ i < l.length) := fun h => hk (h.1 ▸ h.2)
    simp [hn, this]

theorem getD_of_le (l : List Int) (k : Nat) (h : l.length ≤ k) : l.getD k 0 = 0 := by
  simp [List.getD_eq_getElem?_getD, List.getElem?_eq_none h]

theorem getD_mem (l : List Int) (k : Nat) (h : k < l.length) : l.getD k 0 ∈ l := by
  simp only [List.getD_eq_getElem?_getD, List.getElem?_eq_getElem h, Option.getD_some]
  exact List.getElem_mem h

theorem exists_getD_of_mem (l : List Int) (p : Int) (h : p ∈ l) :
    ∃ k, k < l.length ∧ l.getD k 0 = p := by
  obtain ⟨k, hk, rfl⟩ := List.mem_iff_getElem.mp h
  exact ⟨k, hk, by simp [List.getD_eq_getElem?_getD, List.getElem?_eq_getElem hk]⟩

/-- index form of non-negativity (holds beyond the end as well, the default being `0`) -/
def NonnegD (l : List Int) : Prop := ∀ k, 0 ≤ l.getD k 0

theorem nonnegD_of_mem (l : List Int) (h : ∀ p ∈ l, 0 ≤ p) : NonnegD l := by
  intro k
  by_cases hk : k < l.length
  · exact h _ (getD_mem l k hk)
  · rw [getD_of_le l k (by omega)]; omega

theorem mem_nonneg_of_nonnegD (l : List Int) (h : NonnegD l) : ∀ p ∈ l, 0 ≤ p := by
  intro p hp
  obtain ⟨k, _, rfl⟩ := exists_getD_of_mem l p hp
  exact h k

theorem nonnegD_tail {x : Int} {xs : List Int} (h : NonnegD (x :: xs)) : NonnegD xs := by
  intro k; simpa using h (k + 1)

theorem lsum_nonneg (l : List Int) (h : NonnegD l) : 0 ≤ lsum l := by
  induction l with
  | nil => simp [lsum]
  | cons x xs ih =>
    rw [lsum_cons]
    have h0 : 0 ≤ x := by simpa using h 0
    have := ih (nonnegD_tail h); omega

theorem getD_le_lsum (l : List Int) (h : NonnegD l) (k : Nat) : l.getD k 0 ≤ lsum l := by
  induction l generalizing k with
  | nil => simp [lsum]
  | cons x xs ih =>
    rw [lsum_cons]
    have h0 : 0 ≤ x := by simpa using h 0
    have hs := lsum_nonneg xs (nonnegD_tail h)
    cases k with
    | zero => simp only [List.getD_cons_zero]; omega
    | succ k =>
      simp only [List.getD_cons_succ]
      have := ih (nonnegD_tail h) k; omega

theorem getD_add_getD_le_lsum (l : List Int) (h : NonnegD l) (i j : Nat) (hij : i ≠ j)
    (hi : i < l.length) : l.getD i 0 + l.getD j 0 ≤ lsum l := by
  have hs := foldl_add_modifyAt l i (fun _ => 0) hi
  have hnn : NonnegD (modifyAt l i (fun _ => 0)) := by
    intro k
    rw [getD_modifyAt]
    split
    · omega
    · exact h k
  have := getD_le_lsum _ hnn j
  rw [getD_modifyAt, if_neg (fun h => hij h.1.symm)] at this
  omega

theorem lsum_le_length (l : List Int) (h : ∀ k, l.getD k 0 ≤ 1) : lsum l ≤ l.length := by
  induction l with
  | nil => simp [lsum]
  | cons x xs ih =>
    rw [lsum_cons]
    have h0 : x ≤ 1 := by simpa using h 0
    have := ih (fun k => by simpa using h (k + 1))
    simp only [List.length_cons]; omega

/-- what every stage of the normaliser keeps (an entry `≥ 1` is an occurring symbol).  All stages change one entry
at a time, so `Keeps.modify` is the only way in. -/
structure Keeps (P Q : List Int) : Prop where
  len : Q.length = P.length
  nonneg : NonnegD Q
  pos : ∀ k, P.getD k 0 ≥ 1 → Q.getD k 0 ≥ 1

theorem Keeps.refl {P : List Int} (h : NonnegD P) : Keeps P P := ⟨rfl, h, fun _ h => h⟩

theorem Keeps.trans {P Q R : List Int} (h1 : Keeps P Q) (h2 : Keeps Q R) : Keeps P R :=
  ⟨h2.len.trans h1.len, h2.nonneg, fun k h => h2.pos k (h1.pos k h)⟩

theorem Keeps.modify {P : List Int} (hnn : NonnegD P) (i : Nat) (f : Int → Int)
    (h0 : 0 ≤ f (P.getD i 0)) (h1 : P.getD i 0 ≥ 1 → f (P.getD i 0) ≥ 1) : Keeps P (modifyAt P i f) := by
  refine ⟨length_modifyAt _ _ _, fun k => ?_, fun k hk => ?_⟩
  · rw [getD_modifyAt]
    split
    · exact h0
    · exact hnn k
  · rw [getD_modifyAt]
    split
    · rename_i h
      rw [h.1] at hk
      exact h1 hk
    · exact hk

theorem lastMaxIdx_spec (l : List Int) (hne : l ≠ []) :
    ∃ i, lastMaxIdx l = some i ∧ i < l.length ∧ ∀ k, k < l.length → l.getD k 0 ≤ l.getD i 0 := by
  induction l with
  | nil => exact absurd rfl hne
  | cons x xs ih =>
    by_cases hxs : xs = []
    · subst hxs
      refine ⟨0, by simp [lastMaxIdx], by simp, ?_⟩
      intro k hk
      have : k = 0 := by simpa using hk
      subst this; simp
    · obtain ⟨j, hj, hjlt, hmax⟩ := ih hxs
      have hgd : xs.getD j x = xs.getD j 0 := by
        simp [List.getD_eq_getElem?_getD, List.getElem?_eq_getElem hjlt]
      by_cases hge : xs.getD j x ≥ x
      · refine ⟨j + 1, by simp only [lastMaxIdx, hj]; rw [if_pos hge], by simpa using hjlt, ?_⟩
        intro k hk
        cases k with
        | zero => simp only [List.getD_cons_zero, List.getD_cons_succ]; omega
        | succ k =>
          simp only [List.getD_cons_succ]
          exact hmax k (by simpa using hk)
      · refine ⟨0, by simp only [lastMaxIdx, hj]; rw [if_neg hge], by simp, ?_⟩
        intro k hk
        cases k with
        | zero => simp
        | succ k =>
          simp only [List.getD_cons_zero, List.getD_cons_succ]
          have := hmax k (by simpa using hk)
          omega

theorem lastMaxIdx_some (l : List Int) (hne : l ≠ []) :
    ∃ i, lastMaxIdx l = some i ∧ i < l.length ∧ ∀ p ∈ l, p ≤ l.getD i 0 := by
  obtain ⟨i, hi, hilt, hmax⟩ := lastMaxIdx_spec l hne
  refine ⟨i, hi, hilt, ?_⟩
  intro p hp
  obtain ⟨k, hk, rfl⟩ := exists_getD_of_mem l p hp
  exact hmax k hk

theorem firstMinGt1Idx_some (l : List Int) (i : Nat) (h : firstMinGt1Idx l = some i) :
    i < l.length ∧ l.getD i 0 > 1 := by
  induction l generalizing i with
  | nil => simp [firstMinGt1Idx] at h
  | cons x xs ih =>
    simp only [firstMinGt1Idx] at h
    split at h
    · split at h
      · cases h; simp only [List.length_cons, List.getD_cons_zero]; omega
      · cases h
    · rename_i j hj
      have := ih j hj
      split at h
      · cases h; simp only [List.length_cons, List.getD_cons_zero]; omega
      · cases h; simp only [List.length_cons, List.getD_cons_succ]; omega

theorem firstMinGt1Idx_none (l : List Int) (h : firstMinGt1Idx l = none) :
    ∀ k, l.getD k 0 ≤ 1 := by
  induction l with
  | nil => intro k; simp
  | cons x xs ih =>
    simp only [firstMinGt1Idx] at h
    split at h
    · rename_i hn
      split at h
      · cases h
      · intro k
        cases k with
        | zero => simp only [List.getD_cons_zero]; omega
        | succ k => simp only [List.getD_cons_succ]; exact ih hn k
    · split at h <;> cases h

theorem firstMinGt1Idx_isSome_iff (l : List Int) :
    (∃ i, firstMinGt1Idx l = some i) ↔ ∃ p ∈ l, p > 1 := by
  constructor
  · rintro ⟨i, hi⟩
    have := firstMinGt1Idx_some l i hi
    exact ⟨_, getD_mem l i this.1, this.2⟩
  · rintro ⟨p, hp, hgt⟩
    cases h : firstMinGt1Idx l with
    | some i => exact ⟨i, rfl⟩
    | none =>
      obtain ⟨k, _, rfl⟩ := exists_getD_of_mem l p hp
      have := firstMinGt1Idx_none l h k
      omega

/-! ## number of entries `> 1`: the termination measure of the decrease loop -/

def cntGt1 : List Int → Nat
  | [] => 0
  | x :: xs => (if x > 1 then 1 else 0) + cntGt1 xs

theorem cntGt1_le_length (l : List Int) : cntGt1 l ≤ l.length := by
  induction l with
  | nil => simp [cntGt1]
  | cons x xs ih => simp only [cntGt1, List.length_cons]; split <;> omega

theorem cntGt1_modifyAt_drop (l : List Int) (i : Nat) (f : Int → Int) (hi : i < l.length)
    (hgt : l.getD i 0 > 1) (hle : f (l.getD i 0) ≤ 1) :
    cntGt1 (modifyAt l i f) + 1 = cntGt1 l := by
  unfold modifyAt
  induction l generalizing i with
  | nil => simp at hi
  | cons x xs ih =>
    cases i with
    | zero =>
      simp only [List.getD_cons_zero] at hgt hle
      simp only [List.modify_zero_cons, cntGt1]
      have h1 : ¬ (f x > 1) := by omega
      simp only [h1, hgt, if_true, if_false]; omega
    | succ i =>
      simp only [List.getD_cons_succ] at hgt hle
      simp only [List.modify_succ_cons, cntGt1]
      have := ih i (by simpa using hi) hgt hle
      omega

theorem cntGt1_pos (l : List Int) (i : Nat) (hi : i < l.length) (hgt : l.getD i 0 > 1) :
    1 ≤ cntGt1 l := by
  have := cntGt1_modifyAt_drop l i (fun _ => 0) hi hgt (by omega)
  omega

/-- As long as the target sum `T` is at least the number of symbols the loop finds an entry `> 1`
whenever `diff > 0`; every iteration either finishes or turns one more entry into exactly 1, so
`cntGt1 probs + 1` units of fuel suffice. -/
theorem decreaseLoop_ok (fuel : Nat) (probs : List Int) (diff : Nat) (T : Int)
    (hnn : NonnegD probs) (hT : (probs.length : Int) ≤ T)
    (hsum : lsum probs = T + diff)
    (hfuel0 : 1 ≤ fuel) (hfuel : diff > 0 → cntGt1 probs + 1 ≤ fuel) :
    ∃ out, decreaseLoop fuel probs diff = .ok out ∧ lsum out = T ∧ Keeps probs out := by
  induction fuel generalizing probs diff with
  | zero => omega
  | succ fuel ih =>
    unfold decreaseLoop
    by_cases hd : diff = 0
    · subst hd
      exact ⟨probs, by simp, by simpa using hsum, .refl hnn⟩
    · rw [if_neg hd]
      cases hf : firstMinGt1Idx probs with
      | none =>
        exfalso
        have := lsum_le_length probs (firstMinGt1Idx_none probs hf)
        omega
      | some i =>
        obtain ⟨hi, hgt⟩ := firstMinGt1Idx_some probs i hf
        show ∃ out, decreaseLoop fuel (modifyAt probs i (· - ((min ((probs.getD i 0).toNat - 1) diff : Nat) : Int)))
            (diff - min ((probs.getD i 0).toNat - 1) diff) = .ok out ∧ _
        have hcnt := cntGt1_pos probs i hi hgt
        have hfu := hfuel (by omega)
        generalize hdec : min ((probs.getD i 0).toNat - 1) diff = decrease
        -- the entry stays `≥ 1`: at most `entry - 1` is taken off
        have hk : Keeps probs (modifyAt probs i (· - (decrease : Int))) :=
          .modify hnn i _ (by show 0 ≤ _ - _; omega) (fun _ => by show _ - _ ≥ _; omega)
        obtain ⟨out, ho, hosum, hok⟩ :=
          ih (modifyAt probs i (· - (decrease : Int))) (diff - decrease) hk.nonneg (by rw [hk.len]; exact hT)
            (by rw [foldl_add_modifyAt probs i _ hi]; omega) (by omega)
            (fun _ => by
              have := cntGt1_modifyAt_drop probs i (· - (decrease : Int)) hi hgt (by show _ - _ ≤ _; omega)
              omega)
        exact ⟨out, ho, hosum, hk.trans hok⟩

theorem foldl_optMax_some (f : Option Int → Int → Option Int)
    (hf1 : ∀ q p, f (some q) p = some (max q p)) (l : List Int) (q : Int) :
    ∃ s, l.foldl f (some q) = some s ∧ (s = q ∨ s ∈ l) := by
  induction l generalizing q with
  | nil => exact ⟨q, rfl, Or.inl rfl⟩
  | cons x xs ih =>
    simp only [List.foldl_cons, hf1]
    obtain ⟨s, hs, hmem⟩ := ih (max q x)
    refine ⟨s, hs, ?_⟩
    rcases hmem with h | h
    · rcases Int.le_total q x with hqx | hqx
      · right; rw [h, Int.max_eq_right hqx]; exact List.mem_cons_self
      · left; rw [h, Int.max_eq_left hqx]
    · right; exact List.mem_cons_of_mem _ h

/-- the two searches of lines 306-307 -/
theorem secondMax_found (l : List Int) (H : Int) {x : Int} (hx : x ∈ l) (hxH : x ≠ H) :
    ∃ second j, (l.filter (· ≠ H)).foldl
        (fun (m : Option Int) p => match m with | none => some p | some q => some (max q p)) none = some second ∧
      l.findIdx? (· = second) = some j ∧ j < l.length ∧ l.getD j 0 ≠ H := by
  have hxf : x ∈ l.filter (· ≠ H) := List.mem_filter.2 ⟨hx, by simpa using hxH⟩
  obtain ⟨y, ys, hys⟩ := List.exists_cons_of_ne_nil (List.ne_nil_of_mem hxf)
  obtain ⟨second, hsec, hmem⟩ := foldl_optMax_some
    (fun (m : Option Int) p => match m with | none => some p | some q => some (max q p)) (fun _ _ => rfl) ys y
  have hsf : second ∈ l.filter (· ≠ H) := by
    rw [hys]
    rcases hmem with h | h
    · rw [h]; exact List.mem_cons_self
    · exact List.mem_cons_of_mem _ h
  obtain ⟨hsl, hsne⟩ := List.mem_filter.1 hsf
  simp only [decide_eq_true_eq] at hsne
  cases hfind : l.findIdx? (· = second) with
  | none =>
    have := List.findIdx?_eq_none_iff.mp hfind second hsl
    simp at this
  | some j =>
    obtain ⟨hjlt, hjeq, _⟩ := List.findIdx?_eq_some_iff_getElem.mp hfind
    simp only [decide_eq_true_eq] at hjeq
    refine ⟨second, j, by rw [hys]; exact hsec, hfind, hjlt, ?_⟩
    rw [List.getD_eq_getElem?_getD, List.getElem?_eq_getElem hjlt, Option.getD_some, hjeq]
    exact hsne

/-- verbatim copy of the tail of `normalize` (lines 299-310, zero-bit avoidance; `normalize_eq` is by `rfl`) -/
def avoidStep (probs : List Int) (al : Nat) (avoid0 : Bool) : Except Fault (List Int × Nat) :=
  match lastMaxIdx probs with
  | none => .error (.unwrap "fse_encoder.rs:297:build_table_from_counts")
  | some i =>
    let mx := probs.getD i 0
    if avoid0 ∧ al = 0 then .error (.overflow "fse_encoder.rs:298:build_table_from_counts")
    else if avoid0 ∧ mx > ((1 <<< (al - 1) : Nat) : Int) then
      let half : Int := ((1 <<< (al - 1) : Nat) : Int)
      let redistribute := mx - half
      let probs := modifyAt probs i (fun _ => half)
      match (probs.filter (· ≠ half)).foldl (fun (m : Option Int) p => match m with | none => some p | some q => some (max q p)) none with
      | none => .error (.unwrap "fse_encoder.rs:304:build_table_from_counts")
      | some second =>
        match probs.findIdx? (· = second) with
        | none => .error (.unwrap "fse_encoder.rs:305:build_table_from_counts")
        | some j =>
          let probs := modifyAt probs j (· + redistribute)
          if probs.getD j 0 > half then .error (.assert "fse_encoder.rs:307:build_table_from_counts")
          else .ok (probs, al)
    else .ok (probs, al)

theorem avoidStep_ok (P : List Int) (al : Nat) (avoid0 : Bool) (hal : 1 ≤ al)
    (hlen1 : 1 ≤ P.length) (hlen2 : avoid0 = true → 2 ≤ P.length)
    (hnn : NonnegD P) (hsum : lsum P = ((2 ^ al : Nat) : Int)) :
    ∃ Q, avoidStep P al avoid0 = .ok (Q, al) ∧ lsum Q = ((2 ^ al : Nat) : Int) ∧ Keeps P Q ∧
      (avoid0 = true → ∀ k, Q.getD k 0 ≤ ((2 ^ (al - 1) : Nat) : Int)) := by
  obtain ⟨i, hi, hilt, hmax⟩ := lastMaxIdx_spec P (by intro h; simp [h] at hlen1)
  have hpow : (2 ^ al : Nat) = 2 * 2 ^ (al - 1) := by
    have : al = (al - 1) + 1 := by omega
    rw [this, Nat.pow_succ]; simp only [Nat.add_sub_cancel]; omega
  have hhpos : 0 < 2 ^ (al - 1) := Nat.two_pow_pos _
  unfold avoidStep
  rw [hi]
  simp only [Nat.one_shiftLeft]
  rw [hpow] at hsum
  generalize 2 ^ (al - 1) = H at *
  have hno : ¬ (avoid0 = true ∧ al = 0) := by omega
  rw [if_neg hno]
  rw [hpow]
  by_cases hc : avoid0 = true ∧ P.getD i 0 > (H : Int)
  · rw [if_pos hc]
    obtain ⟨ha, hgt⟩ := hc
    have hl2 := hlen2 ha
    -- every other entry is below `half`
    have hother : ∀ k, k ≠ i → P.getD k 0 < (H : Int) := by
      intro k hk
      have := getD_add_getD_le_lsum P hnn i k (Ne.symm hk) hilt
      omega
    have hk1 : Keeps P (modifyAt P i (fun _ => (H : Int))) := .modify hnn i _ (by omega) (fun _ => by omega)
    generalize hP1 : modifyAt P i (fun _ => (H : Int)) = P1 at hk1
    have hP1len : P1.length = P.length := hk1.len
    have hP1k : ∀ k, P1.getD k 0 = if k = i then (H : Int) else P.getD k 0 := by
      intro k; rw [← hP1, getD_modifyAt]; simp [hilt]
    -- some other entry exists, and it is not `half`
    obtain ⟨k, hki, hklt⟩ : ∃ k, k ≠ i ∧ k < P1.length := by
      by_cases h0 : i = 0
      · exact ⟨1, by omega, by omega⟩
      · exact ⟨0, by omega, by omega⟩
    obtain ⟨second, j, hsec, hfind, hjlt, hjne⟩ := secondMax_found P1 (H : Int) (getD_mem P1 k hklt)
      (by have := hother k hki; rw [hP1k k, if_neg hki]; omega)
    rw [hsec]
    simp only [hfind]
    have hji : j ≠ i := by
      intro h; subst h; rw [hP1k, if_pos rfl] at hjne; exact hjne rfl
    -- the result, entry by entry
    have hQ : ∀ k, (modifyAt P1 j (fun x => x + (P.getD i 0 - (H : Int)))).getD k 0 =
        if k = j then P.getD j 0 + (P.getD i 0 - (H : Int)) else if k = i then (H : Int) else P.getD k 0 := by
      intro k
      rw [getD_modifyAt, hP1k, hP1k, if_neg hji]
      simp [hjlt]
    have hPj := hother j hji
    have hij2 := getD_add_getD_le_lsum P hnn i j (Ne.symm hji) hilt
    rw [if_neg (by rw [hQ, if_pos rfl]; omega)]
    refine ⟨_, rfl, ?_, hk1.trans (.modify hk1.nonneg j _ ?_ fun _ => ?_), ?_⟩
    · rw [foldl_add_modifyAt _ _ _ hjlt, ← hP1, foldl_add_modifyAt _ _ _ hilt, hP1, hP1k, if_neg hji]
      omega
    · have := hk1.nonneg j
      omega
    · have := hk1.nonneg j
      omega
    · intro _ k
      rw [hQ]
      split
      · omega
      · split
        · omega
        · rename_i h; have := hother k h; omega
  · rw [if_neg hc]
    refine ⟨P, rfl, hsum, .refl hnn, ?_⟩
    intro ha k
    have hle : P.getD i 0 ≤ (H : Int) := by
      have : ¬ (P.getD i 0 > (H : Int)) := fun h => hc ⟨ha, h⟩
      omega
    by_cases hk : k < P.length
    · have := hmax k hk; omega
    · rw [getD_of_le P k (by omega)]; omega

/-- verbatim copy of `step1` in `normalize` (lines 277-298: raising / decreasing to the power of two) -/
def raiseOrDecrease (probs : List Int) (al sum : Nat) : Except Fault (List Int) :=
  if sum < 1 <<< al then
    match lastMaxIdx probs with
    | none => .error (.unwrap "fse_encoder.rs:285:build_table_from_counts")
    | some i => .ok (modifyAt probs i (· + ((1 <<< al) - sum : Nat)))
  else decreaseLoop (probs.length + 1) probs (sum - (1 <<< al))

theorem raiseOrDecrease_ok (P : List Int) (al S : Nat)
    (hlen1 : 1 ≤ P.length) (hlen' : 2 ^ al ≤ S → P.length ≤ 2 ^ al)
    (hnn : NonnegD P) (hS : (S : Int) = lsum P) :
    ∃ Q, raiseOrDecrease P al S = .ok Q ∧ lsum Q = ((2 ^ al : Nat) : Int) ∧ Keeps P Q := by
  unfold raiseOrDecrease
  simp only [Nat.one_shiftLeft]
  by_cases hlt : S < 2 ^ al
  · rw [if_pos hlt]
    obtain ⟨i, hi, hilt, _⟩ := lastMaxIdx_spec P (by intro h; simp [h] at hlen1)
    rw [hi]
    have := hnn i
    exact ⟨_, rfl, by rw [foldl_add_modifyAt _ _ _ hilt]; omega,
      .modify hnn i _ (by show 0 ≤ _ + _; omega) (fun _ => by show _ + _ ≥ _; omega)⟩
  · rw [if_neg hlt]
    exact decreaseLoop_ok (P.length + 1) P (S - 2 ^ al) ((2 ^ al : Nat) : Int) hnn
      (by have := hlen' (by omega); omega) (by omega) (by omega) (fun _ => by have := cntGt1_le_length P; omega)

/-- verbatim copy of `normalize` from the computation of `sum` onwards -/
def normTail (probs : List Int) (maxLog : Nat) (avoid0 : Bool) : Except Fault (List Int × Nat) :=
  let sumI : Int := probs.foldl (· + ·) 0
  if ¬ (sumI > 0) then .error (.assert "fse_encoder.rs:276:build_table_from_counts")
  else
    let sum := sumI.toNat
    let al := min (max (Nat.log2 sum + Gen.normLogAdd) Gen.normLogMin) maxLog
    match raiseOrDecrease probs al sum with
    | .error f => .error f
    | .ok probs => avoidStep probs al avoid0

theorem normTail_ok (P : List Int) (maxLog : Nat) (avoid0 : Bool)
    (hlog : Gen.normLogMin ≤ maxLog)
    (hlen1 : 1 ≤ P.length) (hlen2 : avoid0 = true → 2 ≤ P.length)
    (hlen' : P.length ≤ 2 ^ maxLog)
    (hnn : NonnegD P) (hpos : lsum P > 0) :
    ∃ Q al, normTail P maxLog avoid0 = .ok (Q, al) ∧ Gen.normLogMin ≤ al ∧ al ≤ maxLog ∧
      lsum Q = ((2 ^ al : Nat) : Int) ∧ Keeps P Q ∧
      (avoid0 = true → ∀ k, Q.getD k 0 ≤ ((2 ^ (al - 1) : Nat) : Int)) := by
  unfold normTail
  simp only []
  rw [show List.foldl (fun x1 x2 => x1 + x2) 0 P = lsum P from rfl]
  rw [if_neg (by omega)]
  simp only [Gen.normLogAdd, Gen.normLogMin] at hlog ⊢
  generalize hS : (lsum P).toNat = S
  have hSI : (S : Int) = lsum P := by omega
  have hS0 : S ≠ 0 := by omega
  have hal5 : 5 ≤ min (max (Nat.log2 S + 1) 5) maxLog := by omega
  have halm : min (max (Nat.log2 S + 1) 5) maxLog ≤ maxLog := by omega
  -- the decrease branch is taken only when `maxLog` caps the accuracy log: there `length ≤ 2^maxLog` is `length ≤ 2^al`
  have hbig : 2 ^ min (max (Nat.log2 S + 1) 5) maxLog ≤ S →
      min (max (Nat.log2 S + 1) 5) maxLog = maxLog := by
    intro hle
    apply Classical.byContradiction
    intro hne
    have h1 : Nat.log2 S + 1 ≤ min (max (Nat.log2 S + 1) 5) maxLog := by omega
    have h2 := Nat.pow_le_pow_right (n := 2) (by omega) h1
    have h3 := @Nat.lt_log2_self S
    omega
  obtain ⟨Q1, hQ1, hQ1sum, hk1⟩ :=
    raiseOrDecrease_ok P (min (max (Nat.log2 S + 1) 5) maxLog) S hlen1
      (by intro h; rw [hbig h]; exact hlen') hnn hSI
  rw [hQ1]
  simp only []
  have hQ1len := hk1.len
  obtain ⟨Q, hQ, hQsum, hk2, hQle⟩ :=
    avoidStep_ok Q1 (min (max (Nat.log2 S + 1) 5) maxLog) avoid0 (by omega)
      (by omega) (by intro h; have := hlen2 h; omega) hk1.nonneg hQ1sum
  exact ⟨Q, _, hQ, hal5, halm, hQsum, hk1.trans hk2, hQle⟩

/-- `min_count` of lines 249-255 (0 when no symbol occurs) -/
def minCount (counts : List Nat) : Nat :=
  counts.foldl (fun m c => if c > 0 ∧ (c < m ∨ m = 0) then c else m) 0

/-- verbatim copy of the first half of `normalize` (lines 247-274, shifting and scaling): `probs` at line 275 -/
def preNorm (counts : List Nat) : List Int :=
  let shift : Int := (minCount counts - 1 : Nat)
  let probs : List Int := counts.map fun (c : Nat) => if c > 0 then ((c : Nat) : Int) - shift else (0 : Int)
  let maxProb : Int := probs.foldl (fun m p => max m p) 0
  if maxProb > 0 ∧ maxProb.toNat > probs.length then
    let divisor := maxProb / (probs.length : Int)
    probs.map fun p => if p > 0 then max (p / divisor) 1 else p
  else probs

theorem normalize_eq (counts : List Nat) (maxLog : Nat) (avoid0 : Bool)
    (hlen : counts.length ≤ 256) (hmin : minCount counts ≠ 0) :
    normalize counts maxLog avoid0 = normTail (preNorm counts) maxLog avoid0 := by
  unfold normalize
  rw [if_neg (by omega)]
  show (if minCount counts = 0 then _ else _) = _
  rw [if_neg hmin]
  rfl

theorem minCount_foldl (l : List Nat) (m : Nat) :
    (m > 0 → 0 < l.foldl (fun m c => if c > 0 ∧ (c < m ∨ m = 0) then c else m) m ∧
        l.foldl (fun m c => if c > 0 ∧ (c < m ∨ m = 0) then c else m) m ≤ m) ∧
    ((∃ c ∈ l, c > 0) → 0 < l.foldl (fun m c => if c > 0 ∧ (c < m ∨ m = 0) then c else m) m) ∧
    (∀ c ∈ l, c > 0 → l.foldl (fun m c => if c > 0 ∧ (c < m ∨ m = 0) then c else m) m ≤ c) := by
  induction l generalizing m with
  | nil => simp
  | cons x xs ih =>
    simp only [List.foldl_cons]
    generalize hm' : (if x > 0 ∧ (x < m ∨ m = 0) then x else m) = m'
    obtain ⟨iha, ihb, ihc⟩ := ih m'
    have hm1 : m > 0 → m' > 0 ∧ m' ≤ m := by
      intro h; rw [← hm']; split <;> omega
    have hm2 : x > 0 → m' > 0 ∧ m' ≤ x := by
      intro h; rw [← hm']; split <;> omega
    refine ⟨?_, ?_, ?_⟩
    · intro h
      have := iha (hm1 h).1; have := hm1 h; omega
    · rintro ⟨c, hc, hpos⟩
      rcases List.mem_cons.mp hc with h | h
      · subst h; exact (iha (hm2 hpos).1).1
      · exact ihb ⟨c, h, hpos⟩
    · intro c hc hpos
      rcases List.mem_cons.mp hc with h | h
      · subst h; have := iha (hm2 hpos).1; have := hm2 hpos; omega
      · exact ihc c h hpos

theorem minCount_pos (counts : List Nat) (hpos : ∃ c ∈ counts, c > 0) : 0 < minCount counts :=
  (minCount_foldl counts 0).2.1 hpos

theorem minCount_le (counts : List Nat) (c : Nat) (hc : c ∈ counts) (hpos : c > 0) :
    minCount counts ≤ c :=
  (minCount_foldl counts 0).2.2 c hc hpos

theorem getD_map_zero {α : Type} (d : α) (l : List α) (f : α → Int) (hf : f d = 0) (k : Nat) :
    (l.map f).getD k 0 = f (l.getD k d) := by
  simp only [List.getD_eq_getElem?_getD, List.getElem?_map]
  cases l[k]? with
  | none => simp [hf]
  | some a => simp

theorem natGetD_mem (l : List Nat) (k : Nat) (h : l.getD k 0 > 0) : l.getD k 0 ∈ l := by
  by_cases hk : k < l.length
  · simp only [List.getD_eq_getElem?_getD, List.getElem?_eq_getElem hk, Option.getD_some]
    exact List.getElem_mem hk
  · exfalso
    simp [List.getD_eq_getElem?_getD, List.getElem?_eq_none (Nat.le_of_not_lt hk)] at h

theorem preNorm_spec (counts : List Nat) :
    (preNorm counts).length = counts.length ∧ NonnegD (preNorm counts) ∧
      ∀ k, counts.getD k 0 > 0 → (preNorm counts).getD k 0 ≥ 1 := by
  unfold preNorm
  simp only []
  generalize hf : (fun (c : Nat) => if c > 0 then ((c : Nat) : Int) - ((minCount counts - 1 : Nat) : Int) else (0 : Int)) = f
  have hf0 : f 0 = 0 := by rw [← hf]; simp
  have hfge : ∀ k, counts.getD k 0 > 0 → f (counts.getD k 0) ≥ 1 := by
    intro k hk
    have := minCount_le counts _ (natGetD_mem counts k hk) hk
    rw [← hf]; simp only [hk, if_true]; omega
  have hfnn : ∀ k, 0 ≤ f (counts.getD k 0) := by
    intro k
    by_cases hk : counts.getD k 0 > 0
    · have := hfge k hk; omega
    · have : counts.getD k 0 = 0 := by omega
      rw [this, hf0]; omega
  split
  · generalize hh : (fun (p : Int) => if p > 0 then
        max (p / (List.foldl (fun m p => max m p) 0 (List.map f counts) / ((List.map f counts).length : Int))) 1
        else p) = h
    have hh0 : h 0 = 0 := by rw [← hh]; simp
    have hhge : ∀ p : Int, p ≥ 1 → h p ≥ 1 := by
      intro p hp; rw [← hh]
      have : p > 0 := by omega
      simp only [this, if_true]; exact Int.le_max_right _ _
    refine ⟨by simp, ?_, ?_⟩
    · intro k
      rw [getD_map_zero 0 _ h hh0, getD_map_zero 0 _ f hf0]
      have := hfnn k
      by_cases h1 : f (counts.getD k 0) ≥ 1
      · have := hhge _ h1; omega
      · have : f (counts.getD k 0) = 0 := by omega
        rw [this, hh0]; omega
    · intro k hk
      rw [getD_map_zero 0 _ h hh0, getD_map_zero 0 _ f hf0]
      exact hhge _ (hfge k hk)
  · refine ⟨by simp, ?_, ?_⟩
    · intro k; rw [getD_map_zero 0 _ f hf0]; exact hfnn k
    · intro k hk; rw [getD_map_zero 0 _ f hf0]; exact hfge k hk

/-- what the compressor needs from a normalised distribution -/
def NormOk (counts : List Nat) (maxLog : Nat) (avoid0 : Bool) (probs : List Int) (al : Nat) : Prop :=
  Gen.normLogMin ≤ al ∧ al ≤ maxLog ∧
  probs.length = counts.length ∧
  (∀ p ∈ probs, 0 ≤ p) ∧
  probs.foldl (· + ·) 0 = ((2 ^ al : Nat) : Int) ∧
  (∀ i, counts.getD i 0 > 0 → probs.getD i 0 ≥ 1) ∧
  (avoid0 = true → ∀ p ∈ probs, p ≤ ((2 ^ (al - 1) : Nat) : Int))

theorem normalize_valid_core (counts : List Nat) (maxLog : Nat) (avoid0 : Bool)
    (hlog : Gen.normLogMin ≤ maxLog)
    (hlen1 : 1 ≤ counts.length) (hlen2 : avoid0 = true → 2 ≤ counts.length)
    (hlen : counts.length ≤ 256) (hlen' : counts.length ≤ 2 ^ maxLog)
    (hpos : ∃ c ∈ counts, c > 0) :
    ∃ probs al, normalize counts maxLog avoid0 = .ok (probs, al) ∧
      NormOk counts maxLog avoid0 probs al := by
  obtain ⟨hplen, hpnn, hpge⟩ := preNorm_spec counts
  have hmin := minCount_pos counts hpos
  rw [normalize_eq counts maxLog avoid0 hlen (by omega)]
  have hsumpos : lsum (preNorm counts) > 0 := by
    obtain ⟨c, hc, hcpos⟩ := hpos
    obtain ⟨k, hk, rfl⟩ := List.mem_iff_getElem.mp hc
    have hk' : counts.getD k 0 > 0 := by
      simpa [List.getD_eq_getElem?_getD, List.getElem?_eq_getElem hk] using hcpos
    have := hpge k hk'
    have := getD_le_lsum _ hpnn k
    omega
  obtain ⟨Q, al, hQ, h5, hm, hQsum, hk, hQle⟩ :=
    normTail_ok (preNorm counts) maxLog avoid0 hlog (by omega)
      (by intro h; have := hlen2 h; omega) (by omega) hpnn hsumpos
  refine ⟨Q, al, hQ, h5, hm, hk.len.trans hplen, mem_nonneg_of_nonnegD Q hk.nonneg, hQsum,
    fun i hi => hk.pos i (hpge i hi), ?_⟩
  intro ha p hp
  obtain ⟨k, _, rfl⟩ := exists_getD_of_mem Q p hp
  exact hQle ha k

theorem normalize_valid_partial (counts : List Nat) (maxLog : Nat) (avoid0 : Bool)
    (hlog : Gen.normLogMin ≤ maxLog)
    (hlen2 : 2 ≤ counts.length) (hlen : counts.length ≤ 256) (hlen' : counts.length ≤ 2 ^ maxLog)
    (hpos : ∃ c ∈ counts, c > 0) :
    ∃ probs al, normalize counts maxLog avoid0 = .ok (probs, al) ∧
      NormOk counts maxLog avoid0 probs al :=
  normalize_valid_core counts maxLog avoid0 hlog (by omega) (fun _ => hlen2) hlen hlen' hpos

theorem normalize_valid_noavoid (counts : List Nat) (maxLog : Nat)
    (hlog : Gen.normLogMin ≤ maxLog)
    (hlen1 : 1 ≤ counts.length) (hlen : counts.length ≤ 256) (hlen' : counts.length ≤ 2 ^ maxLog)
    (hpos : ∃ c ∈ counts, c > 0) :
    ∃ probs al, normalize counts maxLog false = .ok (probs, al) ∧
      NormOk counts maxLog false probs al :=
  normalize_valid_core counts maxLog false hlog hlen1 (fun h => by cases h) hlen hlen' hpos

theorem minCount_singleton (n : Nat) (hn : 0 < n) : minCount [n] = n := by
  simp [minCount, hn]

theorem preNorm_singleton (n : Nat) (hn : 0 < n) : preNorm [n] = [1] := by
  have h1 : ((n : Int) - ((n - 1 : Nat) : Int)) = 1 := by omega
  unfold preNorm
  rw [minCount_singleton n hn]
  simp only [List.map_cons, List.map_nil, hn, gt_iff_lt, if_true, h1]
  decide

theorem normTail_one_true (maxLog : Nat) (hlog : Gen.normLogMin ≤ maxLog) :
    normTail [1] maxLog true = .error (.unwrap "fse_encoder.rs:304:build_table_from_counts") := by
  have hal : min (max (Nat.log2 (1 : Int).toNat + Gen.normLogAdd) Gen.normLogMin) maxLog = 5 := by
    have : Nat.log2 (1 : Int).toNat = 0 := by decide
    rw [this]; simp only [Gen.normLogAdd, Gen.normLogMin] at hlog ⊢; omega
  unfold normTail
  simp only []
  rw [show List.foldl (fun (x1 x2 : Int) => x1 + x2) 0 [1] = 1 from by decide] 
  rw [hal]
  decide

/-- finding F4: only symbol 0 occurs and zero-bit avoidance is on: the real code panics at
fse_encoder.rs:306 (`unwrap` on `None`), the model faults at the same site -/
theorem normalize_single_zero_faults (n maxLog : Nat) (hn : 0 < n) (hlog : Gen.normLogMin ≤ maxLog) :
    normalize [n] maxLog true = .error (.unwrap "fse_encoder.rs:304:build_table_from_counts") := by
  rw [normalize_eq [n] maxLog true (by simp) (by rw [minCount_singleton n hn]; omega),
    preNorm_singleton n hn]
  exact normTail_one_true maxLog hlog

-- raise branch + zero-bit avoidance (the never-occurring symbol 0 is lifted to 16)
example : normalize [0, 5] 9 true = .ok ([16, 16], 5) := by decide
example : normalize [0, 5] 9 false = .ok ([0, 32], 5) := by decide
-- division step, raise, redistribution to the FIRST second maximum
example : normalize [3, 1000, 2] 9 true = .ok ([15, 16, 1], 5) := by decide
example : normalize [3, 1000, 2] 9 false = .ok ([1, 30, 1], 5) := by decide
-- decrease branch (`al = maxLog`, sum 210 ≥ 32)
example : normalize [1,40,1,40,1,40,1,40,1,40,1,40,1,40,1,40,1,40,1,40] 5 true
    = .ok ([1,1,1,1,1,1,1,1,1,1,1,1,1,1,1,1,1,1,1,13], 5) := by decide
-- single symbol: fine without avoidance, F4 with avoidance
example : normalize [7] 9 false = .ok ([32], 5) := by decide
example : normalize [7] 9 true = .error (.unwrap "fse_encoder.rs:304:build_table_from_counts") := by
  decide
-- `counts.length ≤ 2 ^ maxLog` cannot be dropped: 33 symbols do not fit into a table of size 32,
-- the `unwrap` of line 293 fails
set_option maxRecDepth 4096 in
example : normalize (List.replicate 33 1) 5 false
    = .error (.unwrap "fse_encoder.rs:291:build_table_from_counts") := by decide
example : ∃ probs al, normalize [3, 1000, 2] 9 true = .ok (probs, al) ∧
    NormOk [3, 1000, 2] 9 true probs al :=
  normalize_valid_partial _ _ _ (by decide) (by decide) (by decide) (by decide) ⟨3, by decide, by decide⟩

end Zstd.Proofs.FseNormalize
