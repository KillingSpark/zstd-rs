import Zstd.Proofs.FseDecTable.Defs
import Zstd.Proofs.FseDecTable.Layout
import Zstd.Proofs.FseDecTable.Model
import Zstd.Proofs.FseDecTable.Spread
import Zstd.Proofs.FseDecTable.Char
import Zstd.Proofs.FseDecTable.Spec
/-!
`Zstd.Model.Fse.buildDecodingTableCore` (mirror of `FSETable::build_decoding_table`, `fse_decoder.rs`) against
`Zstd.Spec.Fse.buildTable` (RFC 8878 §4.1.1), for every valid normalised distribution
(`ValidDist al probs`: `5 ≤ al ≤ 9`, at most 256 symbols, every probability `≥ -1`, mass `2^al`).

The table is a function of its layout `syms` (which symbol each cell carries): `decOf al probs syms`
(`Layout.lean`), whose entry `i` is `finEntry al probs syms i`, the RFC entry of the rank of cell `i` among the
cells of its symbol.  The layout the builders produce is described by `Spread` (`Spread.lean`): slot `j` in the
`j`-th cell of the spreading walk, the `j`-th "less than one" symbol in cell `2^al − 1 − j`.  Model and Spec
return that table (`Spread.decoder`, `Spread.spec`); the statements about a built table are read off it (`Char.lean`).
-/
