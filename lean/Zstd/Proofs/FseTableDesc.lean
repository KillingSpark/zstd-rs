import Zstd.Model.Fse
import Zstd.Proofs.BitIO
import Zstd.Proofs.FseReadDesc
import Zstd.Proofs.FseDecTable.Defs
/-
The FSE table description: `FSETable::read_probabilities` (decoder, `fse_decoder.rs:224-307`) inverts
`FSETable::write_table` (encoder, `fse_encoder.rs:147-189`): `write_read_description` against the Spec's reader,
`write_read_table` against the model's.

The bit layout is written down once (`tableBits`: four bits of accuracy log, then `descBits`: per probability
the variable-width field `fieldBits`, after a zero probability the repeat flags `flagBits` for the zeros that
follow).  Everything else is a statement about that layout.  The statement without side condition is false: when the
last probability is `-1` the reader needs one bit after the (one-bit) last field; witness `[1, 30, -1]`, accuracy
log 5, bytes `20 3e`.
-/
namespace Zstd.Proofs.FseTableDesc
open Zstd Zstd.Spec Zstd.Model.Fse Zstd.Model.BitIO Zstd.Proofs.BitIO
open Zstd.Proofs.FseReadDesc (decodeVal massOf spec_readProbs_succ)

/-- weight of one probability: `-1` ("less than one") counts as one cell -/
def wt (p : Int) : Nat := if p = -1 then 1 else if p > 0 then p.toNat else 0

def mass (probs : List Int) : Nat :=
  probs.foldl (fun (a : Nat) p => a + (if p = -1 then 1 else if p > 0 then p.toNat else 0)) 0

@[simp] theorem mass_nil : mass [] = 0 := rfl

/- `mass` and `wt` are `FseDecTable.mass` and `FseDecTable.massF` (same bodies); the sum lemmas are proved there. -/

theorem mass_cons (p : Int) (ps : List Int) : mass (p :: ps) = wt p + mass ps := FseDecTable.mass_cons p ps

theorem mass_append (a b : List Int) : mass (a ++ b) = mass a + mass b := FseDecTable.mass_append a b

theorem mass_replicate_zero (z : Nat) : mass (List.replicate z 0) = 0 := FseDecTable.mass_replicate_zero z

theorem mass_zero_run (z : Nat) (l : List Int) : mass ((0 : Int) :: (List.replicate z 0 ++ l)) = mass l := by
  rw [mass_cons, mass_append, mass_replicate_zero]; simp [wt]

theorem mass_pos : ∀ (ps : List Int), ps ≠ [] → ps.getLast? ≠ some 0 → (∀ p ∈ ps, -1 ≤ p) → 1 ≤ mass ps := by
  intro ps
  induction ps with
  | nil => intro h; exact absurd rfl h
  | cons p ps ih =>
    intro _ hl hge
    rw [mass_cons]
    cases ps with
    | nil =>
      have hp : p ≠ 0 := by simpa using hl
      have := hge p (by simp)
      simp only [wt, mass_nil]
      split
      · omega
      · split <;> omega
    | cons q qs =>
      have := ih (by simp) (by simpa [List.getLast?_cons_cons] using hl) (fun x hx => hge x (List.mem_cons_of_mem _ hx))
      omega

/-- the `write_bits` call for one value (`M` = `max_remaining_value`) -/
def wrStep (w : BitWriter) (M value : Nat) : Except Fault BitWriter :=
  let bitsToWrite := Nat.log2 M + 1
  let lowThreshold := (1 <<< bitsToWrite) - 1 - M
  let mask := (1 <<< (bitsToWrite - 1)) - 1
  if value < lowThreshold then w.writeBits value (bitsToWrite - 1)
  else if value > mask then
    if value + lowThreshold ≥ 2 ^ 32 then .error (.overflow "fse_encoder.rs:165:write_table")
    else w.writeBits (value + lowThreshold) bitsToWrite
  else w.writeBits value bitsToWrite

theorem writeProbLoop_succ (t : ETable) (sum fuel : Nat) (w : BitWriter) (counter probIdx : Nat) :
    writeProbLoop t sum (fuel + 1) w counter probIdx =
      if ¬ (counter < sum) then .ok w
      else
        match t.prob probIdx with
        | .error f => .error f
        | .ok prob =>
          match wrStep w (sum - counter + 1) (asU32 (prob + 1)) with
          | .error f => .error f
          | .ok w =>
            if prob = -1 then writeProbLoop t sum fuel w (counter + 1) (probIdx + 1)
            else if prob > 0 then writeProbLoop t sum fuel w (counter + prob.toNat) (probIdx + 1)
            else
              match writeZeroRun t 257 w (probIdx + 1) 0 with
              | .error f => .error f
              | .ok (w, probIdx) => writeProbLoop t sum fuel w counter probIdx := by
  rw [writeProbLoop]; rfl

/-- the field `(value written, width)` that encodes `v` when `M = max_remaining_value`:
one bit is saved for the values below `low_threshold` -/
def fieldOf (M v : Nat) : Nat × Nat :=
  if v < 2 ^ (Nat.log2 M + 1) - 1 - M then (v, Nat.log2 M)
  else if v > 2 ^ Nat.log2 M - 1 then (v + (2 ^ (Nat.log2 M + 1) - 1 - M), Nat.log2 M + 1)
  else (v, Nat.log2 M + 1)

theorem log2_facts {M : Nat} (hM : 2 ≤ M) (hM20 : M ≤ 2 ^ 20 + 1) :
    1 ≤ Nat.log2 M ∧ Nat.log2 M ≤ 20 ∧ 2 ^ Nat.log2 M ≤ M ∧ M < 2 ^ (Nat.log2 M + 1) ∧
      2 ^ (Nat.log2 M + 1) = 2 * 2 ^ Nat.log2 M ∧ 2 ^ Nat.log2 M ≤ 2 ^ 20 := by
  have h0 : M ≠ 0 := by omega
  have h1 : 1 ≤ Nat.log2 M := (Nat.le_log2 h0).2 (by omega)
  have h2 : Nat.log2 M < 21 := (Nat.log2_lt h0).2 (by omega)
  refine ⟨h1, by omega, Nat.log2_self_le h0, Nat.lt_log2_self, by rw [Nat.pow_succ]; omega,
    Nat.pow_le_pow_right (by omega) (by omega)⟩

theorem fieldOf_spec {M v : Nat} (hM : 2 ≤ M) (hM20 : M ≤ 2 ^ 20 + 1) (hv : v ≤ M) :
    (fieldOf M v).1 < 2 ^ (fieldOf M v).2 ∧ 1 ≤ (fieldOf M v).2 ∧ (fieldOf M v).2 ≤ 21 := by
  obtain ⟨h1, h2, h3, h4, h5, h6⟩ := log2_facts hM hM20
  unfold fieldOf
  generalize Nat.log2 M = k at *
  rw [h5]
  generalize 2 ^ k = P at *
  split
  · exact ⟨by simp only; omega, h1, by simp only; omega⟩
  · split
    · exact ⟨by simp only; omega, by simp only; omega, by simp only; omega⟩
    · exact ⟨by simp only; omega, by simp only; omega, by simp only; omega⟩

theorem wrStep_eq (w : BitWriter) {M v : Nat} (hM : 2 ≤ M) (hM20 : M ≤ 2 ^ 20 + 1) (hv : v ≤ M) :
    wrStep w M v = w.writeBits (fieldOf M v).1 (fieldOf M v).2 := by
  obtain ⟨h1, h2, h3, h4, h5, h6⟩ := log2_facts hM hM20
  unfold wrStep fieldOf
  simp only [Nat.one_shiftLeft, Nat.add_sub_cancel]
  split
  · rfl
  · split
    · rw [if_neg]
      rw [h5]
      omega
    · rfl

theorem bitsOfLE_one (x : Bool) : bitsOfLE 1 (if x then 1 else 0) = [x] := by cases x <;> decide

theorem mod_of_range {u P : Nat} (h1 : P ≤ u) (h2 : u < 2 * P) : u % P = u - P := by
  rw [Nat.mod_eq_sub_mod h1, Nat.mod_eq_of_lt (by omega)]

theorem asU32_succ {p : Int} (h : -1 ≤ p) : asU32 (p + 1) = (p + 1).toNat := by
  unfold asU32; rw [if_neg (by omega)]

theorem toNat_succ_le_wt {p : Int} (h : -1 ≤ p) : (p + 1).toNat ≤ wt p + 1 := by
  unfold wt
  split
  · omega
  · split <;> omega

/-- `et` carries the distribution `probs` (what `build_table_from_probabilities` stores in
`states[i].probability`; the entries beyond `probs` are `0`) -/
def Carries (et : ETable) (al : Nat) (probs : List Int) : Prop :=
  et.tableSize = 2 ^ al ∧ et.states.size = 256 ∧
    ∀ i < 256, (et.states.getD i {}).probability = probs.getD i 0

theorem prob_at {et : ETable} {al : Nat} {probs : List Int} (hc : Carries et al probs)
    {pre : List Int} {p : Int} {ps : List Int} (hp : probs = pre ++ p :: ps) (hlen : probs.length ≤ 256) :
    et.prob pre.length = .ok p := by
  obtain ⟨_, hsz, hget⟩ := hc
  have hi : pre.length < 256 := by
    have := congrArg List.length hp
    simp only [List.length_append, List.length_cons] at this
    omega
  have h1 := hget pre.length hi
  rw [Array.getD_eq_getD_getElem?, Array.getElem?_eq_getElem (by omega)] at h1
  unfold ETable.prob
  rw [Array.getElem?_eq_getElem (by omega)]
  simp only [Option.getD_some] at h1 ⊢
  rw [h1, hp]
  simp [List.getD_eq_getElem?_getD]

theorem zeros_then_nonzero : ∀ (ps : List Int), ps ≠ [] → ps.getLast? ≠ some 0 →
    ∃ z q ps', ps = List.replicate z 0 ++ q :: ps' ∧ q ≠ 0 := by
  intro ps
  induction ps with
  | nil => intro h; exact absurd rfl h
  | cons p ps ih =>
    intro _ hl
    by_cases hp : p = 0
    · subst hp
      cases ps with
      | nil => simp at hl
      | cons r rs =>
        obtain ⟨z, q, ps', h1, h2⟩ := ih (by simp) (by simpa [List.getLast?_cons_cons] using hl)
        exact ⟨z + 1, q, ps', by rw [h1, List.replicate_succ]; simp, h2⟩
    · exact ⟨0, p, ps, by simp, hp⟩

theorem getLast?_tail_of {p : Int} {ps : List Int} {x : Int} (h : ps.getLast? = some x) :
    (p :: ps).getLast? = some x := by
  cases ps with
  | nil => simp at h
  | cons q qs => simpa [List.getLast?_cons_cons] using h

theorem getLast?_append_cons (a : List Int) (q : Int) (ps : List Int) :
    (a ++ q :: ps).getLast? = (q :: ps).getLast? := by
  rw [List.getLast?_append]
  cases h : (q :: ps).getLast? with
  | none => simp at h
  | some x => simp

/-- repeat flags for a run of `n` zero probabilities after the first: `3` per full triple, then the rest -/
def flagBits : Nat → List Bool
  | n + 3 => bitsOfLE 2 3 ++ flagBits n
  | n => bitsOfLE 2 n

theorem flagBits_of_lt {n : Nat} (h : n < 3) : flagBits n = bitsOfLE 2 n := by
  match n, h with
  | 0, _ | 1, _ | 2, _ => rfl

theorem flagBits_add_three (n : Nat) : flagBits (n + 3) = bitsOfLE 2 3 ++ flagBits n := by
  rw [flagBits]

theorem length_flagBits (n : Nat) : (flagBits n).length = 2 * (n / 3 + 1) := by
  induction n using Nat.strongRecOn with
  | _ n ih =>
    by_cases h : n < 3
    · rw [flagBits_of_lt h, length_bitsOfLE]; omega
    · obtain ⟨m, rfl⟩ : ∃ m, n = m + 3 := ⟨n - 3, by omega⟩
      rw [flagBits_add_three, List.length_append, length_bitsOfLE, ih m (by omega)]; omega

def fieldBits (M v : Nat) : List Bool := bitsOfLE (fieldOf M v).2 (fieldOf M v).1

def zerosAhead : List Int → Nat
  | [] => 0
  | p :: ps => if p = 0 then zerosAhead ps + 1 else 0

theorem zerosAhead_replicate (z : Nat) {q : Int} (ps : List Int) (hq : q ≠ 0) :
    zerosAhead (List.replicate z 0 ++ q :: ps) = z := by
  induction z with
  | zero => simp [zerosAhead, hq]
  | succ z ih => simp [List.replicate_succ, zerosAhead, ih]

theorem zerosAhead_le (ps : List Int) : zerosAhead ps ≤ ps.length := by
  induction ps with
  | nil => exact Nat.le_refl 0
  | cons p ps ih => simp only [zerosAhead, List.length_cons]; split <;> omega

/-- the bits of `write_table` for the probabilities `ps` when `c` of the total mass `S` is used up:
per probability its value field; after a zero the flags for the zeros that follow it, which are skipped -/
def descBits (S : Nat) (c : Nat) : List Int → List Bool
  | [] => []
  | p :: ps =>
    fieldBits (S - c + 1) (p + 1).toNat ++
      if p = 0 then flagBits (zerosAhead ps) ++ descBits S c (ps.drop (zerosAhead ps))
      else descBits S (c + wt p) ps
termination_by ps => ps.length
decreasing_by
  · simp only [List.length_drop, List.length_cons]; omega
  · simp only [List.length_cons]; omega

theorem descBits_cons {S c : Nat} {p : Int} (ps : List Int) (hp : p ≠ 0) :
    descBits S c (p :: ps) = fieldBits (S - c + 1) (p + 1).toNat ++ descBits S (c + wt p) ps := by
  rw [descBits, if_neg hp]

theorem descBits_zeros {S c : Nat} (z : Nat) {q : Int} (ps : List Int) (hq : q ≠ 0) :
    descBits S c (0 :: (List.replicate z 0 ++ q :: ps))
      = fieldBits (S - c + 1) 1 ++ flagBits z ++ descBits S c (q :: ps) := by
  rw [descBits, if_pos rfl, zerosAhead_replicate z ps hq, List.drop_left' (List.length_replicate ..), List.append_assoc]
  rfl

theorem length_fieldBits (M v : Nat) : (fieldBits M v).length = (fieldOf M v).2 := length_bitsOfLE ..

theorem length_fieldBits_pos {M v : Nat} (hM : 2 ≤ M) : 1 ≤ (fieldBits M v).length := by
  have h1 : 1 ≤ Nat.log2 M := (Nat.le_log2 (by omega)).2 (by omega)
  rw [length_fieldBits]
  unfold fieldOf
  split
  · exact h1
  · split <;> simp only <;> omega

theorem descBits_ne_nil {S c : Nat} {ps : List Int} (hps : ps ≠ []) (hc : c < S) : descBits S c ps ≠ [] := by
  cases ps with
  | nil => exact absurd rfl hps
  | cons p ps =>
    intro h
    have := congrArg List.length h
    have := length_fieldBits_pos (M := S - c + 1) (v := (p + 1).toNat) (by omega)
    rw [descBits, List.length_append, List.length_nil] at *
    omega

theorem length_fieldBits_le {al M : Nat} (hal : 1 ≤ al) (hM1 : 1 ≤ M) (hM : M ≤ 2 ^ al + 1) (v : Nat) :
    (fieldBits M v).length ≤ al + 1 := by
  have hlog : Nat.log2 M < al + 1 := (Nat.log2_lt (by omega)).2 (by
    have := Nat.pow_le_pow_right (by omega : 1 ≤ 2) hal
    rw [Nat.pow_succ]; omega)
  rw [length_fieldBits]
  unfold fieldOf
  split
  · simp only; omega
  · split <;> simp only <;> omega

theorem length_descBits_le {al : Nat} (hal : 1 ≤ al) (c : Nat) (ps : List Int) :
    (descBits (2 ^ al) c ps).length ≤ (al + 3) * ps.length := by
  induction h : ps.length using Nat.strongRecOn generalizing ps c with
  | _ n ih =>
    cases ps with
    | nil => simp [descBits]
    | cons p ps =>
      subst h
      have hf := length_fieldBits_le hal (M := 2 ^ al - c + 1) (by omega)
        (Nat.succ_le_succ (Nat.sub_le _ _)) (p + 1).toNat
      rw [descBits, List.length_append, List.length_cons, Nat.mul_succ]
      split
      · -- a zero, `z` more zeros (two bits of flags per three of them, and two more), then the rest
        have hz := zerosAhead_le ps
        have hrec := ih _ (by simp only [List.length_drop, List.length_cons]; omega) c
          (ps.drop (zerosAhead ps)) rfl
        have hsplit : (al + 3) * ps.length
            = (al + 3) * (ps.drop (zerosAhead ps)).length + (al + 3) * zerosAhead ps := by
          rw [← Nat.mul_add, List.length_drop]; congr 1; omega
        have : zerosAhead ps ≤ (al + 3) * zerosAhead ps := Nat.le_mul_of_pos_left _ (by omega)
        rw [List.length_append, length_flagBits]
        omega
      · have := ih _ (by simp) (c + wt p) ps rfl
        omega
/-- induction along a description: a non-zero probability; or a zero, the zeros after it and the next non-zero one -/
theorem desc_induction {motive : List Int → Prop} (nil : motive [])
    (cons : ∀ p ps, p ≠ 0 → ps.getLast? ≠ some 0 → motive ps → motive (p :: ps))
    (zeros : ∀ z q ps, q ≠ 0 → (q :: ps).getLast? ≠ some 0 → motive (q :: ps) →
      motive (0 :: (List.replicate z 0 ++ q :: ps))) :
    ∀ ps : List Int, ps.getLast? ≠ some 0 → motive ps := by
  intro ps
  induction h : ps.length using Nat.strongRecOn generalizing ps with
  | _ n ih =>
    intro hl
    cases ps with
    | nil => exact nil
    | cons p ps =>
      have hl' : ps.getLast? ≠ some 0 := fun h => hl (getLast?_tail_of h)
      by_cases hp : p = 0
      · subst hp
        obtain ⟨z, q, ps', rfl, hq⟩ := zeros_then_nonzero ps (by intro h; subst h; simp at hl) hl'
        rw [getLast?_append_cons] at hl'
        exact zeros z q ps' hq hl' (ih _ (by subst h; simp; omega) _ rfl hl')
      · exact cons p ps hp hl' (ih _ (by subst h; simp) _ rfl hl')

theorem writeZeroRun_flags {et : ETable} {al : Nat} {probs : List Int} (hc : Carries et al probs)
    (hlen : probs.length ≤ 256) :
    ∀ (z zeros : Nat) (pre : List Int) (q : Int) (ps : List Int),
      probs = pre ++ List.replicate z 0 ++ q :: ps → q ≠ 0 → zeros < 3 →
      ∀ (w : BitWriter) (L : List Bool) (fuelW : Nat), WInv w L → z + 1 ≤ fuelW →
      ∃ w', writeZeroRun et fuelW w pre.length zeros = .ok (w', pre.length + z) ∧
        WInv w' (L ++ flagBits (zeros + z)) := by
  intro z
  induction z with
  | zero =>
    intro zeros pre q ps hp hq hz3 w L fuelW hw hf
    obtain ⟨f, rfl⟩ : ∃ f, fuelW = f + 1 := ⟨fuelW - 1, by omega⟩
    have hprob := prob_at hc (pre := pre) (p := q) (ps := ps) (by simpa using hp) hlen
    obtain ⟨w1, hw1, hinv1⟩ := bitWriter_refines (v := zeros) (n := 2) hw (by omega) (by omega)
    refine ⟨w1, ?_, by rwa [Nat.add_zero, flagBits_of_lt hz3]⟩
    simp only [writeZeroRun, hprob, if_neg hq, hw1, Nat.add_zero]
  | succ z ih =>
    intro zeros pre q ps hp hq hz3 w L fuelW hw hf
    obtain ⟨f, rfl⟩ : ∃ f, fuelW = f + 1 := ⟨fuelW - 1, by omega⟩
    have hp' : probs = (pre ++ [0]) ++ List.replicate z 0 ++ q :: ps := by
      rw [hp, List.replicate_succ]; simp
    have hprob := prob_at hc (pre := pre) (p := 0) (ps := List.replicate z 0 ++ q :: ps)
      (by rw [hp, List.replicate_succ]; simp) hlen
    have hidx : (pre ++ [0]).length + z = pre.length + (z + 1) := by
      rw [List.length_append, List.length_singleton]; omega
    by_cases h3 : zeros + 1 = 3
    · obtain rfl : zeros = 2 := by omega
      obtain ⟨w1, hw1, hinv1⟩ := bitWriter_refines (v := 3) (n := 2) hw (by omega) (by omega)
      obtain ⟨w', hwr, hinv'⟩ := ih 0 (pre ++ [0]) q ps hp' hq (by omega) w1 _ f hinv1 (by omega)
      rw [hidx, List.length_append, List.length_singleton] at hwr
      refine ⟨w', ?_, ?_⟩
      · simp only [writeZeroRun, hprob, if_true, hw1, hwr]
      · rw [show 2 + (z + 1) = 0 + z + 3 by omega, flagBits_add_three, ← List.append_assoc]; exact hinv'
    · obtain ⟨w', hwr, hinv'⟩ := ih (zeros + 1) (pre ++ [0]) q ps hp' hq (by omega) w L f hw (by omega)
      rw [hidx, List.length_append, List.length_singleton] at hwr
      refine ⟨w', ?_, by rwa [show zeros + (z + 1) = zeros + 1 + z by omega]⟩
      simp only [writeZeroRun, hprob, if_true, if_neg h3, hwr]

theorem wrStep_field {w : BitWriter} {L : List Bool} (hw : WInv w L) {S c : Nat} {p : Int}
    (hS : S ≤ 2 ^ 20) (hp : -1 ≤ p) (hfit : c + wt p ≤ S) (hc : c < S) :
    ∃ w', wrStep w (S - c + 1) (asU32 (p + 1)) = .ok w' ∧ WInv w' (L ++ fieldBits (S - c + 1) (p + 1).toNat) := by
  have hv : (p + 1).toNat ≤ S - c + 1 := by have := toNat_succ_le_wt hp; omega
  obtain ⟨hf1, _, hf3⟩ := fieldOf_spec (by omega) (by omega) hv
  obtain ⟨w', hw', hinv⟩ := bitWriter_refines hw hf1 (by omega)
  exact ⟨w', by rw [asU32_succ hp, wrStep_eq w (by omega) (by omega) hv, hw'], hinv⟩

theorem wt_pos {p : Int} (hp : -1 ≤ p) (h0 : p ≠ 0) : 1 ≤ wt p := by
  unfold wt; split
  · omega
  · split <;> omega

theorem writeProbLoop_descBits {et : ETable} {al : Nat} {probs : List Int} (hc : Carries et al probs)
    (hlen : probs.length ≤ 256) (hal : al ≤ 20) :
    ∀ ps : List Int, ps.getLast? ≠ some 0 → ∀ (pre : List Int) (w : BitWriter) (L : List Bool) (fuelW : Nat),
      probs = pre ++ ps → (∀ p ∈ ps, -1 ≤ p) → mass pre + mass ps = 2 ^ al → WInv w L → ps.length + 1 ≤ fuelW →
      ∃ w', writeProbLoop et (2 ^ al) fuelW w (mass pre) pre.length = .ok w' ∧
        WInv w' (L ++ descBits (2 ^ al) (mass pre) ps) := by
  have hS20 : 2 ^ al ≤ 2 ^ 20 := Nat.pow_le_pow_right (by omega) hal
  refine desc_induction ?_ ?_ ?_
  · intro pre w L fuelW _ _ hm hw hf
    obtain ⟨f, rfl⟩ : ∃ f, fuelW = f + 1 := ⟨fuelW - 1, by omega⟩
    rw [mass_nil, Nat.add_zero] at hm
    exact ⟨w, by rw [writeProbLoop_succ, if_pos (by omega)], by simpa [descBits] using hw⟩
  · intro p ps hp0 hl ih pre w L fuelW hp hge hm hw hf
    obtain ⟨f, rfl⟩ : ∃ f, fuelW = f + 1 := ⟨fuelW - 1, by omega⟩
    have hpge : -1 ≤ p := hge p (by simp)
    have hwtp := wt_pos hpge hp0
    rw [mass_cons] at hm
    obtain ⟨w1, hwr, hinv1⟩ := wrStep_field (c := mass pre) hw hS20 hpge (by omega) (by omega)
    have hmass1 : mass (pre ++ [p]) = mass pre + wt p := by
      rw [mass_append, mass_cons, mass_nil, Nat.add_zero]
    obtain ⟨w2, hwr2, hinv2⟩ := ih (pre ++ [p]) w1 _ f (by rw [hp]; simp)
      (fun x hx => hge x (List.mem_cons_of_mem _ hx)) (by rw [hmass1]; omega) hinv1
      (by simp only [List.length_cons] at hf; omega)
    rw [hmass1, List.length_append, List.length_singleton] at hwr2
    rw [hmass1, List.append_assoc, ← descBits_cons ps hp0] at hinv2
    refine ⟨w2, ?_, hinv2⟩
    rw [writeProbLoop_succ, if_neg (by omega), prob_at hc hp hlen]
    simp only [hwr]
    by_cases hm1 : p = -1
    · rw [if_pos hm1]
      rwa [show wt p = 1 by simp [wt, hm1]] at hwr2
    · have hpos : p > 0 := by omega
      rw [if_neg hm1, if_pos hpos]
      rwa [show wt p = p.toNat by simp [wt, hm1, hpos]] at hwr2
  · -- a zero: its field, `writeZeroRun` over the `z` zeros after it, then on from `q` with the same counter
    intro z q ps hq hl ih pre w L fuelW hp hge hm hw hf
    obtain ⟨f, rfl⟩ : ∃ f, fuelW = f + 1 := ⟨fuelW - 1, by omega⟩
    rw [mass_zero_run] at hm
    have hmp := mass_pos (q :: ps) (by simp) hl (fun x hx => hge x (List.mem_cons_of_mem _ (List.mem_append_right _ hx)))
    obtain ⟨w1, hwr, hinv1⟩ := wrStep_field (c := mass pre) (p := 0) hw hS20 (by omega) (by simp [wt]; omega) (by omega)
    have hlenp := congrArg List.length hp
    simp only [List.length_append, List.length_replicate, List.length_cons] at hlenp hf
    obtain ⟨w2, hzr, hinv2⟩ := writeZeroRun_flags hc hlen z 0 (pre ++ [0]) q ps (by rw [hp]; simp) hq
      (by omega) w1 _ 257 hinv1 (by omega)
    rw [List.length_append, List.length_singleton] at hzr
    have hmass2 : mass (pre ++ 0 :: List.replicate z 0) = mass pre := by
      rw [mass_append, mass_cons, mass_replicate_zero]; simp [wt]
    obtain ⟨w3, hwr3, hinv3⟩ := ih (pre ++ 0 :: List.replicate z 0) w2 _ f (by rw [hp]; simp)
      (fun x hx => hge x (List.mem_cons_of_mem _ (List.mem_append_right _ hx))) (by rw [hmass2]; exact hm) hinv2
      (by simp only [List.length_cons]; omega)
    rw [hmass2, List.length_append, List.length_cons, List.length_replicate] at hwr3
    rw [hmass2, Nat.zero_add, List.append_assoc, List.append_assoc, ← List.append_assoc (fieldBits ..),
      show ((0 : Int) + 1).toNat = 1 from rfl, ← descBits_zeros z ps hq] at hinv3
    refine ⟨w3, ?_, hinv3⟩
    rw [writeProbLoop_succ, if_neg (by omega), prob_at hc hp hlen]
    simp only [hwr, hzr]
    rw [if_neg (by omega), if_neg (by omega), show pre.length + 1 + z = pre.length + (z + 1) by omega]
    exact hwr3

theorem readZeroRuns_flagBits (tail : List Bool) : ∀ (fuel n : Nat), n + 3 ≤ 3 * fuel →
    Spec.Fse.readZeroRuns fuel (flagBits n ++ tail) = some (n, tail) := by
  intro fuel
  induction fuel with
  | zero => intro n h; omega
  | succ fuel ih =>
    intro n h
    by_cases h3 : n < 3
    · rw [flagBits_of_lt h3, Spec.Fse.readZeroRuns, readLE_bitsOfLE_append (by omega : n < 2 ^ 2)]
      simp only [if_neg (show n ≠ 3 by omega)]
    · obtain ⟨m, rfl⟩ : ∃ m, n = m + 3 := ⟨n - 3, by omega⟩
      rw [flagBits_add_three, List.append_assoc, Spec.Fse.readZeroRuns,
        readLE_bitsOfLE_append (by omega : 3 < 2 ^ 2)]
      simp only [if_true, ih m (by omega), Nat.add_comm 3 m]

/-- For a short field (`v` below the threshold) the Spec's reader looks at one bit more than the field has: that bit
has to exist. -/
theorem decodeVal_fieldBits {r v : Nat} (hr : 1 ≤ r) (hr20 : r ≤ 2 ^ 20) (hv : v ≤ r + 1) {tail : List Bool}
    (htail : v < 2 ^ (Nat.log2 (r + 1) + 1) - 1 - (r + 1) → tail ≠ []) :
    ∃ u rest, readLE (Nat.log2 (r + 1) + 1) (fieldBits (r + 1) v ++ tail) = some (u, rest) ∧
      decodeVal r u = (v, (fieldOf (r + 1) v).2) := by
  obtain ⟨h1, h2, h3, h4, h5, h6⟩ := log2_facts (M := r + 1) (by omega) (by omega)
  unfold fieldBits fieldOf decodeVal
  simp only [Nat.add_sub_cancel]
  generalize Nat.log2 (r + 1) = k at *
  by_cases hlow : v < 2 ^ (k + 1) - 1 - (r + 1)
  · -- short field: the bit after it is read as the top bit and ignored
    obtain ⟨x, tail', rfl⟩ : ∃ x tail', tail = x :: tail' := by
      cases tail with
      | nil => exact absurd rfl (htail hlow)
      | cons x t => exact ⟨x, t, rfl⟩
    have hvk : v < 2 ^ k := by omega
    have hu : v + (if x then 1 else 0) * 2 ^ k < 2 ^ (k + 1) := by
      rw [h5]; cases x <;> simp <;> omega
    refine ⟨v + (if x then 1 else 0) * 2 ^ k, tail', ?_, ?_⟩
    · rw [if_pos hlow, ← readLE_bitsOfLE_append hu tail', ← or_shiftLeft_eq_add hvk,
        ← bitsOfLE_append_of_lt _ _ hvk, bitsOfLE_one]
      simp
    · rw [Nat.add_mul_mod_self_right, Nat.mod_eq_of_lt hvk, if_pos hlow, if_pos hlow]
  · rw [if_neg hlow]
    by_cases hmask : v > 2 ^ k - 1
    · -- large value, shifted up by the threshold
      rw [if_pos hmask]
      refine ⟨_, tail, readLE_bitsOfLE_append (by omega) tail, ?_⟩
      rw [mod_of_range (by omega) (by omega), if_neg (by omega), if_pos (by omega)]
      simp only [Nat.add_sub_cancel]
    · rw [if_neg hmask]
      refine ⟨_, tail, readLE_bitsOfLE_append (by omega) tail, ?_⟩
      rw [Nat.mod_eq_of_lt (by omega), if_neg (by omega), if_neg (by omega)]

theorem massOf_succ {p : Int} (hp : -1 ≤ p) : massOf (p + 1).toNat = wt p := by
  unfold massOf wt
  split <;> split <;> first | omega | (split <;> omega)

/-- The one bit the reader looks at beyond a short last field is the only demand on what follows: the last field is short only for a final `-1` (a positive last probability
uses up the table, so its value is the largest possible one). -/
theorem readProbs_descBits {S maxSymbol : Nat} (hS : S ≤ 2 ^ 20) (tail : List Bool) :
    ∀ ps : List Int, ps.getLast? ≠ some 0 → ∀ (c fuel : Nat) (acc : List Int),
      (∀ p ∈ ps, -1 ≤ p) → c + mass ps = S → (ps.getLast? = some (-1) → tail ≠ []) →
      acc.length + ps.length ≤ maxSymbol + 1 → ps.length + 1 ≤ fuel →
      Spec.Fse.readProbs fuel maxSymbol (S - c) (descBits S c ps ++ tail) acc = some (acc.reverse ++ ps, tail) := by
  refine desc_induction ?_ ?_ ?_
  · intro c fuel acc _ hm _ _ hf
    obtain ⟨f, rfl⟩ : ∃ f, fuel = f + 1 := ⟨fuel - 1, by omega⟩
    rw [mass_nil] at hm
    rw [spec_readProbs_succ, if_pos (by omega), descBits, List.nil_append, List.append_nil]
  · intro p ps hp0 hl ih c fuel acc hge hm htail hsym hf
    obtain ⟨f, rfl⟩ : ∃ f, fuel = f + 1 := ⟨fuel - 1, by omega⟩
    have hpge : -1 ≤ p := hge p (by simp)
    have hwtp := wt_pos hpge hp0
    rw [mass_cons] at hm
    simp only [List.length_cons] at hsym hf
    obtain ⟨u, rest, hrd, hdv⟩ := decodeVal_fieldBits (r := S - c) (v := (p + 1).toNat)
      (tail := descBits S (c + wt p) ps ++ tail) (by omega) (by omega)
      (by have := toNat_succ_le_wt hpge; omega) (by
        intro hlow
        cases ps with
        | cons q qs =>
          have hmp := mass_pos (q :: qs) (by simp) hl (fun x hx => hge x (List.mem_cons_of_mem _ hx))
          exact fun h => descBits_ne_nil (List.cons_ne_nil q qs) (by omega) (List.append_eq_nil_iff.1 h).1
        | nil =>
          by_cases hm1 : p = -1
          · exact fun h => htail (by rw [hm1]; rfl) (List.append_eq_nil_iff.1 h).2
          · -- the last probability uses up the table: its value is the largest one, never a short field
            exfalso
            have hw : wt p = p.toNat := by simp [wt, hm1, show p > 0 by omega]
            rw [mass_nil] at hm
            obtain ⟨_, _, h3, _, h5, _⟩ := log2_facts (M := S - c + 1) (by omega) (by omega)
            omega)
    rw [spec_readProbs_succ, if_neg (by omega), if_neg (by omega), descBits_cons ps hp0, List.append_assoc, hrd]
    simp only [hdv, massOf_succ hpge, show (((p + 1).toNat : Nat) : Int) - 1 = p by omega]
    rw [if_neg (by omega), if_neg hp0, List.drop_left' (length_fieldBits ..), Nat.sub_sub,
      ih (c + wt p) f (p :: acc) (fun x hx => hge x (List.mem_cons_of_mem _ hx)) (by omega)
        (fun h => htail (getLast?_tail_of h)) (by simp only [List.length_cons]; omega) (by omega)]
    simp
  · -- a zero: its field is never the last thing (flags follow), the flags give `z`, then on from `q`
    intro z q ps hq hl ih c fuel acc hge hm htail hsym hf
    obtain ⟨f, rfl⟩ : ∃ f, fuel = f + 1 := ⟨fuel - 1, by omega⟩
    have hge' : ∀ x ∈ q :: ps, -1 ≤ x := fun x hx => hge x (List.mem_cons_of_mem _ (List.mem_append_right _ hx))
    rw [mass_zero_run] at hm
    have hmp := mass_pos (q :: ps) (by simp) hl hge'
    simp only [List.length_cons, List.length_append, List.length_replicate] at hsym hf
    obtain ⟨u, rest, hrd, hdv⟩ := decodeVal_fieldBits (r := S - c) (v := 1)
      (tail := flagBits z ++ (descBits S c (q :: ps) ++ tail)) (by omega) (by omega) (by omega) (by
        intro _ h
        have := congrArg List.length (List.append_eq_nil_iff.1 h).1
        rw [length_flagBits] at this
        simp at this)
    rw [spec_readProbs_succ, if_neg (by omega), if_neg (by omega), descBits_zeros z ps hq, List.append_assoc,
      List.append_assoc, hrd]
    simp only [hdv, show massOf 1 = 0 from rfl, show ((1 : Nat) : Int) - 1 = 0 from rfl]
    rw [if_pos trivial, List.drop_left' (length_fieldBits ..),
      readZeroRuns_flagBits _ (maxSymbol + 2) z (by omega)]
    simp only [Nat.sub_zero]
    rw [ih c f _ hge' hm (fun h => htail ((getLast?_append_cons ((0 : Int) :: List.replicate z 0) q ps).trans h))
      (by simp only [List.length_cons, List.length_append, List.length_replicate]; omega) (by simp only [List.length_cons]; omega)]
    simp

/-- the table description as a bit list, before the padding: four bits `al - 5`, then the probabilities -/
def tableBits (al : Nat) (probs : List Int) : List Bool := bitsOfLE 4 (al - 5) ++ descBits (2 ^ al) 0 probs

theorem readDescription_tableBits {al : Nat} {probs : List Int} (hal5 : 5 ≤ al) (hal : al ≤ 20)
    (hge : ∀ p ∈ probs, -1 ≤ p) (hmass : mass probs = 2 ^ al) (hlast : probs.getLast? ≠ some 0)
    {bytes : List Nat} {tail : List Bool} {maxLog maxSymbol : Nat}
    (hbits : bitsLE bytes = tableBits al probs ++ tail) (hml : al ≤ maxLog) (hms : probs.length ≤ maxSymbol + 1)
    (htail : probs.getLast? = some (-1) → tail ≠ []) :
    Spec.Fse.readDescription bytes maxLog maxSymbol = some (al, probs, ((tableBits al probs).length + 7) / 8) := by
  have hS20 : 2 ^ al ≤ 2 ^ 20 := Nat.pow_le_pow_right (by omega) hal
  have hrp := readProbs_descBits (maxSymbol := maxSymbol) hS20 tail probs hlast 0 (maxSymbol + 3) [] hge
    (by omega) htail (by simpa using hms) (by omega)
  unfold Spec.Fse.readDescription
  simp only [hbits, tableBits, List.append_assoc, readLE_bitsOfLE_append (show al - 5 < 2 ^ 4 by omega),
    show al - 5 + 5 = al by omega, if_neg (show ¬ al > maxLog by omega)]
  rw [Nat.sub_zero] at hrp
  simp only [hrp, List.reverse_nil, List.nil_append, if_neg (show ¬ probs.length > maxSymbol + 1 by omega),
    List.length_append]
  congr 4
  omega

def padBits (n : Nat) : List Bool := bitsOfLE ((8 - n % 8) % 8) 0

theorem writeTable_tableBits (et : ETable) (al : Nat) (probs : List Int) (hal5 : 5 ≤ al) (hal : al ≤ 20)
    (hlen : probs.length ≤ 256) (hge : ∀ p ∈ probs, -1 ≤ p) (hmass : mass probs = 2 ^ al)
    (hlast : probs.getLast? ≠ some 0) (hc : Carries et al probs) {w : BitWriter} {L : List Bool} (hw : WInv w L) :
    ∃ w', et.writeTable w = .ok w' ∧
      WInv w' (L ++ tableBits al probs ++ padBits (L ++ tableBits al probs).length) := by
  have hacc : et.accLog = .ok al := by
    unfold ETable.accLog
    rw [hc.1, if_neg (by have := Nat.two_pow_pos al; omega), Nat.log2_two_pow]
  obtain ⟨w1, hw1, hinv1⟩ := bitWriter_refines (v := al - 5) (n := 4) hw (by omega) (by omega)
  -- the model's fuels 258 and 257 (the Rust loops have none): at most 256 probabilities, one step more to leave
  obtain ⟨w2, hwr2, hinv2⟩ := writeProbLoop_descBits hc hlen hal probs hlast [] w1 _ 258 rfl hge
    (by simpa using hmass) hinv1 (by omega)
  rw [mass_nil, List.length_nil] at hwr2
  rw [mass_nil, List.append_assoc] at hinv2
  obtain ⟨w3, hw3, hinv3⟩ := bitWriter_refines (v := 0) (n := (8 - (L ++ tableBits al probs).length % 8) % 8)
    hinv2 (Nat.two_pow_pos _) (by omega)
  refine ⟨w3, ?_, hinv3⟩
  simp only [ETable.writeTable, hacc, if_neg (show ¬ al < 5 by omega), hw1, Nat.one_shiftLeft, hwr2,
    WInv_misaligned hinv2]
  exact hw3

/-- The only side condition beyond validity: when the LAST transmitted probability is `-1`, the description has
to be followed by at least one more byte (`rest ≠ []`).  In that case the last field is one bit wide but the
reader looks at two bits; if the unpadded description ends exactly at the end of the source there is no
second bit (`last_minus_one_needs_a_following_bit`).  Inside a frame a description is always followed by at
least one byte (the FSE/sequence bit stream). -/
theorem write_read_description (et : ETable) (al : Nat) (probs : List Int)
    (hal5 : 5 ≤ al) (hal : al ≤ 20)
    (hlen : probs.length ≤ 256) (hge : ∀ p ∈ probs, -1 ≤ p) (hmass : mass probs = 2 ^ al)
    (hlast : probs.getLast? ≠ some 0) (hc : Carries et al probs)
    {w : BitWriter} {L : List Bool} (hw : WInv w L) (hL : L.length % 8 = 0) :
    ∃ w' D, et.writeTable w = .ok w' ∧ WInv w' (L ++ D) ∧ D.length % 8 = 0 ∧
      ∀ (bytes : List Nat) (rest : List Bool) (maxLog maxSymbol : Nat),
        bitsLE bytes = D ++ rest → al ≤ maxLog → probs.length ≤ maxSymbol + 1 →
        (probs.getLast? = some (-1) → rest ≠ []) →
        Spec.Fse.readDescription bytes maxLog maxSymbol = some (al, probs, D.length / 8) := by
  obtain ⟨w', hwt, hinv⟩ := writeTable_tableBits et al probs hal5 hal hlen hge hmass hlast hc hw
  refine ⟨w', _, hwt, by rwa [List.append_assoc] at hinv, ?_, ?_⟩
  · simp only [padBits, List.length_append, length_bitsOfLE]; omega
  · intro bytes rest maxLog maxSymbol hbits hml hms hrest
    rw [List.append_assoc] at hbits
    rw [readDescription_tableBits hal5 hal hge hmass hlast hbits hml hms
      (fun h h' => hrest h (List.append_eq_nil_iff.1 h').2)]
    simp only [padBits, List.length_append, length_bitsOfLE]
    exact congrArg (fun k => some (al, probs, k)) (by omega)

/-- `5 ≤ al ≤ 20` is the range of the 4-bit field -/
theorem write_read_table (et : ETable) (al : Nat) (probs : List Int)
    (hal5 : 5 ≤ al) (hal : al ≤ 20)
    (hlen : probs.length ≤ 256) (hge : ∀ p ∈ probs, -1 ≤ p) (hmass : mass probs = 2 ^ al)
    (hlast : probs.getLast? ≠ some 0)
    (hc : Carries et al probs)
    {w : BitWriter} {L : List Bool} (hw : WInv w L) (hL : L.length % 8 = 0) :
    ∃ w' D, et.writeTable w = .ok w' ∧ WInv w' (L ++ D) ∧ D.length % 8 = 0 ∧
      ∀ (src : Array Nat) (rest : List Bool) (t : DTable) (maxLog : Nat),
        Bytes src.toList → bitsLE src.toList = D ++ rest → al ≤ maxLog → probs.length ≤ t.maxSymbol + 1 →
        (probs.getLast? = some (-1) → rest ≠ []) →
        t.readProbabilities src maxLog
          = ({ t with probs := probs.toArray, accuracyLog := al }, .ok (D.length / 8)) := by
  obtain ⟨w', D, h1, h2, h3, h4⟩ := write_read_description et al probs hal5 hal hlen hge hmass hlast hc hw hL
  exact ⟨w', D, h1, h2, h3, fun src rest t maxLog hb hbits hml hms hrest =>
    FseReadDesc.fse_readProbabilities_refines src hb t maxLog t.maxSymbol rfl
      (h4 src.toList rest maxLog t.maxSymbol hbits hml hms hrest)⟩

/-- `write_read_table` without the side condition on what follows the description -/
def write_read_table_full : Prop :=
  ∀ (et : ETable) (al : Nat) (probs : List Int), 5 ≤ al → al ≤ 20 →
    probs.length ≤ 256 → (∀ p ∈ probs, -1 ≤ p) → mass probs = 2 ^ al → probs.getLast? ≠ some 0 →
    Carries et al probs →
    ∀ {w : BitWriter} {L : List Bool}, WInv w L → L.length % 8 = 0 →
    ∃ w' D, et.writeTable w = .ok w' ∧ WInv w' (L ++ D) ∧ D.length % 8 = 0 ∧
      ∀ (src : Array Nat) (rest : List Bool) (t : DTable) (maxLog : Nat),
        Bytes src.toList → bitsLE src.toList = D ++ rest → al ≤ maxLog → probs.length ≤ t.maxSymbol + 1 →
        t.readProbabilities src maxLog
          = ({ t with probs := probs.toArray, accuracyLog := al }, .ok (D.length / 8))

/-! ### the side condition is necessary: `write_read_table_full` is FALSE

The valid distribution `[1, 30, -1]` with accuracy log 5 is described in exactly 16 bits
(4 + 5 + 6 + 1); `read_probabilities` on those two bytes alone fails, with one more byte it succeeds. -/

def witnessTable : ETable :=
  { states := ((Array.replicate 256 ({} : SymbolStates)).set! 0 { probability := 1 }
      |>.set! 1 { probability := 30 }) |>.set! 2 { probability := -1 },
    tableSize := 32 }

theorem witness_carries : Carries witnessTable 5 [1, 30, -1] := by
  refine ⟨rfl, by simp [witnessTable], fun i hi => ?_⟩
  simp only [witnessTable, Array.getD_eq_getD_getElem?, Array.set!_eq_setIfInBounds, Array.getElem?_setIfInBounds,
    Array.size_setIfInBounds, Array.size_replicate, Array.getElem?_replicate]
  match i with
  | 0 | 1 | 2 => simp
  | i + 3 => simp [hi]

theorem last_minus_one_needs_a_following_bit :
    (match witnessTable.writeTable BitWriter.new with
      | .ok w => w.dump
      | .error f => .error f) = .ok #[32, 62] ∧
    ((DTable.new 255).readProbabilities #[32, 62] 9).2 = .error (.getBitsNotEnough 2 1) ∧
    (DTable.new 255).readProbabilities #[32, 62, 0] 9
      = ({ DTable.new 255 with probs := #[1, 30, -1], accuracyLog := 5 }, .ok 2) := by
  refine ⟨by decide +kernel, by decide +kernel, by decide +kernel⟩

theorem write_read_table_full_false : ¬ write_read_table_full := by
  intro h
  obtain ⟨w', D, hw, hinv, _, hrd⟩ := h witnessTable 5 [1, 30, -1] (by omega) (by omega) (by decide) (by decide)
    (by decide) (by decide) witness_carries WInv_new rfl
  have hw2 : witnessTable.writeTable BitWriter.new
      = .ok { output := #[], partialBits := 15904, bitsInPartial := 16, bitIdx := 0 } := by decide +kernel
  rw [hw2] at hw
  cases hw
  have hD : bitsLE (#[32, 62] : Array Nat).toList = D ++ [] := by
    have := hinv.bits
    simp only [List.nil_append] at this
    rw [List.append_nil, ← this]
    decide
  have hrd' := hrd #[32, 62] [] (DTable.new 255) 9 (by unfold Bytes; decide) hD (by omega) (by decide)
  have h2 := last_minus_one_needs_a_following_bit.2.1
  rw [hrd'] at h2
  cases h2

end Zstd.Proofs.FseTableDesc
