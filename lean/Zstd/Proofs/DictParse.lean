import Zstd.Proofs.FrameFaithful
/-
`Dictionary::decode_dict` (model `Blk.decodeDict`, Model/FrameFaithful.lean) against the Spec's §5
dictionary parser `Spec.parseDict`, and on arbitrary bytes.  A dictionary the parser returns carries a well-formed
entropy state whatever its three repeat offsets are: the parser copies them unchecked, `WF` does not mention them
and no decoding step needs them to be non-zero (`do_offset_history` saturates `rep[0] − 1` and `execute_sequences`
rejects a 0 offset).  `Decoder.addDict` keeps `dictsWF` and `DictsCoupled`, so decoders whose dictionaries were
registered through `add_dict` of parsed bytes (`registerDicts`) satisfy both.
-/
set_option linter.unusedSectionVars false
namespace Zstd.Model
open Zstd Zstd.Proofs.DictCopy Zstd.Proofs.Blk
open Zstd.Proofs.BitIO (Bytes Bytes_drop)

/-- the `headD 0` defaults of `le32` are never taken: `decode_dict` checks `raw.len() ≥ 8` before the id and 12 bytes
before the three offsets (the Rust has `try_into().expect("optimized away")` there) -/
theorem Blk.le32_eq_leNat (l : List Nat) : Blk.le32 l = leNat (l.take 4) := by
  match l with
  | [] => simp [Blk.le32, leNat]
  | [a] => simp [Blk.le32, leNat]
  | [a, b] => simp [Blk.le32, leNat]
  | [a, b, c] => simp [Blk.le32, leNat]; omega
  | a :: b :: c :: d :: _ => simp [Blk.le32, leNat]; omega

theorem dictMagic_bytes {l : List Nat} (hb : Bytes l) (hlen : 4 ≤ l.length)
    (h : leNat (l.take 4) = Spec.dictMagic) : l.take 4 = [0x37, 0xA4, 0x30, 0xEC] := by
  match l, hlen with
  | a :: b :: c :: d :: tl, _ =>
    have ha := hb a (by simp)
    have hb' := hb b (by simp)
    have hc := hb c (by simp)
    have hd := hb d (by simp)
    simp only [List.take_succ_cons, List.take_zero, leNat, Spec.dictMagic] at h ⊢
    have : a = 0x37 ∧ b = 0xA4 ∧ c = 0x30 ∧ d = 0xEC := by omega
    obtain ⟨rfl, rfl, rfl, rfl⟩ := this
    rfl

theorem fseNew_maxSymbol (m : Nat) : (Fse.DTable.new m).maxSymbol = m := rfl

def DictOk (r : Except Fault (Option (Dict Blk.Scratch))) : Prop :=
  (∀ f, r ≠ .error f) ∧ ∀ d, r = .ok (some d) → Blk.WF d.entropy

theorem decodeDict_ok {raw : List Nat} (hb : Bytes raw) : DictOk (Blk.decodeDict raw) := by
  -- every rejection is `Ok(None)` in the model
  have hnone : DictOk (.ok none) := ⟨fun _ h => (nomatch h), fun _ h => (nomatch h)⟩
  have hchan : ∀ {maxLog maxCode : Nat} {t' : Fse.DTable}, FseBuilt maxLog t' → t'.maxSymbol = maxCode →
      ChanPre maxLog maxCode t' none := fun hB hM => ⟨Or.inr hB, hM, fun _ h => (nomatch h)⟩
  unfold Blk.decodeDict
  refine ite_elim DictOk hnone (ite_elim DictOk hnone ?_)
  dsimp only
  -- the outcome of each of the four table builders is named before its `match` is opened (as in `readProbabilities_maxSymbol`)
  have hb0 := Bytes_drop hb 8
  have aH := hufBuildDecoder_ok Huf.DecTable.empty (raw.drop 8) hb0
  generalize Huf.buildDecoder _ _ = pH at aH ⊢
  obtain ⟨huf, (e | f) | hufSize⟩ := pH
  · exact hnone
  · exact absurd rfl (aH.1 f)
  obtain ⟨hufB, -⟩ := aH.2 _ _ rfl
  refine ite_elim DictOk hnone ?_
  have hb1 := Bytes_drop hb0 hufSize
  have aO := buildDecoder_agree (.new Gen.maxOffsetCode) (List.toArray _) Gen.ofMaxLog hb1 (by decide) (by decide)
  generalize Fse.DTable.buildDecoder _ _ _ = pO at aO ⊢
  obtain ⟨ofT, e | ofSize⟩ := pO
  · cases e with
    | fault f => exact absurd rfl (aO.1 f)
    | _ => exact hnone
  obtain ⟨ofB, ofM, -⟩ := aO
  refine ite_elim DictOk hnone ?_
  have hb2 := Bytes_drop hb1 ofSize
  have aM := buildDecoder_agree (.new Gen.maxMatchLengthCode) (List.toArray _) Gen.mlMaxLog hb2 (by decide) (by decide)
  generalize Fse.DTable.buildDecoder _ _ _ = pM at aM ⊢
  obtain ⟨mlT, e | mlSize⟩ := pM
  · cases e with
    | fault f => exact absurd rfl (aM.1 f)
    | _ => exact hnone
  obtain ⟨mlB, mlM, -⟩ := aM
  refine ite_elim DictOk hnone ?_
  have hb3 := Bytes_drop hb2 mlSize
  have aL := buildDecoder_agree (.new Gen.maxLiteralLengthCode) (List.toArray _) Gen.llMaxLog hb3 (by decide) (by decide)
  generalize Fse.DTable.buildDecoder _ _ _ = pL at aL ⊢
  obtain ⟨llT, e | llSize⟩ := pL
  · cases e with
    | fault f => exact absurd rfl (aL.1 f)
    | _ => exact hnone
  obtain ⟨llB, llM, -⟩ := aL
  refine ite_elim DictOk hnone (ite_elim DictOk hnone ⟨fun _ h => (nomatch h), fun d h => ?_⟩)
  cases h
  exact ⟨Or.inr hufB, ⟨hchan llB llM, hchan ofB ofM, hchan mlB mlM⟩⟩

theorem decodeDict_no_fault {raw : List Nat} (hb : Bytes raw) (f : Fault) : Blk.decodeDict raw ≠ .error f :=
  (decodeDict_ok hb).1 f

theorem decodeDict_wf {raw : List Nat} (hb : Bytes raw) {d : Dict Blk.Scratch}
    (h : Blk.decodeDict raw = .ok (some d)) : Blk.WF d.entropy :=
  (decodeDict_ok hb).2 d h

theorem dictTable_refines {src : List Nat} (hbs : Bytes src) {maxLog maxCode : Nat} (hml : maxLog ≤ 9)
    (hmc : maxCode ≤ 255) {al : Nat} {probs : List Int} {used : Nat} {T : Spec.Fse.Table}
    (hs : Spec.Fse.readDescription src maxLog maxCode = some (al, probs, used))
    (hT : Spec.Fse.buildTable al probs = some T) :
    ∃ t', (Fse.DTable.new maxCode).buildDecoder src.toArray maxLog = (t', .ok used) ∧ used ≤ src.length ∧
      ChanCoupledOpt maxLog maxCode (some T) t' none := by
  have ha := buildDecoder_agree (Fse.DTable.new maxCode) src.toArray maxLog hbs hml hmc
  generalize (Fse.DTable.new maxCode).buildDecoder src.toArray maxLog = p at ha ⊢
  obtain ⟨t', e | n⟩ := p
  · -- the Spec accepts, so `build_decoder` cannot have failed
    rw [show Spec.Fse.readDescription src maxLog maxCode = none from ha.2.1] at hs
    cases hs
  · obtain ⟨hB, hM, hU, al', probs', hrd', hbt'⟩ := ha
    cases hs.symm.trans hrd'
    refine ⟨t', rfl, by simpa using hU, ⟨Or.inr hB, hM, fun _ h => (nomatch h)⟩, fun T' hT' => ?_⟩
    cases hT'
    exact ⟨hB, hM, Option.some.inj (hT.symm.trans hbt')⟩

theorem decodeDict_refines {raw : List Nat} (hb : Bytes raw) {sd : Spec.Dict} (h : Spec.parseDict raw = some sd) :
    ∃ d, Blk.decodeDict raw = .ok (some d) ∧ d.id = sd.id ∧ d.content = sd.content ∧
      Coupled sd.entropy d.entropy := by
  unfold Spec.parseDict at h
  split at h
  · cases h
  · rename_i hpre
    simp only [not_or, Nat.not_lt, ne_eq, Decidable.not_not] at hpre
    obtain ⟨hlen, hmagic⟩ := hpre
    dsimp only at h
    have hb0 := Bytes_drop hb 8
    split at h
    · cases h
    · rename_i hufS u0 hH
      obtain ⟨huf', hbd, hhc⟩ := hufBuildDecoder_refines hb0 hH Huf.DecTable.empty
      obtain ⟨-, hu0⟩ := (hufBuildDecoder_ok _ _ hb0).2 _ _ hbd
      have hb1 := Bytes_drop hb0 u0
      split at h
      · cases h
      · rename_i ofAl ofP u1 hO
        have hb2 := Bytes_drop hb1 u1
        split at h
        · cases h
        · rename_i mlAl mlP u2 hM
          have hb3 := Bytes_drop hb2 u2
          split at h
          · cases h
          · rename_i llAl llP u3 hL
            split at h
            · cases h
            · rename_i h12
              split at h
              · rename_i ofT mlT llT hTO hTM hTL
                split at h
                · cases h
                · simp only [Option.some.injEq] at h
                  subst h
                  obtain ⟨ofT', hof, hofU, hofC⟩ := dictTable_refines (maxLog := Gen.ofMaxLog)
                    (maxCode := Gen.maxOffsetCode) hb1 (by decide) (by decide) hO hTO
                  obtain ⟨mlT', hml, hmlU, hmlC⟩ := dictTable_refines (maxLog := Gen.mlMaxLog)
                    (maxCode := Gen.maxMatchLengthCode) hb2 (by decide) (by decide) hM hTM
                  obtain ⟨llT', hll, hllU, hllC⟩ := dictTable_refines (maxLog := Gen.llMaxLog)
                    (maxCode := Gen.maxLiteralLengthCode) hb3 (by decide) (by decide) hL hTL
                  have hmg := dictMagic_bytes hb (by omega) hmagic
                  refine ⟨{ id := Blk.le32 (raw.drop 4),
                            entropy := { huf := huf',
                                         fse := { offsets := ofT', matchLengths := mlT', literalLengths := llT' },
                                         hist := (Blk.le32 (((((raw.drop 8).drop u0).drop u1).drop u2).drop u3), Blk.le32 ((((((raw.drop 8).drop u0).drop u1).drop u2).drop u3).drop 4), Blk.le32 ((((((raw.drop 8).drop u0).drop u1).drop u2).drop u3).drop 8)) },
                            content := ((((((raw.drop 8).drop u0).drop u1).drop u2).drop u3).drop 12).toArray }, ?_, ?_, rfl, ?_⟩
                  · unfold Blk.decodeDict
                    rw [if_neg (by omega), if_neg (by simp [hmg])]
                    simp only [hbd, if_neg (Nat.not_lt.mpr hu0), hof, if_neg (Nat.not_lt.mpr hofU), hml,
                      if_neg (Nat.not_lt.mpr hmlU), hll, if_neg (Nat.not_lt.mpr hllU), if_neg h12]
                  · simp only [Blk.le32_eq_leNat]
                  · exact ⟨hhc, ⟨hllC, hofC, hmlC⟩, by simp only [Blk.le32_eq_leNat]⟩
              · cases h

section generic
variable {σ : Type} [BlockDec σ] [BlockContract σ]

theorem Decoder.addDict_dictsWF [NoFaultContract σ] (d : Decoder σ) (dict : Dict σ) (hd : d.dictsWF)
    (hw : NoFaultContract.wf dict.entropy) : (d.addDict dict).dictsWF := by
  intro x hx
  simp only [Decoder.addDict, List.mem_cons, List.mem_filter] at hx
  rcases hx with rfl | ⟨hx, -⟩
  · exact hw
  · exact hd x hx

theorem Decoder.addDict_entWF [NoFaultContract σ] (d : Decoder σ) (dict : Dict σ) (hd : d.entWF)
    (hw : NoFaultContract.wf dict.entropy) : (d.addDict dict).entWF :=
  ⟨hd.1, Decoder.addDict_dictsWF d dict hd.2 hw⟩

theorem DictsCoupled.filter [RefinesSpec σ] {l1 : List (Dict σ)} {l2 : List Spec.Dict} (h : DictsCoupled l1 l2)
    (id : Nat) : DictsCoupled (l1.filter (fun x => x.id ≠ id)) (l2.filter (fun x => x.id ≠ id)) := by
  induction h with
  | nil => exact .nil
  | @cons a b l1 l2 h1 h2 h3 _ ih =>
    by_cases hid : a.id = id
    · have : b.id = id := by rw [h1, hid]
      simp only [List.filter_cons, hid, this, ne_eq, not_true_eq_false, decide_false]
      exact ih
    · have : ¬ b.id = id := by rw [h1]; exact hid
      simp only [List.filter_cons, hid, this, ne_eq, not_false_eq_true, decide_true]
      exact .cons h1 h2 h3 ih

theorem DictsCoupled.addDict [RefinesSpec σ] {d : Decoder σ} {sdicts : List Spec.Dict}
    (h : DictsCoupled d.dicts sdicts) {dict : Dict σ} {sd : Spec.Dict} (hid : sd.id = dict.id)
    (hc : sd.content = dict.content) (hcp : RefinesSpec.coupled dict.entropy sd.entropy) :
    DictsCoupled (d.addDict dict).dicts (sd :: sdicts.filter (fun x => x.id ≠ sd.id)) := by
  simp only [Decoder.addDict]
  rw [hid]
  exact .cons hid hc hcp (h.filter dict.id)

end generic

/-- `for raw in raws { if let Ok(dict) = Dictionary::decode_dict(raw) { dec.add_dict(dict) } }` -/
def registerDicts (d : DecB) : List (List Nat) → DecB
  | [] => d
  | raw :: rest =>
    match Blk.decodeDict raw with
    | .ok (some dict) => registerDicts (d.addDict dict) rest
    | _ => registerDicts d rest

/-- the same registrations on the Spec side (`Spec.parseDict`; a later dictionary with the same id
replaces an earlier one) -/
def specRegisterDicts (sd : List Spec.Dict) : List (List Nat) → List Spec.Dict
  | [] => sd
  | raw :: rest =>
    match Spec.parseDict raw with
    | some x => specRegisterDicts (x :: sd.filter (fun y => y.id ≠ x.id)) rest
    | none => specRegisterDicts sd rest

theorem registerDicts_state (d : DecB) (raws : List (List Nat)) :
    (registerDicts d raws).state = d.state ∧ (registerDicts d raws).maxWindow = d.maxWindow := by
  induction raws generalizing d with
  | nil => exact ⟨rfl, rfl⟩
  | cons raw rest ih =>
    simp only [registerDicts]
    split
    · exact ih _
    · exact ih _

theorem registerDicts_entWF (d : DecB) (raws : List (List Nat)) (hb : ∀ raw ∈ raws, Bytes raw) (hd : d.entWF) :
    (registerDicts d raws).entWF := by
  induction raws generalizing d with
  | nil => exact hd
  | cons raw rest ih =>
    have hbr := hb raw List.mem_cons_self
    have hrest : ∀ r ∈ rest, Bytes r := fun r hr => hb r (List.mem_cons_of_mem _ hr)
    simp only [registerDicts]
    split
    · rename_i dict hdd
      exact ih _ hrest (Decoder.addDict_entWF d dict hd (decodeDict_wf hbr hdd))
    · exact ih _ hrest hd

/-- discharges the `DictsCoupled` hypothesis of the dictionary forms of C01 / C06 / C08 / C10 -/
theorem registerDicts_coupled (d : DecB) (sdicts : List Spec.Dict) (raws : List (List Nat))
    (hb : ∀ raw ∈ raws, Bytes raw) (hs : ∀ raw ∈ raws, (Spec.parseDict raw).isSome = true)
    (h : DictsCoupled d.dicts sdicts) :
    DictsCoupled (registerDicts d raws).dicts (specRegisterDicts sdicts raws) := by
  induction raws generalizing d sdicts with
  | nil => exact h
  | cons raw rest ih =>
    have hbr := hb raw List.mem_cons_self
    have hsr := hs raw List.mem_cons_self
    have hrb : ∀ r ∈ rest, Bytes r := fun r hr => hb r (List.mem_cons_of_mem _ hr)
    have hrs : ∀ r ∈ rest, (Spec.parseDict r).isSome = true := fun r hr => hs r (List.mem_cons_of_mem _ hr)
    cases hp : Spec.parseDict raw with
    | none => rw [hp] at hsr; cases hsr
    | some sd =>
      obtain ⟨dict, hdd, hid, hc, hcp⟩ := decodeDict_refines hbr hp
      simp only [registerDicts, specRegisterDicts, hdd, hp]
      exact ih _ _ hrb hrs (h.addDict hid.symm hc.symm hcp)

end Zstd.Model
