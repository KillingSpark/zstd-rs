import Zstd.Proofs.SeqSection
import Zstd.Proofs.BlkSeqTables
import Zstd.Proofs.BlkSeqStream
/-
The sequences section of a compressed block against the FAITHFUL decoder mirror `Blk.decodeSequences`
(`decode_sequences` / `maybe_update_fse_tables` / `decode_sequences_without_rle` of
decoding/sequence_section_decoder.rs): the bytes `encodeSeqSectionReal` writes (modes byte 168 = three times mode 2
`FSE_Compressed`) are decoded to exactly the sequences, without a fault, with `bits_remaining = 0` at the end
(neither the `< 0` nor the `> 0` check fires), whatever the three tables of the scratch held before.

Nothing about the encoder is proved here: `SeqSection.encodeSeqSection_reads` says what the Spec reads in the
bytes, and the faithful decoder follows the Spec on such bytes (`blkDecodes_of_body`); no channel is in Repeat
mode, so it asks of the scratch only the alphabets.
-/
namespace Zstd.Proofs.SeqSectionBlk
open Zstd Zstd.Spec Zstd.Model Zstd.Model.Fse Zstd.Model.BitIO
open Zstd.Proofs.BitIO Zstd.Proofs.FseStream Zstd.Proofs.SeqStream Zstd.Proofs.SeqSection

/-- the scratch after a section with three `FSE_Compressed` tables -/
def installed (dtL dtO dtM : DTable) : Blk.FseScratch :=
  { offsets := dtO, ofRle := none, literalLengths := dtL, llRle := none, matchLengths := dtM, mlRle := none }

open Zstd.Proofs.Blk in
theorem blkDecodes_of_body {rest : List Nat} {seqs : List Spec.Seq} {LL OF ML : Spec.Fse.Table}
    (hb : Bytes rest) (h : SectionBody rest LL OF ML seqs) (s : Blk.FseScratch)
    (hs : s.literalLengths.maxSymbol = Gen.maxLiteralLengthCode ∧ s.offsets.maxSymbol = Gen.maxOffsetCode ∧
          s.matchLengths.maxSymbol = Gen.maxMatchLengthCode) :
    ∃ dtL dtO dtM, (dtL.maxSymbol = Gen.maxLiteralLengthCode ∧ dtO.maxSymbol = Gen.maxOffsetCode ∧
        dtM.maxSymbol = Gen.maxMatchLengthCode) ∧
      Blk.decodeSequences seqs.length (some 168) rest s = (installed dtL dtO dtM, .ok seqs) := by
  obtain ⟨k1, k2, k3, hL, hO, hM, hS⟩ := h
  obtain ⟨s', hupd, cL, cO, cM, ha, hle, _, hr⟩ := maybeUpdateFseTables_refines (m := 168) (e := {}) (s := s)
    (by decide) hb (.of_rebuild hs.1 (by decide) _ _) (.of_rebuild hs.2.1 (by decide) _ _)
    (.of_rebuild hs.2.2 (by decide) _ _) (hL.readSeqTable _ _) (hO.readSeqTable _ _) (hM.readSeqTable _ _)
  have hstream := decodeSeqStream_refines (s := s') cL cO cM
    (src := (rest.drop (k1 + k2 + k3)).toArray) (Bytes_drop hb _) hS
  obtain ⟨r1, r2, r3⟩ := hr rfl
  refine ⟨s'.literalLengths, s'.offsets, s'.matchLengths, ha, ?_⟩
  simp only [Blk.decodeSequences, hupd, if_neg (show ¬ k1 + k2 + k3 > rest.toArray.size by
    simp only [List.size_toArray]; omega), toArray_extract_drop, hstream]
  -- the three RLE fields of `s'` are `none`: `s'` is `installed` of its three tables
  obtain ⟨_, _, _, _, _, _⟩ := s'
  cases r1
  cases r2
  cases r3
  rfl

/-- The tables left in the scratch have the `max_symbol`s of `FSEScratch::new` again, so the theorem applies to the
next block with the scratch it leaves. -/
theorem encode_decode_sequences_blk_coded (ps : List (Enc.CodedSeq × Spec.Seq)) (hne : ps ≠ [])
    (hf : ∀ p ∈ ps, CodedFacts p.1 p.2) (s : Blk.FseScratch)
    (hs : s.literalLengths.maxSymbol = Gen.maxLiteralLengthCode ∧ s.offsets.maxSymbol = Gen.maxOffsetCode ∧
          s.matchLengths.maxSymbol = Gen.maxMatchLengthCode) :
    ∃ rest dtL dtO dtM, Enc.encodeSeqSectionReal (ps.map (·.1)) = .ok (168 :: rest) ∧ Bytes rest ∧
      (dtL.maxSymbol = Gen.maxLiteralLengthCode ∧ dtO.maxSymbol = Gen.maxOffsetCode ∧
        dtM.maxSymbol = Gen.maxMatchLengthCode) ∧
      Blk.decodeSequences ps.length (some 168) rest s = (installed dtL dtO dtM, .ok (ps.map (·.2))) := by
  obtain ⟨rest, LL, OF, ML, hbody, hbr, hB⟩ := encodeSeqSection_reads ps hne hf
  obtain ⟨dtL, dtO, dtM, hms, hdec⟩ := blkDecodes_of_body hbr hB s hs
  rw [List.length_map] at hdec
  exact ⟨rest, dtL, dtO, dtM, hbody, hbr, hms, hdec⟩

theorem encode_decode_sequences_blk (ps : List (Enc.CodedSeq × Spec.Seq)) (hne : ps ≠ [])
    (hf : ∀ p ∈ ps, CodedFacts p.1 p.2) (s : Blk.FseScratch)
    (hs : s.literalLengths.maxSymbol = Gen.maxLiteralLengthCode ∧ s.offsets.maxSymbol = Gen.maxOffsetCode ∧
          s.matchLengths.maxSymbol = Gen.maxMatchLengthCode) :
    ∃ rest, Enc.encodeSeqSectionReal (ps.map (·.1)) = .ok (168 :: rest) ∧
      (Blk.decodeSequences ps.length (some 168) rest s).2 = .ok (ps.map (·.2)) := by
  obtain ⟨rest, dtL, dtO, dtM, h1, _, _, h2⟩ := encode_decode_sequences_blk_coded ps hne hf s hs
  exact ⟨rest, h1, by rw [h2]⟩

theorem installed_maxSymbols {dtL dtO dtM : DTable} (hL : dtL.maxSymbol = Gen.maxLiteralLengthCode)
    (hO : dtO.maxSymbol = Gen.maxOffsetCode) (hM : dtM.maxSymbol = Gen.maxMatchLengthCode) :
    (installed dtL dtO dtM).literalLengths.maxSymbol = Gen.maxLiteralLengthCode ∧
      (installed dtL dtO dtM).offsets.maxSymbol = Gen.maxOffsetCode ∧
      (installed dtL dtO dtM).matchLengths.maxSymbol = Gen.maxMatchLengthCode := ⟨hL, hO, hM⟩

theorem new_maxSymbols : ({} : Blk.FseScratch).literalLengths.maxSymbol = Gen.maxLiteralLengthCode ∧
    ({} : Blk.FseScratch).offsets.maxSymbol = Gen.maxOffsetCode ∧
    ({} : Blk.FseScratch).matchLengths.maxSymbol = Gen.maxMatchLengthCode := ⟨rfl, rfl, rfl⟩

/-- with the section header: `SequencesHeader::parse_from_header`, then `decode_sequences` on what follows the
header — the call `decompress_block` makes -/
theorem encode_decode_sequences_blk_header (ps : List (Enc.CodedSeq × Spec.Seq)) (hne : ps ≠ [])
    (hn : ps.length ≤ 0xFFFF + 0x7F00) (hf : ∀ p ∈ ps, CodedFacts p.1 p.2) (s : Blk.FseScratch)
    (hs : s.literalLengths.maxSymbol = Gen.maxLiteralLengthCode ∧ s.offsets.maxSymbol = Gen.maxOffsetCode ∧
          s.matchLengths.maxSymbol = Gen.maxMatchLengthCode) :
    ∃ cnt body shLen dtL dtO dtM, encodeSeqnum ps.length = .ok cnt ∧
      Enc.encodeSeqSectionReal (ps.map (·.1)) = .ok body ∧ Bytes (cnt ++ body) ∧
      parseSeqHeader (cnt ++ body) = .ok (ps.length, some 168, shLen) ∧
      (dtL.maxSymbol = Gen.maxLiteralLengthCode ∧ dtO.maxSymbol = Gen.maxOffsetCode ∧
        dtM.maxSymbol = Gen.maxMatchLengthCode) ∧
      Blk.decodeSequences ps.length (some 168) ((cnt ++ body).drop shLen) s
        = (installed dtL dtO dtM, .ok (ps.map (·.2))) := by
  obtain ⟨cnt, hcnt, hcb, _, hparse⟩ := Zstd.Proofs.SeqCodes.encodeSeqnum_roundtrip ps.length 168
    (List.length_pos_iff.mpr hne) hn
  obtain ⟨rest, dtL, dtO, dtM, hbody, hbr, hms, hdec⟩ := encode_decode_sequences_blk_coded ps hne hf s hs
  have hhdr := Zstd.Proofs.SeqCodes.parseSeqHeader_eq_rfc (cnt ++ 168 :: rest)
  have hp : Spec.parseSeqCount (cnt ++ 168 :: rest) = some (ps.length, cnt.length) := by
    simpa using parseSeqCount_append hparse rest
  rw [hp] at hhdr
  simp only [List.length_eq_zero_iff, hne, if_false, List.getElem?_append_right (Nat.le_refl _),
    Nat.sub_self, List.getElem?_cons_zero] at hhdr
  refine ⟨cnt, 168 :: rest, cnt.length + 1, dtL, dtO, dtM, hcnt, hbody,
    Bytes_append.mpr ⟨hcb, Bytes_cons.mpr ⟨by decide, hbr⟩⟩, hhdr, hms, ?_⟩
  have hdrop : (cnt ++ 168 :: rest).drop (cnt.length + 1) = rest := by
    rw [← List.drop_drop, List.drop_left]; rfl
  rw [hdrop]
  exact hdec

open Zstd.Model.Enc Zstd.Proofs.Enc in
theorem encode_decode_sequences_blk_rust (rseqs : List RSeq) (hne : rseqs ≠ [])
    (hr : ∀ r ∈ rseqs, InRange r) (s : Blk.FseScratch)
    (hs : s.literalLengths.maxSymbol = Gen.maxLiteralLengthCode ∧ s.offsets.maxSymbol = Gen.maxOffsetCode ∧
          s.matchLengths.maxSymbol = Gen.maxMatchLengthCode) :
    ∃ lls mls ofs rest dtL dtO dtM,
      mapMExcept (fun s : RSeq => encodeLL s.ll) rseqs = .ok lls ∧
      mapMExcept (fun s : RSeq => encodeML s.ml) rseqs = .ok mls ∧
      mapMExcept (fun s : RSeq => encodeOffset s.of) rseqs = .ok ofs ∧
      Enc.encodeSeqSectionReal ((lls.zip (mls.zip ofs)).map (fun (a, b, c) => Enc.CodedSeq.mk a b c))
        = .ok (168 :: rest) ∧ Bytes rest ∧
      (dtL.maxSymbol = Gen.maxLiteralLengthCode ∧ dtO.maxSymbol = Gen.maxOffsetCode ∧
        dtM.maxSymbol = Gen.maxMatchLengthCode) ∧
      Blk.decodeSequences rseqs.length (some 168) rest s
        = (installed dtL dtO dtM, .ok (rseqs.map specSeq)) := by
  obtain ⟨lls, mls, ofs, ps, h1, h2, h3, p1, p2, p3, p4⟩ := codedFacts_of_inRange_all rseqs hr
  obtain ⟨rest, dtL, dtO, dtM, hb, hby, hms, hd⟩ := encode_decode_sequences_blk_coded ps
    (by rintro rfl; exact hne (List.eq_nil_of_length_eq_zero p3.symm)) p4 s hs
  rw [p1] at hb; rw [p2, p3] at hd
  exact ⟨lls, mls, ofs, rest, dtL, dtO, dtM, h1, h2, h3, hb, hby, hms, hd⟩

end Zstd.Proofs.SeqSectionBlk

