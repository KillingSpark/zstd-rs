import Zstd.Proofs.MatchParse
/-
The match finder: the operations of the generator from a state that satisfies the invariant
(`WF`, `SOK`): `new` and `reset` establish `WF` (their window is empty: no stores, `inv_new` / `inv_reset` of
MatchDriver); `start_matching`, `skip_matching` and `add_data` (with eviction in `reserve`) keep both, and say
when they cannot panic.
-/
namespace Zstd.Proofs.MG
open Zstd Zstd.Model.MG

theorem wf_new (m : Nat) : WF (MatchGenerator.new m) :=
  ⟨trivial, rfl, Nat.zero_le _, rfl, by intro l h; simp [MatchGenerator.new] at h⟩

theorem wf_reset (g : MatchGenerator) : WF g.reset.1 :=
  ⟨trivial, rfl, Nat.zero_le _, rfl, by intro l h; simp [MatchGenerator.reset] at h⟩

theorem skipMatching_same {key : KeyFn} {g g' : MatchGenerator} (h : g.skipMatching key = .ok g') :
    ∃ last, SameWindow g g' last ∧ g'.lastIdxInSequence = g'.suffixIdx ∧ g'.suffixIdx = last.data.size := by
  unfold MatchGenerator.skipMatching at h
  split at h
  · cases h
  · simp only [] at h
    split at h
    · cases h
    · cases h
      exact ⟨_, .of_setLast ‹_› _ _ _, rfl, rfl⟩

theorem startMatching_sat (key : KeyFn) (g : MatchGenerator) (hwf : WF g) (hs : SOK g) :
    Sat (g.startMatching key) (KeyOk key ∧ g.window ≠ []) fun r =>
      ∃ last, SameWindow g r.1 last ∧ WF r.1 ∧ SOK r.1 ∧ r.1.suffixIdx = last.data.size ∧
        Parse last.data (shape g.window) g.suffixIdx r.2 :=
  startLoop_sat key _ g hwf hs fun last hl => by simp [MatchGenerator.startFuel, hl]

theorem skipMatching_sat (key : KeyFn) (g : MatchGenerator) (hwf : WF g) (hs : SOK g) :
    Sat (g.skipMatching key) (KeyOk key ∧ g.window ≠ []) fun g' =>
      ∃ last, SameWindow g g' last ∧ WF g' ∧ SOK g' ∧ g'.suffixIdx = last.data.size := by
  unfold MatchGenerator.skipMatching
  split
  · exact not_ready_of_getLast?_none ‹_›
  · rename_i last hl
    obtain ⟨h1, h2⟩ := hs.last last hl
    have h := addSuffixesTill_sat key last.data last.suffixes g.suffixIdx last.data.size h1 h2
      (hwf.idx_le last hl) (Nat.le_refl _)
    simp only []
    generalize addSuffixesTill key last.data last.suffixes g.suffixIdx last.data.size = r at h ⊢
    match r with
    | .error f => exact fun hp => h hp.1
    | .ok st =>
      have hsw := SameWindow.of_setLast hl st last.data.size last.data.size
      exact ⟨last, hsw, hsw.wf hwf rfl (Nat.le_refl _), sok_setLast hs last h.1 h.2, rfl⟩

theorem reserveLoop_sat (maxW amount : Nat) : ∀ (w : List Entry) (ws : Nat),
    Sat (reserveLoop maxW amount w ws) (amount ≤ maxW ∧ ws = total (shape w)) fun r =>
      w = r.2.2 ++ r.1 ∧ ws = total (shape r.2.2) + r.2.1 ∧ r.2.1 + amount ≤ maxW := by
  intro w
  induction w with
  | nil =>
    intro ws
    unfold reserveLoop
    simp only [Zstd.Gen.mgEvictWhile, decide_eq_true_eq, shape_nil, total_nil]
    split
    · exact fun h => by omega
    · exact ⟨rfl, by simp, by dsimp only; omega⟩
  | cons e rest ih =>
    intro ws
    unfold reserveLoop
    simp only [Zstd.Gen.mgEvictWhile, decide_eq_true_eq, shape_cons, total_cons]
    split
    · split
      · exact fun h => by omega
      · have h2 := ih (ws - e.data.size)
        generalize reserveLoop maxW amount rest (ws - e.data.size) = r at h2 ⊢
        match r with
        | .error f => exact fun h => h2 ⟨h.1, by omega⟩
        | .ok (w1, ws1, ev1) =>
          dsimp only [Sat] at h2 ⊢
          exact ⟨by rw [h2.1]; rfl, by simp only [shape_cons, total_cons]; omega, h2.2.2⟩
    · exact ⟨rfl, by simp, by dsimp only; omega⟩

theorem addData_eq_ok {g g' : MatchGenerator} {data : Array Byte} {cap : Nat} {st : SuffixStore} {ev : List Entry} :
    g.addData data cap st = .ok (g', ev) ↔
    g.processed = true ∧ data.size ≤ g.maxWindowSize ∧
    ∃ w ws, reserveLoop g.maxWindowSize data.size g.window g.windowSize = .ok (w, ws, ev) ∧
      g' = { g with window := shiftBases w ++ [{ data := data, cap := cap, suffixes := st, baseOffset := 0 }],
                    windowSize := ws + data.size, suffixIdx := 0, lastIdxInSequence := 0 } := by
  unfold MatchGenerator.addData MatchGenerator.reserve
  simp only [Zstd.Gen.mgReserveAssert]
  cases g.processed
  · simp
  · by_cases hd : data.size ≤ g.maxWindowSize
    · cases hr : reserveLoop g.maxWindowSize data.size g.window g.windowSize with
      | error f => simp [hd]
      | ok r =>
        obtain ⟨w, ws, ev'⟩ := r
        simp only [hd, decide_true, Bool.not_true, Bool.false_eq_true, if_false, Except.ok.injEq,
          Prod.mk.injEq, true_and]
        constructor
        · rintro ⟨rfl, rfl⟩; exact ⟨w, ws, ⟨rfl, rfl, rfl⟩, rfl⟩
        · rintro ⟨_, _, ⟨rfl, rfl, rfl⟩, rfl⟩; exact ⟨rfl, rfl⟩
    · simp [hd]

theorem shiftBases_eq (w : List Entry) :
    ∃ L, shiftBases w = w.map (fun e => { e with baseOffset := e.baseOffset + L }) ∧
      ∀ last, w.getLast? = some last → last.data.size = L := by
  cases hl : w.getLast? with
  | none => exact ⟨0, by rw [List.getLast?_eq_none_iff.mp hl]; rfl, by simp⟩
  | some last => exact ⟨last.data.size, by simp only [shiftBases, hl], fun l h => by cases h; rfl⟩

theorem shape_map_base (w : List Entry) (f : Nat → Nat) :
    shape (w.map (fun e => { e with baseOffset := f e.baseOffset })) = (shape w).map (fun e => (e.1, f e.2)) := by
  simp [shape, List.map_map, Function.comp_def]

theorem total_map_base (f : Nat → Nat) (w : Shape) : total (w.map (fun e => (e.1, f e.2))) = total w := by
  simp [total, List.map_map, Function.comp_def]

theorem flat_map_base (f : Nat → Nat) (w : Shape) : flat (w.map (fun e => (e.1, f e.2))) = flat w := by
  simp [flat, List.flatMap_map]

theorem total_shiftBases (w : List Entry) : total (shape (shiftBases w)) = total (shape w) := by
  obtain ⟨L, hL, _⟩ := shiftBases_eq w
  rw [hL, shape_map_base w (· + L), total_map_base (· + L)]

theorem flat_shiftBases (w : List Entry) : flat (shape (shiftBases w)) = flat (shape w) := by
  obtain ⟨L, hL, _⟩ := shiftBases_eq w
  rw [hL, shape_map_base w (· + L), flat_map_base (· + L)]

theorem baseOk_push (d : Array Byte) (L : Nat) : ∀ (w : Shape), (∀ x, w.getLast? = some x → x.1.size = L) →
    BaseOk w → BaseOk (w.map (fun e => (e.1, e.2 + L)) ++ [(d, 0)]) := by
  intro w
  induction w with
  | nil => intro _ _; simp [BaseOk]
  | cons e r ih =>
    intro hl hb
    obtain ⟨hb1, hb2⟩ := hb
    simp only [List.map_cons, List.cons_append, BaseOk]
    constructor
    · rw [← List.cons_append, List.dropLast_concat]
      simp only [total_cons, total_map_base (· + L) r]
      -- e.2 + L = e.1.size + total r
      cases hr : (e :: r).getLast? with
      | none => simp at hr
      | some x =>
        have h1 := total_dropLast_add_last (e :: r) x hr
        have h2 := hl x hr
        simp only [total_cons] at h1
        omega
    · apply ih _ hb2
      intro x hx
      apply hl
      cases r with
      | nil => simp at hx
      | cons y ys => rw [List.getLast?_cons_cons]; exact hx

/-- `add_data` with an empty store for the new entry: its two `assert!`s are the only way to fail -/
theorem addData_sat (g : MatchGenerator) (data : Array Byte) (cap : Nat) (st : SuffixStore)
    (hwf : WF g) (hs : SOK g) (hst : StoreOk st) (hem : StoreEmpty st) :
    Sat (g.addData data cap st) (g.processed = true ∧ data.size ≤ g.maxWindowSize) fun r =>
      WF r.1 ∧ SOK r.1 ∧ r.1.maxWindowSize = g.maxWindowSize ∧ r.1.suffixIdx = 0 ∧ (∀ e ∈ r.2, StoreOk e.suffixes) ∧
      ∃ kept, g.window = r.2 ++ kept ∧
        r.1.window = shiftBases kept ++ [{ data := data, cap := cap, suffixes := st, baseOffset := 0 }] := by
  cases hr : g.addData data cap st with
  | error f =>
    -- the two `assert!`s hold and the window accounts for `window_size`: `reserve` returns, so `add_data` does
    rintro ⟨hp, hd⟩
    obtain ⟨⟨w, ws, ev⟩, hloop, -⟩ := (reserveLoop_sat g.maxWindowSize data.size g.window g.windowSize).returns ⟨hd, hwf.size⟩
    rw [addData_eq_ok.mpr ⟨hp, hd, w, ws, hloop, rfl⟩] at hr
    cases hr
  | ok r =>
    obtain ⟨g', ev⟩ := r
    obtain ⟨hp, hd, w, ws, hloop, rfl⟩ := addData_eq_ok.mp hr
    obtain ⟨hw, hsz, hle⟩ := (reserveLoop_sat _ _ _ _).of_ok hloop
    dsimp only [Sat] at hw hsz hle ⊢
    have hsz : ws = total (shape w) := by
      have := hwf.size
      rw [hw, shape_append, total_append] at this
      omega
    have hbw : BaseOk (shape w) := by
      have := hwf.base
      rw [hw, shape_append] at this
      exact baseOk_tail _ _ this
    obtain ⟨L, hL, hlast⟩ := shiftBases_eq w
    refine ⟨⟨?_, ?_, by show ws + data.size ≤ g.maxWindowSize; omega, rfl, ?_⟩, ⟨?_, ?_⟩, rfl, rfl, ?_, w, hw, rfl⟩
    · show BaseOk (shape (shiftBases w ++ _))
      rw [hL, shape_append, shape_map_base w (· + L)]
      apply baseOk_push _ _ _ _ hbw
      intro x hx
      simp only [shape, List.getLast?_map, Option.map_eq_some_iff] at hx
      obtain ⟨last, hl, rfl⟩ := hx
      exact hlast last hl
    · show ws + data.size = total (shape (shiftBases w ++ _))
      rw [shape_append, total_append, total_shiftBases]
      simp only [shape_cons, shape_nil, total_cons, total_nil]
      omega
    · intro l hl
      simp only [List.getLast?_concat, Option.some.injEq] at hl
      subst hl
      exact Nat.zero_le _
    · -- older entries of the new window = all kept entries, base offsets shifted by the length of
      -- the last of them, which was processed to its end
      simp only [List.dropLast_concat, hL]
      intro e he
      obtain ⟨e0, he0, rfl⟩ := List.mem_map.mp he
      cases hl : w.getLast? with
      | none => simp [List.getLast?_eq_none_iff.mp hl] at he0
      | some last =>
        have hwl := eq_dropLast_append_of_getLast? w last hl
        have hgl : g.window.getLast? = some last := by rw [hw, List.getLast?_append, hl]; rfl
        rw [hwl] at he0
        rcases List.mem_append.mp he0 with he0 | he0
        · have hgd : g.window.dropLast = ev ++ w.dropLast := by
            rw [hw, hwl, ← List.append_assoc, List.dropLast_concat, List.dropLast_concat]
          obtain ⟨a1, a2, a3⟩ := hs.older e0 (by rw [hgd]; exact List.mem_append_right _ he0)
          exact ⟨a1, a2, by simp only []; omega⟩
        · obtain rfl := List.mem_singleton.mp he0
          obtain ⟨a1, a2⟩ := hs.last _ hgl
          have hproc : g.suffixIdx = e0.data.size := by
            simpa only [MatchGenerator.processed, hgl, beq_iff_eq] using hp
          exact ⟨a1, hproc ▸ a2, by simp only []; have := hlast _ hl; omega⟩
    · intro l hl
      simp only [List.getLast?_concat, Option.some.injEq] at hl
      subst hl
      exact ⟨hst, idxOk_of_empty hem _ _⟩
    · intro e he
      exact sok_entry_storeOk hs e (by rw [hw]; exact List.mem_append_left _ he)

end Zstd.Proofs.MG
