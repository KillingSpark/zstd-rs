import Zstd.Proofs.BlkHufWeightsTable
import Zstd.Proofs.BlkSeqStream
import Zstd.Proofs.BlkHufWeights
import Zstd.Proofs.HufDec
/-
C01 (refinement Spec ⇒ Model), Huffman tree description: whenever the RFC semantics
`Spec.Huffman.readWeights` accepts a description, the model of `HuffmanTable::read_weights` returns
the same weights and the same byte count.  The FSE table of the compressed form is
`weightsTableRefines` (`Proofs/BlkHufWeightsTable`).
-/
namespace Zstd.Proofs.Blk
open Zstd Zstd.Model Zstd.Model.BitIO Zstd.Proofs.BitIO

theorem specOf_entry {ft : Fse.DTable} {s : Nat} {e : Fse.DEntry} (h : ft.decode[s]? = some e) :
    (specOf ft).entries[s]? = some (FseDecTable.toSpecEntry e) := by
  simp only [specOf, Array.getElem?_map, h, Option.map_some]

/-- `update_state` against the Spec's PADDED read: the weights loop reads past the start of the stream to detect its
end -/
theorem upd_padded {ft : Fse.DTable} (hft : FseBuilt 6 ft) {src : Array Nat} {br : BitReaderRev}
    {bits : List Bool} {d : Fse.Decoder} {s : Nat}
    (hd : ft.decode[s]? = some d.state) (hr : Rem src br bits) :
    ∃ d' br', d.updateState ft br = .ok (d', br') ∧
      ft.decode[d.state.baseLine + (Spec.readBEPad d.state.numBits bits).1]? = some d'.state ∧
      (if (Spec.readBEPad d.state.numBits bits).2.2 > 0 then Huf.fseStreamEnd br' = true
       else Huf.fseStreamEnd br' = false ∧ Rem src br' (Spec.readBEPad d.state.numBits bits).2.1) := by
  obtain ⟨pos, hinv, hp, rfl⟩ := hr
  obtain ⟨d', br', e, hinv', hd'⟩ := updateState_at hft (by decide) hinv d (mem_of_getElem? hd)
  refine ⟨d', br', e, hd', ?_⟩
  have hrem := RevInv_bitsRemaining hinv'
  rw [readBEPad_def]
  simp only [List.length_drop, length_stream]
  split
  · rw [if_pos (by simp only; omega)]
    exact (Zstd.Proofs.Huf.fseStreamEnd_iff _).trans (decide_eq_true (by omega))
  · rw [if_neg (by simp only; omega)]
    exact ⟨(Zstd.Proofs.Huf.fseStreamEnd_iff _).trans (decide_eq_false (by omega)),
      pos + d.state.numBits, hinv', by omega, by rw [List.drop_drop]⟩

theorem decodeFseWeights_step {ft : Fse.DTable} {fS s1 s2 : Nat} {bits : List Bool} {acc ws : List Nat}
    {e1 e2 : Fse.DEntry} (h1 : ft.decode[s1]? = some e1) (h2 : ft.decode[s2]? = some e2)
    (h : Spec.Huffman.decodeFseWeights (specOf ft) fS s1 s2 bits acc = some ws) :
    ∃ fS', fS = fS' + 1 ∧
      (if (Spec.readBEPad e1.numBits bits).2.2 > 0 then ws = (e2.symbol :: e1.symbol :: acc).reverse
       else acc.length + 1 ≤ 255 ∧
         Spec.Huffman.decodeFseWeights (specOf ft) fS' s2 (e1.baseLine + (Spec.readBEPad e1.numBits bits).1)
           (Spec.readBEPad e1.numBits bits).2.1 (e1.symbol :: acc) = some ws) := by
  cases fS with
  | zero => simp [Spec.Huffman.decodeFseWeights] at h
  | succ fS' =>
    refine ⟨fS', rfl, ?_⟩
    rw [Spec.Huffman.decodeFseWeights] at h
    simp only [specOf_entry h1, specOf_entry h2, FseDecTable.toSpecEntry] at h
    split at h
    · rename_i hm
      rw [if_pos hm]
      simp only [Option.some.injEq] at h
      exact h.symm
    · rename_i hm
      rw [if_neg hm]
      split at h
      · cases h
      · rename_i hl
        simp only [List.length_cons] at hl
        exact ⟨by omega, h⟩

/-- one round of the code is two steps of the Spec.  `fM` is the fuel of the model's loop (130 in `read_weights`: a
round adds two weights and `TooManyWeights` stops it above 255, so 128 rounds are never exceeded), `fS` that of the
Spec's (300 in `Spec.Huffman.readWeights`: one weight per step, rejected above 255) -/
theorem fseWeightsLoop_refines {ft : Fse.DTable} (hft : FseBuilt 6 ft) {src : Array Nat} :
    ∀ (fM fS s1 s2 : Nat) (bits : List Bool) (acc : List Nat) (d1 d2 : Fse.Decoder) (br : BitReaderRev)
      (k : Nat) (ws : List Nat),
      ft.decode[s1]? = some d1.state → ft.decode[s2]? = some d2.state → Rem src br bits →
      acc.length = 2 * k → k ≤ 127 → 128 ≤ k + fM →
      Spec.Huffman.decodeFseWeights (specOf ft) fS s1 s2 bits acc = some ws →
      Huf.fseWeightsLoop ft fM d1 d2 br acc = .ok (.ok ws) := by
  intro fM
  induction fM with
  | zero => intro fS s1 s2 bits acc d1 d2 br k ws _ _ _ _ h1 h2 _; omega
  | succ fM ih =>
    intro fS s1 s2 bits acc d1 d2 br k ws hd1 hd2 hr hlen hk hfuel h
    obtain ⟨fS1, rfl, hs1⟩ := decodeFseWeights_step hd1 hd2 h
    obtain ⟨d1', br1, hu1, hd1', hc1⟩ := upd_padded hft hd1 hr
    unfold Huf.fseWeightsLoop
    simp only [hu1]
    by_cases hm1 : (Spec.readBEPad d1.state.numBits bits).2.2 > 0
    · rw [if_pos hm1] at hs1 hc1
      rw [if_pos hc1, hs1]
      rfl
    · rw [if_neg hm1] at hs1 hc1
      obtain ⟨hl1, hs1⟩ := hs1
      obtain ⟨hc1, hr1⟩ := hc1
      rw [if_neg (by simp [hc1])]
      obtain ⟨fS2, rfl, hs2⟩ := decodeFseWeights_step hd2 hd1' hs1
      obtain ⟨d2', br2, hu2, hd2', hc2⟩ := upd_padded hft hd2 hr1
      simp only [hu2]
      by_cases hm2 : (Spec.readBEPad d2.state.numBits (Spec.readBEPad d1.state.numBits bits).2.1).2.2 > 0
      · rw [if_pos hm2] at hs2 hc2
        rw [if_pos hc2, hs2]
        rfl
      · rw [if_neg hm2] at hs2 hc2
        obtain ⟨hl2, hs2⟩ := hs2
        obtain ⟨hc2, hr2⟩ := hc2
        rw [if_neg (by simp [hc2])]
        simp only [List.length_cons] at hl2
        rw [if_neg (by simp [Gen.hufTooManyWeights, Gen.hufTooManyWeightsBound]; omega)]
        exact ih fS2 _ _ _ _ d1' d2' br2 (k + 1) ws hd1' hd2' hr2 (by simp only [List.length_cons]; omega)
          (by omega) (by omega) hs2

/-- the direct form (`header ≥ 128`) does not need the byte range -/
theorem readWeights_refines_direct {header : Nat} {rest : List Nat} (hh : 128 ≤ header)
    {ws : List Nat} {used : Nat} (hs : Spec.Huffman.readWeights (header :: rest) = some (ws, used))
    (t : Huf.DecTable) :
    Huf.readWeights t (header :: rest) = ({ t with weights := ws }, .ok used) := by
  unfold Spec.Huffman.readWeights at hs
  dsimp only at hs
  rw [if_pos hh] at hs
  rw [Zstd.Proofs.Huf.readWeights_direct_eq t rest hh]
  split at hs
  · cases hs
  · rename_i hlen
    simp only [Option.some.injEq, Prod.mk.injEq] at hs
    obtain ⟨rfl, rfl⟩ := hs
    rw [if_neg hlen]

theorem readWeights_refines {bytes : List Nat} (hb : Bytes bytes)
    {ws : List Nat} {used : Nat} (hs : Spec.Huffman.readWeights bytes = some (ws, used)) (t : Huf.DecTable) :
    Huf.readWeights t bytes = ({ t with weights := ws }, .ok used) := by
  cases bytes with
  | nil => simp [Spec.Huffman.readWeights] at hs
  | cons header rest =>
    by_cases hh : header ≥ 128
    · exact readWeights_refines_direct hh hs t
    · unfold Spec.Huffman.readWeights at hs
      dsimp only at hs
      rw [if_neg hh] at hs
      have hbr : Bytes rest := (Bytes_cons.1 hb).2
      split at hs
      · cases hs
      rename_i hlen
      split at hs
      · cases hs
      rename_i al probs used0 hrd
      split at hs
      · cases hs
      rename_i hu
      split at hs
      · rename_i T bits hT hbs
        split at hs
        · cases hs
        rename_i s1 bits1 hi1
        split at hs
        · cases hs
        rename_i s2 bits2 hi2
        split at hs
        · cases hs
        rename_i ws' hl
        simp only [Option.some.injEq, Prod.mk.injEq] at hs
        obtain ⟨rfl, rfl⟩ := hs
        obtain ⟨ft, hbd, hft, rfl⟩ := weightsTableRefines rest header al used0 probs T hbr hrd hT
        have hsrc : ((rest.drop used0).take (header - used0)).toArray.toList = (rest.take header).drop used0 := by
          rw [List.toList_toArray, List.drop_take]
        have hbsrc : Bytes ((rest.drop used0).take (header - used0)).toArray.toList := by
          rw [List.toList_toArray]
          exact Bytes_take (Bytes_drop hbr _) _
        obtain ⟨br0, e0, hr0⟩ := FseStream.skipEndMark_backwardStream hbsrc (by rw [hsrc]; exact hbs)
        obtain ⟨d1, br1, e1, hr1, hd1⟩ := init_strict hft (by decide) (Fse.Decoder.new ft) hr0 hi1
        obtain ⟨d2, br2, e2, hr2, hd2⟩ := init_strict hft (by decide) (Fse.Decoder.new ft) hr1 hi2
        exact Zstd.Proofs.Huf.readWeights_fse t (by omega) (by omega) hbd (by omega) e0 e1 e2
          (fseWeightsLoop_refines hft 130 300 s1 s2 bits2 [] d1 d2 br2 0 ws' hd1 hd2 hr2 rfl (by omega) (by omega) hl)
      · cases hs

example (t : Huf.DecTable) :
    Huf.readWeights t [130, 0x12, 0x30] = ({ t with weights := [1, 2, 3] }, .ok 3) :=
  readWeights_refines_direct (by decide) (by decide) t

/-- non-vacuity, FSE form: a two-byte table description (accuracy log 5, probabilities 15, 11, 6) and a
two-byte stream; the Spec accepts it with the weights `0, 0, 2, 0` -/
example (HT : WeightsTableRefines) (t : Huf.DecTable) :
    Huf.readWeights t [4, 0, 249, 0, 37] = ({ t with weights := [0, 0, 2, 0] }, .ok 5) :=
  readWeights_refines (by intro x hx; simp at hx; omega) (by decide +kernel) t

end Zstd.Proofs.Blk
