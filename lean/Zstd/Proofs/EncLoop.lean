import Zstd.Model.FrameCompressor
/-
Helper lemmas for C02 / C15 / C16: the read loop in closed form and an induction principle for the
block loop of `FrameCompressor::compress`, with its first consequences (what the hasher has seen, how many blocks);
`ReturnsOr`, the form of every statement about what the encoder returns or how it may fault.
-/
namespace Zstd.Proofs.Enc
open Zstd Zstd.Model.Enc

theorem readZeroMeansLast_eq : Gen.readZeroMeansLast = true := rfl
theorem readFullMeansLast_eq : Gen.readFullMeansLast = false := rfl
theorem readFullGuard_eq (a b : Nat) : Gen.readFullGuard a b = decide (a = b) := rfl
theorem hashesInputBlock_eq : Gen.hashesInputBlock = true := rfl

/-- `res` returns a value satisfying `I`, or faults with a fault in `A`.  `A := fun _ => False` is totality,
`A := fun _ => True` a statement about returned values only, a singleton `A` "returns or hits the one allowed `assert!`". -/
def ReturnsOr {α : Type} (I : α → Prop) (A : Fault → Prop) (res : Except Fault α) : Prop :=
  (∃ a, res = .ok a ∧ I a) ∨ ∃ f, res = .error f ∧ A f

theorem ReturnsOr.intro_ok {α : Type} {I : α → Prop} {A : Fault → Prop} {res : Except Fault α} {a : α}
    (hr : res = .ok a) (h : I a) : ReturnsOr I A res := .inl ⟨a, hr, h⟩

theorem ReturnsOr.intro_error {α : Type} {I : α → Prop} {A : Fault → Prop} {res : Except Fault α} {f : Fault}
    (hr : res = .error f) (h : A f) : ReturnsOr I A res := .inr ⟨f, hr, h⟩

theorem ReturnsOr.of_ok {α : Type} {I : α → Prop} {A : Fault → Prop} {res : Except Fault α} {a : α}
    (h : ReturnsOr I A res) (hr : res = .ok a) : I a := by
  obtain ⟨_, h, hI⟩ | ⟨_, h, _⟩ := h <;> cases hr.symm.trans h
  exact hI

theorem ReturnsOr.of_error {α : Type} {I : α → Prop} {A : Fault → Prop} {res : Except Fault α} {f : Fault}
    (h : ReturnsOr I A res) (hr : res = .error f) : A f := by
  obtain ⟨_, h, _⟩ | ⟨_, h, hA⟩ := h <;> cases hr.symm.trans h
  exact hA

theorem ReturnsOr.map {α β : Type} {I : α → Prop} {J : β → Prop} {A : Fault → Prop} {res : Except Fault α}
    (g : α → β) (hg : ∀ a, I a → J (g a)) (h : ReturnsOr I A res) : ReturnsOr J A (res.map g) := by
  cases hr : res with
  | ok a => exact .intro_ok rfl (hg a (h.of_ok hr))
  | error f => exact .intro_error rfl (h.of_error hr)

theorem ReturnsOr.returns {α : Type} {I : α → Prop} {res : Except Fault α} (h : ReturnsOr I (fun _ => False) res) :
    ∃ a, res = .ok a ∧ I a := by
  obtain h | ⟨_, _, hf⟩ := h
  · exact h
  · exact hf.elim

theorem ReturnsOr.mono {α : Type} {I J : α → Prop} {A : Fault → Prop} {res : Except Fault α}
    (h : ReturnsOr I A res) (hij : ∀ a, I a → J a) : ReturnsOr J A res := by
  obtain ⟨a, hr, hI⟩ | h := h
  · exact .inl ⟨a, hr, hij a hI⟩
  · exact .inr h

theorem ReturnsOr.trivial {α : Type} (res : Except Fault α) : ReturnsOr (fun _ => True) (fun _ => True) res := by
  cases hr : res with
  | ok a => exact .intro_ok rfl True.intro
  | error f => exact .intro_error rfl True.intro

theorem ReturnsOr.of_returns {α : Type} {res : Except Fault α} (h : ∃ a, res = .ok a) :
    ReturnsOr (fun _ => True) (fun _ => False) res :=
  let ⟨_, hr⟩ := h
  .intro_ok hr True.intro

theorem readOnce_spec (data : List Byte) (frags : List Nat) (cap : Nat) (hcap : 0 < cap) :
    ∃ n, n ≤ cap ∧ n ≤ data.length ∧ (0 < data.length → 0 < n) ∧
      readOnce data frags cap = (data.take n, data.drop n, frags.tail) := by
  cases frags with
  | nil => exact ⟨min cap data.length, by omega, by omega, by omega, rfl⟩
  | cons f fs => exact ⟨min (min (max f 1) cap) data.length, by omega, by omega, by omega, rfl⟩

theorem readLoop_spec (space : Nat) :
    ∀ (fuel : Nat) (acc data : List Byte) (frags : List Nat),
      data.length < fuel → acc.length < space →
      ∃ frags', readLoop fuel space acc data frags =
        some (acc ++ data.take (space - acc.length), decide (data.length < space - acc.length),
              data.drop (space - acc.length), frags') := by
  intro fuel
  induction fuel with
  | zero => intro acc data frags h; omega
  | succ fuel ih =>
    intro acc data frags hfuel hacc
    obtain ⟨n, hcap, hle, hpos, hread⟩ := readOnce_spec data frags (space - acc.length) (by omega)
    have hlen : (data.take n).length = n := List.length_take_of_le hle
    simp only [readLoop, hread, hlen, List.length_append, readZeroMeansLast_eq, readFullGuard_eq,
      readFullMeansLast_eq]
    by_cases hn : n = 0
    · have hd : data = [] := List.eq_nil_of_length_eq_zero (by omega)
      subst hd
      exact ⟨frags.tail, by simp [hn]; omega⟩
    · rw [if_neg hn]
      by_cases hfull : acc.length + n = space
      · have e : space - acc.length = n := by omega
        have : ¬ data.length < n := by omega
        exact ⟨frags.tail, by simp [hfull, e, this]⟩
      · obtain ⟨frags', hrec⟩ := ih (acc ++ data.take n) (data.drop n) frags.tail
          (by simp; omega) (by simp; omega)
        refine ⟨frags', ?_⟩
        rw [if_neg (by simpa using hfull), hrec]
        -- what is still missing after this read, `m`, and this read's `n` make up what was missing
        obtain ⟨m, hm⟩ : ∃ m, space - acc.length = n + m := ⟨_, (Nat.add_sub_cancel' hcap).symm⟩
        have hm' : space - (acc ++ data.take n).length = m := by
          rw [List.length_append, hlen, Nat.sub_add_eq, hm, Nat.add_sub_cancel_left]
        rw [hm, hm', List.append_assoc, ← List.take_add, List.drop_drop, List.length_drop]
        congr 3
        simp only [decide_eq_decide]
        omega

theorem compressLoop_step {H : Type} (emit : Emit H) (script : Nat → MBlock) (fuel idx : Nat)
    (st : EncState H) (hashed data : List Byte) (frags : List Nat) (hsp : 0 < (script idx).space) :
    ∃ frags',
      compressLoop emit script (fuel + 1) idx st hashed data frags =
        (let space := (script idx).space
         let blk := data.take space
         let last := decide (data.length < space)
         if blk.isEmpty then .ok ⟨blockHeader true Gen.blockTypeRaw 0, hashed ++ blk, st, idx + 1⟩
         else
           match emit last blk (script idx).parse st with
           | .error f => .error f
           | .ok (bytes, st') =>
             if last then .ok ⟨bytes, hashed ++ blk, st', idx + 1⟩
             else
               match compressLoop emit script fuel (idx + 1) st' (hashed ++ blk) (data.drop space) frags' with
               | .error f => .error f
               | .ok r => .ok { r with bytes := bytes ++ r.bytes }) := by
  obtain ⟨frags', h⟩ := readLoop_spec (script idx).space (data.length + 1) [] data frags (by omega) (by simpa using hsp)
  refine ⟨frags', ?_⟩
  simp only [compressLoop, h, hashesInputBlock_eq]
  simp only [List.nil_append, List.length_nil, Nat.sub_zero, ↓reduceIte]
  rfl

/-- the block of the input `full` that the `i`-th `get_next_space` call receives: it starts at byte `blockStart script i`
and has the length of that space, less at the end of the input (`[]` beyond it) -/
def blockAt (script : Nat → MBlock) (full : List Byte) (i : Nat) : List Byte :=
  (full.drop (blockStart script i)).take (script i).space

theorem blockAt_length_le (script : Nat → MBlock) (full : List Byte) (i : Nat) :
    (blockAt script full i).length ≤ (script i).space := List.length_take_le _ _

theorem blockAt_length (script : Nat → MBlock) (full : List Byte) (i : Nat)
    (h : blockStart script (i + 1) ≤ full.length) : (blockAt script full i).length = (script i).space := by
  rw [blockAt, List.length_take, List.length_drop]
  have : blockStart script (i + 1) = blockStart script i + (script i).space := rfl
  omega

theorem blockAt_ne_nil (script : Nat → MBlock) (full : List Byte) (i : Nat) (hsp : 0 < (script i).space)
    (h : blockStart script i < full.length) : blockAt script full i ≠ [] := by
  rw [← List.length_pos_iff, blockAt, List.length_take, List.length_drop]; omega

theorem blockAt_append_drop (script : Nat → MBlock) (full : List Byte) (i : Nat) :
    blockAt script full i ++ full.drop (blockStart script (i + 1)) = full.drop (blockStart script i) := by
  rw [blockStart, ← List.drop_drop]
  exact List.take_append_drop _ _

theorem take_append_blockAt (script : Nat → MBlock) (full : List Byte) (i : Nat) :
    full.take (blockStart script i) ++ blockAt script full i = full.take (blockStart script (i + 1)) := by
  rw [blockStart, List.take_add]
  rfl

/-- Induction principle for the block loop on the input `full`: `P idx st hashed res` speaks of the result `res` of the
loop started at block `idx` in state `st` with `hashed` already fed to the hasher; one premise for each of the four ways a
run can go (no data left, the emitter faults, the data ends inside the space, the space is full). -/
theorem compressLoop_induct {H : Type} (emit : Emit H) (script : Nat → MBlock)
    (hspace : ∀ i, 0 < (script i).space) (full : List Byte)
    (P : Nat → EncState H → List Byte → Except Fault (LoopOut H) → Prop)
    (hempty : ∀ idx st hashed, full.length ≤ blockStart script idx →
      P idx st hashed (.ok ⟨blockHeader true Gen.blockTypeRaw 0, hashed, st, idx + 1⟩))
    (hfail : ∀ idx st hashed last f, blockAt script full idx ≠ [] →
      emit last (blockAt script full idx) (script idx).parse st = .error f → P idx st hashed (.error f))
    (hlast : ∀ idx st hashed bytes st', blockAt script full idx ≠ [] →
      full.length < blockStart script (idx + 1) →
      emit true (blockAt script full idx) (script idx).parse st = .ok (bytes, st') →
      P idx st hashed (.ok ⟨bytes, hashed ++ blockAt script full idx, st', idx + 1⟩))
    (hstep : ∀ idx st hashed bytes st' res, blockAt script full idx ≠ [] →
      blockStart script (idx + 1) ≤ full.length →
      emit false (blockAt script full idx) (script idx).parse st = .ok (bytes, st') →
      P (idx + 1) st' (hashed ++ blockAt script full idx) res →
      P idx st hashed (res.map fun r => { r with bytes := bytes ++ r.bytes })) :
    ∀ fuel idx st hashed frags, full.length - blockStart script idx < fuel →
      P idx st hashed (compressLoop emit script fuel idx st hashed (full.drop (blockStart script idx)) frags) := by
  intro fuel
  induction fuel with
  | zero => intro idx st hashed frags h; omega
  | succ fuel ih =>
    intro idx st hashed frags hfuel
    obtain ⟨frags', hs⟩ := compressLoop_step emit script fuel idx st hashed
      (full.drop (blockStart script idx)) frags (hspace idx)
    have hblk : (full.drop (blockStart script idx)).take (script idx).space = blockAt script full idx := rfl
    have hsucc : blockStart script (idx + 1) = blockStart script idx + (script idx).space := rfl
    have hsp := hspace idx
    rw [hs]
    simp only [hblk, List.length_drop, List.drop_drop, ← hsucc]
    by_cases hd : full.length ≤ blockStart script idx
    · have hnil : blockAt script full idx = [] := by rw [← hblk, List.drop_eq_nil_of_le hd, List.take_nil]
      simp only [hnil, List.isEmpty_nil, if_true, List.append_nil]
      exact hempty idx st hashed hd
    · have hne := blockAt_ne_nil script full idx hsp (by omega)
      rw [if_neg (by simpa using hne)]
      cases hem : emit (decide (full.length - blockStart script idx < (script idx).space))
          (blockAt script full idx) (script idx).parse st with
      | error f => exact hfail idx st hashed _ f hne hem
      | ok x =>
        obtain ⟨bytes, st'⟩ := x
        by_cases hl : full.length - blockStart script idx < (script idx).space
        · simp only [hl, decide_true, if_true] at hem ⊢
          exact hlast idx st hashed bytes st' hne (by omega) hem
        · simp only [hl, decide_false, Bool.false_eq_true, if_false] at hem ⊢
          have ih' := ih (idx + 1) st' (hashed ++ blockAt script full idx) frags' (by omega)
          generalize compressLoop emit script fuel (idx + 1) st' _ _ frags' = res at ih' ⊢
          cases res <;> exact hstep idx st hashed bytes st' _ hne (by omega) hem ih'

theorem compressLoop_ok_induct {H : Type} (emit : Emit H) (script : Nat → MBlock)
    (hspace : ∀ i, 0 < (script i).space) (full : List Byte)
    (P : Nat → EncState H → List Byte → LoopOut H → Prop)
    (hempty : ∀ idx st hashed, full.length ≤ blockStart script idx →
      P idx st hashed ⟨blockHeader true Gen.blockTypeRaw 0, hashed, st, idx + 1⟩)
    (hlast : ∀ idx st hashed bytes st', blockAt script full idx ≠ [] →
      full.length < blockStart script (idx + 1) →
      emit true (blockAt script full idx) (script idx).parse st = .ok (bytes, st') →
      P idx st hashed ⟨bytes, hashed ++ blockAt script full idx, st', idx + 1⟩)
    (hstep : ∀ idx st hashed bytes st' r, blockAt script full idx ≠ [] →
      blockStart script (idx + 1) ≤ full.length →
      emit false (blockAt script full idx) (script idx).parse st = .ok (bytes, st') →
      P (idx + 1) st' (hashed ++ blockAt script full idx) r →
      P idx st hashed { r with bytes := bytes ++ r.bytes })
    (fuel idx : Nat) (st : EncState H) (hashed : List Byte) (frags : List Nat) (r : LoopOut H)
    (hfuel : full.length - blockStart script idx < fuel)
    (hrun : compressLoop emit script fuel idx st hashed (full.drop (blockStart script idx)) frags = .ok r) :
    P idx st hashed r := by
  refine compressLoop_induct emit script hspace full (fun idx st hashed res => ∀ r, res = .ok r → P idx st hashed r)
    ?_ ?_ ?_ ?_ fuel idx st hashed frags hfuel r hrun
  · intro idx st hashed hd r h; cases h; exact hempty idx st hashed hd
  · intro idx st hashed last f _ _ r h; cases h
  · intro idx st hashed bytes st' h1 h2 hem r h; cases h; exact hlast idx st hashed bytes st' h1 h2 hem
  · intro idx st hashed bytes st' res hne hge hem ih r h
    cases res with
    | error f => cases h
    | ok r' => cases h; exact hstep idx st hashed bytes st' r' hne hge hem (ih r' rfl)

theorem compressLoop_hashed {H : Type} (emit : Emit H) (script : Nat → MBlock)
    (hspace : ∀ i, 0 < (script i).space) (full : List Byte) :
    ∀ fuel idx st hashed frags r, full.length - blockStart script idx < fuel →
      compressLoop emit script fuel idx st hashed (full.drop (blockStart script idx)) frags = .ok r →
      r.hashed = hashed ++ full.drop (blockStart script idx) := by
  intro fuel idx st hashed frags r hfuel hrun
  apply compressLoop_ok_induct emit script hspace full _ ?_ ?_ ?_ fuel idx st hashed frags r hfuel hrun
  · intro idx st hashed hd
    rw [List.drop_eq_nil_of_le hd, List.append_nil]
  · intro idx st hashed bytes st' _ hlt _
    rw [← blockAt_append_drop, List.drop_eq_nil_of_le (Nat.le_of_lt hlt), List.append_nil]
  · intro idx st hashed bytes st' r _ _ _ ih
    rw [← blockAt_append_drop, ← List.append_assoc]; exact ih

theorem compressLoop_block_count {H : Type} (emit : Emit H) (script : Nat → MBlock) (S : Nat) (hS : 0 < S)
    (hconst : ∀ i, (script i).space = S) (full : List Byte) :
    ∀ fuel idx st hashed frags r, full.length - blockStart script idx < fuel →
      compressLoop emit script fuel idx st hashed (full.drop (blockStart script idx)) frags = .ok r →
      r.idx = idx + (full.length - blockStart script idx) / S + 1 := by
  intro fuel idx st hashed frags r hfuel hrun
  apply compressLoop_ok_induct emit script (fun i => by rw [hconst i]; exact hS) full _ ?_ ?_ ?_
    fuel idx st hashed frags r hfuel hrun
  · intro idx _ _ hd
    simp [Nat.sub_eq_zero_of_le hd]
  · intro idx _ _ _ _ _ hlt _
    rw [blockStart, hconst idx] at hlt
    rw [Nat.div_eq_of_lt (by omega)]
  · intro idx _ _ _ _ r _ hge _ ih
    rw [blockStart, hconst idx] at hge ih
    have : (full.length - blockStart script idx) / S = (full.length - (blockStart script idx + S)) / S + 1 := by
      rw [← Nat.add_div_right _ hS]; congr 1; omega
    simp only [ih]; omega

end Zstd.Proofs.Enc
