import Zstd.Proofs.FrameDecoderContract
import Zstd.Proofs.Spec.Block
import Zstd.Proofs.Util
/-
Block decoding in the frame-decoder model: what `executeSequences` appends and which maps on buffers it commutes with;
the stand-in `decompressBlock` by cases; one block on every outcome (`BlockStep`), as an equation (`decodeOneBlock_eq`), on
`Ok` (`BlockOk`) and on truncated sources; `resetCore`.
Through the `variable` line every theorem that mentions `σ` takes `[BlockContract σ]`, also the unfolding lemmas that
do not use it (`decodeOneBlock_eq`, `blockBody_ok`, `resetCore_*`, `applyDictChoice_*`).
-/
set_option linter.unusedSectionVars false
namespace Zstd.Model
open Zstd

variable {σ : Type} [BlockDec σ] [BlockContract σ]

theorem readExact_eq_some {n : Nat} {s : Src} {t r : List Nat} :
    readExact n s = some (t, r) ↔ n ≤ s.length ∧ t = s.take n ∧ r = s.drop n := by
  simp only [readExact, List.length_take]
  constructor
  · intro h
    split at h
    · cases h
    · simp only [Option.some.injEq, Prod.mk.injEq] at h
      exact ⟨by omega, h.1.symm, h.2.symm⟩
  · rintro ⟨h1, rfl, rfl⟩
    rw [if_neg (by omega)]

theorem readExact_eq_none {n : Nat} {s : Src} : readExact n s = none ↔ s.length < n := by
  simp only [readExact, List.length_take]
  constructor
  · intro h; split at h
    · omega
    · cases h
  · intro h; rw [if_pos (by omega)]

theorem readExact_take (n k : Nat) (s : Src) :
    readExact n (s.take k) =
      if n ≤ k then (readExact n s).map (fun p => (p.1, p.2.take (k - n))) else none := by
  split
  · rename_i h
    cases hs : readExact n s with
    | none =>
      rw [readExact_eq_none] at hs
      simp only [Option.map_none, readExact_eq_none, List.length_take]; omega
    | some p =>
      obtain ⟨t, r⟩ := p
      rw [readExact_eq_some] at hs
      obtain ⟨h1, rfl, rfl⟩ := hs
      simp only [Option.map_some, readExact_eq_some, List.length_take]
      refine ⟨by omega, ?_, ?_⟩
      · rw [List.take_take]; congr 1; omega
      · rw [List.drop_take]
  · rw [readExact_eq_none, List.length_take]; omega

theorem readExact_agree {m b : Nat} {X X' : Src} {t r : List Nat} (h : readExact m X = some (t, r)) (hm : m ≤ b)
    (ha : X'.take b = X.take b) :
    readExact m X' = some (t, X'.drop m) ∧ (X'.drop m).take (b - m) = r.take (b - m) := by
  rw [readExact_eq_some] at h ⊢
  obtain ⟨hl, rfl, rfl⟩ := h
  have ht : X'.take m = X.take m := by
    have := congrArg (List.take m) ha
    rwa [List.take_take, List.take_take, Nat.min_eq_left hm] at this
  have hl' : m ≤ X'.length := by
    have := congrArg List.length ht
    rw [List.length_take, List.length_take] at this; omega
  exact ⟨⟨hl', ht.symm, rfl⟩, by rw [← List.drop_take, ← List.drop_take, ha]⟩

/-- the value the Rust `seq_sum` has when `execute_sequences` returns `Ok` -/
def finalSeqSum : List Spec.Seq → List Nat → Nat → Nat
  | [], lits, q => q + lits.length
  | s :: rest, lits, q => finalSeqSum rest (lits.drop s.ll) (q + s.ml + s.ll)

/-- Every path through `execute_sequences`, the error and fault paths too, only appends, and stays within the block
maximum if `seq_sum` was; on `Ok` it appends exactly `seq_sum_final − seq_sum` bytes, which is what the
`assert!(seq_sum == diff)` at the end of the Rust function checks. -/
theorem executeSequences_extends (seqs : List Spec.Seq) (lits : List Nat) (h : Nat × Nat × Nat) (q : Nat) (b : DBuf) :
    ∃ x, DBuf.Extends b (executeSequences seqs lits h q b).1.1 x ∧
      (q ≤ Gen.maxBlockSize → q + x.size ≤ Gen.maxBlockSize) ∧
      ((executeSequences seqs lits h q b).2 = .ok () → q + x.size = finalSeqSum seqs lits q) := by
  induction seqs generalizing lits h q b with
  | nil =>
    simp only [executeSequences, finalSeqSum]
    split
    · rename_i he
      exact ⟨#[], .refl b, id, fun _ => by simp [List.isEmpty_iff.mp he]⟩
    · split
      · exact ⟨#[], .refl b, id, fun h => nomatch h⟩
      · exact ⟨lits.toArray, DBuf.push_extends b _, fun _ => by simp; omega, fun _ => by simp⟩
  | cons s rest ih =>
    simp only [executeSequences, finalSeqSum]
    -- (the goal holds the unfolded function twice, and `split` is dear on it: the two guards are named instead)
    by_cases hle : q + s.ll + s.ml > Gen.maxBlockSize
    · rw [if_pos hle]
      exact ⟨#[], .refl b, id, fun h => nomatch h⟩
    · rw [if_neg hle]
      by_cases hll : s.ll > lits.length
      · rw [if_pos hll]
        exact ⟨#[], .refl b, id, fun h => nomatch h⟩
      · rw [if_neg hll]
        -- the literals of this sequence are in; whatever stops the block now, they stay
        obtain ⟨x, hx, hs⟩ : ∃ x, DBuf.Extends b (if s.ll > 0 then b.push (lits.take s.ll).toArray else b) x ∧
            x.size = s.ll := by
          split
          · exact ⟨_, DBuf.push_extends b _, by simp; omega⟩
          · exact ⟨#[], .refl b, by simp; omega⟩
        generalize (if s.ll > 0 then b.push (lits.take s.ll).toArray else b) = b1 at hx ⊢
        split
        · exact ⟨x, hx, fun _ => by omega, fun h => nomatch h⟩
        · split
          · exact ⟨x, hx, fun _ => by omega, fun h => nomatch h⟩
          · split
            · exact ⟨x, hx, fun _ => by omega, fun h => nomatch h⟩
            · rename_i b2 hr
              obtain ⟨y, hy, hsy⟩ : ∃ y, DBuf.Extends b1 b2 y ∧ y.size = s.ml := by
                split at hr
                · exact DBuf.repeat_extends hr
                · cases hr; exact ⟨#[], .refl b1, by simp; omega⟩
              obtain ⟨z, hz, hsz, hok⟩ := ih (lits.drop s.ll) _ (q + s.ml + s.ll) b2
              have := hsz (by omega)
              refine ⟨x ++ y ++ z, (hx.trans hy).trans hz, fun _ => by simp only [Array.size_append]; omega, fun hr => ?_⟩
              simp only [Array.size_append]
              have := hok hr
              omega

/-- Sequence execution commutes with every map `φ` on buffers that commutes with `push` and with the
matches the block performs.  The matches are delimited by a bound `W` on the bytes buffered and a
predicate `P` on the resolved offsets: for the map that puts drained bytes back in front (`DBuf.twin`) `P` is
`· ≤ W` (a block's effect is local: such a match never consults the dictionary or `total_output_counter`); for a
map that touches the hasher field only, nothing needs to be assumed. -/
theorem executeSequences_comm (φ : DBuf → DBuf) (hpush : ∀ b y, (φ b).push y = φ (b.push y))
    (W : Nat) (P : Nat → Prop)
    (hrep : ∀ b off ml, W ≤ b.content.size → P off → (φ b).repeat off ml = (b.repeat off ml).map φ)
    (seqs : List Spec.Seq) (lits : List Nat) (h : Nat × Nat × Nat) (q : Nat) (b : DBuf)
    (hW : W ≤ b.content.size) (hoff : ∀ o ∈ resolvedOffsets seqs h, P o) :
    executeSequences seqs lits h q (φ b) =
      ((φ (executeSequences seqs lits h q b).1.1, (executeSequences seqs lits h q b).1.2),
        (executeSequences seqs lits h q b).2) := by
  induction seqs generalizing lits h q b with
  | nil =>
    simp only [executeSequences]
    split
    · rfl
    · split
      · rfl
      · rw [hpush]
  | cons s rest ih =>
    simp only [executeSequences]
    by_cases hc : q + s.ll + s.ml > Gen.maxBlockSize
    · simp only [hc, if_true]
    · simp only [hc, if_false]
      by_cases hl : s.ll > lits.length
      · simp only [hl, if_true]
      · simp only [hl, if_false]
        have hb1 : (if s.ll > 0 then (φ b).push (lits.take s.ll).toArray else φ b)
            = φ (if s.ll > 0 then b.push (lits.take s.ll).toArray else b) := by
          split
          · exact hpush _ _
          · rfl
        rw [hb1]
        generalize hb1' : (if s.ll > 0 then b.push (lits.take s.ll).toArray else b) = b1
        have hW1 : W ≤ b1.content.size := by
          rw [← hb1']; split
          · simp only [DBuf.push, Array.size_append]; omega
          · exact hW
        cases hdo : doOffsetHistory s.ov s.ll h with
        | error f => rfl
        | ok r =>
          obtain ⟨actual, h'⟩ := r
          simp only [resolvedOffsets, hdo, List.forall_mem_cons] at hoff ⊢
          split
          · rfl
          · by_cases hml : s.ml > 0
            · simp only [hml, if_true]
              rw [hrep b1 actual s.ml hW1 hoff.1]
              cases hr : b1.repeat actual s.ml with
              | error e => rfl
              | ok b2 =>
                obtain ⟨y, hy, -⟩ := DBuf.repeat_extends hr
                exact ih _ _ _ _ (by rw [hy.size]; omega) hoff.2
            · simp only [hml, if_false]
              exact ih _ _ _ _ hW1 hoff.2

theorem parseLitHeader_take (raw : List Nat) (h : Spec.LitHeader) (m : Nat)
    (hp : Spec.parseLitHeader raw = some h) (hm : h.hdrLen ≤ m) :
    Spec.parseLitHeader (raw.take m) = some h :=
  (Zstd.Proofs.Headers.specLitHeader_inv hp).2.2 _ (by rw [List.take_take, Nat.min_eq_left hm])

theorem decodeLiteralsM_length (raw : List Nat) (prev : Option Spec.Huffman.Table)
    (lits : List Nat) (used : Nat) (huf : Option Spec.Huffman.Table) (h : Spec.LitHeader)
    (hd : decodeLiteralsM raw prev = .ok (lits, used, huf, h)) :
    lits.length = h.regen ∧ h.regen ≤ Gen.maxBlockSize := by
  unfold decodeLiteralsM at hd
  cases hh0 : Spec.parseLitHeader raw with
  | none => simp [hh0] at hd
  | some h0 =>
    simp only [hh0] at hd
    by_cases hreg : h0.regen > Gen.maxBlockSize
    · simp [hreg] at hd
    · simp only [hreg, if_false] at hd
      generalize (if h0.ltype = 0 then h0.regen else if h0.ltype = 1 then 1 else h0.comp) = upper at hd
      split at hd
      · cases hd
      · split at hd
        · cases hd
        · rename_i l u hf hdec
          cases hd
          obtain ⟨hd', hp, hl⟩ := Spec.decodeLiterals_length _ _ _ _ _ hdec
          rw [parseLitHeader_take raw h _ hh0 (Nat.le_add_right _ _)] at hp
          cases hp
          exact ⟨hl, by omega⟩

/-- What a stand-in block does to the buffer is decided by the block content and the entropy state
alone: nothing (every error before execution), push the literals (a block without sequences), or
execute the decoded sequences — whose offset values are ≥ 1 and whose resolved offsets are what
`blockOffsets` reports. -/
theorem decompressBlock_cases (content : List Nat) (e : Spec.Entropy) :
    (∃ (e1 : Spec.Entropy) (er : DErr), ∀ b, decompressBlock content e b = ((b, e1), .err er)) ∨
    (∃ (e1 : Spec.Entropy) (lits : List Nat), lits.length ≤ Gen.maxBlockSize ∧
      ∀ b, decompressBlock content e b = ((b.push lits.toArray, e1), .ok ())) ∨
    (∃ (seqs : List Spec.Seq) (lits : List Nat) (e' : Spec.Entropy), (∀ s ∈ seqs, s.ov ≥ 1) ∧
      blockOffsets content e = resolvedOffsets seqs (e'.hist.r1, e'.hist.r2, e'.hist.r3) ∧
      ∀ b r, r = executeSequences seqs lits (e'.hist.r1, e'.hist.r2, e'.hist.r3) 0 b →
        decompressBlock content e b = ((r.1.1, { e' with hist := ⟨r.1.2.1, r.1.2.2.1, r.1.2.2.2⟩ }), r.2)) := by
  unfold decompressBlock blockOffsets
  cases hlit : decodeLiteralsM content e.huf with
  | error er => exact Or.inl ⟨e, er, fun b => rfl⟩
  | ok r =>
    obtain ⟨lits, used, huf, hdr⟩ := r
    have hl := decodeLiteralsM_length _ _ _ _ _ _ hlit
    dsimp only
    cases hcnt : Spec.parseSeqCount (content.drop used) with
    | none => exact Or.inl ⟨_, _, fun b => rfl⟩
    | some r =>
      obtain ⟨n, u⟩ := r
      dsimp only
      by_cases hn : n = 0
      · simp only [hn, if_true]
        by_cases hx : (content.drop used).length > (if (content.drop used).headD 0 = 0 then 1 else 2)
        · simp only [hx, if_true]
          exact Or.inl ⟨_, _, fun b => rfl⟩
        · simp only [hx, if_false]
          exact Or.inr (Or.inl ⟨_, lits, by omega, fun b => rfl⟩)
      · simp only [hn, if_false]
        cases hseq : decodeSequencesM (content.drop used) { e with huf := huf } with
        | error er => exact Or.inl ⟨_, _, fun b => rfl⟩
        | ok r =>
          obtain ⟨seqs, e'⟩ := r
          refine Or.inr (Or.inr ⟨seqs, lits, e', ?_, rfl, fun b r hr => by rw [hr]⟩)
          simp only [decodeSequencesM] at hseq
          split at hseq
          · cases hseq
          · cases hseq
            exact Spec.decodeSequences_ov _ _ _ _ ‹_›

theorem decompressBlock_extends (content : List Nat) (e : Spec.Entropy) (b : DBuf) :
    ∃ x, DBuf.Extends b (decompressBlock content e b).1.1 x ∧ x.size ≤ Gen.maxBlockSize := by
  rcases decompressBlock_cases content e with ⟨e1, er, h⟩ | ⟨e1, lits, hl, h⟩ | ⟨seqs, lits, e', -, -, h⟩
  · rw [h b]; exact ⟨#[], .refl b, Nat.zero_le _⟩
  · rw [h b]; exact ⟨lits.toArray, DBuf.push_extends b _, by simpa using hl⟩
  · rw [h b _ rfl]
    obtain ⟨x, hx, hs, -⟩ := executeSequences_extends seqs lits (e'.hist.r1, e'.hist.r2, e'.hist.r3) 0 b
    exact ⟨x, hx, by have := hs (Nat.zero_le _); omega⟩

theorem parseBlockHeader_ok (b0 b1 b2 : Nat) (bh : BHeader) (h : parseBlockHeader b0 b1 b2 = .ok bh) :
    bh.decompressedSize ≤ Gen.maxBlockSize ∧ bh.contentSize ≤ Gen.maxBlockSize ∧
    (bh.btype = 1 → bh.contentSize = 1) ∧ (bh.btype = 0 → bh.contentSize = bh.decompressedSize) := by
  simp only [parseBlockHeader] at h
  split at h
  · cases h
  · split at h
    · cases h
    · rename_i hsz
      cases h
      simp only [Gen.blockSizeTooLarge, decide_eq_true_eq] at hsz
      have : 1 ≤ Gen.maxBlockSize := by decide
      refine ⟨?_, ?_, ?_, ?_⟩ <;> dsimp only
      · split <;> omega
      · split <;> omega
      · intro h; simp [h]
      · intro h; simp [h]

/-- what `decodeOneBlock` may do to the frame state on EVERY outcome (ok, error, fault); `FollowStep` is its sharper
form for a block the Spec accepts -/
structure BlockStep (st st' : FState σ) : Prop where
  header : st'.header = st.header
  finished : st'.finished = st.finished
  checksum : st'.checksum = st.checksum
  usingDict : st'.usingDict = st.usingDict
  appends : ∃ x, DBuf.Appends st.buf st'.buf x ∧ x.size ≤ Gen.maxBlockSize
  bytesRead_le : st.bytesRead ≤ st'.bytesRead
  blockCounter : st.blockCounter ≤ st'.blockCounter ∧ st'.blockCounter ≤ st.blockCounter + 1

theorem decodeOneBlock_step_counted (st : FState σ) (s : Src) :
    BlockStep st (decodeOneBlock st s).1 ∧
    (decodeOneBlock st s).1.buf.totalOut + st.buf.content.size ≤ st.buf.totalOut + (decodeOneBlock st s).1.buf.content.size := by
  have hrefl : BlockStep st st :=
    ⟨rfl, rfl, rfl, rfl, ⟨#[], DBuf.Appends.refl _, Nat.zero_le _⟩, Nat.le_refl _, Nat.le_refl _, Nat.le_succ _⟩
  have hrefl3 : BlockStep st { st with bytesRead := st.bytesRead + 3 } :=
    ⟨rfl, rfl, rfl, rfl, ⟨#[], DBuf.Appends.refl _, Nat.zero_le _⟩, Nat.le_add_right _ _, Nat.le_refl _, Nat.le_succ _⟩
  simp only [decodeOneBlock]
  split
  · exact ⟨hrefl, Nat.le_refl _⟩
  · split
    · exact ⟨hrefl, Nat.le_refl _⟩
    · rename_i bh hbh
      have hp := parseBlockHeader_ok _ _ _ _ hbh
      split
      · split
        · exact ⟨hrefl3, Nat.le_refl _⟩
        · exact ⟨⟨rfl, rfl, rfl, rfl, ⟨_, ⟨rfl, rfl, rfl, rfl⟩, by simp; exact hp.1⟩, by simp; omega, by simp⟩, by simp⟩
      · split
        · split
          · exact ⟨hrefl3, Nat.le_refl _⟩
          · rename_i data s2 hr
            rw [readExact_eq_some] at hr
            refine ⟨⟨rfl, rfl, rfl, rfl, ⟨_, ⟨rfl, rfl, rfl, rfl⟩, ?_⟩, by simp; omega, by simp⟩, by simp⟩
            simp [hr.2.1]; have := hp.1; omega
        · split
          · exact ⟨hrefl3, Nat.le_refl _⟩
          · rename_i content s2 hr
            have ha := BlockContract.appends content st.entropy st.buf
            have hc := BlockContract.counter content st.entropy st.buf
            split <;> rename_i heq <;> rw [heq] at ha hc <;>
              exact ⟨⟨rfl, rfl, rfl, rfl, ha, by simp <;> omega, by simp⟩, hc⟩

theorem decodeOneBlock_step (st : FState σ) (s : Src) : BlockStep st (decodeOneBlock st s).1 :=
  (decodeOneBlock_step_counted st s).1

def Out.mapOk {α β} (f : α → β) : Out α → Out β
  | .ok a => .ok (f a)
  | .err e => .err e
  | .fault f => .fault f

/-- `decode_block_content` given the complete block body (the bytes after the 3-byte header) -/
def blockBody (st0 : FState σ) (bh : BHeader) (body : List Nat) : FState σ × Out Unit :=
  let st := { st0 with bytesRead := st0.bytesRead + 3 }
  if bh.btype = 1 then
    ({ st with buf := { st.buf with content := st.buf.content ++ Array.replicate bh.decompressedSize (body.headD 0) },
               bytesRead := st.bytesRead + 1, blockCounter := st.blockCounter + 1 }, .ok ())
  else if bh.btype = 0 then
    ({ st with buf := { st.buf with content := st.buf.content ++ body.toArray },
               bytesRead := st.bytesRead + bh.decompressedSize, blockCounter := st.blockCounter + 1 }, .ok ())
  else
    match BlockDec.run body st.entropy st.buf with
    | ((buf, e), .ok ()) =>
      ({ st with buf := buf, entropy := e, bytesRead := st.bytesRead + bh.contentSize, blockCounter := st.blockCounter + 1 }, .ok ())
    | ((buf, e), .err er) => ({ st with buf := buf, entropy := e }, .err er)
    | ((buf, e), .fault f) => ({ st with buf := buf, entropy := e }, .fault f)

theorem decodeOneBlock_eq (st : FState σ) (s : Src) :
    decodeOneBlock st s =
      if s.length < 3 then (st, .err .blockHeaderRead)
      else match parseBlockHeader (s.getD 0 0) (s.getD 1 0) (s.getD 2 0) with
        | .error e => (st, .err e)
        | .ok bh =>
          if s.length < 3 + bh.contentSize then ({ st with bytesRead := st.bytesRead + 3 }, .err .blockBodyRead)
          else
            ((blockBody st bh ((s.drop 3).take bh.contentSize)).1,
             (blockBody st bh ((s.drop 3).take bh.contentSize)).2.mapOk (fun _ => (bh, s.drop (3 + bh.contentSize)))) := by
  unfold decodeOneBlock
  cases h3 : readExact 3 s with
  | none =>
    rw [readExact_eq_none] at h3
    simp [h3]
  | some p =>
    obtain ⟨hb, s1⟩ := p
    rw [readExact_eq_some] at h3
    obtain ⟨hlen, rfl, rfl⟩ := h3
    simp only [getD_take (by omega : 0 < 3), getD_take (by omega : 1 < 3), getD_take (by omega : 2 < 3),
      if_neg (show ¬ s.length < 3 by omega)]
    cases hp : parseBlockHeader (s.getD 0 0) (s.getD 1 0) (s.getD 2 0) with
    | error e => rfl
    | ok bh =>
      -- the three block types read `1`, `decompressedSize` and `contentSize` bytes: all are `contentSize`
      obtain ⟨-, -, hc1, hc0⟩ := parseBlockHeader_ok _ _ _ _ hp
      simp only [blockBody]
      by_cases hlen : s.length < 3 + bh.contentSize
      · have hr : ∀ n, n = bh.contentSize → readExact n (s.drop 3) = none := by
          rintro n rfl; rw [readExact_eq_none, List.length_drop]; omega
        rw [if_pos hlen]
        split
        · rw [hr 1 (hc1 ‹_›).symm]
        · split
          · rw [hr _ (hc0 ‹_›).symm]
          · rw [hr _ rfl]
      · have hr : ∀ n, n = bh.contentSize → readExact n (s.drop 3) =
            some ((s.drop 3).take bh.contentSize, s.drop (3 + bh.contentSize)) := by
          rintro n rfl; rw [readExact_eq_some, List.length_drop, List.drop_drop]; exact ⟨by omega, rfl, rfl⟩
        rw [if_neg hlen]
        split
        · rw [hr 1 (hc1 ‹_›).symm]; rfl
        · split
          · rw [hr _ (hc0 ‹_›).symm]; rfl
          · simp only [hr bh.contentSize rfl]
            split <;> rename_i heq <;> simp [heq, Out.mapOk]

theorem Out.mapOk_eq_ok {α β} {f : α → β} {o : Out α} {b : β} (h : o.mapOk f = .ok b) :
    ∃ a, o = .ok a ∧ f a = b := by
  cases o <;> simp [Out.mapOk] at h
  exact ⟨_, rfl, h⟩

theorem take_drop_take (s : List Nat) (k m n : Nat) (h : m + n ≤ k) :
    ((s.take k).drop m).take n = (s.drop m).take n := by
  rw [List.drop_take, List.take_take]; congr 1; omega

theorem blockBody_ok (st st' : FState σ) (bh : BHeader) (body : List Nat)
    (h1 : bh.btype = 1 → bh.contentSize = 1) (h0 : bh.btype = 0 → bh.contentSize = bh.decompressedSize)
    (h : blockBody st bh body = (st', .ok ())) :
    st'.bytesRead = st.bytesRead + (3 + bh.contentSize) ∧ st'.blockCounter = st.blockCounter + 1 := by
  simp only [blockBody] at h
  split at h
  · rename_i ht; cases h; simp [h1 ht]
  · split at h
    · rename_i ht; cases h; simp [h0 ht]; omega
    · split at h
      · cases h; simp; omega
      · cases h
      · cases h

structure BlockOk (st st' : FState σ) (s s1 : Src) (bh : BHeader) : Prop where
  fits : 3 + bh.contentSize ≤ s.length
  rest : s1 = s.drop (3 + bh.contentSize)
  header : parseBlockHeader (s.getD 0 0) (s.getD 1 0) (s.getD 2 0) = .ok bh
  body : blockBody st bh ((s.drop 3).take bh.contentSize) = (st', .ok ())
  bytesRead : st'.bytesRead = st.bytesRead + (3 + bh.contentSize)
  blockCounter : st'.blockCounter = st.blockCounter + 1

theorem decodeOneBlock_ok (st st' : FState σ) (s s1 : Src) (bh : BHeader)
    (h : decodeOneBlock st s = (st', .ok (bh, s1))) : BlockOk st st' s s1 bh := by
  rw [decodeOneBlock_eq] at h
  by_cases h3 : s.length < 3
  · rw [if_pos h3] at h; cases h
  · rw [if_neg h3] at h
    cases hp : parseBlockHeader (s.getD 0 0) (s.getD 1 0) (s.getD 2 0) with
    | error e => rw [hp] at h; cases h
    | ok bh' =>
      rw [hp] at h
      simp only at h
      by_cases hlen : s.length < 3 + bh'.contentSize
      · rw [if_pos hlen] at h; cases h
      · rw [if_neg hlen] at h
        simp only [Prod.mk.injEq] at h
        obtain ⟨h1, h2⟩ := h
        obtain ⟨u, hu, hf⟩ := Out.mapOk_eq_ok h2
        simp only [Prod.mk.injEq] at hf
        obtain ⟨rfl, rfl⟩ := hf
        have hpo := parseBlockHeader_ok _ _ _ _ hp
        have hb : blockBody st bh' ((s.drop 3).take bh'.contentSize) = (st', .ok ()) := Prod.ext h1 hu
        have := blockBody_ok _ _ _ _ hpo.2.2.1 hpo.2.2.2 hb
        exact ⟨by omega, rfl, hp, hb, this.1, this.2⟩

theorem decodeOneBlock_take_fits (st st' : FState σ) (s s1 : Src) (bh : BHeader) (k : Nat)
    (h : decodeOneBlock st s = (st', .ok (bh, s1))) (hk : 3 + bh.contentSize ≤ k) :
    decodeOneBlock st (s.take k) = (st', .ok (bh, s1.take (k - (3 + bh.contentSize)))) := by
  obtain ⟨hlen, rfl, hp, hb, -, -⟩ := decodeOneBlock_ok _ _ _ _ _ h
  rw [decodeOneBlock_eq, if_neg (by rw [List.length_take]; omega),
    getD_take (by omega), getD_take (by omega), getD_take (by omega)]
  simp only [hp]
  rw [if_neg (by rw [List.length_take]; omega), take_drop_take _ _ _ _ hk, hb, List.drop_take]
  rfl

theorem decodeOneBlock_take_cut (st st' : FState σ) (s s1 : Src) (bh : BHeader) (k : Nat)
    (h : decodeOneBlock st s = (st', .ok (bh, s1))) (hk : k < 3 + bh.contentSize) :
    decodeOneBlock st (s.take k) =
      if k < 3 then (st, .err .blockHeaderRead)
      else ({ st with bytesRead := st.bytesRead + 3 }, .err .blockBodyRead) := by
  obtain ⟨hlen, rfl, hp, hb, -, -⟩ := decodeOneBlock_ok _ _ _ _ _ h
  rw [decodeOneBlock_eq]
  by_cases hk3 : k < 3
  · rw [if_pos (by rw [List.length_take]; omega), if_pos hk3]
  · rw [if_neg (by rw [List.length_take]; omega), if_neg hk3,
      getD_take (by omega), getD_take (by omega), getD_take (by omega)]
    simp only [hp]
    rw [if_pos (by rw [List.length_take]; omega)]

theorem resetCore_of_header {dicts : List (Dict σ)} {mw : Nat} {s rest : Src} {hd : FHeader} {n w : Nat}
    (hr : readFrameHeader s = .ok (hd, n, rest)) (hw : hd.windowSize = .ok w) (hl : Gen.windowOverLimit w mw = false) :
    resetCore dicts mw s = applyDictChoice dicts (freshState hd n w) rest := by
  simp only [resetCore, hr, hw, hl, Bool.false_eq_true, if_false]

theorem resetCore_eq_replace {dicts : List (Dict σ)} {mw : Nat} {s : Src} {st : FState σ} {o : Out Src}
    (h : resetCore dicts mw s = .replace st o) :
    ∃ hd n rest w, readFrameHeader s = .ok (hd, n, rest) ∧ hd.windowSize = .ok w ∧
      Gen.windowOverLimit w mw = false ∧ applyDictChoice dicts (freshState hd n w) rest = .replace st o := by
  unfold resetCore at h
  split at h
  · cases h
  · rename_i hd n rest hr
    split at h
    · cases h
    · rename_i w hw
      split at h
      · cases h
      · rename_i hl
        exact ⟨hd, n, rest, w, hr, hw, by simpa using hl, h⟩

theorem applyDictChoice_replace {dicts : List (Dict σ)} {st0 st : FState σ} {rest : Src} {o : Out Src}
    (h : applyDictChoice dicts st0 rest = .replace st o) :
    st.header = st0.header ∧
    match st0.header.dictId with
    | none => st = st0 ∧ o = .ok rest
    | some id =>
      match dicts.find? (fun x => x.id = id) with
      | none => st = st0 ∧ o = .err (.dictNotProvided id)
      | some dict => st = st0.withDict dict ∧ o = .ok rest := by
  unfold applyDictChoice at h
  split at h
  · next hn => cases h; exact ⟨rfl, by simp only [hn, and_self]⟩
  · next id hs =>
    split at h
    · next hf => cases h; exact ⟨rfl, by simp only [hs, hf, and_self]⟩
    · next dict hf => cases h; exact ⟨rfl, by simp only [hs, hf, and_self]⟩

theorem applyDictChoice_cases {dicts : List (Dict σ)} {st0 st : FState σ} {rest : Src} {o : Out Src}
    (h : applyDictChoice dicts st0 rest = .replace st o) :
    (st = st0 ∨ ∃ dict ∈ dicts, st = st0.withDict dict) ∧ (o = .ok rest ∨ ∃ id, o = .err (.dictNotProvided id)) := by
  have := (applyDictChoice_replace h).2
  split at this
  · exact ⟨.inl this.1, .inl this.2⟩
  · split at this
    · exact ⟨.inl this.1, .inr ⟨_, this.2⟩⟩
    · rename_i dict hf
      exact ⟨.inr ⟨dict, List.mem_of_find?_eq_some hf, this.1⟩, .inl this.2⟩

end Zstd.Model
