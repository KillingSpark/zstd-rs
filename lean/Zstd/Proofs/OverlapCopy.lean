import Zstd.Proofs.RingSpec
/-
Pure list facts about `overlapCopy` (the format's byte-by-byte match copy).
-/
namespace Zstd.Model
open Zstd

theorem overlapCopy_length (l : List Byte) (off : Nat) : ∀ n, (overlapCopy l off n).length = l.length + n := by
  intro n
  induction n generalizing l with
  | zero => rfl
  | succ n ih => simp only [overlapCopy, ih, List.length_append, List.length_singleton]; omega

theorem overlapCopy_add (l : List Byte) (off a b : Nat) :
    overlapCopy l off (a + b) = overlapCopy (overlapCopy l off a) off b := by
  induction a generalizing l with
  | zero => simp [overlapCopy]
  | succ a ih =>
    rw [show a + 1 + b = (a + b) + 1 by omega]
    simp only [overlapCopy]
    exact ih _

theorem overlapCopy_append_left (p l : List Byte) (off : Nat) (h : off ≤ l.length) :
    ∀ n, overlapCopy (p ++ l) off n = p ++ overlapCopy l off n := by
  intro n
  induction n generalizing l with
  | zero => rfl
  | succ n ih =>
    simp only [overlapCopy]
    have : (p ++ l).getD ((p ++ l).length - off) 0 = l.getD (l.length - off) 0 := by
      rw [List.getD_eq_getElem?_getD, List.getD_eq_getElem?_getD, List.length_append,
        List.getElem?_append_right (by omega)]
      congr 2; omega
    rw [this, List.append_assoc]
    exact ih _ (by simp; omega)

theorem overlapCopy_le (l : List Byte) (off : Nat) (hoff : off ≤ l.length) :
    ∀ k, k ≤ off → overlapCopy l off k = Queue.copyWithin l (l.length - off) k := by
  intro k
  induction k with
  | zero => intro _; simp [overlapCopy, Queue.copyWithin]
  | succ k ih =>
    intro hk
    have ih' := ih (by omega)
    rw [overlapCopy_add l off k 1, ih']
    simp only [overlapCopy, Queue.copyWithin]
    have hlen : (l ++ ((l.drop (l.length - off)).take k)).length = l.length + k := by
      simp only [List.length_append, List.length_take, List.length_drop]; omega
    rw [hlen, List.take_add_one, ← List.append_assoc]
    congr 1
    have hidx : l.length - off + k < l.length := by omega
    rw [List.getD_eq_getElem?_getD, List.getElem?_append_left (by omega),
      show l.length + k - off = l.length - off + k by omega,
      List.getElem?_drop, List.getElem?_eq_getElem hidx]
    rfl

theorem overlapCopy_prefix (p l : List Byte) {off k : Nat} (hl : l.length < off)
    (hp : off - l.length ≤ p.length) (hk : k ≤ off - l.length) :
    overlapCopy (p ++ l) off k = p ++ (l ++ (p.drop (p.length - (off - l.length))).take k) := by
  rw [overlapCopy_le _ _ (by rw [List.length_append]; omega) _ (by omega)]
  simp only [Queue.copyWithin, List.length_append]
  rw [List.append_assoc, show p.length + l.length - off = p.length - (off - l.length) by omega,
    List.drop_append_of_le_length (by omega), List.take_append_of_le_length (by rw [List.length_drop]; omega)]

end Zstd.Model
