import Zstd.Proofs.FseReadDesc
import Zstd.Proofs.BitIO
/-
`FSETable::read_probabilities` (model: `DTable.readProbabilities`) reaches no panic site on byte input: the error
half of `FseReadDesc.readProbabilities_agree` (the reasons, site by site, are in the head comment of
`Proofs/FseReadDesc`).  And `read_probabilities` / `build_decoding_table` never change `max_symbol`, whatever the
outcome.
-/
namespace Zstd.Proofs.Blk
open Zstd Zstd.Spec Zstd.Model.BitIO Zstd.Model.Fse Zstd.Proofs.BitIO
open Zstd.Proofs.FseReadDesc

theorem readProbabilities_no_fault (t : DTable) (src : Array Nat) (maxLog : Nat) (hb : Bytes src.toList)
    (f : Fault) : (t.readProbabilities src maxLog).2 ≠ .error (.fault f) := by
  have := readProbabilities_agree src hb t maxLog
  generalize t.readProbabilities src maxLog = out at this
  obtain ⟨t', e | used'⟩ := out
  · intro h
    cases h
    exact this.1 f rfl
  · nofun

theorem ite_elim {α : Type} {c : Prop} [Decidable c] {x y : α} (P : α → Prop) (hx : P x) (hy : P y) :
    P (if c then x else y) := by
  split
  · exact hx
  · exact hy

/-- every exit returns the table with only `probs` and `accuracy_log` replaced.  (The two matches are opened by
naming their discriminants: `split` would run `simp` over the whole term.) -/
theorem readProbabilities_maxSymbol (t : DTable) (src : Array Nat) (maxLog : Nat) :
    (t.readProbabilities src maxLog).1.maxSymbol = t.maxSymbol := by
  let P : DTable × Except Err Nat → Prop := fun p => p.1.maxSymbol = t.maxSymbol
  unfold DTable.readProbabilities
  dsimp only
  generalize liftBit ((BitReader.new src).getBits 4) = r
  rcases r with e | ⟨a, br⟩
  · rfl
  dsimp only
  refine ite_elim P rfl (ite_elim P rfl (ite_elim P rfl ?_))
  generalize readProbLoop _ _ br 0 #[] = q
  rcases q with ⟨probs, e | ⟨br', counter⟩⟩
  · rfl
  exact ite_elim P rfl (ite_elim P rfl rfl)

theorem buildDecodingTable_maxSymbol (t : DTable) : (t.buildDecodingTable).1.maxSymbol = t.maxSymbol := by
  unfold DTable.buildDecodingTable
  split <;> rfl

end Zstd.Proofs.Blk
