import Zstd.Proofs.RingMem
/-
`copy_bytes_overshooting` under its contract (`CboPre`).
-/
namespace Zstd.Model
open Zstd

/-- effect on the cells of copying `k` bytes from `src` to `dst`, the regions being disjoint -/
def Copied (m m' : Mem) (src dst k : Nat) : Prop :=
  m'.size = m.size ∧
  ∀ j, m'.cell j = if dst ≤ j ∧ j < dst + k then m.cell (src + (j - dst)) else m.cell j

theorem Copied.inside {m m' : Mem} {src dst k j : Nat} (h : Copied m m' src dst k)
    (hj : dst ≤ j ∧ j < dst + k) : m'.cell j = m.cell (src + (j - dst)) := by
  rw [h.2 j]; simp only [hj, and_self, ↓reduceIte]

theorem Copied.outside {m m' : Mem} {src dst k j : Nat} (h : Copied m m' src dst k)
    (hj : ¬ (dst ≤ j ∧ j < dst + k)) : m'.cell j = m.cell j := by
  rw [h.2 j]; simp only [hj, ↓reduceIte]

/-- no disjointness needed: the read completes first -/
theorem copyOnce_ok {m : Mem} {site : String} {src dst k : Nat}
    (hsrc : ∀ i, i < k → (m.cell (src + i)).isSome) (hdst : dst + k ≤ m.size) :
    ∃ m', Mem.writeL site m dst (m.vals src k) = .ok m' ∧ Copied m m' src dst k := by
  obtain ⟨m', h1, hs, hc⟩ := Mem.writeL_ok (site := site) (l := m.vals src k) (m := m) (off := dst)
    (by rw [Mem.vals_length]; exact hdst)
  refine ⟨m', h1, hs, ?_⟩
  intro j
  rw [hc j, Mem.vals_length]
  split
  · rename_i hj
    rw [Mem.getD_vals (by omega)]
    exact (Mem.cell_eq_some_val (hsrc (j - dst) (by omega))).symm
  · rfl

theorem cboChunks_ok {C : Nat} : ∀ (k : Nat) {m : Mem} {src dst : Nat},
    (∀ i, i < k * C → (m.cell (src + i)).isSome) → dst + k * C ≤ m.size →
    (src + k * C ≤ dst ∨ dst + k * C ≤ src) →
    ∃ m', cboChunks C k m src dst = .ok m' ∧ Copied m m' src dst (k * C)
  | 0, m, src, dst, _, _, _ => ⟨m, rfl, rfl, fun j => by simp; omega⟩
  | k + 1, m, src, dst, hsrc, hdst, hdisj => by
    rw [Nat.succ_mul] at hsrc hdst hdisj
    have hsrc0 : ∀ i, i < C → (m.cell (src + i)).isSome := fun i hi => hsrc i (by omega)
    obtain ⟨m1, h1, cp1⟩ := copyOnce_ok (site := "ringbuffer.rs:copy_bytes_overshooting:chunk-write")
      (dst := dst) hsrc0 (by omega)
    -- the first chunk written does not reach the source of the later ones
    have hsrc1 : ∀ i, i < k * C → (m1.cell (src + C + i)).isSome := fun i hi => by
      rw [cp1.outside (by omega), Nat.add_assoc]; exact hsrc (C + i) (by omega)
    obtain ⟨m2, h2, cp2⟩ := cboChunks_ok k (m := m1) (src := src + C) (dst := dst + C)
      hsrc1 (by rw [cp1.1]; omega) (by omega)
    refine ⟨m2, by simp only [cboChunks, Mem.readN_ok hsrc0, h1]; exact h2, by rw [cp2.1, cp1.1], fun j => ?_⟩
    rw [Nat.succ_mul]
    by_cases hj2 : dst + C ≤ j ∧ j < dst + C + k * C
    · rw [cp2.inside hj2, cp1.outside (by omega), if_pos (by omega)]; congr 1; omega
    · rw [cp2.outside hj2]
      by_cases hj1 : dst ≤ j ∧ j < dst + C
      · rw [cp1.inside hj1, if_pos (by omega)]
      · rw [cp1.outside hj1, if_neg (by omega)]

/-- what the callers of `copy_bytes_overshooting` owe it: `src` is an initialised region (only its first
`min srcLen dstLen` bytes can ever be read), `dst` a region inside the allocation, the two are
disjoint, and the requested length fits both -/
structure CboPre (m : Mem) (c : CboCall) : Prop where
  srcInit : ∀ i, i < min c.srcLen c.dstLen → (m.cell (c.srcOff + i)).isSome
  dstIn : c.dstOff + c.dstLen ≤ m.size
  disj : c.srcOff + c.srcLen ≤ c.dstOff ∨ c.dstOff + c.dstLen ≤ c.srcOff
  nSrc : c.n ≤ c.srcLen
  nDst : c.n ≤ c.dstLen

theorem cboCopy_ok {C : Nat} (hC : 0 < C) {m : Mem} {c : CboCall} (h : CboPre m c) :
    ∃ m' k, cboCopy C m c = .ok m' ∧ c.n ≤ k ∧ k ≤ c.srcLen ∧ k ≤ c.dstLen ∧
      Copied m m' c.srcOff c.dstOff k := by
  obtain ⟨hsrc, hdst, hdisj, hn1, hn2⟩ := h
  unfold cboCopy
  simp only [gen_cboOneChunkMin, gen_cboOneChunkN, gen_cboMultiMin]
  split
  · -- one chunk
    rename_i hc
    obtain ⟨m', h1, h2⟩ := cboChunks_ok (C := C) 1 (m := m) (src := c.srcOff) (dst := c.dstOff)
      (fun i hi => hsrc i (by omega)) (by omega) (by omega)
    rw [Nat.one_mul] at h2
    exact ⟨m', C, h1, by omega, by omega, by omega, h2⟩
  · split
    · -- next_multiple_of in chunks
      rename_i hc
      have hge := nextMultipleOf_ge c.n C
      have hdvd := nextMultipleOf_dvd c.n C hC
      have hk : nextMultipleOf c.n C / C * C = nextMultipleOf c.n C :=
        Nat.div_mul_cancel (Nat.dvd_of_mod_eq_zero hdvd)
      obtain ⟨m', h1, h2⟩ := cboChunks_ok (C := C) (nextMultipleOf c.n C / C) (m := m)
        (src := c.srcOff) (dst := c.dstOff)
        (fun i hi => hsrc i (by omega)) (by omega) (by omega)
      rw [hk] at h2
      exact ⟨m', nextMultipleOf c.n C, h1, hge, by omega, by omega, h2⟩
    · -- exact copy
      have hsrc0 : ∀ i, i < c.n → (m.cell (c.srcOff + i)).isSome := fun i hi => hsrc i (by omega)
      obtain ⟨m', h1, h2⟩ := copyOnce_ok (site := "ringbuffer.rs:copy_bytes_overshooting:memcpy-write")
        (dst := c.dstOff) hsrc0 (by omega)
      rw [Mem.readN_ok hsrc0]
      exact ⟨m', c.n, h1, Nat.le_refl _, hn1, hn2, h2⟩

theorem cbo_ok {C : Nat} (hC : 0 < C) {m : Mem} {c : CboCall} (h : CboPre m c) :
    ∃ m' k, cbo C m c = .ok m' ∧ c.n ≤ k ∧ k ≤ c.srcLen ∧ k ≤ c.dstLen ∧
      Copied m m' c.srcOff c.dstOff k := by
  obtain ⟨m', k, h1, hk1, hk2, hk3, hcp⟩ := cboCopy_ok hC h
  obtain ⟨hsrc, hdst, hdisj, hn1, hn2⟩ := h
  refine ⟨m', k, ?_, hk1, hk2, hk3, hcp⟩
  have hsrc' : ∀ i, i < c.n → m'.cell (c.srcOff + i) = m.cell (c.srcOff + i) := fun i hi =>
    hcp.outside (by omega)
  have hdst' : ∀ i, i < c.n → m'.cell (c.dstOff + i) = m.cell (c.srcOff + i) := fun i hi => by
    rw [hcp.inside (by omega), Nat.add_sub_cancel_left]
  have r1 := Mem.readN_ok (m := m') (site := "ringbuffer.rs:copy_bytes_overshooting:assert-src")
    (n := c.n) (off := c.srcOff) (fun i hi => by rw [hsrc' i hi]; exact hsrc i (by omega))
  have r2 := Mem.readN_ok (m := m') (site := "ringbuffer.rs:copy_bytes_overshooting:assert-dst")
    (n := c.n) (off := c.dstOff) (fun i hi => by rw [hdst' i hi]; exact hsrc i (by omega))
  have heq : m'.vals c.srcOff c.n = m'.vals c.dstOff c.n := by
    unfold Mem.vals
    apply List.map_congr_left
    intro i hi
    have hi' : i < c.n := by simpa using hi
    unfold Mem.val
    rw [hsrc' i hi', hdst' i hi']
  unfold cbo
  rw [h1, ok_bind, r1, ok_bind, r2, ok_bind, check_ok heq, ok_bind, pure_eq_ok]

end Zstd.Model
