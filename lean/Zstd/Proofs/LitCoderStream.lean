import Zstd.Proofs.HufStream
import Zstd.Proofs.BlkHufStreamRefines
import Zstd.Proofs.SeqStream
/-
One Huffman stream, round trip.  What `HuffmanEncoder::encode_stream` writes for `data` with the encoder table `t` is
accepted by the STRICT `Spec.Huffman.decodeStream T · data.length` and regenerates exactly `data`, for every Spec
table `T` that `SpecDecodes` the code of `t`; the strict Spec demands a last byte that is not zero (the marker), every
code fully inside the stream, the stream consumed exactly.  The model's decoder follows the Spec's
(`Blk.decodeOneStream_follows`), so it regenerates `data` as well: `Huf.decodeOneStream_encodeStream`, the stream
theorem of C13, stands at the end of this file (namespace `Zstd.Proofs.Huf`) because it needs both halves.
-/
namespace Zstd.Proofs.LitCoder

open Zstd Zstd.Model Zstd.Model.Huf Zstd.Model.Huf.Bits
open Zstd.Proofs.Huf Zstd.Proofs.Blk

/-- The Spec table `T` decodes the code of the encoder table `t` (Spec-level twin of `Huf.DecodesCode`; `c < 2 ^ nb`,
which the encoder checks before it writes a code, is a hypothesis here). -/
structure SpecDecodes (T : Spec.Huffman.Table) (t : EncTable) : Prop where
  cells : ∀ (s c nb : Nat), t.codes[s]? = some (c, nb) → 0 < nb → c < 2 ^ nb →
    nb ≤ T.maxBits ∧
      ∀ j, j < 2 ^ (T.maxBits - nb) → T.entries[c * 2 ^ (T.maxBits - nb) + j]? = some { symbol := s, nbBits := nb }

theorem finishStream_eq (S : List Bool) :
    ∃ k, k ≤ 7 ∧ finishStream S = List.replicate k false ++ true :: S := by
  refine ⟨(if S.length % 8 = 0 then 8 else 8 - S.length % 8) - 1, ?_, rfl⟩
  split <;> omega

theorem backwardStream_packRev (S : List Bool) :
    Spec.backwardStream (packRev (finishStream S)) = some S := by
  obtain ⟨k, hk, hfin⟩ := finishStream_eq S
  have hrev : (Spec.bitsLE (packRev (finishStream S))).reverse = List.replicate k false ++ true :: S := by
    rw [← revBits_eq_spec, revBits_packRev _ (finishStream_length_mod8 S), hfin]
  have hbits : Spec.bitsLE (packRev (finishStream S)) = S.reverse ++ Zstd.Proofs.BitIO.bitsOfLE (k + 1) 1 := by
    have := congrArg List.reverse hrev
    rw [List.reverse_reverse] at this
    rw [this, Zstd.Proofs.FseStream.bitsOfLE_mark (k + 1) (by omega)]
    simp [List.reverse_append]
  have := Zstd.Proofs.FseStream.backwardStream_of_mark (m := k + 1) (by omega) (by omega) hbits
  rw [this, List.reverse_reverse]

theorem readBEPad_code (m nb c : Nat) (R : List Bool) (hnb : nb ≤ m) (hc : c < 2 ^ nb) :
    (Spec.readBEPad m (bitsBE nb c ++ R)).1 = c * 2 ^ (m - nb) + padVal (m - nb) R := by
  rw [readBEPad_fst, padVal_code m nb c R hnb hc]

theorem decodeSymbols_codeBits {T : Spec.Huffman.Table} {t : EncTable} (sd : SpecDecodes T t) :
    ∀ (data : List Nat) (R : List Bool) (acc : List Nat), codeBits t data = .ok R →
      Spec.Huffman.decodeSymbols T data.length R acc = some (acc.reverse ++ data)
  | [], R, acc, hcb => by
    simp only [codeBits, Except.ok.injEq] at hcb
    subst hcb
    simp [Spec.Huffman.decodeSymbols]
  | s :: rest, R, acc, hcb => by
    obtain ⟨c, nb, bits', hcode, hnb, hc, hr, rfl⟩ := codeBits_cons hcb
    obtain ⟨hnbm, hcells⟩ := sd.cells s c nb hcode hnb hc
    rw [List.length_cons, Spec.decodeSymbols_succ_eq, readBEPad_code _ nb c bits' hnbm hc, hcells _ (padVal_lt _ bits')]
    simp only
    rw [if_neg (by rw [List.length_append, bitsBE_length]; omega), List.drop_left' (bitsBE_length nb c),
      decodeSymbols_codeBits sd rest bits' (s :: acc) hr]
    simp

theorem decodeStream_encodeStream {T : Spec.Huffman.Table} {t : EncTable} (sd : SpecDecodes T t)
    (data stream : List Nat) (henc : encodeStream t data = .ok stream) :
    Spec.Huffman.decodeStream T stream data.length = some data := by
  obtain ⟨S, hcb, rfl⟩ := encodeStream_eq_ok henc
  unfold Spec.Huffman.decodeStream
  rw [backwardStream_packRev]
  simp only
  rw [decodeSymbols_codeBits sd data S [] hcb]
  simp

end Zstd.Proofs.LitCoder

namespace Zstd.Proofs.Huf
open Zstd Zstd.Model Zstd.Model.Huf Zstd.Model.Huf.Bits Zstd.Proofs.LitCoder Zstd.Proofs.Blk

/-- a decoder table that decodes a code, seen as a Spec table: the cells too wide to be code cells are blanked (`numBits`
0), since `Blk.Follows` asks `nbBits ≤ maxBits` of every cell the Spec's decoder can use, and `DecodesCode` says nothing
of the cells no code leads to -/
def specView (tbl : DecTable) (m : Nat) : Spec.Huffman.Table :=
  { maxBits := m, entries := tbl.decode.map fun e => ⟨e.symbol, if e.numBits ≤ m then e.numBits else 0⟩ }

theorem specView_follows {tbl : DecTable} {t : EncTable} {m : Nat} (dc : DecodesCode tbl t m) :
    Follows tbl (specView tbl m) := by
  refine ⟨dc.mb, dc.size, dc.m11, fun i e he h1 => ?_⟩
  simp only [specView, Array.getElem?_map] at he
  obtain ⟨e0, he0, rfl⟩ := Option.map_eq_some_iff.mp he
  simp only at h1 ⊢
  by_cases hle : e0.numBits ≤ m
  · rw [if_pos hle] at h1 ⊢; exact ⟨hle, he0⟩
  · rw [if_neg hle] at h1; omega

theorem specView_decodes {tbl : DecTable} {t : EncTable} {m : Nat} (dc : DecodesCode tbl t m) :
    SpecDecodes (specView tbl m) t := by
  refine ⟨fun s c nb hcode hnb _ => ?_⟩
  obtain ⟨hnbm, _, hc⟩ := dc.cells s c nb hcode hnb
  refine ⟨hnbm, fun j hj => ?_⟩
  simp only [specView, Array.getElem?_map, hc j hj, Option.map_some, if_pos hnbm]

theorem decodeOneStream_encodeStream (tbl : DecTable) (t : EncTable) (m : Nat) (dc : DecodesCode tbl t m)
    (data : List Nat) (bytes : List Nat) (henc : encodeStream t data = .ok bytes) (check : Bool) (outRev : List Nat) :
    decodeOneStream tbl bytes check outRev = .ok (data.reverse ++ outRev) :=
  (decodeOneStream_follows (specView_follows dc) (encodeStream_bytes henc)
    (decodeStream_encodeStream (specView_decodes dc) data bytes henc) check outRev).1

end Zstd.Proofs.Huf
