import Zstd.Proofs.MatchStore
/-
The match finder: one call of `next_sequence` and the loop of `start_matching`, from a state that
satisfies the invariant (`WF`: base offsets, window-size accounting, indices; `SOK`: content of the suffix
stores): what is reported (`StepOut`, `Parse`), that the invariant is kept, and that the only way to panic is a
hash that leaves the slot array.  The window itself is never touched (`SameWindow`, from no hypothesis).
-/
namespace Zstd.Proofs.MG
open Zstd Zstd.Model.MG

/-- the meaning of the optional sequence returned by one `next_sequence` call that started with
`last_idx_in_sequence = lastIdx` on the block `data` inside the window `w` and ended with
`suffix_idx = sEnd` -/
def StepOut (data : Array Byte) (w : Shape) (lastIdx sEnd : Nat) : Option Seq → Prop
  | none => sEnd = lastIdx ∧ lastIdx = data.size
  | some (.literals l) => l = lits data lastIdx data.size ∧ sEnd = data.size ∧ lastIdx < data.size
  | some (.triple l off ml) =>
    ∃ s', lastIdx ≤ s' ∧ l = lits data lastIdx s' ∧ sEnd = s' + ml ∧ GoodIn data s' w (off, ml)

theorem nextLoop_sat (key : KeyFn) (older : List Entry) (last : Entry) (lastIdx : Nat) (ho : OlderOk older) :
    ∀ (fuel : Nat) (st : SuffixStore) (s : Nat), last.data.size - s + 1 ≤ fuel → lastIdx ≤ s → s ≤ last.data.size →
      StoreOk st → IdxOk st s last.data.size →
      Sat (nextLoop key older last lastIdx fuel st s) (KeyOk key) fun o =>
        StoreOk o.store ∧ IdxOk o.store o.suffixIdx last.data.size ∧
        o.lastIdx = o.suffixIdx ∧ o.suffixIdx ≤ last.data.size ∧ s ≤ o.suffixIdx ∧
        StepOut last.data (shape (older ++ [last])) lastIdx o.suffixIdx o.seq := by
  intro fuel
  induction fuel with
  | zero => intro st s hf; omega
  | succ fuel ih =>
    intro st s hf hl hs hst hidx
    unfold nextLoop
    simp only [Zstd.Gen.mgAtEnd, Zstd.Gen.mgPendingLits, Zstd.Gen.mgTailShort, decide_eq_true_eq]
    by_cases hend : s ≥ last.data.size
    · -- at the end of the block: `StepOut` of the trailing `Literals`, or of `none`, read off the two tests
      rw [if_pos hend]
      split
      · rw [if_neg (by omega)]
        exact ⟨hst, hidx, rfl, by simp; omega, by simp, rfl, by simp; omega, by omega⟩
      · exact ⟨hst, hidx, by simp; omega, by simp; omega, by simp, by simp only [StepOut]; omega⟩
    rw [if_neg hend]
    by_cases hshort : last.data.size - s < minMatchLen
    · rw [if_pos hshort, if_neg (by omega)]
      exact ⟨hst, idxOk_mono hidx (by omega), rfl, by simp, by simp; omega, rfl, rfl, by omega⟩
    rw [if_neg hshort]
    have hkey : s + minMatchLen ≤ last.data.size := by omega
    have hkb := keyAt_length last.data s hkey
    have hfc := findCandidate_sat key last.data s hs (keyAt last.data s) hkb { last with suffixes := st } hst hidx hs older none ho
    have hsh : shape (older ++ [{ last with suffixes := st }]) = shape (older ++ [last]) := by simp [shape]
    rw [hsh] at hfc
    generalize findCandidate key last.data s (keyAt last.data s) (older ++ [{ last with suffixes := st }]) none = r at hfc ⊢
    match r with
    | .error f => exact hfc
    | .ok (some (offset, ml)) =>
      have hg := (hfc _ rfl).resolve_left nofun
      have hadd := addSuffixesTill_sat key last.data st s (s + ml) hst hidx (by omega) hg.len.2
      simp only []
      generalize addSuffixesTill key last.data st s (s + ml) = r' at hadd ⊢
      match r' with
      | .error f => exact hadd
      | .ok st' =>
        simp only []
        rw [if_neg (by omega)]
        exact ⟨hadd.1, hadd.2, rfl, hg.len.2, by simp, s, by omega, rfl, rfl, hg⟩
    | .ok none =>
      -- no match at `s`: register the position, go on at `s + 1`
      have hins := insertIfAbsent_sat key st hst (keyAt last.data s) hkb s (s + 1) last.data.size
        (idxOk_mono hidx (by omega)) (by omega) hkey
      simp only []
      generalize st.insertIfAbsent key (keyAt last.data s) s = r' at hins ⊢
      match r' with
      | .error f => exact hins
      | .ok st' =>
        exact (ih st' (s + 1) (by omega) (by omega) (by omega) hins.1 hins.2).mono id
          fun o ⟨a1, a2, a3, a4, a5, a6⟩ => ⟨a1, a2, a3, a4, by omega, a6⟩

theorem eq_dropLast_append_of_getLast? {α} (l : List α) (a : α) (h : l.getLast? = some a) : l = l.dropLast ++ [a] := by
  obtain ⟨ys, rfl⟩ := List.getLast?_eq_some_iff.mp h
  rw [List.dropLast_concat]

def total (w : Shape) : Nat := (w.map (fun e => e.1.size)).sum

@[simp] theorem total_nil : total [] = 0 := rfl
@[simp] theorem total_cons (e : Array Byte × Nat) (w : Shape) : total (e :: w) = e.1.size + total w := by
  simp [total]
@[simp] theorem total_append (a b : Shape) : total (a ++ b) = total a + total b := by
  simp [total]

/-- `base_offset` of every entry = number of bytes from the start of that entry to the start of the
last entry (the block being matched) -/
def BaseOk : Shape → Prop
  | [] => True
  | e :: r => e.2 = total (e :: r).dropLast ∧ BaseOk r

/-- The invariant of the generator state between calls, apart from the suffix stores (`SOK`): it is what turns a
reported candidate into a true match within the window. -/
structure WF (g : MatchGenerator) : Prop where
  base : BaseOk (shape g.window)
  size : g.windowSize = total (shape g.window)
  le_max : g.windowSize ≤ g.maxWindowSize
  idx_eq : g.lastIdxInSequence = g.suffixIdx
  idx_le : ∀ last, g.window.getLast? = some last → g.suffixIdx ≤ last.data.size

theorem map_setLast {β} (f : Entry → β) (hf : ∀ e st, f { e with suffixes := st } = f e) {g : MatchGenerator}
    {last : Entry} (st : SuffixStore) (h : g.window.getLast? = some last) :
    (g.setLast last st).map f = g.window.map f := by
  conv => rhs; rw [eq_dropLast_append_of_getLast? g.window last h]
  simp [MatchGenerator.setLast, hf]

/-- `next_sequence`, `start_matching` and `skip_matching` change nothing but the suffix store of the
last entry `last` and the two indices -/
structure SameWindow (g g' : MatchGenerator) (last : Entry) : Prop where
  hlast : g.window.getLast? = some last
  window : ∃ st, g'.window = g.setLast last st
  max : g'.maxWindowSize = g.maxWindowSize
  size : g'.windowSize = g.windowSize

namespace SameWindow
variable {g g' g'' : MatchGenerator} {last last' : Entry}

theorem of_setLast (hl : g.window.getLast? = some last) (st : SuffixStore) (s li : Nat) :
    SameWindow g { g with window := g.setLast last st, suffixIdx := s, lastIdxInSequence := li } last :=
  ⟨hl, ⟨st, rfl⟩, rfl, rfl⟩

theorem map {β} (h : SameWindow g g' last) (f : Entry → β) (hf : ∀ e st, f { e with suffixes := st } = f e) :
    g'.window.map f = g.window.map f := by
  obtain ⟨st, hw⟩ := h.window
  rw [hw, map_setLast f hf st h.hlast]

theorem shape (h : SameWindow g g' last) : MG.shape g'.window = MG.shape g.window :=
  h.map _ fun _ _ => rfl

theorem getLast? (h : SameWindow g g' last) : ∃ st, g'.window.getLast? = some { last with suffixes := st } := by
  obtain ⟨st, hw⟩ := h.window
  exact ⟨st, by rw [hw, MatchGenerator.setLast, List.getLast?_concat]⟩

theorem trans (h1 : SameWindow g g' last) (h2 : SameWindow g' g'' last') : SameWindow g g'' last := by
  obtain ⟨st, hw⟩ := h1.window
  obtain ⟨st', hw'⟩ := h2.window
  have hl := h2.hlast
  rw [hw, MatchGenerator.setLast, List.getLast?_concat] at hl
  cases hl
  refine ⟨h1.hlast, ⟨st', ?_⟩, h2.max.trans h1.max, h2.size.trans h1.size⟩
  rw [hw', MatchGenerator.setLast, hw, MatchGenerator.setLast, List.dropLast_concat]
  rfl

theorem wf (h : SameWindow g g' last) (hwf : WF g) (hi : g'.lastIdxInSequence = g'.suffixIdx)
    (hle : g'.suffixIdx ≤ last.data.size) : WF g' := by
  obtain ⟨st, hl⟩ := h.getLast?
  refine ⟨h.shape ▸ hwf.base, by rw [h.size, h.shape]; exact hwf.size, by rw [h.size, h.max]; exact hwf.le_max, hi, ?_⟩
  intro l hl2
  obtain rfl := Option.some.inj (hl2.symm.trans hl)
  exact hle

end SameWindow

/-- the invariant on the suffix stores of the window; the bound of `IdxOk` for the entry being matched is
`suffix_idx` -/
structure SOK (g : MatchGenerator) : Prop where
  older : OlderOk g.window.dropLast
  last : ∀ last, g.window.getLast? = some last →
    StoreOk last.suffixes ∧ IdxOk last.suffixes g.suffixIdx last.data.size

theorem sok_entry_storeOk {g : MatchGenerator} (h : SOK g) : ∀ e ∈ g.window, StoreOk e.suffixes := by
  intro e he
  cases hl : g.window.getLast? with
  | none => rw [List.getLast?_eq_none_iff.mp hl] at he; simp at he
  | some last =>
    rw [eq_dropLast_append_of_getLast? g.window last hl] at he
    simp only [List.mem_append, List.mem_singleton] at he
    rcases he with he | he
    · exact (h.older e he).1
    · subst he; exact (h.last _ hl).1

theorem sok_setLast {g : MatchGenerator} (hs : SOK g) (last : Entry) {st : SuffixStore} {s li : Nat}
    (h1 : StoreOk st) (h2 : IdxOk st s last.data.size) :
    SOK { g with window := g.setLast last st, suffixIdx := s, lastIdxInSequence := li } := by
  refine ⟨?_, ?_⟩
  · simp only [MatchGenerator.setLast, List.dropLast_concat]
    exact hs.older
  · intro l hl
    simp only [MatchGenerator.setLast, List.getLast?_concat, Option.some.injEq] at hl
    subst hl
    exact ⟨h1, h2⟩

theorem not_ready_of_getLast?_none {key : KeyFn} {g : MatchGenerator} (h : g.window.getLast? = none) :
    ¬ (KeyOk key ∧ g.window ≠ []) :=
  fun hp => hp.2 (List.getLast?_eq_none_iff.mp h)

theorem nextSequence_same {key : KeyFn} {g g' : MatchGenerator} {r : Option Seq} (h : g.nextSequence key = .ok (g', r)) :
    ∃ last, SameWindow g g' last := by
  unfold MatchGenerator.nextSequence at h
  split at h
  · cases h
  · split at h
    · cases h
    · cases h
      exact ⟨_, .of_setLast ‹_› _ _ _⟩

theorem nextSequence_sat (key : KeyFn) (g : MatchGenerator) (hwf : WF g) (hs : SOK g) :
    Sat (g.nextSequence key) (KeyOk key ∧ g.window ≠ []) fun r =>
      ∃ last, SameWindow g r.1 last ∧ WF r.1 ∧ SOK r.1 ∧ r.1.suffixIdx ≤ last.data.size ∧
        g.suffixIdx ≤ r.1.suffixIdx ∧ StepOut last.data (shape g.window) g.suffixIdx r.1.suffixIdx r.2 := by
  unfold MatchGenerator.nextSequence
  split
  · exact not_ready_of_getLast?_none ‹_›
  · rename_i last hl
    obtain ⟨h1, h2⟩ := hs.last last hl
    have h := nextLoop_sat key g.window.dropLast last g.lastIdxInSequence hs.older _ last.suffixes g.suffixIdx
      (Nat.le_refl _) (Nat.le_of_eq hwf.idx_eq) (hwf.idx_le last hl) h1 h2
    generalize nextLoop key g.window.dropLast last g.lastIdxInSequence _ last.suffixes g.suffixIdx = r at h ⊢
    match r with
    | .error f => exact fun hp => h hp.1
    | .ok o =>
      obtain ⟨s1, i1, a1, a2, a3, a4⟩ := h
      rw [← eq_dropLast_append_of_getLast? g.window last hl, hwf.idx_eq] at a4
      have hsw := SameWindow.of_setLast hl o.store o.suffixIdx o.lastIdx
      exact ⟨last, hsw, hsw.wf hwf a1 a2, sok_setLast hs last s1 i1, a2, a3, a4⟩

/-- index-level meaning of the sequences reported for the block `data` from position `pos` on -/
def Parse (data : Array Byte) (w : Shape) : Nat → List Seq → Prop
  | pos, [] => pos = data.size
  | pos, .literals l :: rest => l = lits data pos data.size ∧ pos < data.size ∧ rest = []
  | pos, .triple l off ml :: rest =>
    ∃ s', pos ≤ s' ∧ l = lits data pos s' ∧ s' + ml ≤ data.size ∧ GoodIn data s' w (off, ml) ∧
      Parse data w (s' + ml) rest

theorem parse_at_end (data : Array Byte) (w : Shape) : ∀ seqs, Parse data w data.size seqs → seqs = [] := by
  intro seqs h
  cases seqs with
  | nil => rfl
  | cons sq rest =>
    cases sq with
    | literals l => simp only [Parse] at h; omega
    | triple l off ml =>
      obtain ⟨s', h1, _, h3, h4, _⟩ := h
      have := h4.pos
      omega

theorem startLoop_same (key : KeyFn) : ∀ (fuel : Nat) (g g' : MatchGenerator) (seqs : List Seq),
    MatchGenerator.startLoop key fuel g = .ok (g', seqs) → ∃ last, SameWindow g g' last := by
  intro fuel
  induction fuel with
  | zero => intro g g' seqs h; cases h
  | succ fuel ih =>
    intro g g' seqs h
    unfold MatchGenerator.startLoop at h
    split at h
    · cases h
    · cases h
      exact nextSequence_same ‹_›
    · rename_i g1 sq hns
      split at h
      · cases h
      · rename_i g2 rest hrest
        cases h
        obtain ⟨_, hs'⟩ := ih _ _ _ hrest
        exact (nextSequence_same hns).imp fun _ hs => hs.trans hs'

theorem startLoop_sat (key : KeyFn) : ∀ (fuel : Nat) (g : MatchGenerator), WF g → SOK g →
    (∀ last, g.window.getLast? = some last → last.data.size - g.suffixIdx + 2 ≤ fuel) →
    Sat (MatchGenerator.startLoop key fuel g) (KeyOk key ∧ g.window ≠ []) fun r =>
      ∃ last, SameWindow g r.1 last ∧ WF r.1 ∧ SOK r.1 ∧ r.1.suffixIdx = last.data.size ∧
        Parse last.data (shape g.window) g.suffixIdx r.2 := by
  intro fuel
  induction fuel with
  | zero =>
    rintro g - - hf ⟨-, hne⟩
    obtain ⟨last, hl⟩ := Option.isSome_iff_exists.mp (List.getLast?_isSome.mpr hne)
    have := hf last hl
    omega
  | succ fuel ih =>
    intro g hwf hs hf
    have h := nextSequence_sat key g hwf hs
    unfold MatchGenerator.startLoop
    generalize g.nextSequence key = r at h ⊢
    match r with
    | .error f => exact h
    | .ok (g1, none) =>
      dsimp only [Sat] at h ⊢
      obtain ⟨last, hsw, hwf1, hs1, _, _, hso⟩ := h
      simp only [StepOut] at hso
      exact ⟨last, hsw, hwf1, hs1, by omega, by simp only [Parse]; omega⟩
    | .ok (g1, some sq) =>
      dsimp only [Sat] at h
      obtain ⟨last, hsw, hwf1, hs1, hle, _, hso⟩ := h
      obtain ⟨st, hl1⟩ := hsw.getLast?
      -- every reported sequence moves `suffix_idx` forward
      have hprog : last.data.size - g1.suffixIdx + 2 ≤ fuel := by
        have := hf last hsw.hlast
        cases sq with
        | literals l => simp only [StepOut] at hso; omega
        | triple l off ml => obtain ⟨s', _, _, _, h4⟩ := hso; have := h4.pos; omega
      have h2 := ih g1 hwf1 hs1 fun l hl => by obtain rfl := Option.some.inj (hl.symm.trans hl1); exact hprog
      simp only []
      generalize MatchGenerator.startLoop key fuel g1 = r2 at h2 ⊢
      match r2 with
      | .error f => exact fun hp => h2 ⟨hp.1, fun hn => by simp [hn] at hl1⟩
      | .ok (g2, rest) =>
        dsimp only [Sat] at h2 ⊢
        obtain ⟨last1, hsw2, hwf2, hs2, hend, hp⟩ := h2
        obtain rfl := Option.some.inj (hsw2.hlast.symm.trans hl1)
        rw [hsw.shape] at hp
        refine ⟨last, hsw.trans hsw2, hwf2, hs2, hend, ?_⟩
        cases sq with
        | literals l =>
          obtain ⟨c1, c2, c3⟩ := hso
          rw [c2] at hp
          exact ⟨c1, c3, parse_at_end _ _ _ hp⟩
        | triple l off ml =>
          obtain ⟨s', c1, c2, c3, c4⟩ := hso
          rw [c3] at hp
          exact ⟨s', c1, c2, c4.len.2, c4, hp⟩

end Zstd.Proofs.MG
