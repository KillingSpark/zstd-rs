import Zstd.Proofs.Headers
import Zstd.Proofs.Spec.LitHeader
/-
The values of `Spec.parseLitHeader` (Spec/Block.lean, the transcription `Spec.decodeLiterals` uses): those of
Spec/Headers.lean's transcription, which C14 proves equal to the code's parser, as soon as the header's own bytes are
bytes.  Its structure is in Proofs/Spec/LitHeader.lean.
-/
namespace Zstd.Proofs.Headers
open Zstd Zstd.Proofs.BitIO

/-- the Spec/Block view of a Spec/Headers literals header -/
def litConv (h : Spec.Hdr.LitHeader) : Spec.LitHeader :=
  ⟨h.ltype, h.regen, h.comp.getD 0, h.streams.getD 0, h.size⟩

theorem ite_none_map {α β : Type} {c : Prop} [Decidable c] {x : β} {y : α} {f : α → β} (h : x = f y) :
    (if c then none else some x) = Option.map f (if c then none else some y) := by
  split <;> simp [h]

/-- The hypothesis is about the header's own bytes only (it holds of `leBytes n V ++ tail` for any `tail`).  It is
needed for Raw and RLE headers, whose size Spec/Block.lean reads as "the rest of the header" and Spec/Headers.lean as a
field of 5, 12 or 20 bits. -/
theorem specLitHeader_value (b0 : Nat) (tl : List Nat)
    (hv : leNat ((b0 :: tl).take (Spec.Hdr.litHeaderSize b0)) < 256 ^ Spec.Hdr.litHeaderSize b0) :
    Spec.parseLitHeader (b0 :: tl) = (Spec.Hdr.parseLitHeader (b0 :: tl)).map litConv := by
  -- the header value is `b0 + 256 * w`; type and size format are read off `b0` alone
  have sel : ∀ w, (b0 + 256 * w) % 4 = b0 % 4 ∧ (b0 + 256 * w) / 4 % 4 = b0 / 4 % 4 := fun w => by omega
  have val : ∀ k, leNat ((b0 :: tl).take (k + 1)) = b0 + 256 * leNat (tl.take k) := fun _ => rfl
  simp only [Spec.parseLitHeader, Spec.Hdr.parseLitHeader, Spec.Hdr.litHeaderSize] at hv ⊢
  by_cases ht : b0 % 4 < 2
  · simp only [ht, if_true] at hv ⊢
    by_cases hs0 : b0 / 4 % 4 % 2 = 0
    · rw [if_pos hs0] at hv
      rw [if_pos hs0, if_pos hs0, if_neg (by simp)]
      have h8 : b0 / 8 < 2 ^ 5 := by
        rw [val 0] at hv
        simp only [List.take_zero, leNat] at hv
        omega
      simp only [Option.map_some, litConv, Spec.Hdr.litHeaderOfValue, val 0, List.take_zero, leNat, Nat.mul_zero,
        Nat.add_zero, ht, hs0, if_true, Option.getD_none, Nat.mod_eq_of_lt h8]
    · rw [if_neg hs0] at hv
      rw [if_neg hs0, if_neg hs0]
      by_cases hs1 : b0 / 4 % 4 = 1
      · rw [if_pos hs1, val 1] at hv
        rw [if_pos hs1, if_pos hs1, val 1]
        apply ite_none_map
        simp only [litConv, Spec.Hdr.litHeaderOfValue, sel, ht, if_true, if_neg hs0, if_pos hs1, Option.getD_none,
          Nat.mod_eq_of_lt (Nat.div_lt_of_lt_mul (show _ < 16 * 2 ^ 12 from hv))]
      · rw [if_neg hs1, val 2] at hv
        rw [if_neg hs1, if_neg hs1, val 2]
        apply ite_none_map
        simp only [litConv, Spec.Hdr.litHeaderOfValue, sel, ht, if_true, if_neg hs0, if_neg hs1, Option.getD_none,
          Nat.mod_eq_of_lt (Nat.div_lt_of_lt_mul (show _ < 16 * 2 ^ 20 from hv))]
  · -- Compressed / Treeless: both transcriptions take both sizes modulo the field width
    clear hv
    simp only [ht, if_false]
    have hs : b0 / 4 % 4 = 0 ∨ b0 / 4 % 4 = 1 ∨ b0 / 4 % 4 = 2 ∨ b0 / 4 % 4 = 3 := by omega
    rcases hs with hs | hs | hs | hs
    all_goals
      simp (config := { decide := true }) only [hs, if_true, if_false, val]
      apply ite_none_map
      simp (config := { decide := true }) only [litConv, Spec.Hdr.litHeaderOfValue, sel, ht, hs, if_true, if_false,
        Option.getD_some, Nat.div_div_eq_div_mul]

theorem specLitHeader_agree (bs : List Nat) (hb : Bytes bs) :
    Spec.parseLitHeader bs = (Spec.Hdr.parseLitHeader bs).map litConv := by
  cases bs with
  | nil => rfl
  | cons b0 tl =>
    refine specLitHeader_value b0 tl (Nat.lt_of_lt_of_le (leNat_lt (Bytes_take hb _)) ?_)
    rw [show (256 : Nat) = 2 ^ 8 from rfl, ← Nat.pow_mul]
    exact Nat.pow_le_pow_right (by decide) (Nat.mul_le_mul_left 8 (List.length_take_le _ _))

theorem specLitHeader_leBytes (n V : Nat) (rest : List Nat) (h1 : 1 ≤ n)
    (hn : Spec.Hdr.litHeaderSize (V % 256) = n) (hV : V < 256 ^ n) :
    Spec.parseLitHeader (leBytes n V ++ rest) = some (litConv (Spec.Hdr.litHeaderOfValue V)) := by
  rw [← Option.map_some, ← spec_parse_leBytes n V rest h1 hn hV]
  obtain ⟨j, rfl⟩ : ∃ j, n = j + 1 := ⟨n - 1, by omega⟩
  refine specLitHeader_value (V % 256) (leBytes j (V / 256) ++ rest) ?_
  rw [hn, show V % 256 :: (leBytes j (V / 256) ++ rest) = leBytes (j + 1) V ++ rest from rfl,
    List.take_left' (leBytes_length _ _), leNat_leBytes]
  exact Nat.mod_lt _ (Nat.pos_of_ne_zero (by intro h; rw [h] at hV; omega))

end Zstd.Proofs.Headers
