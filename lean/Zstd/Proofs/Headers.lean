import Zstd.Model.Headers
import Zstd.Spec.Tables
import Zstd.Spec.Headers
import Zstd.Proofs.BitIO.Bridge
/-
The header parsers and writers of `Zstd.Model.Hdr` (block header, literals section header, frame header) in closed form
and against RFC 8878 as transcribed in Spec/Tables.lean and Spec/Headers.lean.

The shift/mask expressions extracted from the source (`Zstd.Gen.*`) are rewritten to `/`, `%`, `*` on `Nat` (`>>>`,
`<<<`, `&&& (2^k-1)`, and `|||` of disjoint bit ranges) and compared with the RFC transcription by linear arithmetic
(`omega`); what depends on one byte only (frame descriptor, window descriptor, size of the literals header) is evaluated
for all 256 bytes (`decide +kernel`).

In order: block header; literals header, parser side, then writer side (the header writers run on `Hdr.BW`, a model of
the bit writer of its own beside `Model.BitIO.BitWriter`: fields written in a row are one number, `packed`); frame header,
parser side, then writer side; last what Props/C14.lean states, and `readFrameHeader_bytes` for C11.
-/
namespace Zstd.Proofs.Headers
open Zstd Zstd.Model Zstd.Model.Hdr Zstd.Proofs.BitIO

theorem and1 (x : Nat) : x &&& 1 = x % 2 := Nat.and_two_pow_sub_one_eq_mod x 1
theorem and3 (x : Nat) : x &&& 3 = x % 4 := Nat.and_two_pow_sub_one_eq_mod x 2
theorem and7 (x : Nat) : x &&& 7 = x % 8 := Nat.and_two_pow_sub_one_eq_mod x 3
theorem and63 (x : Nat) : x &&& 63 = x % 64 := Nat.and_two_pow_sub_one_eq_mod x 6

theorem blockSizeExpr_eq (b0 b1 b2 : Nat) (h0 : b0 < 256) (h1 : b1 < 256) :
    Gen.blockSizeExpr b0 b1 b2 = (b0 + 256 * b1 + 65536 * b2) / 8 := by
  unfold Gen.blockSizeExpr
  rw [Nat.shiftRight_eq_div_pow, or_shiftLeft_eq_add (by omega : b0 / 2 ^ 3 < 2 ^ 5),
    or_shiftLeft_eq_add (by omega : b0 / 2 ^ 3 + b1 * 2 ^ 5 < 2 ^ 13)]
  omega

theorem blockTypeExpr_eq (b0 b1 b2 : Nat) : Gen.blockTypeExpr b0 b1 b2 = b0 / 2 % 4 := by
  simp only [Gen.blockTypeExpr, and3, Nat.shiftRight_eq_div_pow, Nat.pow_one]

theorem blockLastExpr_eq (b0 b1 b2 : Nat) : Gen.blockLastExpr b0 b1 b2 = b0 % 2 := by
  simp only [Gen.blockLastExpr, and1]

theorem blockTypeMap_id : ∀ t, t < 4 → lookupArm Gen.blockTypeMap t = some t := by decide

theorem encBlockTypeMap_id : ∀ t, t ≤ 2 → lookupArm Gen.encBlockTypeMap t = some t := by decide

theorem serializeBlockHeader_eq (last : Bool) (t size : Nat) (ht : t ≤ 2) (hs : size < 2 ^ 21) :
    serializeBlockHeader last t size =
      .ok (let h := size * 8 + t * 2 + last.toNat; [h % 256, h / 256 % 256, h / 65536 % 256]) := by
  have hl : last.toNat < 2 := by cases last <;> decide
  have e0 : (size <<< 3) % 2 ^ 32 = size <<< 3 := by
    simp only [Nat.shiftLeft_eq]; omega
  have e1 : (size <<< 3) ||| (t <<< 1) = size <<< 3 + t <<< 1 :=
    (Nat.shiftLeft_add_eq_or_of_lt (by simp only [Nat.shiftLeft_eq]; omega) size).symm
  have e2 : size <<< 3 + t <<< 1 = (size * 4 + t) <<< 1 := by simp only [Nat.shiftLeft_eq]; omega
  have e3 : ((size * 4 + t) <<< 1) ||| last.toNat = (size * 4 + t) <<< 1 + last.toNat :=
    (Nat.shiftLeft_add_eq_or_of_lt (by omega) _).symm
  simp only [serializeBlockHeader, encBlockTypeMap_id t ht, Gen.encBlockSizeShift, Gen.encBlockTypeShift,
    Gen.encBlockBytes, e0, e1, e2, e3, leBytes]
  simp only [Nat.shiftLeft_eq]
  have : (size * 4 + t) * 2 ^ 1 + last.toNat = size * 8 + t * 2 + last.toNat := by omega
  rw [this]
  have : (size * 8 + t * 2 + last.toNat) / 256 / 256 = (size * 8 + t * 2 + last.toNat) / 65536 := by omega
  rw [this]

theorem byteAt_lt (raw : List Nat) (h : ∀ b ∈ raw, b < 256) (i : Nat) : byteAt raw i < 256 := by
  unfold byteAt
  cases hi : raw[i]? with
  | none => simp
  | some v => exact h v (List.mem_of_getElem? hi)

theorem byteAt_tail (l : List Nat) (i : Nat) : byteAt l.tail i = byteAt l (i + 1) := by
  cases l <;> rfl

/-- no length hypothesis: `byteAt` is 0 past the end, as the missing summands are -/
theorem leNat_take_succ (l : List Nat) (n : Nat) :
    leNat (l.take (n + 1)) = byteAt l 0 + 256 * leNat (l.tail.take n) := by
  cases l with
  | nil => simp [leNat, byteAt]
  | cons _ _ => rfl

theorem leNat_two (a b : Nat) : leNat [a, b] = a + b * 256 := by
  simp [leNat]; omega

theorem litTypeMap_id : ∀ t, t < 4 → lookupArm Gen.litTypeMap t = some t := by decide
theorem litSectionType_eq (x : Nat) : litSectionType x = .ok (x % 4) := by
  have : x % 4 < 4 := by omega
  simp only [litSectionType, Gen.litTypeOfRaw, and3, litTypeMap_id _ this]
theorem litNeeded_eq : ∀ r0, r0 < 256 → litHeaderBytesNeeded r0 = .ok (Spec.Hdr.litHeaderSize r0) := by decide +kernel

theorem litHeaderSize_range (r0 : Nat) : 1 ≤ Spec.Hdr.litHeaderSize r0 ∧ Spec.Hdr.litHeaderSize r0 ≤ 5 := by
  unfold Spec.Hdr.litHeaderSize
  simp only []
  split <;> split <;> (try split) <;> omega

theorem ok_lit_ext {a a' : Nat} {c c' : Option Nat} {s : Option Nat} {t n : Nat} (h1 : a = a') (h2 : c = c') :
    (Except.ok (({ regen := a, comp := c, streams := s, ty := t } : LitSection), n) : Except LitHdrErr (LitSection × Nat)) =
      .ok ({ regen := a', comp := c', streams := s, ty := t }, n) := by
  subst h1 h2; rfl

/-! The shifts and masks of `parse_from_header` on the header bytes are the RFC's divisions of the header's
little-endian value; per field width, about the bytes as variables. -/

theorem rawRle_size5 (r0 : Nat) (h0 : r0 < 256) : r0 / 2 ^ 3 = r0 / 8 % 2 ^ 5 := by omega

theorem rawRle_size12 (r0 r1 : Nat) (h0 : r0 < 256) (h1 : r1 < 256) :
    r0 / 2 ^ 4 + r1 * 2 ^ 4 = (r0 + 256 * r1) / 16 % 2 ^ 12 := by omega

theorem rawRle_size20 (r0 r1 r2 : Nat) (h0 : r0 < 256) (h1 : r1 < 256) (h2 : r2 < 256) :
    r0 / 2 ^ 4 + r1 * 2 ^ 4 + r2 * 2 ^ 12 = (r0 + 256 * (r1 + 256 * r2)) / 16 % 2 ^ 20 := by omega

theorem compressed_sizes10 (r0 r1 r2 : Nat) (h0 : r0 < 256) (h1 : r1 < 256) (h2 : r2 < 256) :
    r0 / 2 ^ 4 + r1 % 64 * 2 ^ 4 = (r0 + 256 * (r1 + 256 * r2)) / 16 % 2 ^ 10 ∧
    r1 / 2 ^ 6 + r2 * 2 ^ 2 = (r0 + 256 * (r1 + 256 * r2)) / 2 ^ 14 % 2 ^ 10 := by
  constructor <;> omega

theorem compressed_sizes14 (r0 r1 r2 r3 : Nat) (h0 : r0 < 256) (h1 : r1 < 256) (h2 : r2 < 256) (h3 : r3 < 256) :
    r0 / 2 ^ 4 + r1 * 2 ^ 4 + r2 % 4 * 2 ^ 12 = (r0 + 256 * (r1 + 256 * (r2 + 256 * r3))) / 16 % 2 ^ 14 ∧
    r2 / 2 ^ 2 + r3 * 2 ^ 6 = (r0 + 256 * (r1 + 256 * (r2 + 256 * r3))) / 2 ^ 18 % 2 ^ 14 := by
  constructor <;> omega

theorem compressed_sizes18 (r0 r1 r2 r3 r4 : Nat) (h0 : r0 < 256) (h1 : r1 < 256) (h2 : r2 < 256) (h3 : r3 < 256)
    (h4 : r4 < 256) :
    r0 / 2 ^ 4 + r1 * 2 ^ 4 + r2 % 64 * 2 ^ 12 =
      (r0 + 256 * (r1 + 256 * (r2 + 256 * (r3 + 256 * r4)))) / 16 % 2 ^ 18 ∧
    r2 / 2 ^ 6 + r3 * 2 ^ 2 + r4 * 2 ^ 10 =
      (r0 + 256 * (r1 + 256 * (r2 + 256 * (r3 + 256 * r4)))) / 2 ^ 22 % 2 ^ 18 := by
  constructor <;> omega

theorem writeBits_ok (o : List Nat) (p b v n : Nat) (hn : 0 < n) (hv : v < 2 ^ n) (hb : n + b < 64)
    (hp : p < 2 ^ b) :
    BW.writeBits { out := o, part := p, bits := b } v n = .ok { out := o, part := p + v * 2 ^ b, bits := b + n } ∧
      p + v * 2 ^ b < 2 ^ (b + n) := by
  have hlt : p + v * 2 ^ b < 2 ^ (b + n) := by
    rw [Nat.pow_add]
    have : v * 2 ^ b ≤ (2 ^ n - 1) * 2 ^ b := Nat.mul_le_mul_right _ (by omega)
    have e : (2 ^ n - 1) * 2 ^ b = 2 ^ n * 2 ^ b - 2 ^ b := by
      rw [Nat.sub_mul, Nat.one_mul]
    have : 2 ^ b ≤ 2 ^ n * 2 ^ b := Nat.le_mul_of_pos_left _ (Nat.two_pow_pos n)
    rw [Nat.mul_comm (2 ^ b) (2 ^ n)]
    omega
  refine ⟨?_, hlt⟩
  have h0 : ¬ n = 0 := by omega
  have h1 : ¬ (v > 0 ∧ Nat.log2 v > n) := by
    intro ⟨hpos, hl⟩
    have : Nat.log2 v < n := (Nat.log2_lt (by omega)).2 hv
    omega
  have h64 : (2 : Nat) ^ (b + n) ≤ 2 ^ 64 := Nat.pow_le_pow_right (by decide) (by omega)
  have hor : p ||| (v <<< b) = p + v * 2 ^ b := or_shiftLeft_eq_add hp v
  simp only [BW.writeBits, h0, h1, hb, if_false, if_true, hor]
  rw [Nat.mod_eq_of_lt (by omega)]

/-- the number whose bits are the fields `(value, width)` one after the other, first field lowest: what `BW.writeAll`
adds to the partial buffer (`writeAll_packed`) -/
def packed : List (Nat × Nat) → Nat
  | [] => 0
  | (v, n) :: rest => v + 2 ^ n * packed rest

def packedWidth : List (Nat × Nat) → Nat
  | [] => 0
  | (_, n) :: rest => n + packedWidth rest

theorem writeAll_packed (o : List Nat) : ∀ (fs : List (Nat × Nat)) (p b : Nat),
    (∀ f ∈ fs, 0 < f.2 ∧ f.1 < 2 ^ f.2) → b + packedWidth fs < 64 → p < 2 ^ b →
    BW.writeAll { out := o, part := p, bits := b } fs =
        .ok { out := o, part := p + 2 ^ b * packed fs, bits := b + packedWidth fs } ∧
      p + 2 ^ b * packed fs < 2 ^ (b + packedWidth fs)
  | [], p, b, _, _, hp => ⟨by simp [BW.writeAll, packed, packedWidth], by simpa [packed, packedWidth] using hp⟩
  | (v, n) :: rest, p, b, hf, hb, hp => by
    obtain ⟨hn, hv⟩ := hf (v, n) List.mem_cons_self
    simp only [packedWidth] at hb
    obtain ⟨e, hlt⟩ := writeBits_ok o p b v n hn hv (by omega) hp
    obtain ⟨e', hlt'⟩ := writeAll_packed o rest (p + v * 2 ^ b) (b + n)
      (fun f hf' => hf f (List.mem_cons_of_mem _ hf')) (by omega) hlt
    have harith : p + v * 2 ^ b + 2 ^ (b + n) * packed rest = p + 2 ^ b * (v + 2 ^ n * packed rest) := by
      rw [Nat.pow_add, Nat.mul_add, Nat.mul_assoc, Nat.mul_comm v, Nat.add_assoc]
    simp only [BW.writeAll, e, e', packed, packedWidth, harith, Nat.add_assoc] at hlt' ⊢
    exact ⟨trivial, hlt'⟩

theorem size_arms : ∀ regen, regen < 262144 →
    litSizeFormat Gen.litSizeFormatArms regen =
      some (if regen < 6 then (0, 10) else if regen < 1024 then (1, 10) else if regen < 16384 then (2, 14) else (3, 18)) := by
  intro regen h
  simp only [litSizeFormat, Gen.litSizeFormatArms]
  by_cases h1 : regen < 6
  · simp [h1]
  · by_cases h2 : regen < 1024
    · have : 6 ≤ regen := by omega
      simp [h1, h2, this]
    · by_cases h3 : regen < 16384
      · have : 1024 ≤ regen := by omega
        have : 6 ≤ regen := by omega
        simp [*]
      · have : 1024 ≤ regen := by omega
        have : 6 ≤ regen := by omega
        have : 16384 ≤ regen := by omega
        simp [*]

theorem size_arms_none : ∀ regen, 262144 ≤ regen → litSizeFormat Gen.litSizeFormatArms regen = none := by
  intro regen h
  have : ¬ regen < 6 := by omega
  have : ¬ regen < 1024 := by omega
  have : ¬ regen < 16384 := by omega
  have : ¬ regen < 262144 := by omega
  simp [litSizeFormat, Gen.litSizeFormatArms, *]

theorem compressedLiteralsHeader_eq (newTable : Bool) (regen comp sf sb : Nat)
    (harm : litSizeFormat Gen.litSizeFormatArms regen = some (sf, sb))
    (hsf : sf < 4) (hsb : sb = 10 ∨ sb = 14 ∨ sb = 18) (hr : regen < 2 ^ sb) (hc : comp < 2 ^ sb) :
    compressedLiteralsHeader newTable regen comp =
      .ok (leBytes ((4 + 2 * sb) / 8) ((if newTable then 2 else 3) + 4 * sf + 16 * regen + 2 ^ (4 + sb) * comp)) := by
  have hr32 : regen % 2 ^ 32 = regen :=
    Nat.mod_eq_of_lt (Nat.lt_of_lt_of_le hr (Nat.pow_le_pow_right (by decide) (by omega)))
  have hte : (if newTable then Gen.litTypeNewTable else Gen.litTypeReuseTable) = (if newTable then 2 else 3) := by
    cases newTable <;> rfl
  have hT : (if newTable then 2 else 3) < 2 ^ 2 := by cases newTable <;> decide
  obtain ⟨e, hlt⟩ := writeAll_packed [] [(if newTable then 2 else 3, 2), (sf, 2), (regen, sb), (comp, sb)] 0 0
    (by
      intro f hf
      simp only [List.mem_cons, List.mem_nil_iff, or_false] at hf
      rcases hf with rfl | rfl | rfl | rfl <;> exact ⟨by omega, by assumption⟩)
    (by simp only [packedWidth]; omega) (by decide)
  have hval : packed [(if newTable then 2 else 3, 2), (sf, 2), (regen, sb), (comp, sb)] =
      (if newTable then 2 else 3) + 4 * sf + 16 * regen + 2 ^ (4 + sb) * comp := by
    simp only [packed, Nat.mul_zero, Nat.add_zero]
    rw [Nat.pow_add, Nat.mul_assoc]
    generalize 2 ^ sb * comp = X
    clear e hlt
    omega
  have hw : packedWidth [(if newTable then 2 else 3, 2), (sf, 2), (regen, sb), (comp, sb)] = 4 + 2 * sb := by
    simp only [packedWidth]; omega
  rw [hval, hw] at e hlt
  simp only [Nat.pow_zero, Nat.one_mul, Nat.zero_add] at e hlt
  have h8 : (4 + 2 * sb) % 8 = 0 := by omega
  have h88 : 8 * ((4 + 2 * sb) / 8) = 4 + 2 * sb := by omega
  -- the four fields are `4 + 2 * sb` bits, a multiple of 8 below 64: all of them are still in the partial buffer (`e`), and
  -- `dump` flushes it as the `leBytes` of the packed number
  simp only [compressedLiteralsHeader, harm, hr32, hte, Gen.litTypeBits, Gen.litSizeFormatBits, BW.new, e, BW.dump,
    BW.misaligned, BW.index, BW.flush, List.length_nil, Nat.mul_zero, Nat.zero_add, h8, if_true, ne_eq,
    not_true_eq_false, if_false, List.nil_append, Nat.shiftRight_eq_div_pow, h88, Nat.div_eq_of_lt hlt]

theorem leBytes_succ (k v : Nat) : leBytes (k + 1) v = (v % 256) :: leBytes k (v / 256) := rfl

theorem spec_parse_leBytes (k V : Nat) (rest : List Nat) (hk1 : 1 ≤ k)
    (hk : Spec.Hdr.litHeaderSize (V % 256) = k) (hV : V < 256 ^ k) :
    Spec.Hdr.parseLitHeader (leBytes k V ++ rest) = some (Spec.Hdr.litHeaderOfValue V) := by
  obtain ⟨j, rfl⟩ : ∃ j, k = j + 1 := ⟨k - 1, by omega⟩
  have hlen : ¬ ((leBytes (j + 1) V ++ rest).length < j + 1) := by
    simp only [List.length_append, leBytes_length]; omega
  have htake : (leBytes (j + 1) V ++ rest).take (j + 1) = leBytes (j + 1) V := by
    rw [List.take_append_of_le_length (by simp only [leBytes_length]; omega)]
    exact List.take_of_length_le (by simp only [leBytes_length]; omega)
  have hle : leNat (leBytes (j + 1) V) = V := by
    rw [leNat_leBytes, Nat.mod_eq_of_lt hV]
  rw [show leBytes (j + 1) V ++ rest = (V % 256) :: (leBytes j (V / 256) ++ rest) from rfl] at hlen htake ⊢
  simp only [Spec.Hdr.parseLitHeader, hk, hlen, if_false, htake, hle]

theorem packed_fields (T sf sb regen comp V : Nat) (hT : T < 4) (hsf : sf < 4) (hr : regen < 2 ^ sb) (hc : comp < 2 ^ sb)
    (hV : V = T + 4 * sf + 16 * regen + 2 ^ (4 + sb) * comp) :
    V % 4 = T ∧ V / 4 % 4 = sf ∧ V / 16 % 2 ^ sb = regen ∧ V / 2 ^ (4 + sb) % 2 ^ sb = comp ∧
      V < 2 ^ (4 + sb + sb) := by
  have hP : (2 : Nat) ^ (4 + sb) = 16 * 2 ^ sb := Nat.pow_add 2 4 sb
  have hPP : (2 : Nat) ^ (4 + sb + sb) = 16 * (2 ^ sb * 2 ^ sb) := by rw [Nat.pow_add, hP, Nat.mul_assoc]
  rw [hP, Nat.mul_assoc] at hV
  rw [hP, hPP]
  have hpos : 0 < 2 ^ sb := Nat.two_pow_pos sb
  have hX : 2 ^ sb * comp + 2 ^ sb ≤ 2 ^ sb * 2 ^ sb := Nat.mul_le_mul_left _ hc
  generalize 2 ^ sb = P at *
  have h16 : V / 16 = regen + P * comp := by omega
  refine ⟨by omega, by omega, ?_, ?_, by omega⟩
  · rw [h16, Nat.add_mul_mod_self_left, Nat.mod_eq_of_lt hr]
  · rw [← Nat.div_div_eq_div_mul, h16, Nat.add_mul_div_left _ _ hpos, Nat.div_eq_of_lt hr, Nat.zero_add,
      Nat.mod_eq_of_lt hc]

theorem spec_fields (T sf sb regen comp V : Nat) (hT : T = 2 ∨ T = 3)
    (hp : (sf = 0 ∧ sb = 10) ∨ (sf = 1 ∧ sb = 10) ∨ (sf = 2 ∧ sb = 14) ∨ (sf = 3 ∧ sb = 18))
    (hr : regen < 2 ^ sb) (hc : comp < 2 ^ sb) (hV : V = T + 4 * sf + 16 * regen + 2 ^ (4 + sb) * comp) :
    Spec.Hdr.litHeaderSize (V % 256) = (4 + 2 * sb) / 8 ∧ V < 256 ^ ((4 + 2 * sb) / 8) ∧
    Spec.Hdr.litHeaderOfValue V = ⟨T, regen, some comp, some (if sf = 0 then 1 else 4), (4 + 2 * sb) / 8⟩ := by
  obtain ⟨g1, g2, g3, g4, g5⟩ := packed_fields T sf sb regen comp V (by omega) (by omega) hr hc hV
  have f1 : V % 256 % 4 = T := by omega
  have f2 : V % 256 / 4 % 4 = sf := by omega
  have nT : ¬ T < 2 := by omega
  rcases hp with ⟨rfl, rfl⟩ | ⟨rfl, rfl⟩ | ⟨rfl, rfl⟩ | ⟨rfl, rfl⟩ <;>
    exact ⟨by simp (config := { decide := true }) only [Spec.Hdr.litHeaderSize, f1, f2, nT, if_false],
      Nat.lt_of_lt_of_le g5 (by decide),
      by simp (config := { decide := true }) only [Spec.Hdr.litHeaderOfValue, g1, g2, g3, g4, nT, if_false, if_true]⟩

theorem rawLiteralsHeader_eq (n : Nat) (hn : n < 2 ^ 20) : rawLiteralsHeader n = .ok (leBytes 3 (12 + 16 * n)) := by
  have hr32 : n % 2 ^ 32 = n := Nat.mod_eq_of_lt (by omega)
  obtain ⟨e, -⟩ := writeAll_packed [] [(0, 2), (3, 2), (n, 20)] 0 0
    (by
      intro f hf
      simp only [List.mem_cons, List.mem_nil_iff, or_false] at hf
      rcases hf with rfl | rfl | rfl <;> exact ⟨by omega, by first | decide | assumption⟩)
    (by simp only [packedWidth]; omega) (by decide)
  have hval : packed [(0, 2), (3, 2), (n, 20)] = 12 + 16 * n := by simp only [packed]; omega
  rw [hval] at e
  simp only [rawLiteralsHeader, rawLiteralsWriter, Gen.rawLitWrites, Gen.rawLitSizeBits, List.cons_append, List.nil_append,
    hr32, BW.new, e, packedWidth, BW.appendBytes, BW.misaligned, BW.index, BW.flush, List.length_nil, List.append_nil]
  simp (config := { decide := true }) only [if_false, Nat.pow_zero, Nat.one_mul, Nat.zero_add]

theorem spec_fields_raw (ty n : Nat) (hty : ty < 2) (hn : n < 2 ^ 20) :
    Spec.Hdr.litHeaderSize ((12 + ty + 16 * n) % 256) = 3 ∧ 12 + ty + 16 * n < 256 ^ 3 ∧
    Spec.Hdr.litHeaderOfValue (12 + ty + 16 * n) = ⟨ty, n, none, none, 3⟩ := by
  obtain ⟨g1, g2, g3, -, -⟩ := packed_fields ty 3 20 n 0 (12 + ty + 16 * n) (by omega) (by decide) hn (by decide) (by omega)
  have hlt : 12 + ty + 16 * n < 256 ^ 3 := by omega
  generalize 12 + ty + 16 * n = V at *
  have f1 : V % 256 % 4 = ty := by omega
  have f2 : V % 256 / 4 % 4 = 3 := by omega
  exact ⟨by simp (config := { decide := true }) only [Spec.Hdr.litHeaderSize, f1, f2, hty, if_true, if_false], hlt,
    by simp (config := { decide := true }) only [Spec.Hdr.litHeaderOfValue, g1, g2, g3, hty, if_true, if_false]⟩

theorem size_arms_cases (regen sf sb : Nat) (h : litSizeFormat Gen.litSizeFormatArms regen = some (sf, sb)) :
    regen < 2 ^ sb ∧ regen < 262144 ∧ (sf = 0 ↔ regen < 6) ∧
    ((sf = 0 ∧ sb = 10) ∨ (sf = 1 ∧ sb = 10) ∨ (sf = 2 ∧ sb = 14) ∨ (sf = 3 ∧ sb = 18)) := by
  by_cases hreg : regen < 262144
  · rw [size_arms regen hreg] at h
    injection h with h
    by_cases h1 : regen < 6
    · simp only [h1, if_true, Prod.mk.injEq] at h; obtain ⟨rfl, rfl⟩ := h; simp; omega
    · by_cases h2 : regen < 1024
      · simp only [h1, h2, if_true, if_false, Prod.mk.injEq] at h; obtain ⟨rfl, rfl⟩ := h; simp; omega
      · by_cases h3 : regen < 16384
        · simp only [h1, h2, h3, if_true, if_false, Prod.mk.injEq] at h; obtain ⟨rfl, rfl⟩ := h; simp; omega
        · simp only [h1, h2, h3, if_false, Prod.mk.injEq] at h; obtain ⟨rfl, rfl⟩ := h; simp; omega
  · rw [size_arms_none regen (by omega)] at h; cases h

theorem fd_single : ∀ d, d < 256 → Gen.fdSingleSegment d = (Spec.parseFrameDesc d).singleSegment := by decide +kernel
theorem fd_checksum : ∀ d, d < 256 → Gen.fdChecksum d = (Spec.parseFrameDesc d).checksum := by decide +kernel
theorem fd_fcsBytes : ∀ d, d < 256 → fcsBytes d = .ok (Spec.fcsFieldSize (Spec.parseFrameDesc d)) := by decide +kernel
theorem fd_dictIdBytes : ∀ d, d < 256 → dictIdBytes d = .ok (Spec.didFieldSize (Spec.parseFrameDesc d)) := by decide +kernel
theorem fd_sizes : ∀ d, d < 256 → Spec.didFieldSize (Spec.parseFrameDesc d) ≤ 4 ∧ Spec.fcsFieldSize (Spec.parseFrameDesc d) ≤ 8 := by
  decide +kernel

theorem window_expr : ∀ wd, wd < 256 → Gen.windowSizeExpr wd = Spec.windowSize wd := by decide +kernel
theorem window_range : ∀ wd, wd < 256 → Spec.windowMin ≤ Spec.windowSize wd ∧ Spec.windowSize wd ≤ Spec.windowMax := by decide +kernel

theorem checkWindowRange_eq (w : Nat) : checkWindowRange w =
    if w < Spec.windowMin then .error (.tooSmall w) else if w > Spec.windowMax then .error (.tooBig w) else .ok w := by
  simp only [checkWindowRange, Gen.windowMinOk, Gen.windowMaxOk, Gen.minWindowSize, Gen.maxWindowSize,
    Spec.windowMin, Spec.windowMax]
  by_cases h1 : w < 1024
  · have : ¬ w ≥ 1024 := by omega
    simp [h1, this]
  · have h1' : w ≥ 1024 := by omega
    by_cases h2 : w > 2 ^ 41 + 7 * 2 ^ 38
    · have : ¬ w ≤ 4123168604160 := by omega
      simp [h1, h1', h2, this]
    · have : w ≤ 4123168604160 := by omega
      simp [h1, h1', h2, this]

theorem checkWindowRange_ok (w : Nat) (h1 : Spec.windowMin ≤ w) (h2 : w ≤ Spec.windowMax) : checkWindowRange w = .ok w := by
  rw [checkWindowRange_eq, if_neg (Nat.not_lt.2 h1), if_neg (Nat.not_lt.2 h2)]

theorem window_check (wd : Nat) (h : wd < 256) : checkWindowRange (Gen.windowSizeExpr wd) = .ok (Spec.windowSize wd) := by
  rw [window_expr wd h]
  exact checkWindowRange_ok _ (window_range wd h).1 (window_range wd h).2

theorem magic_bytes : leBytes 4 Gen.magicNum = [40, 181, 47, 253] := by decide
theorem readExact_leBytes (n v : Nat) (rest : List Nat) : readExact n (leBytes n v ++ rest) = some (leBytes n v, rest) := by
  rw [readExact, if_neg (by simp), List.take_left' (leBytes_length n v), List.drop_left' (leBytes_length n v)]
theorem magic_val : leNat (leBytes 4 Gen.magicNum) = Gen.magicNum := by decide
theorem magic_not_skip : ¬ (Gen.skipMagicLo ≤ Gen.magicNum ∧ Gen.magicNum ≤ Gen.skipMagicHi) := by decide

theorem readFrameHeader_eq (d : Nat) (rest : List Nat) (hd : d < 256) :
    readFrameHeader (leBytes 4 Gen.magicNum ++ d :: rest) =
      (let f := Spec.parseFrameDesc d
       let nw := if f.singleSegment then 0 else 1
       let nd := Spec.didFieldSize f
       let nf := Spec.fcsFieldSize f
       if rest.length < nw then .error .windowRead
       else if rest.length < nw + nd then .error .dictIdRead
       else if rest.length < nw + nd + nf then .error .fcsRead
       else
         let did := leNat ((rest.drop nw).take nd)
         let fcs0 := leNat ((rest.drop (nw + nd)).take nf)
         .ok ({ desc := d, windowDescriptor := leNat (rest.take nw),
                dictId := if nd ≠ 0 ∧ did ≠ 0 then some did else none,
                fcs := if nf = 2 then fcs0 + 256 else fcs0 },
              5 + nw + nd + nf, rest.drop (nw + nd + nf))) := by
  have hs := fd_sizes d hd
  simp only [readFrameHeader, readExact_leBytes, magic_val, magic_not_skip, if_false, ne_eq, not_true_eq_false,
    fd_single d hd, fd_fcsBytes d hd, fd_dictIdBytes d hd, Gen.fcsAddLen, Gen.fcsAdd]
  generalize Spec.didFieldSize (Spec.parseFrameDesc d) = nd at *
  generalize Spec.fcsFieldSize (Spec.parseFrameDesc d) = nf at *
  cases hss : (Spec.parseFrameDesc d).singleSegment
  · -- not single segment: a window descriptor byte follows
    cases rest with
    | nil => simp
    | cons w s3 =>
      simp only [Bool.false_eq_true, if_false, readExact, List.length_cons]
      by_cases h1 : s3.length < nd
      · have : s3.length + 1 < 1 + nd := by omega
        simp [h1, this]
      · have n1 : ¬ (s3.length + 1 < 1 + nd) := by omega
        by_cases h2 : s3.length - nd < nf
        · have : s3.length + 1 < 1 + nd + nf := by omega
          simp [h1, n1, h2, this]
        · have e1 : (1 + nd) = nd + 1 := by omega
          -- the count of bytes read is returned `as u8` (frame.rs:84), `% 256` in the model; it is at most 18 (`hs`)
          have e3 : (6 + nd + nf) % 256 = 6 + nd + nf := by omega
          have n3 : ¬ (s3.length + 1 < nd + 1 + nf) := by omega
          have e4 : nd + 1 + nf = (nd + nf) + 1 := by omega
          simp [h1, h2, e1, e3, leNat, List.drop_drop]
          rw [if_neg n3, e4, List.drop_succ_cons]
          rfl
  · simp only [if_true, readExact, Nat.zero_add, List.drop_zero, List.take_zero, leNat]
    by_cases h1 : rest.length < nd
    · simp [h1]
    · by_cases h2 : rest.length - nd < nf
      · have : rest.length < nd + nf := by omega
        simp [h1, h2, this]
      · have n2 : ¬ (rest.length < nd + nf) := by omega
        have e3 : (5 + nd + nf) % 256 = 5 + nd + nf := by omega
        simp [h1, h2, n2, e3, List.drop_drop]
        rfl

theorem readFrameHeader_ok_magic {src : List Nat} (hb : ∀ b ∈ src, b < 256)
    {r : DecFrameHeader × Nat × List Nat} (h : readFrameHeader src = .ok r) :
    ∃ d rest, src = leBytes 4 Gen.magicNum ++ d :: rest := by
  unfold readFrameHeader readExact at h
  by_cases hlen : src.length < 4
  · simp only [hlen, if_true] at h; cases h
  · simp only [hlen, if_false] at h
    by_cases hskip : Gen.skipMagicLo ≤ leNat (src.take 4) ∧ leNat (src.take 4) ≤ Gen.skipMagicHi
    · simp only [hskip, and_self, if_true] at h
      split at h <;> cases h
    · simp only [hskip, if_false] at h
      by_cases hm : leNat (src.take 4) = Gen.magicNum
      · cases hd : src.drop 4 with
        | nil => simp only [hm, hd, ne_eq, not_true_eq_false, if_false] at h; cases h
        | cons d rest =>
          refine ⟨d, rest, ?_⟩
          have h4 : (src.take 4).length = 4 := by rw [List.length_take]; omega
          have := leBytes_leNat (Bytes_take hb 4)
          rw [h4, hm] at this
          rw [this, ← hd, List.take_append_drop]
      · simp only [hm, ne_eq, not_false_eq_true, if_true] at h; cases h

theorem compress_descriptor (hash : Bool) (w : Nat) :
    (compressFrameHeader hash w).descriptor = .ok (4 * hash.toNat) := by
  -- the descriptor does not look at the value of the window: evaluate it for `w = 0`
  have h0 : ∀ hash : Bool, (compressFrameHeader hash 0).descriptor = .ok (4 * hash.toNat) := by decide
  rw [← h0 hash]
  simp only [compressFrameHeader, EncFrameHeader.descriptor, Option.isNone_some]
  rfl

/-- `log = window_size.next_power_of_two().ilog2()` -/
def winLog (w : Nat) : Nat := if w ≤ 1 then 0 else Nat.log2 (w - 1) + 1

theorem winLog_spec (w : Nat) : w ≤ 2 ^ winLog w ∧ (2 ≤ w → 2 ^ winLog w < 2 * w) := by
  unfold winLog
  by_cases h : w ≤ 1
  · rw [if_pos h, Nat.pow_zero]; omega
  · rw [if_neg h]
    have h1 : w - 1 ≠ 0 := by omega
    have l1 : 2 ^ Nat.log2 (w - 1) ≤ w - 1 := Nat.log2_self_le h1
    have l2 : w - 1 < 2 ^ (Nat.log2 (w - 1) + 1) := Nat.lt_log2_self
    rw [Nat.pow_succ] at l2 ⊢
    omega

theorem winLog_le (w k : Nat) (h : w ≤ 2 ^ k) : winLog w ≤ k := by
  unfold winLog
  by_cases h1 : w ≤ 1
  · simp only [h1, if_true]; omega
  · simp only [h1, if_false]
    have : w - 1 < 2 ^ k := by have := Nat.two_pow_pos k; omega
    have := (Nat.log2_lt (by omega : w - 1 ≠ 0)).2 this
    omega

theorem nextPowerOfTwo_eq (w : Nat) (h : w ≤ 2 ^ 63) : nextPowerOfTwo w = .ok (2 ^ winLog w) := by
  unfold nextPowerOfTwo winLog
  by_cases h1 : w ≤ 1
  · simp only [h1, if_true, Nat.pow_zero]
  · simp only [h1, if_false]
    have : w - 1 < 2 ^ 63 := by omega
    have hl := (Nat.log2_lt (by omega : w - 1 ≠ 0)).2 this
    have : (2:Nat) ^ (Nat.log2 (w - 1) + 1) ≤ 2 ^ 63 := Nat.pow_le_pow_right (by decide) (by omega)
    have : ¬ ((2:Nat) ^ (Nat.log2 (w - 1) + 1) ≥ 2 ^ 64) := by omega
    simp only [this, if_false]

/-- the byte is `exponent << 3 | mantissa`: exponent `max(log, 11) - 10`, mantissa 0 -/
theorem encWindowDescriptor_eq (w : Nat) (h : w ≤ 2 ^ 41) :
    encWindowDescriptor w = .ok (8 * ((if winLog w > 10 then winLog w else 11) - 10)) := by
  have hl : winLog w ≤ 41 := winLog_le w 41 h
  have h63 : w ≤ 2 ^ 63 := Nat.le_trans h (by decide)
  simp only [encWindowDescriptor, nextPowerOfTwo_eq w h63, Nat.log2_two_pow, Gen.encWinLogAbove, Gen.encWinLogSub,
    Gen.encWinExpElse, Gen.encWinShift, Nat.shiftLeft_eq]
  by_cases h10 : winLog w > 10
  · simp only [h10, if_true]; congr 1; omega
  · simp only [h10, if_false]

theorem windowSizeExpr_of_exp (e : Nat) : Gen.windowSizeExpr (8 * e) = 2 ^ (10 + e) := by
  have e1 : (8 * e) >>> 3 = e := by rw [Nat.shiftRight_eq_div_pow]; omega
  have e2 : (8 * e) &&& 7 = 0 := by rw [and7]; omega
  simp only [Gen.windowSizeExpr, e1, e2, Nat.mul_zero, Nat.add_zero, Nat.shiftLeft_eq, Nat.one_mul]

theorem parseLitHeader_eq_rfc : ∀ (self : LitSection) (raw : List Nat), (∀ b ∈ raw, b < 256) →
    parseLitHeader self raw =
      match raw with
      | [] => .error (.getBits 2 0)
      | r0 :: _ =>
        match Spec.Hdr.parseLitHeader raw with
        | none => .error (.notEnoughBytes raw.length (Spec.Hdr.litHeaderSize r0))
        | some h => .ok ({ ty := h.ltype, regen := h.regen, comp := h.comp,
                           streams := if h.ltype < 2 then self.streams else h.streams }, h.size) := by
  intro self raw hb
  cases raw with
  | nil => rfl
  | cons r0 tail =>
    have h0 : r0 < 256 := hb r0 (by simp)
    simp only [Spec.Hdr.parseLitHeader, parseLitHeader, litSectionType_eq, litNeeded_eq r0 h0, Nat.mod_mod]
    by_cases hlen : (r0 :: tail).length < Spec.Hdr.litHeaderSize r0
    · simp only [hlen, if_true]
    · simp only [hlen, if_false]
      -- type and size format of the header's value are those of its first byte
      obtain ⟨j, hj⟩ : ∃ j, Spec.Hdr.litHeaderSize r0 = j + 1 :=
        ⟨_, (Nat.sub_add_cancel (litHeaderSize_range r0).1).symm⟩
      have hV : leNat ((r0 :: tail).take (Spec.Hdr.litHeaderSize r0)) = r0 + 256 * leNat (tail.take j) := by
        rw [hj]; rfl
      have hV4 : leNat ((r0 :: tail).take (Spec.Hdr.litHeaderSize r0)) % 4 = r0 % 4 := by omega
      have hVs : leNat ((r0 :: tail).take (Spec.Hdr.litHeaderSize r0)) / 4 % 4 = r0 / 4 % 4 := by omega
      simp only [Spec.Hdr.litHeaderOfValue, hV4, hVs]
      clear hV hV4 hVs hj
      have e0 : byteAt (r0 :: tail) 0 = r0 := rfl
      have b1 := byteAt_lt (r0 :: tail) hb 1
      have b2 := byteAt_lt (r0 :: tail) hb 2
      have b3 := byteAt_lt (r0 :: tail) hb 3
      have b4 := byteAt_lt (r0 :: tail) hb 4
      generalize hr1 : byteAt (r0 :: tail) 1 = r1 at *
      generalize hr2 : byteAt (r0 :: tail) 2 = r2 at *
      generalize hr3 : byteAt (r0 :: tail) 3 = r3 at *
      generalize hr4 : byteAt (r0 :: tail) 4 = r4 at *
      have hs : r0 / 4 % 4 = 0 ∨ r0 / 4 % 4 = 1 ∨ r0 / 4 % 4 = 2 ∨ r0 / 4 % 4 = 3 := by omega
      -- per size format: the tables give the header size, the header's value is written out in its
      -- bytes, and the code's shifts and masks agree with the RFC's divisions by linear arithmetic
      by_cases ht : r0 % 4 < 2
      · have hty : r0 % 4 = 0 ∨ r0 % 4 = 1 := by omega
        simp only [hty, if_true, Gen.litParseRawRleReach]
        clear hty
        rcases hs with hs | hs | hs | hs <;>
          simp (config := { decide := true }) only [Spec.Hdr.litHeaderSize, Gen.litParseRawRle, lookupArm, ht, hs,
            if_true, if_false] at hlen ⊢ <;>
          simp only [hlen, if_false, Nat.shiftRight_eq_div_pow, Nat.shiftLeft_eq, leNat_take_succ, byteAt_tail, List.take_zero,
            leNat, Nat.mul_zero, Nat.add_zero, Nat.zero_add, Nat.reduceAdd, e0, hr1, hr2]
        · exact ok_lit_ext (rawRle_size5 r0 h0) rfl
        · exact ok_lit_ext (rawRle_size12 r0 r1 h0 b1) rfl
        · exact ok_lit_ext (rawRle_size5 r0 h0) rfl
        · exact ok_lit_ext (rawRle_size20 r0 r1 r2 h0 b1 b2) rfl
      · have hty : ¬ (r0 % 4 = 0 ∨ r0 % 4 = 1) := by omega
        simp only [hty, if_false, Gen.litParseCompressedReach, Gen.litStreams]
        clear hty
        rcases hs with hs | hs | hs | hs <;>
          simp (config := { decide := true }) only [Spec.Hdr.litHeaderSize, Gen.litParseCompressed, lookupArm, ht, hs,
            if_true, if_false] at hlen ⊢ <;>
          simp only [hlen, if_false, Nat.shiftRight_eq_div_pow, Nat.shiftLeft_eq, and3, and63, leNat_take_succ, byteAt_tail,
            List.take_zero, leNat, Nat.mul_zero, Nat.add_zero, Nat.zero_add, Nat.reduceAdd, e0, hr1, hr2, hr3, hr4]
        · exact ok_lit_ext (compressed_sizes10 r0 r1 r2 h0 b1 b2).1 (congrArg some (compressed_sizes10 r0 r1 r2 h0 b1 b2).2)
        · exact ok_lit_ext (compressed_sizes10 r0 r1 r2 h0 b1 b2).1 (congrArg some (compressed_sizes10 r0 r1 r2 h0 b1 b2).2)
        · exact ok_lit_ext (compressed_sizes14 r0 r1 r2 r3 h0 b1 b2 b3).1
            (congrArg some (compressed_sizes14 r0 r1 r2 r3 h0 b1 b2 b3).2)
        · exact ok_lit_ext (compressed_sizes18 r0 r1 r2 r3 r4 h0 b1 b2 b3 b4).1
            (congrArg some (compressed_sizes18 r0 r1 r2 r3 r4 h0 b1 b2 b3 b4).2)

theorem parseLitHeader_no_fault : ∀ (self : LitSection) (raw : List Nat) f, (∀ b ∈ raw, b < 256) →
    parseLitHeader self raw ≠ .error (.fault f) := by
  intro self raw f hb
  rw [parseLitHeader_eq_rfc self raw hb]
  match raw with
  | [] => intro h; cases h
  | r0 :: tail =>
    simp only []
    cases Spec.Hdr.parseLitHeader (r0 :: tail) <;> (intro h; cases h)

theorem readBlockHeader_eq_rfc : ∀ b0 b1 b2 rest, b0 < 256 → b1 < 256 → b2 < 256 →
    readBlockHeader (b0 :: b1 :: b2 :: rest) =
      (let h := Spec.parseBlockHeader b0 b1 b2
       if h.btype = 3 then .error .reserved
       else if h.size > Spec.blockMaxSize then .error (.tooLarge h.size)
       else .ok ({ last := h.last, btype := h.btype,
                   decompressedSize := if h.btype = 2 then 0 else h.size,
                   contentSize := if h.btype = 1 then 1 else h.size }, 3)) := by
  intro b0 b1 b2 rest h0 h1 h2
  have ht : (b0 + 256 * b1 + 65536 * b2) / 2 % 4 = b0 / 2 % 4 := by omega
  have hl : (b0 + 256 * b1 + 65536 * b2) % 2 = b0 % 2 := by omega
  have hlt : b0 / 2 % 4 < 4 := by omega
  simp only [readBlockHeader, blockType, blockContentSize, blockTypeExpr_eq, blockLastExpr_eq,
    blockSizeExpr_eq b0 b1 b2 h0 h1, blockTypeMap_id _ hlt, Spec.parseBlockHeader, ht, hl,
    Gen.blockSizeTooLarge, Gen.maxBlockSize, Spec.blockMaxSize]
  by_cases h3 : b0 / 2 % 4 = 3
  · simp only [h3, if_true]
  · simp only [h3, if_false]
    by_cases hs : (b0 + 256 * b1 + 65536 * b2) / 8 > 131072
    · simp [hs]
    · have : b0 / 2 % 4 = 0 ∨ b0 / 2 % 4 = 1 ∨ b0 / 2 % 4 = 2 := by omega
      rcases this with h | h | h <;> simp [hs, h, sizeByType, lookupArm, Gen.blockDecompressedSizeArms, Gen.blockContentSizeArms]

theorem serializeBlockHeader_roundtrip : ∀ (last : Bool) t size rest, t ≤ 2 → size < 2 ^ 21 →
    ∃ bs, serializeBlockHeader last t size = .ok bs ∧ bs.length = 3 ∧ (∀ b ∈ bs, b < 256) ∧
      readBlockHeader (bs ++ rest) =
        if size > 131072 then .error (.tooLarge size)
        else .ok ({ last := last, btype := t, decompressedSize := if t = 2 then 0 else size,
                    contentSize := if t = 1 then 1 else size }, 3) := by
  intro last t size rest ht hs
  have hl : last.toNat < 2 := by cases last <;> decide
  refine ⟨_, serializeBlockHeader_eq last t size ht hs, rfl, ?_, ?_⟩
  · intro b hb; simp at hb; omega
  · generalize hV : size * 8 + t * 2 + last.toNat = V
    have hV24 : V < 2 ^ 24 := by omega
    simp only [List.cons_append, List.nil_append]
    rw [readBlockHeader_eq_rfc _ _ _ rest (by omega) (by omega) (by omega)]
    have e : V % 256 + 256 * (V / 256 % 256) + 65536 * (V / 65536 % 256) = V := by omega
    simp only [Spec.parseBlockHeader, e, Spec.blockMaxSize]
    have e1 : V / 2 % 4 = t := by omega
    have e2 : V / 8 = size := by omega
    have e3 : (V % 2 = 1) = (last = true) := by
      cases last <;> simp [Bool.toNat] at hV ⊢ <;> omega
    have n3 : ¬ t = 3 := by omega
    simp only [e1, e2, e3, n3, if_false, Bool.decide_eq_true]

theorem rawLiteralsHeader_roundtrip : ∀ n (self : LitSection) rest, n < 2 ^ 20 → (∀ b ∈ rest, b < 256) →
    ∃ bs, rawLiteralsHeader n = .ok bs ∧
      parseLitHeader self (bs ++ rest) = .ok ({ ty := 0, regen := n, comp := none, streams := self.streams }, 3) ∧
      Spec.Hdr.parseLitHeader (bs ++ rest) = some ⟨0, n, none, none, 3⟩ := by
  intro n self rest hn hr
  obtain ⟨f1, f2, f3⟩ := spec_fields_raw 0 n (by decide) hn
  have hs : Spec.Hdr.parseLitHeader (leBytes 3 (12 + 16 * n) ++ rest) = some ⟨0, n, none, none, 3⟩ := by
    rw [spec_parse_leBytes 3 _ rest (by decide) f1 f2, f3]
  refine ⟨_, rawLiteralsHeader_eq n hn, ?_, hs⟩
  rw [parseLitHeader_eq_rfc self _ (Bytes_append.2 ⟨leBytes_lt 3 _, hr⟩)]
  rw [show leBytes 3 (12 + 16 * n) ++ rest = ((12 + 16 * n) % 256) :: (leBytes 2 ((12 + 16 * n) / 256) ++ rest) from rfl] at hs ⊢
  simp only [hs]
  rfl

theorem compressedLiteralsHeader_roundtrip : ∀ (newTable : Bool) regen comp sf sb (self : LitSection) rest,
    litSizeFormat Gen.litSizeFormatArms regen = some (sf, sb) → comp < 2 ^ sb → (∀ b ∈ rest, b < 256) →
    ∃ bs, compressedLiteralsHeader newTable regen comp = .ok bs ∧ bs.length = (4 + 2 * sb) / 8 ∧
      parseLitHeader self (bs ++ rest) =
        .ok ({ ty := if newTable then 2 else 3, regen := regen, comp := some comp,
               streams := some (if regen < 6 then 1 else 4) }, bs.length) := by
  intro newTable regen comp sf sb self rest harm hc hr
  obtain ⟨a1, a2, a3, a4⟩ := size_arms_cases regen sf sb harm
  have hsf : sf < 4 := by omega
  have hsb : sb = 10 ∨ sb = 14 ∨ sb = 18 := by omega
  have hT : (if newTable then 2 else 3) = 2 ∨ (if newTable then 2 else 3) = 3 := by cases newTable <;> simp
  obtain ⟨f1, f2, f3⟩ := spec_fields (if newTable then 2 else 3) sf sb regen comp _ hT a4 a1 hc rfl
  have hk1 : 1 ≤ (4 + 2 * sb) / 8 := by omega
  have hs := spec_parse_leBytes _ _ rest hk1 f1 f2
  rw [f3] at hs
  refine ⟨_, compressedLiteralsHeader_eq newTable regen comp sf sb harm hsf hsb a1 hc, leBytes_length _ _, ?_⟩
  rw [parseLitHeader_eq_rfc self _ (Bytes_append.2 ⟨leBytes_lt _ _, hr⟩)]
  obtain ⟨j, hj⟩ : ∃ j, (4 + 2 * sb) / 8 = j + 1 := ⟨(4 + 2 * sb) / 8 - 1, by omega⟩
  rw [hj] at hs ⊢
  rw [show ∀ V, leBytes (j + 1) V ++ rest = (V % 256) :: (leBytes j (V / 256) ++ rest) from fun _ => rfl] at hs ⊢
  simp only [hs, leBytes_length]
  have nT : ¬ ((if newTable then 2 else 3) < 2) := by cases newTable <;> simp
  have hst : (if sf = 0 then 1 else 4) = (if regen < 6 then 1 else 4) := by
    by_cases h6 : regen < 6
    · simp [h6, a3.2 h6]
    · have : ¬ sf = 0 := fun h => h6 (a3.1 h)
      simp [h6, this]
  simp only [nT, if_false, hst]

theorem readFrameHeader_eq_rfc : ∀ d rest, d < 256 → (∀ b ∈ rest, b < 256) →
    match Spec.Hdr.parseFrameHeader (d :: rest) with
    | none => ∃ e, (e = .windowRead ∨ e = .dictIdRead ∨ e = .fcsRead) ∧
        readFrameHeader (leBytes 4 Gen.magicNum ++ d :: rest) = .error e
    | some h => ∃ hd, readFrameHeader (leBytes 4 Gen.magicNum ++ d :: rest) = .ok (hd, 4 + h.size, rest.drop (h.size - 1)) ∧
        hd.desc = d ∧ Gen.fdChecksum d = h.desc.checksum ∧ Gen.fdSingleSegment d = h.desc.singleSegment ∧
        hd.dictId = (match h.dictId with | some 0 => none | x => x) ∧
        hd.fcs = h.fcs.getD 0 ∧
        hd.windowSize = .ok h.requiredWindow := by
  intro d rest hd hr
  rw [readFrameHeader_eq d rest hd]
  have hs := fd_sizes d hd
  have hsingle := fd_single d hd
  have hck := fd_checksum d hd
  simp only [Spec.Hdr.parseFrameHeader]
  generalize hnd : Spec.didFieldSize (Spec.parseFrameDesc d) = nd at *
  generalize hnf : Spec.fcsFieldSize (Spec.parseFrameDesc d) = nf at *
  -- a single-segment frame always has a Frame_Content_Size field
  have hnf0 : (Spec.parseFrameDesc d).singleSegment = true → nf ≠ 0 := by
    intro h; rw [← hnf]; unfold Spec.fcsFieldSize; rw [h]; split <;> simp
  generalize hnw : (if (Spec.parseFrameDesc d).singleSegment = true then 0 else 1) = nw at *
  by_cases h3 : rest.length < nw + nd + nf
  · -- the Spec reads nothing; the code fails at the first field whose bytes are missing
    simp only [h3, if_true]
    split
    · exact ⟨_, Or.inl rfl, rfl⟩
    split
    · exact ⟨_, Or.inr (Or.inl rfl), rfl⟩
    exact ⟨_, Or.inr (Or.inr rfl), rfl⟩
  · have h1 : ¬ rest.length < nw := by omega
    have h2 : ¬ rest.length < nw + nd := by omega
    simp only [h1, h2, h3, if_false]
    refine ⟨_, congrArg Except.ok (Prod.ext rfl (Prod.ext ?_ ?_)), rfl, hck, hsingle, ?_, ?_, ?_⟩
    · show 5 + nw + nd + nf = 4 + (1 + nw + nd + nf); omega
    · show List.drop (nw + nd + nf) rest = List.drop (1 + nw + nd + nf - 1) rest
      congr 1; omega
    · by_cases hn0 : nd = 0
      · simp [hn0]
      · by_cases hz : leNat (List.take nd (List.drop nw rest)) = 0
        · simp [hn0, hz]
        · simp only [hn0, hz, ne_eq, not_false_eq_true, and_self, if_true, if_false]
          split
          · rename_i heq; injection heq with heq; exact absurd heq hz
          · rfl
    · by_cases hn0 : nf = 0
      · simp [hn0, leNat]
      · simp only [hn0, if_false, Option.getD_some]
    · simp only [DecFrameHeader.windowSize, hsingle, Spec.Hdr.FrameHeader.requiredWindow]
      cases hss : (Spec.parseFrameDesc d).singleSegment
      · simp only [Bool.false_eq_true, if_false]
        rw [hss] at hnw
        simp only [Bool.false_eq_true, if_false] at hnw
        subst hnw
        match rest, h1, hr with
        | w :: tl, _, hr =>
          have hw : w < 256 := hr w (by simp)
          simp only [List.take_succ_cons, List.take_zero, leNat, Nat.mul_zero, Nat.add_zero]
          exact window_check w hw
      · have := hnf0 hss
        simp only [if_true, this, if_false, Option.getD_some]

theorem readFrameHeader_other_magic : ∀ (m : Nat) rest, m < 2 ^ 32 → m ≠ Gen.magicNum →
    readFrameHeader (leBytes 4 m ++ rest) =
      if 0x184D2A50 ≤ m ∧ m ≤ 0x184D2A5F then
        (if rest.length < 4 then .error .descRead else .error (.skipFrame m (leNat (rest.take 4))))
      else .error (.badMagic m) := by
  intro m rest hm hne
  have h2 : leNat (leBytes 4 m) = m := by rw [leNat_leBytes, Nat.mod_eq_of_lt (by omega)]
  simp only [readFrameHeader, readExact_leBytes, h2, Gen.skipMagicLo, Gen.skipMagicHi]
  by_cases hs : 407710288 ≤ m ∧ m ≤ 407710303
  · simp only [hs, and_self, if_true, readExact]
    by_cases hl : rest.length < 4 <;> simp [hl]
  · simp only [hs, if_false, hne, ne_eq, not_false_eq_true, if_true]

theorem compressFrameHeader_roundtrip : ∀ (hash : Bool) w rest, w ≤ 2 ^ 41 →
    ∃ bs hd W, (compressFrameHeader hash w).serialize = .ok bs ∧ bs.length = 6 ∧
      readFrameHeader (bs ++ rest) = .ok (hd, 6, rest) ∧
      hd.dictId = none ∧ hd.fcs = 0 ∧ Gen.fdChecksum hd.desc = hash ∧ Gen.fdSingleSegment hd.desc = false ∧
      Gen.fdFcsFlag hd.desc = 0 ∧ Gen.fdDictIdFlag hd.desc = 0 ∧
      hd.windowSize = .ok W ∧ w ≤ W ∧ Spec.windowMin ≤ W ∧ W ≤ Spec.windowMax ∧ (2048 < w → W < 2 * w) := by
  intro hash w rest hw
  have hl : winLog w ≤ 41 := winLog_le w 41 hw
  obtain ⟨s1, s2⟩ := winLog_spec w
  generalize hE : (if winLog w > 10 then winLog w else 11) - 10 = E
  have hE31 : E ≤ 31 := by subst hE; split <;> omega
  have hser : (compressFrameHeader hash w).serialize = .ok (leBytes 4 Gen.magicNum ++ [4 * hash.toNat] ++ [8 * E] ++ [] ++ []) := by
    have hwb : (compressFrameHeader hash w).windowBytes = .ok [8 * E] := by
      simp only [EncFrameHeader.windowBytes, compressFrameHeader, encWindowDescriptor_eq w hw, hE]
    simp only [EncFrameHeader.serialize, compress_descriptor, hwb]
    rfl
  have hd4 : 4 * hash.toNat < 256 := by cases hash <;> decide
  have hread := readFrameHeader_eq (4 * hash.toNat) (8 * E :: rest) hd4
  have hdesc : Spec.parseFrameDesc (4 * hash.toNat) = ⟨0, false, hash, 0⟩ := by cases hash <;> decide
  simp only [hdesc, Spec.didFieldSize, Spec.fcsFieldSize, Bool.false_eq_true, if_false, List.length_cons] at hread
  have c1 : ¬ (rest.length + 1 < 1) := by omega
  simp only [c1, if_false, List.take_zero, leNat, ne_eq, not_true_eq_false, false_and, List.take_succ_cons,
    Nat.mul_zero, Nat.add_zero, List.drop_succ_cons, List.drop_zero, Nat.reduceAdd, Nat.reduceEqDiff] at hread
  have hW : Gen.windowSizeExpr (8 * E) = 2 ^ (10 + E) := windowSizeExpr_of_exp E
  have hpow : (2:Nat) ^ (10 + E) ≤ 2 ^ 41 := Nat.pow_le_pow_right (by decide) (by omega)
  have hpow2 : (2:Nat) ^ 10 ≤ 2 ^ (10 + E) := Nat.pow_le_pow_right (by decide) (by omega)
  obtain ⟨k1, k2, k3, k4⟩ : Gen.fdChecksum (4 * hash.toNat) = hash ∧ Gen.fdSingleSegment (4 * hash.toNat) = false ∧
      Gen.fdFcsFlag (4 * hash.toNat) = 0 ∧ Gen.fdDictIdFlag (4 * hash.toNat) = 0 := by cases hash <;> decide
  -- the declared window is 2^max(log, 11)
  have hmax : 10 + E = max (winLog w) 11 := by subst hE; split <;> omega
  refine ⟨_, { desc := 4 * hash.toNat, windowDescriptor := 8 * E, dictId := none, fcs := 0 }, 2 ^ (10 + E), hser,
    by simp [leBytes_length], ?_, rfl, rfl, k1, k2, k3, k4, ?_, ?_, ?_, ?_, ?_⟩
  · rw [← hread]; simp only [List.append_assoc, List.cons_append, List.nil_append, List.append_nil]
  · simp only [DecFrameHeader.windowSize, k2, Bool.false_eq_true, if_false, hW]
    exact checkWindowRange_ok _ (by simp only [Spec.windowMin]; omega) (by simp only [Spec.windowMax]; omega)
  · rw [hmax]
    exact Nat.le_trans s1 (Nat.pow_le_pow_right (by decide) (Nat.le_max_left _ _))
  · simp only [Spec.windowMin]; omega
  · simp only [Spec.windowMax]; omega
  · intro hbig
    have h11 : 11 < winLog w := by
      apply Classical.byContradiction
      intro hc
      have : (2:Nat) ^ winLog w ≤ 2 ^ 11 := Nat.pow_le_pow_right (by decide) (by omega)
      omega
    rw [hmax, Nat.max_eq_left (by omega)]
    exact s2 (by omega)

theorem ok_of_ite_error {ε α : Type} {c : Prop} [Decidable c] {e : ε} {x : Except ε α} {y : α}
    (h : (if c then .error e else x) = .ok y) : x = .ok y := by
  split at h
  · cases h
  · exact h

theorem readFrameHeader_bytes (src : List Nat) (h : DecFrameHeader) (n : Nat) (rest : List Nat)
    (hb : ∀ b ∈ src, b < 256) (hsrc : readFrameHeader src = .ok (h, n, rest)) :
    h.desc < 256 ∧ h.windowDescriptor < 256 := by
  -- behind the magic number `readFrameHeader` has a closed form: the descriptor is a byte of `src`, the window
  -- descriptor the value of at most one
  obtain ⟨d, tl, rfl⟩ := readFrameHeader_ok_magic hb hsrc
  have hd : d < 256 := hb d (by simp)
  rw [readFrameHeader_eq d tl hd] at hsrc
  simp only at hsrc
  generalize hnw : (if (Spec.parseFrameDesc d).singleSegment = true then 0 else 1) = nw at hsrc
  have hnw1 : nw ≤ 1 := by subst hnw; split <;> omega
  have hsrc := ok_of_ite_error (ok_of_ite_error (ok_of_ite_error hsrc))
  injection hsrc with hsrc
  injection hsrc with hh _
  subst hh
  refine ⟨hd, ?_⟩
  show leNat (tl.take nw) < 256
  match nw, tl, hnw1 with
  | 0, _, _ => simp [leNat]
  | 1, [], _ => simp [leNat]
  | 1, w :: _, _ => simpa [leNat] using hb w (by simp)

end Zstd.Proofs.Headers
