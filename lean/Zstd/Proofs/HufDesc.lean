import Zstd.Proofs.HufDec
/-
Weight descriptions: what `write_table` writes — directly for at most 16 transmitted weights,
through the FSE coder otherwise — is read back by `read_weights` as the same weights, and
`build_table_from_weights` re-infers the dropped last weight, so that the decoder's code lengths are
the encoder's.  Here the direct form is proved outright and the FSE form for an FSE coder that is read back
(`FseWeightsContract`, `fse_roundtrip`); for the real FSE coder it is proved in `Proofs/HufRoundtripFse`.
-/
namespace Zstd.Proofs.Huf
open Zstd Zstd.Model.Huf

theorem nibbles_directBytes : ∀ (ws : List Nat), (∀ w ∈ ws, w < 16) →
    ∃ bs, directBytes ws = .ok bs ∧ bs.length = (ws.length + 1) / 2 ∧
      ∀ tail, nibbles ws.length (bs ++ tail) = .ok ws
  | [], _ => ⟨[], rfl, rfl, fun _ => rfl⟩
  | [w], h => by
    have hw : w < 16 := h w List.mem_cons_self
    refine ⟨[w * 2 ^ Gen.hufOddShift % 256], ?_, by simp, ?_⟩
    · simp only [directBytes]; rw [if_neg (by omega)]
    · intro tail
      simp only [List.length_cons, List.length_nil, List.cons_append, List.nil_append, nibbles,
        Gen.hufEvenIdxHigh, Gen.hufOddShift, if_true]
      congr 2; omega
  | w1 :: w2 :: rest, h => by
    have h1 : w1 < 16 := h w1 List.mem_cons_self
    have h2 : w2 < 16 := h w2 (List.mem_cons_of_mem _ List.mem_cons_self)
    obtain ⟨bs, hb1, hb2, hb3⟩ := nibbles_directBytes rest
      (fun w hw => h w (List.mem_cons_of_mem _ (List.mem_cons_of_mem _ hw)))
    refine ⟨(w2 + 16 * w1) :: bs, ?_, ?_, ?_⟩
    · simp only [directBytes]; rw [if_neg (by omega), hb1]; simp [Gen.hufPairSecondLow]
    · simp only [List.length_cons, hb2]; omega
    · intro tail
      simp only [List.length_cons, List.cons_append, nibbles, hb3 tail, Gen.hufEvenIdxHigh, if_true]
      congr 2
      · omega
      · congr 1; omega

theorem readWeights_direct (st : DecTable) (ws bs tail : List Nat) (hn1 : 1 ≤ ws.length) (hn2 : ws.length ≤ 128)
    (hlen : bs.length = (ws.length + 1) / 2) (hnib : nibbles ws.length (bs ++ tail) = .ok ws) :
    readWeights st ((ws.length + Gen.hufDirectHeaderAddEnc) :: (bs ++ tail))
      = ({ st with weights := ws }, .ok (1 + bs.length)) := by
  have hA : Gen.hufDirectHeaderAddEnc = 127 := rfl
  have hws := nibbles_eq (bs ++ tail) ws.length (by rw [List.length_append]; omega)
  rw [hnib, Except.ok.injEq] at hws
  rw [readWeights_direct_eq st _ (by omega), hA, Nat.add_sub_cancel, ← hws, ← hlen,
    if_neg (by rw [List.length_append]; omega)]

theorem writeTable_direct (fseEnc : List Nat → Except Fault (List Nat)) {t : EncTable} {ws bs : List Nat}
    (hw : weights t = .ok ws) (hn : ws.dropLast.length ≤ 16) (hb : directBytes ws.dropLast = .ok bs) :
    writeTable fseEnc t = .ok ((ws.dropLast.length + Gen.hufDirectHeaderAddEnc) :: bs) := by
  have hnofse : Gen.hufUseFse ws.dropLast.length Gen.hufDirectMax = false := by
    simp only [Gen.hufUseFse, Gen.hufDirectMax]; exact decide_eq_false (by omega)
  unfold writeTable
  rw [hw]
  simp only [hnofse, hb, Bool.false_eq_true, if_false]

theorem writeTable_fse (fseEnc : List Nat → Except Fault (List Nat)) {t : EncTable} {ws : List Nat}
    (hw : weights t = .ok ws) (hn : 16 < ws.dropLast.length) :
    writeTable fseEnc t =
      match fseEnc ws.dropLast with
      | .error f => .error f
      | .ok bytes =>
        if bytes.length < 128 then .ok (bytes.length :: bytes)
        else .error (.assert "huff0_encoder.rs:write_table:encoded_len<128") := by
  have huse : Gen.hufUseFse ws.dropLast.length Gen.hufDirectMax = true := decide_eq_true hn
  unfold writeTable
  rw [hw]
  simp only [huse, if_true, Gen.hufFseLenOk, Gen.hufFseLenBound]
  cases fseEnc ws.dropLast with
  | error f => rfl
  | ok bytes => by_cases h : bytes.length < 128 <;> simp [h]

theorem buildDecoder_ok {st st1 st' : DecTable} {src : List Nat} {n : Nat}
    (hr : readWeights { st with decode := #[] } src = (st1, .ok n))
    (hb : buildTableFromWeights st1 = (st', .ok ())) : buildDecoder st src = (st', .ok n) := by
  unfold buildDecoder
  simp only
  rw [hr]
  simp only
  rw [hb]

/-- the description `desc` is read back as the weights `ws` from every state, whatever bytes follow,
consuming exactly `desc`.  What follows is asked to be bytes because the FSE form is read back through the Spec
(`fseWeights_roundtrip`: `Blk.readWeights_refines` is about byte strings); the direct form needs no such hypothesis
(`readWeights_direct`, `C13.weights_roundtrip_direct`). -/
def DescReads (desc ws : List Nat) : Prop :=
  ∀ (st : DecTable) (tail : List Nat), (∀ b ∈ tail, b < 256) →
    readWeights st (desc ++ tail) = ({ st with weights := ws }, .ok desc.length)

theorem goodWeights_dropLast {all : List Nat} {M : Nat} (hM1 : 1 ≤ M) (hM11 : M ≤ 11) (hle : ∀ w ∈ all, w ≤ M)
    (hlast : ∀ w, all.getLast? = some w → 1 ≤ w) (hsum : weightSum all = 2 ^ M) :
    GoodWeights all.dropLast ∧ maxBitsOf all.dropLast = M ∧ all.dropLast ++ [lastWeightOf all.dropLast] = all := by
  have hne : all ≠ [] := by
    intro h; rw [h] at hsum; have := Nat.two_pow_pos M; simp [weightSum] at hsum; omega
  obtain ⟨ws, wl, rfl⟩ : ∃ ws wl, all = ws ++ [wl] :=
    ⟨all.dropLast, all.getLast hne, (List.dropLast_concat_getLast hne).symm⟩
  have hwl1 : 1 ≤ wl := hlast wl (by simp)
  have hwlM : wl ≤ M := hle wl (by simp)
  rw [List.dropLast_concat]
  have hpl := Nat.two_pow_pos (wl - 1)
  have hple : 2 ^ (wl - 1) ≤ 2 ^ (M - 1) := Nat.pow_le_pow_right (by omega) (by omega)
  have hM2 := Nat.two_pow_pred_mul_two (w := M) hM1
  have hs : weightSum ws = 2 ^ M - 2 ^ (wl - 1) := by
    rw [weightSum_append] at hsum
    simp only [weightSum, if_pos (show wl > 0 from hwl1), Nat.add_zero] at hsum
    omega
  have hpos : weightSum ws ≠ 0 := by omega
  have hlog : Nat.log2 (weightSum ws) = M - 1 :=
    (Nat.log2_eq_iff hpos).mpr ⟨by omega, by rw [Nat.sub_add_cancel hM1]; omega⟩
  have hmb : maxBitsOf ws = M := by simp only [maxBitsOf, hlog]; omega
  have hleft : 2 ^ maxBitsOf ws - weightSum ws = 2 ^ (wl - 1) := by
    rw [hmb, hs]; exact Nat.sub_sub_self (Nat.pow_le_pow_right (by decide) (Nat.le_trans (Nat.sub_le wl 1) hwlM))
  have hlw : lastWeightOf ws = wl := by simp only [lastWeightOf, hleft, Nat.log2_two_pow]; omega
  refine ⟨⟨fun w hw => ?_, hpos, ?_, ?_⟩, hmb, by rw [hlw]⟩
  · have := hle w (List.mem_append_left _ hw)
    show w ≤ 11
    omega
  · show isPow2 (2 ^ maxBitsOf ws - weightSum ws) = true
    rw [hleft, isPow2_iff]
    exact ⟨by omega, by rw [Nat.log2_two_pow]⟩
  · show maxBitsOf ws ≤ 11
    omega

/-- all weights of a table, as `HuffmanEncoder::weights` computes them -/
def encWeights (t : EncTable) (M : Nat) : List Nat := t.codes.map fun c => if c.2 = 0 then 0 else M - c.2 + 1

/-- the encoder table is a complete code of depth `M ≤ 11` over at least two symbols, the last of
which is used (true for every table `build_from_data` returns); `kraft` is about `encWeights t M`.
It speaks of the code LENGTHS of `t` only, which is all a weight description depends on; everything about codes and
streams is stated for `CanonTable` (Proofs/HufRoundtrip), which implies it (`CanonTable.kraft`).  It stays beside
`CanonTable` because `C13.weights_roundtrip_direct`, `compressor_table_kraft`, `fse_weights_lt_128_partial` and
`fse_roundtrip` are stated with it. -/
structure KraftTable (t : EncTable) (M : Nat) : Prop where
  two : 2 ≤ t.codes.length
  len256 : t.codes.length ≤ 256
  le : ∀ c ∈ t.codes, c.2 ≤ M
  has : ∃ c ∈ t.codes, c.2 = M
  m1 : 1 ≤ M
  m11 : M ≤ 11
  lastUsed : ∀ c, t.codes.getLast? = some c → 1 ≤ c.2
  kraft : weightSum (t.codes.map fun c => if c.2 = 0 then 0 else M - c.2 + 1) = 2 ^ M

theorem encWeights_dropLast_length (t : EncTable) (M : Nat) :
    (encWeights t M).dropLast.length = t.codes.length - 1 := by
  simp [encWeights]

theorem foldl_max_le {l : List (Nat × Nat)} {acc k : Nat} :
    l.foldl (fun m c => Nat.max m c.2) acc ≤ k ↔ acc ≤ k ∧ ∀ c ∈ l, c.2 ≤ k := by
  induction l generalizing acc with
  | nil => simp
  | cons x xs ih =>
    rw [List.foldl_cons, ih, Nat.max_le, List.forall_mem_cons, and_assoc]

theorem weights_eq_encWeights {t : EncTable} {M : Nat} (hle : ∀ c ∈ t.codes, c.2 ≤ M) (has : ∃ c ∈ t.codes, c.2 = M) :
    weights t = .ok (encWeights t M) := by
  unfold weights
  have hmax : t.codes.foldl (fun m c => Nat.max m c.2) 0 = M := by
    obtain ⟨c, hc, hcm⟩ := has
    have h1 := foldl_max_le.mpr ⟨Nat.zero_le M, hle⟩
    have h2 := (foldl_max_le (acc := 0).mp (Nat.le_refl _)).2 c hc
    omega
  cases hc : t.codes with
  | nil => obtain ⟨c, hcm, _⟩ := has; rw [hc] at hcm; cases hcm
  | cons c cs => simp only; rw [← hc, hmax]; rfl

theorem kraft_weights_good {t : EncTable} {M : Nat} (k : KraftTable t M) :
    GoodWeights (encWeights t M).dropLast ∧ maxBitsOf (encWeights t M).dropLast = M ∧
      allBitsOf (encWeights t M).dropLast = t.codes.map (·.2) ∧
      (∀ w ∈ (encWeights t M).dropLast, w < 16) := by
  have hleM : ∀ w ∈ encWeights t M, w ≤ M := by
    intro w hw
    obtain ⟨c, hc, rfl⟩ := List.mem_map.mp hw
    have := k.le c hc
    split <;> omega
  obtain ⟨hgood, hmb, hrec⟩ := goodWeights_dropLast k.m1 k.m11 hleM
    (fun w hw => by
      rw [encWeights, List.getLast?_map] at hw
      obtain ⟨cl, hcl, rfl⟩ := Option.map_eq_some_iff.mp hw
      have := k.lastUsed cl hcl
      rw [if_neg (by omega)]; omega)
    k.kraft
  refine ⟨hgood, hmb, ?_, fun w hw => by
    have := hleM w (List.dropLast_subset _ hw); have := k.m11; omega⟩
  rw [allBitsOf, hmb, hrec]
  simp only [bitsOf, encWeights, List.map_map]
  apply List.map_congr_left
  intro c hc
  have := k.le c hc
  simp only [Function.comp]
  by_cases h0 : c.2 = 0
  · simp [h0]
  · rw [if_neg h0, if_pos (by omega)]; omega

theorem build_after_read {t : EncTable} {M : Nat} (k : KraftTable t M) (st : DecTable)
    (hst : st.weights = (encWeights t M).dropLast) :
    ∃ st', buildTableFromWeights st = (st', .ok ()) ∧ st'.bits = t.codes.map (·.2) ∧ st'.maxNumBits = M := by
  obtain ⟨hgood, hmb, hbits, _⟩ := kraft_weights_good k
  have hlen : st.weights.length ≤ 257 := by
    rw [hst, encWeights_dropLast_length]; have := k.len256; omega
  rw [← hst] at hgood hmb hbits
  obtain ⟨ri, dec, hbuild, _⟩ := buildTable_good st hlen hgood
  exact ⟨_, hbuild, hbits, hmb⟩

theorem buildDecoder_of_descReads {t : EncTable} {M : Nat} (k : KraftTable t M) {desc : List Nat}
    (hr : DescReads desc (encWeights t M).dropLast) (st : DecTable) (tail : List Nat) (htail : ∀ b ∈ tail, b < 256) :
    ∃ st', buildDecoder st (desc ++ tail) = (st', .ok desc.length) ∧
      st'.bits = t.codes.map (·.2) ∧ st'.maxNumBits = M := by
  obtain ⟨st', hbuild, hbits, hmb⟩ := build_after_read k
    { decode := #[], weights := (encWeights t M).dropLast, maxNumBits := st.maxNumBits, bits := st.bits } rfl
  exact ⟨st', buildDecoder_ok (hr { st with decode := #[] } tail htail) hbuild, hbits, hmb⟩

/-- The contract of the FSE coder of the weights, at the interface the Huffman code uses: whatever
`fseEnc` (= `build_table_from_data(ws, 6, true)`, `write_table`, `encode_interleaved(ws)`) returns
for `ws` is read back by the FSE branch of `read_weights` — table description, two interleaved
states, termination rule — as exactly `ws`, consuming the size byte and the payload.
It asks this of EVERY `ws`; for the production coder `Enc.fseWeights` it is proved for 4 … 257 weights `≤ 11`
(`fseWeights_roundtrip`, Proofs/HufRoundtripFse), which is what `write_table` can hand it. -/
def FseWeightsContract (fseEnc : List Nat → Except Fault (List Nat)) : Prop :=
  ∀ (ws bytes : List Nat), fseEnc ws = .ok bytes → bytes.length < 128 →
    ∀ (st : DecTable) (tail : List Nat), (∀ b ∈ tail, b < 256) →
      readWeights st (bytes.length :: (bytes ++ tail)) = ({ st with weights := ws }, .ok (1 + bytes.length))

/-- **FSE-compressed weight description round trip** (more than 16 transmitted weights), under the
FSE contract: if the FSE encoder returns `bytes`, then `write_table` panics exactly when
`bytes.length ≥ 128` (the `assert!`), and otherwise the decoder ends up with the encoder's code
lengths, the dropped last weight re-inferred, the description exactly consumed. -/
theorem fse_roundtrip (fseEnc : List Nat → Except Fault (List Nat)) (hfse : FseWeightsContract fseEnc)
    (t : EncTable) (M : Nat) (k : KraftTable t M) (hfseform : t.codes.length - 1 > 16)
    (bytes : List Nat) (henc : fseEnc (encWeights t M).dropLast = .ok bytes) (hsmall : bytes.length < 128)
    (st : DecTable) (tail : List Nat) (htail : ∀ b ∈ tail, b < 256) :
    writeTable fseEnc t = .ok (bytes.length :: bytes) ∧
      ∃ st', buildDecoder st ((bytes.length :: bytes) ++ tail) = (st', .ok (bytes.length :: bytes).length) ∧
        st'.bits = t.codes.map (·.2) ∧ st'.maxNumBits = M := by
  have hdl := encWeights_dropLast_length t M
  have hw : weights t = .ok (encWeights t M) := weights_eq_encWeights k.le k.has
  refine ⟨by simp only [writeTable_fse fseEnc hw (by omega), henc, if_pos hsmall], buildDecoder_of_descReads k (fun st tail htail => ?_) st tail htail⟩
  rw [List.cons_append, List.length_cons, Nat.add_comm]
  exact hfse _ _ henc hsmall st tail htail

end Zstd.Proofs.Huf
