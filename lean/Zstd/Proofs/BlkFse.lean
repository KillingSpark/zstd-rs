import Zstd.Proofs.BlkWF
import Zstd.Proofs.BlkFseSpec
import Zstd.Proofs.BlkFseRead
/-
FSE tables of the block decoder: what `FSETable::build_decoder` (`fse_decoder.rs`) does on byte input, in the
vocabulary of `Proofs/BlkWF`, read off the Spec's verdict on the same bytes.

`build_decoder` is `read_probabilities` followed by `build_decoding_table`.  The reader agrees with
`Spec.Fse.readDescription` (`FseReadDesc.readProbabilities_agree`), and what it accepts is a valid distribution, on
which the table builder cannot fail (`Proofs/BlkFseSpec`): hence `buildDecoder_agree`.
-/
namespace Zstd.Proofs.Blk
open Zstd Zstd.Model Zstd.Model.Fse
open Zstd.Proofs.BitIO (Bytes)

/-- outcome of `build_decoder` on a table with alphabet bound `t.maxSymbol`, against the Spec's description reader
and table builder -/
def BuildAgree (t : DTable) (src : Array Nat) (maxLog : Nat) : DTable × Except Err Nat → Prop
  | (t', .ok n) => FseBuilt maxLog t' ∧ t'.maxSymbol = t.maxSymbol ∧ n ≤ src.size ∧
      ∃ al probs, Spec.Fse.readDescription src.toList maxLog t.maxSymbol = some (al, probs, n) ∧
        Spec.Fse.buildTable al probs = some (specOf t')
  | (t', .error e) => (∀ f, e ≠ .fault f) ∧ Spec.Fse.readDescription src.toList maxLog t.maxSymbol = none ∧
      ({ t with accuracyLog := 0 } : DTable).readProbabilities src maxLog = (t', .error e)

/-- `max_log ≤ 9`, `max_symbol ≤ 255` cover all callers: 9/9/8 with 35/52/31 for the sequence tables, 6 with 255
for Huffman weights -/
theorem buildDecoder_agree (t : DTable) (src : Array Nat) (maxLog : Nat) (hb : Bytes src.toList)
    (hml : maxLog ≤ 9) (hms : t.maxSymbol ≤ 255) : BuildAgree t src maxLog (t.buildDecoder src maxLog) := by
  have ha := Zstd.Proofs.FseReadDesc.readProbabilities_agree src hb { t with accuracyLog := 0 } maxLog
  unfold DTable.buildDecoder
  dsimp only
  cases hr : ({ t with accuracyLog := 0 } : DTable).readProbabilities src maxLog with
  | mk t1 r =>
    rw [hr] at ha
    cases r with
    | error e => exact ⟨ha.1, ha.2, hr⟩
    | ok n =>
      obtain ⟨hspec, ht1⟩ := ha
      have hspec : Spec.Fse.readDescription src.toList maxLog t.maxSymbol = some (t1.accuracyLog, t1.probs.toList, n) :=
        hspec
      have hms1 : t1.maxSymbol = t.maxSymbol := by rw [ht1]
      obtain ⟨_, hle, hlen, _, _, hused⟩ := readDescription_valid hspec
      rw [Array.length_toList] at hlen
      -- a description the Spec accepts is a valid distribution: `build_decoding_table` cannot fail on it
      obtain ⟨dec, ctr, hbuild, hbuilt, hbt⟩ := buildDecodingTable_built t1 maxLog
        (readDescription_validDist hml hms hspec) (by omega) hle
      dsimp only
      rw [hbuild]
      exact ⟨hbuilt, hms1, by simpa using hused, _, _, hspec, hbt⟩

theorem buildDecoder_maxSymbol (t : DTable) (src : Array Nat) (maxLog : Nat) :
    (t.buildDecoder src maxLog).1.maxSymbol = t.maxSymbol := by
  have h1 := readProbabilities_maxSymbol { t with accuracyLog := 0 } src maxLog
  unfold DTable.buildDecoder
  dsimp only
  split
  · rename_i hr
    rw [hr] at h1
    exact h1
  · rename_i t1 n hr
    rw [hr] at h1
    have h2 := buildDecodingTable_maxSymbol t1
    split <;> rename_i hb <;> rw [hb] at h2 <;> exact h2.trans h1

theorem buildDecoder_error_is_read_error (t t' : DTable) (src : Array Nat) (maxLog : Nat) (e : Err)
    (hb : Bytes src.toList) (hml : maxLog ≤ 9) (hms : t.maxSymbol ≤ 255)
    (h : t.buildDecoder src maxLog = (t', .error e)) :
    ({ t with accuracyLog := 0 } : DTable).readProbabilities src maxLog = (t', .error e) := by
  have := buildDecoder_agree t src maxLog hb hml hms
  rw [h] at this
  exact this.2.2

/-- a real description (the predefined offset distribution as `write_table` of the encoder model emits
it, 14 bytes) builds; `buildDecoder_agree` then says the table is `FseBuilt` -/
example : FseBuilt 8 ((DTable.new 31).buildDecoder #[32, 132, 16, 66, 102, 70, 68, 68, 68, 68, 36, 73, 2, 0] 8).1 := by
  have hb : Bytes (#[32, 132, 16, 66, 102, 70, 68, 68, 68, 68, 36, 73, 2, 0] : Array Nat).toList := by
    intro b hb; simp at hb; omega
  have h2 : ((DTable.new 31).buildDecoder #[32, 132, 16, 66, 102, 70, 68, 68, 68, 68, 36, 73, 2, 0] 8).2 = .ok 14 := by
    decide +kernel
  -- the array is made a variable before `buildDecoder_agree` is applied: on the literal, elaborating its type runs the decoder
  generalize (#[32, 132, 16, 66, 102, 70, 68, 68, 68, 68, 36, 73, 2, 0] : Array Nat) = src at hb h2 ⊢
  have ha := buildDecoder_agree (DTable.new 31) src 8 hb (by decide) (by decide)
  generalize (DTable.new 31).buildDecoder src 8 = p at h2 ha ⊢
  obtain ⟨t', r⟩ := p
  dsimp only at h2
  subst h2
  exact ha.1

example : ((DTable.new 31).buildDecoder #[32, 132] 8).2 = .error (.getBitsNotEnough 5 2) := by decide +kernel

/-- `read_probabilities` stores the new accuracy log before it reads (or rejects) anything else and
`build_decoder` returns early, so after an `Err` the table holds the NEW accuracy log next to the OLD
`decode` vector: here a built 32-entry offsets table, then a one-byte description announcing `AL = 6`.
The table left behind is not `FseWF` (`accuracy_log = 6`, 32 entries); a later `init_state` on it would
read 6 bits and index up to 63.  Harmless as long as an error aborts the frame and the scratch is reset
before reuse — the invariant `FseWF` can only be claimed on the `Ok` path. -/
theorem buildDecoder_error_breaks_wf :
    ∃ (t : DTable) (src : Array Nat), FseBuilt 8 t ∧ Bytes src.toList ∧
      (t.buildDecoder src 8).2 = .error (.getBitsNotEnough 7 4) ∧ ¬ FseWF 8 (t.buildDecoder src 8).1 := by
  obtain ⟨t, ht, hbuilt, _⟩ := buildFromProbabilities_built (DTable.new Gen.maxOffsetCode) Gen.ofMaxLog
    chanParams_of.valid chanParams_of.fits chanParams_of.dfltLog_le
  have ht' : t = ((DTable.new Gen.maxOffsetCode).buildFromProbabilities Gen.ofDefaultAccLog Gen.ofDistDec).1 := by
    rw [ht]
  have hrun : ((t.buildDecoder #[0x01] 8).2, (t.buildDecoder #[0x01] 8).1.accuracyLog,
      (t.buildDecoder #[0x01] 8).1.decode.size) = (.error (.getBitsNotEnough 7 4), 6, 32) := by
    rw [ht']; decide +kernel
  simp only [Prod.mk.injEq] at hrun
  obtain ⟨h0, h1, h2⟩ := hrun
  refine ⟨t, #[0x01], hbuilt, by intro b hb; simp at hb; omega, h0, ?_⟩
  rintro (h | h)
  · omega
  · have := h.size
    rw [h1, h2] at this
    omega

end Zstd.Proofs.Blk
