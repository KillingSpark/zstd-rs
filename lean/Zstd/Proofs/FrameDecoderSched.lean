import Zstd.Proofs.FrameDecoderNoFault
/-
The outer loops of the frame decoder — `StreamingDecoder::read` with its fill loop, `decode_all` per frame and
across frames.  Every successful `decode_blocks` call consumes at least a block header, so the fuel the model gives
these loops is never exhausted.  Also here: programs of operations, each with a source of its own (`Op`, `applyOp`,
`runOps`; the programs that thread one source, `SOp` / `runSched`, are in FrameDecoderTwin.lean).
-/
set_option linter.unusedSectionVars false
namespace Zstd.Model
open Zstd

variable {σ : Type} [BlockDec σ] [BlockContract σ]

theorem streamingFill_dstep (fuel : Nat) (d : Decoder σ) (s : Src) (n : Nat) :
    DStep d (streamingFill fuel d s n).1 #[] := by
  induction fuel generalizing d s with
  | zero => exact DStep.refl d
  | succ fuel ih =>
    rw [streamingFill]
    split
    · have hb := Decoder.decodeBlocks_dstep d s (.uptoBytes (n - d.canCollect))
      split <;> rename_i heq <;> rw [heq] at hb
      · exact hb
      · exact hb
      · rename_i d1 s1 fin
        have := hb.trans (ih d1 s1)
        simpa using this
    · exact DStep.refl d

theorem streamingRead_dstep (d : Decoder σ) (s : Src) (n : Nat) :
    DStep d (streamingRead d s n).1 ((streamingRead d s n).2.delivered (·.2)) := by
  simp only [streamingRead]
  split
  · exact DStep.refl d
  · have hf := streamingFill_dstep (s.length + 2) d s n
    split <;> rename_i heq <;> rw [heq] at hf
    · exact hf
    · exact hf
    · have := hf.trans (Decoder.read_dstep _ n)
      simpa [Out.delivered] using this

theorem streamingFill_bound (fuel : Nat) (d : Decoder σ) (s : Src) (n : Nat) :
    (streamingFill fuel d s n).1.content.size ≤ max d.content.size (d.window + n + Gen.maxBlockSize) ∧
    (streamingFill fuel d s n).1.window = d.window := by
  refine ⟨?_, (streamingFill_dstep fuel d s n).window⟩
  induction fuel generalizing d s with
  | zero => exact Nat.le_max_left _ _
  | succ fuel ih =>
    rw [streamingFill]
    split
    · rename_i hc
      have hb := Decoder.decodeBlocks_bound_bytes d s (n - d.canCollect)
      have hw := Decoder.decodeBlocks_window d s (.uptoBytes (n - d.canCollect))
      have hcc := Decoder.canCollect_eq d
      rw [show d.isFinished = false by simpa using hc.2, if_neg Bool.false_ne_true] at hcc
      -- the loop asks for what is missing: `n - canCollect` bytes more, above the window
      have hbound : (d.decodeBlocks s (.uptoBytes (n - d.canCollect))).1.content.size ≤ d.window + n + Gen.maxBlockSize := by
        have := hc.1
        omega
      split <;> rename_i heq <;> rw [heq] at hbound hw
      · exact Nat.le_trans hbound (Nat.le_max_right _ _)
      · exact Nat.le_trans hbound (Nat.le_max_right _ _)
      · rename_i d1 s1 fin
        have := ih d1 s1
        rw [hw] at this
        simp only at hbound
        omega
    · exact Nat.le_max_left _ _

theorem Decoder.read_content_le (d : Decoder σ) (n : Nat) : (d.read n).1.content.size ≤ d.content.size := by
  cases h : d.state with
  | none => simp [Decoder.read, h, Decoder.content]
  | some st =>
    obtain ⟨k, -, -, hr⟩ := Decoder.read_state d st n h
    rw [hr]; simp only [Decoder.content, h, DBuf.take_content_size]; omega

theorem streamingRead_bound (d : Decoder σ) (s : Src) (n : Nat) :
    (streamingRead d s n).1.content.size ≤ max d.content.size (d.window + n + Gen.maxBlockSize) := by
  simp only [streamingRead]
  split
  · simp only; omega
  · have hf := streamingFill_bound (s.length + 2) d s n
    split <;> rename_i heq <;> rw [heq] at hf
    · exact hf.1
    · exact hf.1
    · rename_i d1 s1
      simp only at hf ⊢
      have := Decoder.read_content_le d1 n
      omega

theorem streamingFill_fuel (f1 f2 : Nat) (d : Decoder σ) (s : Src) (n : Nat) (h1 : s.length < f1) (h2 : s.length < f2) :
    streamingFill f1 d s n = streamingFill f2 d s n := by
  induction f1 generalizing f2 d s with
  | zero => omega
  | succ f1 ih =>
    obtain ⟨f2, rfl⟩ : ∃ f, f2 = f + 1 := ⟨f2 - 1, by omega⟩
    rw [streamingFill, streamingFill]
    split
    · split
      · rfl
      · rfl
      · rename_i d1 s1 fin heq
        have := (Decoder.decodeBlocks_ok_consumes _ _ _ _ _ _ heq).1
        exact ih _ _ _ (by omega) (by omega)
    · rfl

theorem decodeAllFrame_fuel (f1 f2 : Nat) (d : Decoder σ) (s : Src) (room : Nat) (out : Array Nat)
    (h1 : s.length < f1) (h2 : s.length < f2) :
    decodeAllFrame f1 d s room out = decodeAllFrame f2 d s room out := by
  induction f1 generalizing f2 d s room out with
  | zero => omega
  | succ f1 ih =>
    obtain ⟨f2, rfl⟩ : ∃ f, f2 = f + 1 := ⟨f2 - 1, by omega⟩
    rw [decodeAllFrame, decodeAllFrame]
    split
    · rfl
    · rfl
    · rename_i d1 s1 fin heq
      have := (Decoder.decodeBlocks_ok_consumes _ _ _ _ _ _ heq).1
      simp only
      split
      · rfl
      · split
        · rfl
        · exact ih _ _ _ _ _ (by omega) (by omega)

/-- what a successful per-frame loop of `decode_all` guarantees: no silent truncation (the frame is finished and
drained completely) and no out-of-bounds write (within the room given) -/
theorem decodeAllFrame_ok (fuel : Nat) (d d' : Decoder σ) (s s' : Src) (room room' : Nat) (out out' : Array Nat)
    (hf : s.length < fuel)
    (h : decodeAllFrame fuel d s room out = (d', .ok (s', room', out'))) :
    d'.isFinished = true ∧ d'.canCollect = 0 ∧ (∃ n, s' = s.drop n) ∧
    ∃ x, out' = out ++ x ∧ x.size ≤ room ∧ room' = room - x.size ∧ DStep d d' x := by
  induction fuel generalizing d s room out with
  | zero => omega
  | succ fuel ih =>
    rw [decodeAllFrame] at h
    split at h
    · cases h
    · cases h
    · rename_i d1 s1 fin heq
      obtain ⟨hc, n, -, hn, -⟩ := Decoder.decodeBlocks_ok_consumes _ _ _ _ _ _ heq
      have hd1 := Decoder.decodeBlocks_dstep d s (.uptoBytes (1024 * 1024))
      rw [heq] at hd1
      simp only at hd1 h
      have hrd := Decoder.read_dstep d1 room
      have hsz := Decoder.read_size_le d1 room
      split at h
      · cases h
      · rename_i hcc
        split at h
        · rename_i hfin
          simp only [Prod.mk.injEq, Out.ok.injEq] at h
          obtain ⟨rfl, rfl, rfl, rfl⟩ := h
          refine ⟨hfin, by simpa using hcc, ⟨n, hn⟩, _, rfl, hsz, rfl, ?_⟩
          simpa using hd1.trans hrd
        · obtain ⟨h1, h2, ⟨m, hm⟩, x, hx1, hx2, hx3, hx4⟩ := ih _ _ _ _ (by omega) h
          refine ⟨h1, h2, ⟨n + m, by rw [hm, hn, List.drop_drop]⟩, (d1.read room).2 ++ x,
            by rw [hx1, Array.append_assoc], ?_, ?_, ?_⟩
          · rw [Array.size_append]; omega
          · rw [hx3, Array.size_append]; omega
          · simpa using (hd1.trans hrd).trans hx4

theorem decodeAllLoop_succ (fuel : Nat) (d : Decoder σ) (s : Src) (room : Nat) (out : Array Nat) (hne : s ≠ []) :
    decodeAllLoop (fuel + 1) d s room out =
      match d.reset s with
      | (d1, .err (.skipFrame _ len)) =>
        if (s.drop 8).length < len then (d1, .err .failedToSkipFrame)
        else decodeAllLoop fuel d1 ((s.drop 8).drop len) room out
      | (d1, .err e) => (d1, .err e)
      | (d1, .fault f) => (d1, .fault f)
      | (d1, .ok s1) =>
        match decodeAllFrame (s1.length + 2) d1 s1 room out with
        | (d2, .err e) => (d2, .err e)
        | (d2, .fault f) => (d2, .fault f)
        | (d2, .ok (s2, room', out')) => decodeAllLoop fuel d2 s2 room' out' := by
  rw [decodeAllLoop]
  have : s.isEmpty = false := by cases s <;> simp_all
  simp only [this, Bool.false_eq_true, if_false]
  rfl

theorem decodeAllLoop_fuel (f1 f2 : Nat) (d : Decoder σ) (s : Src) (room : Nat) (out : Array Nat)
    (h1 : s.length < f1) (h2 : s.length < f2) :
    decodeAllLoop f1 d s room out = decodeAllLoop f2 d s room out := by
  induction f1 generalizing f2 d s room out with
  | zero => omega
  | succ f1 ih =>
    obtain ⟨f2, rfl⟩ : ∃ f, f2 = f + 1 := ⟨f2 - 1, by omega⟩
    by_cases hne : s = []
    · subst hne; simp [decodeAllLoop]
    · rw [decodeAllLoop_succ _ _ _ _ _ hne, decodeAllLoop_succ _ _ _ _ _ hne]
      split
      · have := List.length_pos_iff.mpr hne
        split
        · rfl
        · exact ih _ _ _ _ _ (by simp only [List.length_drop]; omega) (by simp only [List.length_drop]; omega)
      · rfl
      · rfl
      · rename_i d1 s1 heq
        have hs1 : s1.length + 5 ≤ s.length := by
          obtain ⟨st, -, -, hf⟩ := Decoder.reset_ok d d1 s s1 heq
          have := hf.hdr_ge
          have := hf.hdr_le
          rw [hf.rest s1 rfl, List.length_drop]; omega
        split
        · rfl
        · rfl
        · rename_i d2 s2 room' out' hfr
          obtain ⟨-, -, ⟨n, hn⟩, -⟩ := decodeAllFrame_ok _ _ _ _ _ _ _ _ _ (by omega) hfr
          have : s2.length ≤ s1.length := by rw [hn, List.length_drop]; omega
          exact ih _ _ _ _ _ (by omega) (by omega)

/-- no out-of-bounds write: `decode_all` appends at most `room` (`output.len()`) bytes -/
theorem decodeAllLoop_ok (fuel : Nat) (d d' : Decoder σ) (s : Src) (room : Nat) (out out' : Array Nat)
    (h : decodeAllLoop fuel d s room out = (d', .ok out')) : ∃ x, out' = out ++ x ∧ x.size ≤ room := by
  induction fuel generalizing d s room out with
  | zero =>
    simp only [decodeAllLoop, Prod.mk.injEq, Out.ok.injEq] at h
    exact ⟨#[], by simp [h.2], Nat.zero_le _⟩
  | succ fuel ih =>
    by_cases hne : s = []
    · subst hne
      simp only [decodeAllLoop, List.isEmpty_nil, if_true, Prod.mk.injEq, Out.ok.injEq] at h
      exact ⟨#[], by simp [h.2], Nat.zero_le _⟩
    · rw [decodeAllLoop_succ _ _ _ _ _ hne] at h
      split at h
      · split at h
        · cases h
        · exact ih _ _ _ _ h
      · cases h
      · cases h
      · rename_i d1 s1 heq
        split at h
        · cases h
        · cases h
        · rename_i d2 s2 room' out2 hfr
          obtain ⟨-, -, -, x, hx1, hx2, hx3, -⟩ := decodeAllFrame_ok _ _ _ _ _ _ _ _ _ (by omega) hfr
          obtain ⟨y, hy1, hy2⟩ := ih _ _ _ _ h
          exact ⟨x ++ y, by rw [hy1, hx1, Array.append_assoc], by rw [Array.size_append]; omega⟩

theorem Decoder.reset_skippable (d : Decoder σ) (s : Src) (h8 : 8 ≤ s.length)
    (hm : Gen.skipMagicLo ≤ leNat (s.take 4) ∧ leNat (s.take 4) ≤ Gen.skipMagicHi) :
    d.reset s = (d, .err (.skipFrame (leNat (s.take 4)) (leNat ((s.drop 4).take 4)))) := by
  have e1 : readExact 4 s = some (s.take 4, s.drop 4) := by rw [readExact_eq_some]; exact ⟨by omega, rfl, rfl⟩
  have e2 : readExact 4 (s.drop 4) = some ((s.drop 4).take 4, (s.drop 4).drop 4) := by
    rw [readExact_eq_some, List.length_drop]; exact ⟨by omega, rfl, rfl⟩
  simp only [Decoder.reset, resetCore, readFrameHeader, e1, e2, hm, and_self, if_true]

theorem decodeAllLoop_truncated_skippable (fuel : Nat) (d : Decoder σ) (s : Src) (room : Nat) (out : Array Nat)
    (h8 : 8 ≤ s.length) (hm : Gen.skipMagicLo ≤ leNat (s.take 4) ∧ leNat (s.take 4) ≤ Gen.skipMagicHi)
    (hlen : s.length - 8 < leNat ((s.drop 4).take 4)) :
    decodeAllLoop (fuel + 1) d s room out = (d, .err .failedToSkipFrame) := by
  have hne : s ≠ [] := by intro h; subst h; simp at h8
  rw [decodeAllLoop_succ _ _ _ _ _ hne, Decoder.reset_skippable d s h8 hm]
  simp only [List.length_drop]
  rw [if_pos hlen]

theorem decodeAllLoop_skip (fuel : Nat) (d : Decoder σ) (s : Src) (room : Nat) (out : Array Nat)
    (h8 : 8 ≤ s.length) (hm : Gen.skipMagicLo ≤ leNat (s.take 4) ∧ leNat (s.take 4) ≤ Gen.skipMagicHi)
    (hlen : leNat ((s.drop 4).take 4) ≤ s.length - 8) :
    decodeAllLoop (fuel + 1) d s room out = decodeAllLoop fuel d (s.drop (8 + leNat ((s.drop 4).take 4))) room out := by
  have hne : s ≠ [] := by intro h; subst h; simp at h8
  rw [decodeAllLoop_succ _ _ _ _ _ hne, Decoder.reset_skippable d s h8 hm]
  simp only [List.length_drop]
  rw [if_neg (by omega), List.drop_drop]

theorem decodeAllLoop_garbage (fuel : Nat) (d d1 : Decoder σ) (s : Src) (room : Nat) (out : Array Nat) (e : DErr)
    (hne : s ≠ []) (hr : d.reset s = (d1, .err e)) (hns : ∀ m l, e ≠ .skipFrame m l) :
    decodeAllLoop (fuel + 1) d s room out = (d1, .err e) := by
  rw [decodeAllLoop_succ _ _ _ _ _ hne, hr]
  split
  · rename_i heq; simp only [Prod.mk.injEq, Out.err.injEq] at heq; exact absurd heq.2 (hns _ _)
  · rename_i heq; simp only [Prod.mk.injEq, Out.err.injEq] at heq; rw [heq.1, heq.2]
  · rename_i heq; cases heq
  · rename_i heq; cases heq

theorem Decoder.reset_garbage (d : Decoder σ) (s : Src)
    (h : s.length < 4 ∨ (leNat (s.take 4) ≠ Gen.magicNum ∧ ¬ (Gen.skipMagicLo ≤ leNat (s.take 4) ∧ leNat (s.take 4) ≤ Gen.skipMagicHi))) :
    d.reset s = (d, .err (if s.length < 4 then .magicRead else .badMagic (leNat (s.take 4)))) := by
  by_cases h4 : s.length < 4
  · have e1 : readExact 4 s = none := by rw [readExact_eq_none]; exact h4
    simp only [Decoder.reset, resetCore, readFrameHeader, e1, h4, if_true]
  · have e1 : readExact 4 s = some (s.take 4, s.drop 4) := by rw [readExact_eq_some]; exact ⟨by omega, rfl, rfl⟩
    rcases h with h | ⟨hm, hs⟩
    · omega
    · simp only [Decoder.reset, resetCore, readFrameHeader, e1, hs, h4, if_false, hm, ne_eq, not_false_eq_true, if_true]

/-- a call of the decoder's API together with its arguments; in a program (`runOps`) every call brings its own
source, so consecutive calls need not continue the same input -/
inductive Op where
  | drain (o : DrainOp)
  | blocks (s : Src) (strat : Strategy)
  | fromTo (s : Src) (n : Nat)
  | sread (s : Src) (n : Nat)
  | setMax (w : Nat)

/-- second component: the bytes handed to the caller -/
def applyOp (d : Decoder σ) : Op → Decoder σ × Array Nat
  | .drain o => applyDrain d o
  | .blocks s strat => ((d.decodeBlocks s strat).1, #[])
  | .fromTo s n => ((d.decodeFromTo s n).1, (d.decodeFromTo s n).2.delivered (·.2))
  | .sread s n => ((streamingRead d s n).1, (streamingRead d s n).2.delivered (·.2))
  | .setMax w => (d.setMaxWindowSize w, #[])

/-- second component: everything handed to the caller, in order -/
def runOps (d : Decoder σ) : List Op → Decoder σ × Array Nat
  | [] => (d, #[])
  | op :: ops => ((runOps (applyOp d op).1 ops).1, (applyOp d op).2 ++ (runOps (applyOp d op).1 ops).2)

theorem applyOp_hashed (d : Decoder σ) (op : Op) : (applyOp d op).1.hashed = d.hashed ++ (applyOp d op).2 := by
  cases op with
  | drain o => exact (applyDrain_dstep d o).hashed
  | blocks s strat => exact (Decoder.decodeBlocks_dstep d s strat).hashed
  | fromTo s n => exact Decoder.decodeFromTo_hashed d s n
  | sread s n => exact (streamingRead_dstep d s n).hashed
  | setMax w => simp [applyOp, Decoder.setMaxWindowSize, Decoder.hashed]

theorem runOps_hashed (d : Decoder σ) (ops : List Op) : (runOps d ops).1.hashed = d.hashed ++ (runOps d ops).2 := by
  induction ops generalizing d with
  | nil => simp [runOps]
  | cons op ops ih => simp only [runOps]; rw [ih, applyOp_hashed, Array.append_assoc]

section noFault
variable [NoFaultContract σ]

theorem streamingFill_noFault (fuel : Nat) (d : Decoder σ) (s : Src) (n : Nat) (hw : d.entWF) (hi : NoFaultContract.inp σ s) :
    DSafe (streamingFill fuel d s n) := by
  induction fuel generalizing d s with
  | zero => exact .ok _ hw
  | succ fuel ih =>
    rw [streamingFill]
    split
    · have hb := Decoder.decodeBlocks_noFault d s (.uptoBytes (n - d.canCollect)) hw hi
      split <;> rename_i heq <;> rw [heq] at hb
      · exact hb.1.err_cast
      · exact hb.1.not_fault.elim
      · exact ih _ _ hb.1.of_ok (hb.2 _ _ rfl)
    · exact .ok _ hw

theorem streamingRead_noFault (d : Decoder σ) (s : Src) (n : Nat) (hw : d.entWF) (hi : NoFaultContract.inp σ s) :
    DSafe (streamingRead d s n) := by
  simp only [streamingRead]
  split
  · exact .ok _ hw
  · have hl := streamingFill_noFault (s.length + 2) d s n hw hi
    split <;> rename_i heq <;> rw [heq] at hl
    · exact hl.err_cast
    · exact hl.not_fault.elim
    · exact .ok _ (Decoder.read_entWF _ n hl.of_ok)

theorem decodeAllFrame_noFault (fuel : Nat) (d : Decoder σ) (s : Src) (room : Nat) (out : Array Nat)
    (hw : d.entWF) (hi : NoFaultContract.inp σ s) : DSafe (decodeAllFrame fuel d s room out) := by
  induction fuel generalizing d s room out with
  | zero => exact .ok _ hw
  | succ fuel ih =>
    rw [decodeAllFrame]
    have hb := Decoder.decodeBlocks_noFault d s (.uptoBytes (1024 * 1024)) hw hi
    split <;> rename_i heq <;> rw [heq] at hb
    · exact hb.1.err_cast
    · exact hb.1.not_fault.elim
    · rename_i d1 s1 fin
      have hr := Decoder.read_entWF d1 room hb.1.of_ok
      simp only
      split
      · exact .err (fun _ => hr) hr.2
      · split
        · exact .ok _ hr
        · exact ih _ _ _ _ hr (hb.2 s1 fin rfl)

/-- `decode_all` starts every frame with `reset`, so it needs well-formed dictionaries only: it may be called on a
decoder whose last frame failed in any way -/
theorem decodeAllLoop_noFault (fuel : Nat) (d : Decoder σ) (s : Src) (room : Nat) (out : Array Nat)
    (hd : d.dictsWF) (hi : NoFaultContract.inp σ s) :
    Safe (fun d' => d.entWF → d'.entWF) Decoder.dictsWF (decodeAllLoop fuel d s room out) := by
  induction fuel generalizing d s room out with
  | zero => exact .ok _ id hd
  | succ fuel ih =>
    by_cases hne : s = []
    · subst hne; simpa [decodeAllLoop] using (Safe.ok out id hd : Safe (fun d' => d.entWF → d'.entWF) _ (d, Out.ok out))
    · rw [decodeAllLoop_succ _ _ _ _ _ hne]
      have hrs := Decoder.reset_noFault d s hd
      split
      · rename_i d1 mg len heq; rw [heq] at hrs
        split
        · exact .err (fun _ => hrs.keeps) hrs.dictsWF
        · have := ih d1 ((s.drop 8).drop len) room out hrs.dictsWF
            (NoFaultContract.inp_drop _ _ (NoFaultContract.inp_drop _ _ hi))
          exact ⟨fun hc hw => this.clean hc (hrs.keeps hw), this.always, this.noFault⟩
      · rename_i heq; rw [heq] at hrs; exact .err (fun _ => hrs.keeps) hrs.dictsWF
      · rename_i heq; rw [heq] at hrs; exact absurd rfl (hrs.noFault _)
      · rename_i d1 s1 heq
        rw [heq] at hrs
        have hw1 : d1.entWF := hrs.fresh s1 rfl
        have hi1 : NoFaultContract.inp σ s1 := by
          obtain ⟨st, -, -, hf⟩ := Decoder.reset_ok d d1 s s1 heq
          rw [hf.rest s1 rfl]; exact NoFaultContract.inp_drop _ _ hi
        have hfr := decodeAllFrame_noFault (s1.length + 2) d1 s1 room out hw1 hi1
        split <;> rename_i heq2 <;> rw [heq2] at hfr
        · exact .err (fun hc _ => hfr.clean (Out.clean_cast hc)) hfr.always
        · exact hfr.not_fault.elim
        · rename_i d2 s2 room' out'
          obtain ⟨-, -, ⟨n, rfl⟩, -⟩ := decodeAllFrame_ok _ _ _ _ _ _ _ _ _ (by omega) heq2
          have := ih d2 (s1.drop n) room' out' hfr.always (NoFaultContract.inp_drop _ _ hi1)
          exact ⟨fun hc _ => this.clean hc hfr.of_ok, this.always, this.noFault⟩

end noFault

end Zstd.Model
