import Zstd.Proofs.EncFrame
/-
`FrameCompressor::compress` in closed form; `specResult`, what "the strict Spec decodes the frame to the input" means
in C02 / C16; for any per-block emitter that satisfies `EmitSim`, `compress` returns or faults as the emitter does, and
the frame it writes is decoded by `Spec.decodeFrame` to `specResult` (`compressFrame_sim`).
-/
namespace Zstd.Proofs.Enc
open Zstd Zstd.Model.Enc

theorem frameResetsMatcher_eq : Gen.frameResetsMatcher = true := rfl
theorem frameResetsHuff_eq : Gen.frameResetsHuff = true := rfl
theorem frameReseedsHasher_eq : Gen.frameReseedsHasher = true := rfl

theorem checksum32_lt (d : List Nat) : Spec.Xxh64.checksum32 d < 2 ^ 32 := by
  unfold Spec.Xxh64.checksum32; exact Nat.mod_lt _ (by decide)

/-- the header `compress` writes for a matcher with `window_size() = w`, as the Spec parses it -/
def specHeader (hash : Bool) (w : Nat) : Spec.FrameHeader :=
  { desc := ⟨0, false, hash, 0⟩, window := declaredWindow w, dictId := none, contentSize := none, hdrLen := 6 }

/-- the result the strict frame decoder must give for `frame` as an encoding of `data` -/
def specResult (hash : Bool) (w : Nat) (data frame : List Byte) : Spec.FrameResult :=
  ⟨data, frame.length, specHeader hash w, if hash then some (Spec.Xxh64.checksum32 data) else none⟩

theorem compressFrame_eq {H : Type} (hash : Bool) (enc : BlockEnc H) (c : Compressor H) (w : Nat)
    (script : Nat → MBlock) (data : List Byte) (frags : List Nat) (hw : w ≤ 2 ^ 41) :
    ∃ wd : Byte,
      (∀ rest, Spec.parseFrameHeader ([40, 181, 47, 253, frameDescriptor hash, wd] ++ rest) = some (specHeader hash w)) ∧
      compressFrame hash enc c w script data frags =
        match compressLoop (emitBlock c.level enc) script (data.length + 1) 0 { c.st with lastHuff := none } []
            data frags with
        | .error f => .error f
        | .ok r => .ok ([40, 181, 47, 253, frameDescriptor hash, wd] ++ r.bytes ++
            (if hash then leBytes 4 (Spec.Xxh64.checksum32 r.hashed) else []),
            { c with st := r.st, hasher := r.hashed, matcherIdx := r.idx }) := by
  obtain ⟨e, he1, he31, hwd, hdw, _⟩ := headerDescriptor_spec w hw
  refine ⟨e * 8, fun rest => ?_, ?_⟩
  · rw [specHeader, hdw, ← parseFrameHeader_ours hash e he1 he31 rest, Headers.magic_bytes]
    rfl
  · simp only [compressFrame, frameHeader, hwd, frameResetsMatcher_eq, frameResetsHuff_eq, frameReseedsHasher_eq,
      if_true, Headers.magic_bytes]
    rfl

theorem compressFrame_parts {H : Type} (hash : Bool) (enc : BlockEnc H) (c : Compressor H) (w : Nat)
    (script : Nat → MBlock) (data : List Byte) (frags : List Nat) (hw : w ≤ 2 ^ 41)
    (frame : List Byte) (c' : Compressor H)
    (hrun : compressFrame hash enc c w script data frags = .ok (frame, c')) :
    ∃ (wd : Byte) (r : LoopOut H),
      compressLoop (emitBlock c.level enc) script (data.length + 1) 0 { c.st with lastHuff := none } [] data frags = .ok r ∧
      frame = [40, 181, 47, 253, frameDescriptor hash, wd] ++
        (r.bytes ++ if hash then leBytes 4 (Spec.Xxh64.checksum32 r.hashed) else []) ∧
      Spec.parseFrameHeader frame = some (specHeader hash w) ∧ c'.matcherIdx = r.idx := by
  obtain ⟨wd, hparse, heq⟩ := compressFrame_eq hash enc c w script data frags hw
  rw [heq] at hrun
  split at hrun
  · cases hrun
  · rename_i r hloop
    cases hrun
    exact ⟨wd, r, hloop, List.append_assoc _ _ _, by rw [List.append_assoc]; exact hparse _, rfl⟩

/-- `hinv0`: the coupling must hold after the per-frame reset of `last_huff_table`, against a fresh decoder -/
theorem compressFrame_sim {H : Type} (hash : Bool) (enc : BlockEnc H) (c : Compressor H) (w : Nat)
    (script : Nat → MBlock) (data : List Byte) (frags : List Nat)
    (Inv : EncState H → Spec.Entropy → Prop) (Pre : List Byte → List Byte → Parse → Prop) (A : Fault → Prop)
    (hw : w ≤ 2 ^ 41) (hspace : ∀ i, 0 < (script i).space)
    (hemit : EmitSim (declaredWindow w) Inv Pre A (emitBlock c.level enc))
    (hinv0 : ∀ st : EncState H, Inv { st with lastHuff := none } {})
    (hpre : ∀ i, blockAt script data i ≠ [] →
      Pre (data.take (blockStart script i)) (blockAt script data i) (script i).parse) :
    ReturnsOr (fun r => (∃ e, Inv r.2.st e) ∧ Spec.decodeFrame r.1 = some (specResult hash w data r.1)) A
      (compressFrame hash enc c w script data frags) := by
  obtain ⟨wd, hparse, heq⟩ := compressFrame_eq hash enc c w script data frags hw
  have hfuel : data.length - blockStart script 0 < data.length + 1 := Nat.lt_succ_of_le (Nat.sub_le _ _)
  have hloop := compressLoop_sim (declaredWindow w) Inv Pre A _ script hspace hemit data hpre _ 0
    { c.st with lastHuff := none } [] frags hfuel {} (hinv0 c.st)
  rw [show data.drop (blockStart script 0) = data from rfl] at hloop
  rw [heq]
  cases hr : compressLoop (emitBlock c.level enc) script (data.length + 1) 0 { c.st with lastHuff := none } [] data frags with
  | error f => exact .intro_error rfl (hloop.of_error hr)
  | ok r =>
    obtain ⟨hI, hblocks⟩ := hloop.of_ok hr
    refine .intro_ok rfl ⟨hI, ?_⟩
    have hhashed : r.hashed = data := compressLoop_hashed _ script hspace data _ 0 _ [] frags r hfuel hr
    -- `trailer`, and `frame` below, are made opaque so that `simp` does not compute with the `if` and the header bytes
    obtain ⟨trailer, htr⟩ : ∃ t, t = if hash then leBytes 4 (Spec.Xxh64.checksum32 data) else [] := ⟨_, rfl⟩
    have htl : trailer.length = if hash then 4 else 0 := by rw [htr]; cases hash <;> rfl
    simp only [hhashed, ← htr]
    generalize hframe : [40, 181, 47, 253, frameDescriptor hash, wd] ++ r.bytes ++ trailer = frame
    have hlenf : frame.length = 6 + r.bytes.length + trailer.length := by rw [← hframe]; simp; omega
    have hdrop : frame.drop 6 = r.bytes ++ trailer := by rw [← hframe, List.append_assoc]; rfl
    have hp : Spec.parseFrameHeader frame = some (specHeader hash w) := by
      rw [← hframe, List.append_assoc]; exact hparse _
    have hblocks := hblocks trailer (frame.length + 1) 6 (by omega)
    rw [← hdrop] at hblocks
    simp only [blockStart, List.take_zero] at hblocks
    simp only [Spec.decodeFrame, hp, specHeader, hblocks]
    cases hash
    · simp [specResult, specHeader, hlenf, htl]
    · have hcs : (frame.drop (6 + r.bytes.length)).take 4 = leBytes 4 (Spec.Xxh64.checksum32 data) := by
        rw [← List.drop_drop, hdrop, List.drop_left, htr]
        exact List.take_of_length_le (by simp)
      have hle : leNat (leBytes 4 (Spec.Xxh64.checksum32 data)) = Spec.Xxh64.checksum32 data := by
        rw [leNat_leBytes]; exact Nat.mod_eq_of_lt (checksum32_lt data)
      simp [hcs, hle, specResult, specHeader, hlenf, htl]

end Zstd.Proofs.Enc

namespace Zstd.Proofs.SeqFrame

theorem frameResetsMatcher_eq' : Gen.frameResetsMatcher = true := Enc.frameResetsMatcher_eq

end Zstd.Proofs.SeqFrame
