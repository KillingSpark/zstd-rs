import Zstd.Model.Window
import Zstd.Proofs.Headers
/-
`FrameDecoder::reset` (Model/Window.lean) in closed form, the same for first use and reuse, and its three outcomes:
header not readable, illegal window, window checked against the limit.  Props/C11.lean is proved from these.
-/
namespace Zstd.Proofs.Window
open Zstd Zstd.Model Zstd.Model.Hdr

/-- the state and the allocation events of an ACCEPTED frame, per path -/
def acceptedState (d : FrameDecoder) (h : DecFrameHeader) (n w : Nat) : FDState × List AllocEvent :=
  match d.state with
  | none => ({ header := h, window := w, ringCap := 0, bytesRead := n, usingDict := none }, [.scratchNew w])
  | some s =>
    ({ header := h, window := w, ringCap := (ringReserve s.ringCap w).1, bytesRead := n, usingDict := none },
     .scratchReset w :: (ringReserve s.ringCap w).2)

theorem reset_def (d : FrameDecoder) (src : List Nat) :
    d.reset src =
      match readFrameHeader src with
      | .error e => (d, .error (.readHeader e))
      | .ok (h, n, _) =>
        match h.windowSize with
        | .error e => (d, .error (.headerErr e))
        | .ok w =>
          if w > d.maxWindow then (d, .error (.windowSizeTooBig w d.maxWindow))
          else
            match h.dictId with
            | none => ({ d with state := some (acceptedState d h n w).1, log := d.log ++ (acceptedState d h n w).2 }, .ok ())
            | some id =>
              if id ∈ d.dicts then
                ({ d with state := some { (acceptedState d h n w).1 with usingDict := some id },
                          log := d.log ++ (acceptedState d h n w).2 }, .ok ())
              else ({ d with state := some (acceptedState d h n w).1, log := d.log ++ (acceptedState d h n w).2 },
                    .error (.dictNotProvided id)) := by
  have eta : ∀ s, d.state = s → ({ d with state := s, log := d.log ++ [] } : FrameDecoder) = d := by
    intro s hs; subst hs; cases d; simp
  cases hsrc : readFrameHeader src with
  | error e => cases hst : d.state <;> simp only [FrameDecoder.reset, hst, stateNew, stateReset, hsrc, eta _ hst]
  | ok r =>
    obtain ⟨h, n, rest⟩ := r
    cases hw : h.windowSize with
    | error e => cases hst : d.state <;> simp only [FrameDecoder.reset, hst, stateNew, stateReset, hsrc, hw, eta _ hst]
    | ok w =>
      -- every extracted flag (`Gen.check*`, `Gen.reset*`: the check is there, stands before allocation and mutation,
      -- and gets the decoder's limit) is `true`; with them `stateNew` and `stateReset` are the one `if` of the statement
      by_cases hgt : w > d.maxWindow <;> cases hst : d.state <;>
        simp only [FrameDecoder.reset, hst, stateNew, stateReset, hsrc, hw, Gen.checkPresent_new, Gen.checkBeforeAlloc_new,
          Gen.resetPassesLimit_new, Gen.checkPresent_reset, Gen.checkBeforeAlloc_reset,
          Gen.checkBeforeMutate_reset, Gen.resetPassesLimit_reuse, if_true, checkWindowSize, Gen.windowOverLimit, Gen.checkReportsRequestedAndMax,
          decide_eq_true_eq, acceptedState, and_self, hgt, if_false, eta _ hst] <;> cases h.dictId <;> rfl

theorem reset_eq (d : FrameDecoder) (src : List Nat) (h : DecFrameHeader) (n : Nat) (rest : List Nat) (w : Nat)
    (hsrc : readFrameHeader src = .ok (h, n, rest)) (hw : h.windowSize = .ok w) :
    d.reset src =
      if w > d.maxWindow then (d, .error (.windowSizeTooBig w d.maxWindow))
      else
        match h.dictId with
        | none => ({ d with state := some (acceptedState d h n w).1, log := d.log ++ (acceptedState d h n w).2 }, .ok ())
        | some id =>
          if id ∈ d.dicts then
            ({ d with state := some { (acceptedState d h n w).1 with usingDict := some id },
                      log := d.log ++ (acceptedState d h n w).2 }, .ok ())
          else ({ d with state := some (acceptedState d h n w).1, log := d.log ++ (acceptedState d h n w).2 },
                .error (.dictNotProvided id)) := by
  rw [reset_def, hsrc]
  simp only [hw]

theorem reset_header_error (d : FrameDecoder) (src : List Nat) (e : FrameHdrErr)
    (hsrc : readFrameHeader src = .error e) : d.reset src = (d, .error (.readHeader e)) := by
  rw [reset_def, hsrc]

theorem reset_window_error (d : FrameDecoder) (src : List Nat) (h : DecFrameHeader) (n : Nat) (rest : List Nat)
    (e : WindowErr) (hsrc : readFrameHeader src = .ok (h, n, rest)) (hw : h.windowSize = .error e) :
    d.reset src = (d, .error (.headerErr e)) := by
  rw [reset_def, hsrc]
  simp only [hw]

end Zstd.Proofs.Window
