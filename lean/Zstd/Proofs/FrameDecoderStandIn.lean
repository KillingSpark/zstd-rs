import Zstd.Proofs.FrameDecoderConcat
import Zstd.Proofs.FrameDecoderFollows
import Zstd.Proofs.FrameDecoderNoFault
import Zstd.Proofs.DictCopy
/-
Instance A of the block decoder — the Spec stand-in `decompressBlock` (`decodeLiteralsM` /
`decodeSequencesM` through the Spec, `σ = Spec.Entropy`) — satisfies all three contracts.  Every
frame-level theorem proved for an arbitrary block decoder therefore holds for it; the Props files
state them for this instance (`DecA`) or generically, as noted there.
-/
namespace Zstd.Model
open Zstd

instance instBlockContractStandIn : BlockContract Spec.Entropy where
  appends := fun content e b =>
    have ⟨x, hx, hs⟩ := decompressBlock_extends content e b
    ⟨x, hx.toAppends, hs⟩
  counter := fun content e b =>
    have ⟨_, hx, _⟩ := decompressBlock_extends content e b
    hx.grows.count
  twin := decompressBlock_twin

instance instNoFaultStandIn : NoFaultContract Spec.Entropy where
  wf := fun _ => True
  inp := fun _ => True
  inp_take := fun _ _ _ => trivial
  inp_drop := fun _ _ _ => trivial
  wf_fresh := trivial
  wf_run := fun _ _ _ _ _ _ => trivial
  noFault := fun content e b f _ _ => decompressBlock_noFault content e b f

instance instRefinesSpecStandIn : RefinesSpec Spec.Entropy where
  coupled := fun s e => s = e
  coupled_fresh := rfl
  refines := by
    intro bytes s e e' b out' _ hc htot hs
    subst hc
    obtain ⟨b', h1, h2⟩ := decompressBlock_refines bytes s e' b out' htot hs
    exact ⟨b', e', h1, h2, rfl⟩
  offsets_le := by
    intro window dict bytes s e e' out out' _ hc hs hbig
    subst hc
    exact blockOffsets_le window dict bytes s e' out out' hs hbig

abbrev DecA := Decoder Spec.Entropy

theorem entWF_standIn (d : Decoder Spec.Entropy) : d.entWF :=
  ⟨fun _ _ => trivial, fun _ _ => trivial⟩

/-- the Spec's view of a registered dictionary (stand-in: the same data) -/
def Dict.toSpec (d : Dict Spec.Entropy) : Spec.Dict := { id := d.id, entropy := d.entropy, content := d.content }

theorem dictsCoupled_standIn (dicts : List (Dict Spec.Entropy)) : DictsCoupled dicts (dicts.map Dict.toSpec) := by
  induction dicts with
  | nil => exact .nil
  | cons d l ih => exact .cons rfl rfl rfl ih

end Zstd.Model
