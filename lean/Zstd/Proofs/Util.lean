import Zstd.Basic
/-
Facts about `List` that several groups of proofs use and core does not have.
-/
namespace Zstd

theorem getD_take {α : Type} {l : List α} {k i : Nat} {d : α} (h : i < k) : (l.take k).getD i d = l.getD i d := by
  simp [List.getD_eq_getElem?_getD, h]

theorem getD_drop {α : Type} {l : List α} {k i : Nat} {d : α} : (l.drop k).getD i d = l.getD (k + i) d := by
  simp [List.getD_eq_getElem?_getD, List.getElem?_drop]

theorem getD_append_left {α : Type} {l l' : List α} {i : Nat} {d : α} (h : i < l.length) :
    (l ++ l').getD i d = l.getD i d := by
  simp [List.getD_eq_getElem?_getD, List.getElem?_append_left h]

theorem getD_append_right {α : Type} {l l' : List α} {i : Nat} {d : α} (h : l.length ≤ i) :
    (l ++ l').getD i d = l'.getD (i - l.length) d := by
  simp [List.getD_eq_getElem?_getD, List.getElem?_append_right h]

end Zstd
