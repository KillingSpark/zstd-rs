import Zstd.Model.Huffman
/-
The shape check that the finite table (`tableOk`, `Zstd/Proofs/HufLt128Def.lean`; kernel evaluation in
`Zstd/Proofs/HufTable/N*.lean`) performs for one alphabet size, and what it means.
-/
namespace Zstd.Proofs.HufShape
open Zstd Zstd.Model.Huf

def allGe1 : List Nat → Bool
  | [] => true
  | w :: ws => decide (1 ≤ w) && allGe1 ws

def isSortedAsc : List Nat → Bool
  | a :: b :: r => decide (a ≤ b) && isSortedAsc (b :: r)
  | _ => true

/-- `shape n` does not fault, has `n` weights, all ≥ 1, ascending and starting with 1, Σ 2^(w−1) is
a power of two 2^m with m ≤ 11 (so every code length m + 1 − w is at most 11, and the longest is m) -/
def shapeOk (n : Nat) : Bool :=
  match shape n with
  | .ok ws =>
    ws.length == n && allGe1 ws && isSortedAsc ws && ws.head? == some 1 && isPow2 (weightSum ws)
      && decide (Nat.log2 (weightSum ws) ≤ Gen.hufMaxNumBits)
  | .error _ => false

end Zstd.Proofs.HufShape
