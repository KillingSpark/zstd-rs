import Zstd.Model.RingBuffer
/-
Checked arithmetic, the guard operators taken from the source, `next_power_of_two`, raw memory
(`rd`/`wr`/`readN`/`writeL`; `Mem.vals`, what a read of `n` cells returns, is defined here).
-/
namespace Zstd.Model
open Zstd

theorem ok_bind {ε α β} (a : α) (f : α → Except ε β) : (Except.ok a >>= f) = f a := rfl
theorem error_bind {ε α β} (e : ε) (f : α → Except ε β) : (Except.error e >>= f) = Except.error e := rfl
theorem pure_eq_ok {ε α} (a : α) : (pure a : Except ε α) = Except.ok a := rfl

theorem bind_fst_ok {α β : Type} {x : Except Fault (α × β)} {a : α} {b : β} (h : x = .ok (a, b)) :
    (x >>= fun res => pure res.1) = .ok a := by rw [h]; rfl

theorem of_ok {α : Type} {x : Except Fault α} {a : α} {P : α → Prop} (h : x = .ok a)
    (hx : ∃ b, x = .ok b ∧ P b) : P a := by
  obtain ⟨b, e, hb⟩ := hx
  rw [h] at e; cases e; exact hb

theorem usub_ok {site : String} {a b : Nat} (h : b ≤ a) : usub site a b = .ok (a - b) := by
  simp [usub, h]

theorem check_ok {c : Prop} [Decidable c] {site : String} (h : c) : check c site = .ok () := by
  simp [check, h]

theorem check_err {c : Prop} [Decidable c] {site : String} (h : ¬ c) : check c site = .error (.assert site) := by
  simp [check, h]

theorem check_bind {c : Prop} [Decidable c] {site : String} {α : Type} {f : Unit → Except Fault α} (h : c) :
    (check c site >>= f) = f () := by
  rw [check_ok h, ok_bind]

theorem usub_bind {site : String} {a b : Nat} {α : Type} {f : Nat → Except Fault α} (h : b ≤ a) :
    (usub site a b >>= f) = f (a - b) := by
  rw [usub_ok h, ok_bind]

theorem umod_ok {site : String} {x cap : Nat} (h : 0 < cap) : umod site x cap = .ok (x % cap) := by
  have : cap ≠ 0 := by omega
  simp [umod, this]

theorem umod_zero {site : String} {x cap : Nat} (h : cap = 0) : umod site x cap = .error (.divZero site) := by
  simp [umod, h]

/-! ### the guard operators extracted from the source are the ones the proofs are about -/

theorem gen_cboOneChunkMin (a b : Nat) : (Gen.ringCboOneChunkMin a b = true) = (a ≥ b) := by
  simp [Gen.ringCboOneChunkMin]
theorem gen_cboOneChunkN (a b : Nat) : (Gen.ringCboOneChunkN a b = true) = (a ≤ b) := by
  simp [Gen.ringCboOneChunkN]
theorem gen_cboMultiMin (a b : Nat) : (Gen.ringCboMultiMin a b = true) = (a ≥ b) := by
  simp [Gen.ringCboMultiMin]
theorem gen_reserveEnough (a b : Nat) : (Gen.ringReserveEnough a b = true) = (a ≥ b) := by
  simp [Gen.ringReserveEnough]
theorem gen_efwuCase1 (a b : Nat) : (Gen.ringEfwuCase1 a b = true) = (a < b) := by
  simp [Gen.ringEfwuCase1]
theorem gen_efwuCase2 (a b : Nat) : (Gen.ringEfwuCase2 a b = true) = (a > b) := by
  simp [Gen.ringEfwuCase2]
theorem gen_efwuTailSplit (a b : Nat) : (Gen.ringEfwuTailSplit a b = true) = (a < b) := by
  simp [Gen.ringEfwuTailSplit]
theorem gen_efwuStartSplit (a b : Nat) : (Gen.ringEfwuStartSplit a b = true) = (a < b) := by
  simp [Gen.ringEfwuStartSplit]

theorem wrap_eq {x n cap : Nat} (hx : x < cap) (hn : n ≤ cap) :
    (x + n) % cap = if x + n < cap then x + n else x + n - cap := by
  split
  · exact Nat.mod_eq_of_lt ‹_›
  · rw [Nat.mod_eq_sub_mod (by omega), Nat.mod_eq_of_lt (by omega)]

theorem npow2Go_ge (n : Nat) : ∀ fuel p, n ≤ p * 2 ^ fuel → n ≤ npow2Go n fuel p := by
  intro fuel p h
  fun_induction npow2Go n fuel p with
  | case1 p => simpa using h
  | case2 => assumption
  | case3 fuel p hlt ih =>
    apply ih
    rw [Nat.pow_succ] at h
    calc n ≤ p * (2 ^ fuel * 2) := h
      _ = 2 * p * 2 ^ fuel := by rw [Nat.mul_comm (2 ^ fuel) 2, ← Nat.mul_assoc, Nat.mul_comm p 2]

theorem npow2Go_lt (n : Nat) : ∀ fuel p, 0 < p → (p = 1 ∨ p < 2 * n) → (npow2Go n fuel p = 1 ∨ npow2Go n fuel p < 2 * n) := by
  intro fuel p hp h
  fun_induction npow2Go n fuel p with
  | case1 | case2 => exact h
  | case3 fuel p hlt ih => exact ih (by omega) (.inr (by omega))

theorem le_npow2 (n : Nat) : n ≤ npow2 n := by
  unfold npow2
  apply npow2Go_ge
  -- `n` doublings (the fuel of `npow2`) suffice
  have : n < 2 ^ n := Nat.lt_two_pow_self
  omega

theorem npow2_lt (n : Nat) (h : 0 < n) : npow2 n < 2 * n := by
  unfold npow2
  rcases npow2Go_lt n n 1 (by omega) (Or.inl rfl) with h1 | h1 <;> omega

theorem npow2_pos (n : Nat) : 0 < npow2 n := by
  have := le_npow2 n
  rcases Nat.eq_zero_or_pos n with h | h
  · subst h; decide
  · omega

theorem nextMultipleOf_ge (n c : Nat) : n ≤ nextMultipleOf n c := by
  unfold nextMultipleOf; split <;> omega

theorem nextMultipleOf_dvd (n c : Nat) (hc : 0 < c) : nextMultipleOf n c % c = 0 := by
  unfold nextMultipleOf
  split
  · assumption
  · have h1 : n % c < c := Nat.mod_lt _ hc
    have : n + (c - n % c) = c * (n / c + 1) := by
      have := Nat.div_add_mod n c
      rw [Nat.mul_add, Nat.mul_one]; omega
    rw [this]; exact Nat.mul_mod_right _ _

namespace Mem

theorem cell_of_ge {m : Mem} {i : Nat} (h : m.size ≤ i) : m.cell i = none := by
  unfold cell
  rw [Array.getD_eq_getD_getElem?, Array.getElem?_eq_none h]; rfl

theorem cell_eq_getElem {m : Mem} {i : Nat} (h : i < m.size) : m.cell i = m[i] := by
  unfold cell
  rw [Array.getD_eq_getD_getElem?, Array.getElem?_eq_getElem h]; rfl

theorem val_of_cell {m : Mem} {i : Nat} {b : Byte} (h : m.cell i = some b) : m.val i = b := by
  simp [val, h]

theorem cell_eq_some_val {m : Mem} {i : Nat} (h : (m.cell i).isSome) : m.cell i = some (m.val i) := by
  unfold val
  cases hc : m.cell i with
  | none => simp [hc] at h
  | some b => rfl

theorem cell_fresh (n i : Nat) : (fresh n).cell i = none := by
  unfold cell fresh
  rw [Array.getD_eq_getD_getElem?, Array.getElem?_replicate]; split <;> rfl

theorem size_fresh (n : Nat) : (fresh n).size = n := by simp [fresh]

theorem rd_eq_ok {m : Mem} {site : String} {i : Nat} {b : Byte} : m.rd site i = .ok b ↔ m.cell i = some b := by
  unfold rd
  by_cases hi : i < m.size
  · rw [dif_pos hi, cell_eq_getElem hi]
    split
    · rename_i b' hb'
      rw [hb']
      exact ⟨fun h => by cases h; rfl, fun h => by cases h; rfl⟩
    · rename_i hn
      rw [hn]
      exact ⟨nofun, nofun⟩
  · rw [dif_neg hi, cell_of_ge (by omega)]
    exact ⟨nofun, nofun⟩

theorem wr_ok {m : Mem} {site : String} {i : Nat} {b : Byte} (h : i < m.size) :
    ∃ m', m.wr site i b = .ok m' ∧ m'.size = m.size ∧
      ∀ j, m'.cell j = if j = i then some b else m.cell j := by
  refine ⟨m.set i (some b) h, by simp [wr, h], by simp, ?_⟩
  intro j
  unfold cell
  rw [Array.getD_eq_getD_getElem?, Array.getD_eq_getD_getElem?, Array.getElem?_set]
  by_cases hji : j = i
  · subst hji; simp
  · have : ¬ i = j := fun h => hji h.symm
    simp [this, hji]

/-- the values of `n` cells from `off` on, as the specification sees them -/
def vals (m : Mem) (off n : Nat) : List Byte := (List.range n).map (fun i => m.val (off + i))

theorem vals_length (m : Mem) (off n : Nat) : (m.vals off n).length = n := by simp [vals]

theorem vals_succ (m : Mem) (off n : Nat) : m.vals off (n + 1) = m.val off :: m.vals (off + 1) n := by
  simp only [vals, List.range_succ_eq_map, List.map_cons, List.map_map, Nat.add_zero]
  congr 1
  apply List.map_congr_left
  intro i _
  simp only [Function.comp]
  congr 1; omega

theorem getElem_vals {m : Mem} {off n i : Nat} (h : i < (m.vals off n).length) :
    (m.vals off n)[i] = m.val (off + i) := by
  simp [vals]

theorem getD_vals {m : Mem} {off n i : Nat} (h : i < n) : (m.vals off n).getD i 0 = m.val (off + i) := by
  simp [vals, List.getD_eq_getElem?_getD, h]

theorem readN_ok {m : Mem} {site : String} : ∀ {n off : Nat},
    (∀ i, i < n → (m.cell (off + i)).isSome) → m.readN site off n = .ok (m.vals off n)
  | 0, off, _ => by simp [readN, vals]
  | n + 1, off, h => by
    have h0 := cell_eq_some_val (h 0 (by omega))
    rw [Nat.add_zero] at h0
    have ih := readN_ok (m := m) (site := site) (n := n) (off := off + 1)
      (fun i hi => by have := h (i + 1) (by omega); rwa [show off + (i + 1) = off + 1 + i by omega] at this)
    simp only [readN, rd_eq_ok.2 h0, ih, vals_succ]

theorem readN_init {m : Mem} {site : String} : ∀ {n off : Nat} {bs : List Byte},
    m.readN site off n = .ok bs → ∀ i, i < n → (m.cell (off + i)).isSome := by
  intro n off bs h
  fun_induction readN m site off n generalizing bs with
  | case1 => intro i hi; omega
  | case2 | case3 => cases h
  | case4 off n b hb bs' hbs ih =>
    intro i hi
    rcases Nat.eq_zero_or_pos i with h0 | h0
    · subst h0
      rw [Nat.add_zero, rd_eq_ok.1 hb]; rfl
    · have := ih hbs (i - 1) (by omega)
      rwa [show off + 1 + (i - 1) = off + i by omega] at this

theorem writeL_ok {site : String} : ∀ {l : List Byte} {m : Mem} {off : Nat},
    off + l.length ≤ m.size →
    ∃ m', writeL site m off l = .ok m' ∧ m'.size = m.size ∧
      ∀ j, m'.cell j = if off ≤ j ∧ j < off + l.length then some (l.getD (j - off) 0) else m.cell j
  | [], m, off, _ => ⟨m, rfl, rfl, fun j => by simp; omega⟩
  | b :: bs, m, off, h => by
    simp only [List.length_cons] at h
    obtain ⟨m1, h1, hs1, hc1⟩ := wr_ok (m := m) (site := site) (i := off) (b := b) (by omega)
    obtain ⟨m2, h2, hs2, hc2⟩ := writeL_ok (site := site) (l := bs) (m := m1) (off := off + 1) (by omega)
    refine ⟨m2, by simp only [writeL, h1, h2], by omega, ?_⟩
    intro j
    rw [hc2 j, hc1 j]
    simp only [List.length_cons]
    by_cases hj : j = off
    · subst hj
      have : ¬ (j + 1 ≤ j ∧ j < j + 1 + bs.length) := by omega
      simp [this]
    · by_cases hr : off + 1 ≤ j ∧ j < off + 1 + bs.length
      · have hr' : off ≤ j ∧ j < off + (bs.length + 1) := by omega
        simp only [hr, hr', and_self, ↓reduceIte]
        have : j - off = (j - (off + 1)) + 1 := by omega
        rw [this, List.getD_cons_succ]
      · have hr' : ¬ (off ≤ j ∧ j < off + (bs.length + 1)) := by omega
        simp [hr, hr', hj]

theorem writeL_singleton (site : String) (m : Mem) (off : Nat) (b : Byte) :
    writeL site m off [b] = m.wr site off b := by
  simp only [writeL]
  cases m.wr site off b <;> rfl

theorem writeL_bound {site : String} : ∀ {l : List Byte} {m m' : Mem} {off : Nat},
    writeL site m off l = .ok m' → l = [] ∨ off + l.length ≤ m.size := by
  intro l m m' off h
  fun_induction writeL site m off l generalizing m' with
  | case1 => exact .inl rfl
  | case2 => cases h
  | case3 m off b bs m1 h1 ih =>
    right
    unfold wr at h1
    split at h1
    · cases h1
      rcases ih h with h' | h'
      · subst h'; simp; omega
      · simp at h' ⊢; omega
    · cases h1

end Mem

end Zstd.Model
