import Zstd.Proofs.DecodeBufDrain
/-
The public draining functions of `DecodeBuffer`
(`drain`, `read`, `read_all`, `drain_to_window_size`, `drain_to_writer`, `drain_to_window_size_writer`)
and `repeat` for every offset > 0.
-/
namespace Zstd.Model
open Zstd RingBuffer

namespace DecodeBuffer

variable {d : DecodeBuffer}

theorem vecClosure_all : AcceptsAll vecClosure := by
  intro s buf out h
  simp only [vecClosure, pure_eq_ok, Except.ok.injEq] at h
  subst h; exact ⟨rfl, rfl⟩

theorem targetClosure_all : AcceptsAll targetClosure := by
  intro s buf out h
  cases targetClosure_of_ok h
  exact ⟨rfl, rfl⟩

theorem canDrainToWindowSize_eq (hI : d.Inv) :
    d.canDrainToWindowSize =
      .ok (if d.abs.length > d.windowSize then some (d.abs.length - d.windowSize) else none) := by
  unfold canDrainToWindowSize
  rw [RingBuffer.Inv.lenC_eq hI, ok_bind, pure_eq_ok]
  show _ = Except.ok (if d.buffer.abs.length > _ then some (d.buffer.abs.length - _) else none)
  rw [abs_length]

theorem canDrain_eq (hI : d.Inv) : d.canDrain = .ok d.abs.length := by
  unfold canDrain
  rw [RingBuffer.Inv.lenC_eq hI]
  show _ = Except.ok d.buffer.abs.length
  rw [abs_length]

theorem drain_ok (hI : d.Inv) :
    ∃ d', d.drain = .ok (d', d.abs) ∧ d'.Inv ∧ d'.abs = [] ∧ d'.hash = d.hash ++ d.abs ∧
      d'.dict = d.dict ∧ d'.windowSize = d.windowSize ∧ d'.total = d.total ∧
      d'.buffer.cap = d.buffer.cap := by
  unfold drain
  obtain ⟨a, b, b0, eas, hab, _, c1, c2, c3, c4⟩ := asSlices_ok hI
  obtain ⟨hI0, _, _⟩ := same_fields hI c1 c2 c3 c4
  rw [eas, ok_bind, pure_eq_ok]
  have : d.abs = a ++ b := hab.symm
  refine ⟨{ d with buffer := b0.clear, hash := d.hash ++ a ++ b }, by rw [this],
    (clear_ok hI0).1, (clear_ok hI0).2.1, ?_, rfl, rfl, rfl, c1⟩
  show d.hash ++ a ++ b = _
  rw [this, List.append_assoc]

theorem drainTo_target (hI : d.Inv) {amount T : Nat} (hT : amount ≤ T) (hl : amount ≤ d.abs.length) :
    ∃ d' s', d.drainTo amount targetClosure (T, []) = .ok (d', s', .ok amount) ∧
      s'.2 = d.abs.take amount ∧ Took d d' amount := by
  obtain ⟨out, e⟩ := drainTo_noFault targetClosure_ok hI amount (T, ([] : List Byte))
    (fun buf hb => ⟨_, targetClosure_eq (by simp only [List.length_nil]; omega)⟩)
    (fun buf1 out1 buf2 hw1 _ hb => by
      cases targetClosure_of_ok hw1
      exact ⟨_, targetClosure_eq (by simp only [List.nil_append]; omega)⟩)
  obtain ⟨d', s', res⟩ := out
  obtain ⟨k, hD⟩ := drainTo_exact targetClosure_ok hI e
  obtain ⟨hk, hres⟩ := hD.full targetClosure_all
  have hk' : k = amount := by omega
  subst hk'
  exact ⟨d', s', by rw [e, hres], by simpa using hD.delivered, hD.toTook⟩

/-- `<DecodeBuffer as Read>::read(target)`; the window is retained -/
theorem read_ok (hI : d.Inv) (T : Nat) :
    ∃ d', d.read T = .ok (d', d.abs.take (min (d.abs.length - d.windowSize) T),
        .ok (min (d.abs.length - d.windowSize) T)) ∧ Took d d' (min (d.abs.length - d.windowSize) T) := by
  unfold read
  rw [canDrainToWindowSize_eq hI, ok_bind]
  have hamt : (if d.abs.length > d.windowSize then some (d.abs.length - d.windowSize) else none).getD 0 =
      d.abs.length - d.windowSize := by
    split
    · rfl
    · simp only [Option.getD_none]; omega
  simp only [hamt]
  obtain ⟨d', s', e, hs, h⟩ := drainTo_target hI (amount := min (d.abs.length - d.windowSize) T)
    (T := T) (Nat.min_le_right _ _) (by omega)
  rw [e, ok_bind, pure_eq_ok, hs]
  exact ⟨d', rfl, h⟩

theorem readAll_ok (hI : d.Inv) (T : Nat) :
    ∃ d', d.readAll T = .ok (d', d.abs.take (min d.abs.length T), .ok (min d.abs.length T)) ∧
      Took d d' (min d.abs.length T) := by
  unfold readAll
  rw [RingBuffer.Inv.lenC_eq hI, ok_bind]
  have : d.buffer.len = d.abs.length := (abs_length (r := d.buffer)).symm
  simp only [this]
  obtain ⟨d', s', e, hs, h⟩ := drainTo_target hI (amount := min d.abs.length T)
    (T := T) (Nat.min_le_right _ _) (Nat.min_le_left _ _)
  rw [e, ok_bind, pure_eq_ok, hs]
  exact ⟨d', rfl, h⟩

theorem drainTo_total {σ : Type} {wb : σ → List Byte → Except Fault (Nat × Option IoErr × σ)}
    {delivered : σ → List Byte} (hwb : ClosureOk wb delivered)
    (htot : ∀ s buf, ∃ out, wb s buf = .ok out) (hI : d.Inv) (amount : Nat) (s : σ) :
    ∃ d' s' res k, d.drainTo amount wb s = .ok (d', s', res) ∧ Drained wb delivered d d' amount s s' res k := by
  obtain ⟨⟨d', s', res⟩, e⟩ := drainTo_noFault hwb hI amount s (fun buf _ => htot s buf)
    (fun _ out1 buf2 _ _ _ => htot out1.2.2 buf2)
  obtain ⟨k, h⟩ := drainTo_exact hwb hI e
  exact ⟨d', s', res, k, e, h⟩

theorem drainToWriter_ok (hI : d.Inv) (sink : Sink) :
    ∃ d' sink' res k, d.drainToWriter sink = .ok (d', sink', res) ∧ k ≤ d.abs.length ∧
      sink'.got = sink.got ++ d.abs.take k ∧ d'.abs = d.abs.drop k ∧
      d'.hash = d.hash ++ d.abs.take k ∧ d'.Inv ∧ (∀ n, res = .ok n → n = k) ∧
      d'.buffer.cap = d.buffer.cap := by
  unfold drainToWriter
  rw [RingBuffer.Inv.lenC_eq hI, ok_bind]
  obtain ⟨d', s', res, k, e, hD⟩ := drainTo_total sinkClosure_ok (fun s buf => ⟨_, rfl⟩) hI d.buffer.len sink
  exact ⟨d', s', res, k, e, hD.le_len, hD.delivered, hD.abs, hD.hash, hD.inv, hD.reported, hD.cap⟩

theorem drainToWindowSizeWriter_ok (hI : d.Inv) (sink : Sink) :
    ∃ d' sink' res k, d.drainToWindowSizeWriter sink = .ok (d', sink', res) ∧
      k ≤ d.abs.length - d.windowSize ∧
      sink'.got = sink.got ++ d.abs.take k ∧ d'.abs = d.abs.drop k ∧
      d'.hash = d.hash ++ d.abs.take k ∧ d'.Inv ∧ (∀ n, res = .ok n → n = k) ∧
      d'.buffer.cap = d.buffer.cap := by
  unfold drainToWindowSizeWriter
  rw [canDrainToWindowSize_eq hI, ok_bind]
  by_cases h : d.abs.length > d.windowSize
  · rw [if_pos h]
    obtain ⟨d', s', res, k, e, hD⟩ :=
      drainTo_total sinkClosure_ok (fun s buf => ⟨_, rfl⟩) hI (d.abs.length - d.windowSize) sink
    exact ⟨d', s', res, k, e, hD.le_amount, hD.delivered, hD.abs, hD.hash, hD.inv, hD.reported, hD.cap⟩
  · rw [if_neg h]
    exact ⟨d, sink, .ok 0, 0, rfl, by omega, by simp, by simp, by simp, hI, (fun n hn => by cases hn; rfl), rfl⟩

theorem drainToWindowSize_ok (hI : d.Inv) :
    (d.abs.length ≤ d.windowSize → d.drainToWindowSize = .ok (d, none)) ∧
    (d.abs.length > d.windowSize → ∃ d', d.drainToWindowSize =
        .ok (d', some (d.abs.take (d.abs.length - d.windowSize))) ∧ d'.Inv ∧
      d'.abs = d.abs.drop (d.abs.length - d.windowSize) ∧
      d'.hash = d.hash ++ d.abs.take (d.abs.length - d.windowSize) ∧
      d'.buffer.cap = d.buffer.cap) := by
  unfold drainToWindowSize
  rw [canDrainToWindowSize_eq hI, ok_bind]
  constructor
  · intro h
    rw [if_neg (by omega), pure_eq_ok]
  · intro h
    rw [if_pos h]
    simp only []
    obtain ⟨d', s', res, k, e, hD⟩ :=
      drainTo_total vecClosure_ok (fun s buf => ⟨_, rfl⟩) hI (d.abs.length - d.windowSize) ([] : List Byte)
    obtain ⟨hk', hres⟩ := hD.full vecClosure_all
    have hk'' : k = d.abs.length - d.windowSize := by omega
    subst hk''
    rw [e, ok_bind, pure_eq_ok, hres]
    have : s' = d.abs.take (d.abs.length - d.windowSize) := by simpa using hD.delivered
    rw [this]
    exact ⟨d', rfl, hD.inv, hD.abs, hD.hash, hD.cap⟩

theorem repeat_returns {C : Nat} (hC : 0 < C) (hI : d.Inv) {offset : Nat} (ho : 0 < offset) (ml : Nat) :
    ∃ d' res, d.repeat C offset ml = .ok (d', res) ∧ d'.Inv ∧ (res ≠ .ok () → d' = d) ∧
      CapStep d.buffer d'.buffer ml := by
  by_cases hol : offset ≤ d.buffer.len
  · obtain ⟨d', e, hP⟩ := repeat_ok hC hI ho hol (ml := ml)
    exact ⟨d', .ok (), e, hP.inv, fun h => absurd rfl h, hP.capStep⟩
  · have hol' : offset > d.buffer.len := by omega
    by_cases ht : d.total ≤ d.windowSize
    · by_cases hb : offset - d.buffer.len ≤ d.dict.length
      · obtain ⟨d', e, hP⟩ := repeat_dict_ok hC hI hol' ht hb (ml := ml)
        exact ⟨d', .ok (), e, hP.inv, fun h => absurd rfl h, hP.capStep⟩
      · exact ⟨d, _, (repeat_dict_err (C := C) hI hol' (ml := ml)).2 ht (by omega), hI, fun _ => rfl,
          CapStep.of_eq rfl _⟩
    · exact ⟨d, _, (repeat_dict_err (C := C) hI hol' (ml := ml)).1 (by omega), hI, fun _ => rfl,
        CapStep.of_eq rfl _⟩

end DecodeBuffer

end Zstd.Model
