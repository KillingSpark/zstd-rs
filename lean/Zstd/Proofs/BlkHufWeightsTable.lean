import Zstd.Proofs.BlkHufRefDefs
import Zstd.Proofs.BlkSeqTables
import Zstd.Proofs.BlkFseSpec
import Zstd.Proofs.FseReadDesc
/-
C01, `read_weights`, the FSE table of FSE-compressed Huffman weights (`WeightsTableRefines`).

The Spec reads the table description from the `header` bytes that follow the header byte; the code reads it
from everything that follows the header byte and checks the byte count afterwards (both with alphabet bound
255).  Whenever the Spec's reader accepts, the reader on a longer input (and, if wanted, a larger alphabet
bound) accepts with the same result (`readDescription_extend`).
-/
namespace Zstd.Proofs.Blk
open Zstd Zstd.Model Zstd.Model.Fse Zstd.Proofs.BitIO
open Zstd.Proofs.FseReadDesc (readLE_some)

theorem readDescription_extend {a b : List Nat} {maxLog ms ms' al used : Nat} {probs : List Int}
    (hms : ms ≤ ms')
    (h : Spec.Fse.readDescription a maxLog ms = some (al, probs, used)) :
    Spec.Fse.readDescription (a ++ b) maxLog ms' = some (al, probs, used) := by
  unfold Spec.Fse.readDescription at h ⊢
  dsimp only at h ⊢
  rw [bitsLE_append]
  cases hrd : Spec.readLE 4 (Spec.bitsLE a) with
  | none => rw [hrd] at h; cases h
  | some q =>
    obtain ⟨x, rest⟩ := q
    rw [hrd] at h
    rw [readLE_append _ hrd]
    dsimp only at h ⊢
    obtain ⟨_, hrest, _⟩ := readLE_some hrd
    by_cases hal : x + 5 > maxLog
    · rw [if_pos hal] at h; cases h
    · rw [if_neg hal] at h ⊢
      cases hp : Spec.Fse.readProbs (ms + 3) ms (2 ^ (x + 5)) rest [] with
      | none => rw [hp] at h; cases h
      | some qp =>
        obtain ⟨ps, rest'⟩ := qp
        rw [hp] at h
        obtain ⟨_, _, h3, hext⟩ := spec_readProbs_some _ _ _ _ _ _ _ hp (by intro p hp; cases hp)
        rw [hext _ (ms' + 3) ms' (by omega) hms]
        dsimp only at h ⊢
        by_cases hlen : ps.length > ms + 1
        · rw [if_pos hlen] at h; cases h
        · rw [if_neg hlen] at h
          rw [if_neg (by omega)]
          simp only [Option.some.injEq, Prod.mk.injEq] at h ⊢
          obtain ⟨rfl, rfl, rfl⟩ := h
          have hl : rest.length ≤ (Spec.bitsLE a).length := by rw [hrest, List.length_drop]; omega
          refine ⟨rfl, rfl, ?_⟩
          simp only [List.length_append]
          omega

theorem weightsTableRefines : WeightsTableRefines := by
  intro rest header al used probs T hb hrd hbt
  have hext : Spec.Fse.readDescription rest 6 255 = some (al, probs, used) := by
    have := readDescription_extend (b := rest.drop header) (ms' := 255) (by omega) hrd
    rwa [List.take_append_drop] at this
  have ha := buildDecoder_agree (Fse.DTable.new Gen.hufFseMaxSymbol) rest.toArray Gen.hufWeightsMaxLogDec hb
    (by decide) (by decide)
  generalize (Fse.DTable.new Gen.hufFseMaxSymbol).buildDecoder rest.toArray Gen.hufWeightsMaxLogDec = p at ha ⊢
  obtain ⟨ft, e | n⟩ := p
  · -- the Spec accepts, so `build_decoder` cannot have failed
    rw [show Spec.Fse.readDescription rest 6 255 = none from ha.2.1] at hext
    cases hext
  · obtain ⟨hft, _, _, al', probs', hrd', hbt'⟩ := ha
    cases hext.symm.trans hrd'
    exact ⟨ft, rfl, hft, Option.some.inj (hbt.symm.trans hbt')⟩

end Zstd.Proofs.Blk
