import Zstd.Model.Fse
import Zstd.Proofs.BitIO
import Zstd.Proofs.FseReader
/-
Stream round trips of the FSE coders, proved from an abstract coupling of an encoder table with a
decoder table (`Coupled`).  `Zstd/Proofs/FseCoupled.lean` shows that the tables the two builders
produce from one valid distribution are coupled; here only the coupling is used.
-/
namespace Zstd.Proofs.FseStream
open Zstd Zstd.Spec Zstd.Model.Fse Zstd.Model.BitIO Zstd.Proofs.BitIO

def entryOf (s : Nat) (st : EState) : DEntry := { baseLine := st.baseline, numBits := st.numBits, symbol := s }

/-- the decoder table has, at cell `st.index`, the entry of the encoder state `st` of symbol `s` -/
def Good (dt : DTable) (al s : Nat) (st : EState) : Prop :=
  st.index < 2 ^ al ∧ dt.decode[st.index]? = some (entryOf s st) ∧ st.numBits ≤ al

/-- What the stream round trips need of an encoder table and a decoder table over the symbols `usable`: start and
next states exist and are `Good`, and the range of a next state contains the index it is entered from, so that the
offset written leads the decoder back.  `al ≤ 31` keeps indices below `2^32` (the `u32` addition of `update_state`)
and `numBits ≤ al` inside the 56 bits a reversed read supports.  `FseCoupled.coupled_of_buildable` establishes it
for the two built tables. -/
structure Coupled (et : ETable) (dt : DTable) (al : Nat) (usable : Nat → Prop) : Prop where
  al_pos : 1 ≤ al
  al_le : al ≤ 31
  encLog : et.accLog = .ok al
  decLog : dt.accuracyLog = al
  start : ∀ s, usable s → ∃ st, et.startState s = .ok st ∧ Good dt al s st
  next : ∀ s idx, usable s → idx < 2 ^ al →
    ∃ st, et.nextState s idx = .ok st ∧ st.baseline ≤ idx ∧ idx < st.baseline + 2 ^ st.numBits ∧ Good dt al s st

/-- the decoder standing in the entry of the encoder state `st` of symbol `c` -/
abbrev D (c : Nat) (st : EState) : Decoder := Decoder.mk (entryOf c st)

variable {et : ETable} {dt : DTable} {al : Nat} {usable : Nat → Prop}

theorem encStep_ok {w : BitWriter} {L : List Bool} {st nx : EState} {x : Nat} (hw : WInv w L)
    (hnx : et.nextState x st.index = .ok nx) (h1 : nx.baseline ≤ st.index)
    (h2 : st.index < nx.baseline + 2 ^ nx.numBits) (hnb : nx.numBits ≤ 63) :
    ∃ w', encStep et w st x = .ok (w', nx) ∧ WInv w' (L ++ bitsOfLE nx.numBits (st.index - nx.baseline)) := by
  obtain ⟨w', hw', hinv⟩ := bitWriter_refines (v := st.index - nx.baseline) hw (by omega) hnb
  exact ⟨w', by simp only [encStep, hnx, if_neg (show ¬ st.index < nx.baseline by omega), hw'], hinv⟩

theorem update_reads {src : Array Nat} {r : BitReaderRev} {rest : List Bool} {s c : Nat} {st nx : EState}
    (hal : al ≤ 31) (hgs : Good dt al c st) (hgn : Good dt al s nx)
    (h1 : nx.baseline ≤ st.index) (h2 : st.index < nx.baseline + 2 ^ nx.numBits)
    (hr : Rem src r ((bitsOfLE nx.numBits (st.index - nx.baseline)).reverse ++ rest)) :
    ∃ r', (D s nx).updateState dt r = .ok (D c st, r') ∧ Rem src r' rest := by
  have hlt : st.index < 2 ^ 32 :=
    Nat.lt_of_lt_of_le hgs.1 (Nat.pow_le_pow_right (by omega) (by omega))
  have hidx : nx.baseline + (st.index - nx.baseline) = st.index := by omega
  exact updateState_rem (d := D s nx) hr (by have := hgn.2.2; show nx.numBits ≤ 56; omega)
    (readBE_field (show st.index - nx.baseline < 2 ^ nx.numBits by omega) rest)
    (by show nx.baseline + _ < _; omega) (by show dt.decode[nx.baseline + _]? = _; rw [hidx]; exact hgs.2.1)

theorem enc_dec_step (hc : Coupled et dt al usable) {c x : Nat} {st : EState} {w : BitWriter} {L : List Bool}
    (hw : WInv w L) (hg : Good dt al c st) (hx : usable x) :
    ∃ w' nx F, encStep et w st x = .ok (w', nx) ∧ Good dt al x nx ∧ WInv w' (L ++ F) ∧
      ∀ {src : Array Nat} {r : BitReaderRev} {rest : List Bool}, Rem src r (F.reverse ++ rest) →
        ∃ r', (D x nx).updateState dt r = .ok (D c st, r') ∧ Rem src r' rest := by
  obtain ⟨nx, hnx, hb1, hb2, hgn⟩ := hc.next x st.index hx hg.1
  obtain ⟨w', hw', hinv⟩ := encStep_ok hw hnx hb1 hb2 (by have := hgn.2.2; have := hc.al_le; omega)
  exact ⟨w', nx, _, hw', hgn, hinv, fun hr => update_reads hc.al_le hg hgn hb1 hb2 hr⟩

theorem initState_reads (hc : Coupled et dt al usable) {c : Nat} {st : EState} (hg : Good dt al c st)
    {src : Array Nat} {r : BitReaderRev} {rest : List Bool}
    (hr : Rem src r ((bitsOfLE al st.index).reverse ++ rest)) (d : Decoder) :
    ∃ r', d.initState dt r = .ok (D c st, r') ∧ Rem src r' rest :=
  initState_rem hr (by rw [hc.decLog]; exact hc.al_pos) (by rw [hc.decLog]; have := hc.al_le; omega)
    (by rw [hc.decLog]; exact readBE_field hg.1 rest) hg.2.1 d

/-- symbol of the encoder's state after `encLoop` over `xs` from a state of symbol `c` -/
def lastSym (xs : List Nat) (c : Nat) : Nat := xs.getLast?.getD c

theorem lastSym_cons (x : Nat) (xs : List Nat) (c : Nat) : lastSym (x :: xs) c = lastSym xs x := by
  unfold lastSym
  cases xs with
  | nil => rfl
  | cons y ys =>
    cases h : (y :: ys).getLast? with
    | none => simp at h
    | some z => simp [List.getLast?_cons_cons, h]

/-- continuation style: the decoder, started in the encoder's final state in front of what the loop wrote
(reversed), emits the symbols and arrives in the encoder's initial state in front of the rest -/
theorem enc_dec_loop (hc : Coupled et dt al usable) :
    ∀ (xs : List Nat) (c : Nat) (st : EState) (w : BitWriter) (L : List Bool),
      WInv w L → Good dt al c st → (∀ x ∈ xs, usable x) →
      ∃ w' st' F, encLoop et xs w st = .ok (w', st') ∧ WInv w' (L ++ F) ∧ Good dt al (lastSym xs c) st' ∧
        ∀ (src : Array Nat) (r : BitReaderRev) (rest : List Bool) (m : Nat) (acc : List Nat),
          Rem src r (F.reverse ++ rest) → 1 ≤ m →
          ∃ r', decodeLoop dt (xs.length + m) (D (lastSym xs c) st') r acc
                  = decodeLoop dt m (D c st) r' (xs ++ acc) ∧ Rem src r' rest := by
  intro xs
  induction xs with
  | nil =>
    intro c st w L hw hg _
    exact ⟨w, st, [], rfl, by simpa using hw, hg, fun src r rest m acc hr _ => ⟨r, by simp [lastSym], hr⟩⟩
  | cons x xs ih =>
    intro c st w L hw hg hu
    obtain ⟨w1, nx, F1, hstep, hgn, hinv1, hup⟩ := enc_dec_step hc hw hg (hu x (List.mem_cons_self ..))
    obtain ⟨w', st', F', henc, hw', hg', hdec⟩ :=
      ih x nx w1 _ hinv1 hgn (fun y hy => hu y (List.mem_cons_of_mem _ hy))
    refine ⟨w', st', F1 ++ F', by simp only [encLoop, hstep, henc], by rwa [← List.append_assoc],
      by rwa [lastSym_cons], ?_⟩
    intro src r rest m acc hr hm
    rw [List.reverse_append, List.append_assoc] at hr
    obtain ⟨r1, hd1, hr1⟩ := hdec src r _ (m + 1) acc hr (by omega)
    obtain ⟨r2, hup2, hr2⟩ := hup hr1
    refine ⟨r2, ?_, hr2⟩
    rw [lastSym_cons, show (x :: xs).length + m = xs.length + (m + 1) by simp only [List.length_cons]; omega, hd1,
      decodeLoop, if_neg (by omega), hup2]
    simp [Decoder.decodeSymbol, entryOf]

theorem writeEndMark_ok {w : BitWriter} {L : List Bool} (hw : WInv w L) :
    ∃ w' m, writeEndMark w = .ok w' ∧ 1 ≤ m ∧ m ≤ 8 ∧ WInv w' (L ++ bitsOfLE m 1) ∧ (L.length + m) % 8 = 0 := by
  unfold writeEndMark
  rw [WInv_misaligned hw]
  by_cases h : (8 - L.length % 8) % 8 = 0
  · rw [if_pos h]
    obtain ⟨w', hw', hi⟩ := bitWriter_refines (v := 1) (n := 8) hw (by omega) (by omega)
    exact ⟨w', 8, hw', by omega, by omega, hi, by omega⟩
  · rw [if_neg h]
    have hm1 : 1 ≤ (8 - L.length % 8) % 8 := by omega
    obtain ⟨w', hw', hi⟩ := bitWriter_refines (v := 1) (n := (8 - L.length % 8) % 8) hw
      (by
        have : 2 ^ 1 ≤ 2 ^ ((8 - L.length % 8) % 8) := Nat.pow_le_pow_right (by omega) hm1
        omega) (by omega)
    exact ⟨w', _, hw', hm1, by omega, hi, by omega⟩

theorem encode_decode_stream (hc : Coupled et dt al usable) (data : List Nat) (hne : data ≠ [])
    (hu : ∀ x ∈ data, usable x) {w : BitWriter} {L : List Bool} (hw : WInv w L) :
    ∃ w' S, encodeStream et w data = .ok w' ∧ WInv w' (L ++ S) ∧ (L.length + S.length) % 8 = 0 ∧
      ∀ (src : Array Nat), Bytes src.toList → bitsLE src.toList = S →
        ∃ br br', skipEndMark (BitReaderRev.new src) = .ok (some br) ∧
          decodeStream dt data.length br = .ok (data, br') ∧ br'.bitsRemaining = 0 := by
  obtain ⟨ini, c, rfl⟩ : ∃ ini c, data = ini ++ [c] := ⟨data.dropLast, data.getLast hne, (List.dropLast_concat_getLast hne).symm⟩
  obtain ⟨st0, hst0, hg0⟩ := hc.start c (hu c (by simp))
  obtain ⟨w1, st1, F, henc, hw1, hg1, hdec⟩ := enc_dec_loop hc ini.reverse c st0 w L hw hg0
    (fun x hx => hu x (by simp at hx ⊢; exact Or.inl hx))
  obtain ⟨w2, hw2, hinv2⟩ := bitWriter_refines (v := st1.index) (n := al) hw1 hg1.1 (by have := hc.al_le; omega)
  obtain ⟨w3, m, hw3, hm1, hm8, hinv3, hal3⟩ := writeEndMark_ok hinv2
  refine ⟨w3, F ++ bitsOfLE al st1.index ++ bitsOfLE m 1, ?_, by simpa [List.append_assoc] using hinv3, ?_, ?_⟩
  · simp only [encodeStream, List.getLast?_append, List.getLast?_singleton, Option.some_or, hst0, hc.encLog,
      List.dropLast_concat, henc, hw2, hw3]
  · simp only [List.length_append, length_bitsOfLE] at hal3 ⊢; omega
  · intro src hb hbits
    obtain ⟨br, hskip, hr0⟩ := skipEndMark_written hm1 hm8 hb hbits
    rw [List.reverse_append] at hr0
    obtain ⟨br1, hinit, hr1⟩ := initState_reads hc hg1 hr0 (Decoder.new dt)
    obtain ⟨br2, hd, hr2⟩ := hdec src br1 [] 1 [] (by simpa using hr1) (by omega)
    refine ⟨br, br2, hskip, ?_, by simpa using hr2.bitsRemaining⟩
    simp only [decodeStream, hinit]
    rw [show (ini ++ [c]).length = ini.reverse.length + 1 by simp, hd]
    simp [decodeLoop, Decoder.decodeSymbol, entryOf]

end Zstd.Proofs.FseStream
