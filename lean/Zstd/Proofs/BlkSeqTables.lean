import Zstd.Proofs.BlkCoupled
/-
The three symbol tables of a sequences section (`maybe_update_fse_tables`): no fault on a well-formed scratch (C03,
block level) and refinement of the Spec (C01, block level); and `decode_sequences` as a whole never faults
(`decodeSequences_ok`; its refinement, `decodeSequences_refines`, is in `Proofs/BlockRefines`).

One arm (`updateOne`: Predefined / RLE / FSE description / Repeat) is walked once, against `Spec.readSeqTable` on the
same bytes (`updateOne_agree`, outcome `ArmAgree`).  Of the old channel an arm needs the alphabet, and the coupling
only in Repeat mode (`ChanReq`): a scratch coupled with the Spec's entropy state satisfies it for every mode, any
scratch with the three alphabets for the modes that rebuild all tables (`Proofs/SeqSectionBlk`).
-/
namespace Zstd.Proofs.Blk
open Zstd Zstd.Model Zstd.Model.Fse Zstd.Model.Blk Zstd.Proofs.BitIO
open Zstd.Proofs.FseDecTable (ValidDist toSpecEntry)

/-- `SequencesHeader` compression-mode bits: the map of the source is the identity on `0..3` -/
theorem modeOf_eq : ∀ k, k < 4 → modeOf k = k := by decide

/-- what an arm needs of the old channel to follow the Spec: the alphabet, and coupling with the table in force where
the mode is Repeat (the three other modes overwrite the channel) -/
def ChanReq (maxLog maxCode mode : Nat) (prev : Option Spec.Fse.Table) (t : DTable) (rle : Option Nat) : Prop :=
  t.maxSymbol = maxCode ∧ (3 ≤ mode → ∀ T', prev = some T' → ChanCoupled maxLog maxCode T' t rle)

theorem ChanReq.of_coupled {maxLog maxCode : Nat} {prev : Option Spec.Fse.Table} {t : DTable} {rle : Option Nat}
    (h : ChanCoupledOpt maxLog maxCode prev t rle) (mode : Nat) : ChanReq maxLog maxCode mode prev t rle :=
  ⟨h.1.2.1, fun _ => h.2⟩

theorem ChanReq.of_rebuild {maxLog maxCode mode : Nat} {t : DTable} (hms : t.maxSymbol = maxCode) (hmode : mode ≤ 2)
    (prev : Option Spec.Fse.Table) (rle : Option Nat) : ChanReq maxLog maxCode mode prev t rle :=
  ⟨hms, fun h => absurd h (by omega)⟩

/-- outcome of one arm of `maybe_update_fse_tables` on the source `bytes`, against `Spec.readSeqTable` -/
def ArmAgree (mode : Nat) (bytes : List Nat) (maxLog maxCode : Nat) (dflt : Nat × List Int) (t : DTable)
    (rle : Option Nat) : (DTable × Option Nat) × Except SeqErr Nat → Prop
  | ((t', rle'), .ok n) => t'.maxSymbol = maxCode ∧ n ≤ bytes.length ∧ (mode = 2 → rle' = none) ∧
      (ChanPre maxLog maxCode t rle → ChanPre maxLog maxCode t' rle') ∧
      ∀ prev T u, Spec.readSeqTable mode bytes maxLog maxCode dflt prev = some (T, u) →
        ChanReq maxLog maxCode mode prev t rle → u = n ∧ ChanCoupled maxLog maxCode T t' rle'
  | (_, .error e) => (∀ f, e ≠ .fault f) ∧ ∀ prev, Spec.readSeqTable mode bytes maxLog maxCode dflt prev = none

theorem updateOne_agree {mode : Nat} {src : Array Nat} (hb : Bytes src.toList)
    {maxLog maxCode dfltLog : Nat} {dflt : List Int} (hp : ChanParams maxLog maxCode dfltLog dflt)
    {t : DTable} (hms : t.maxSymbol = maxCode) (rle : Option Nat) {rleErr : SeqErr} (hre : ∀ f, rleErr ≠ .fault f) :
    ArmAgree mode src.toList maxLog maxCode (dfltLog, dflt) t rle
      (updateOne mode src t rle maxLog maxCode dfltLog dflt rleErr) := by
  subst hms
  have hnew : ∀ {t' : DTable}, FseBuilt maxLog t' → t'.maxSymbol = t.maxSymbol → ChanPre maxLog t.maxSymbol t' none :=
    fun hbuilt hm => ⟨.inr hbuilt, hm, nofun⟩
  unfold updateOne
  by_cases h2 : mode = 2
  · -- FSE description: `build_decoder` against `readDescription` + `buildTable`
    subst h2
    have ha := buildDecoder_agree t src maxLog hb hp.maxLog_le hp.maxCode_le
    rw [if_pos rfl]
    generalize t.buildDecoder src maxLog = p at ha ⊢
    obtain ⟨t', e | n⟩ := p
    · obtain ⟨hnf, hnone, _⟩ := ha
      have hspec : ∀ prev, Spec.readSeqTable 2 src.toList maxLog t.maxSymbol (dfltLog, dflt) prev = none :=
        fun _ => by simp only [Spec.readSeqTable, reduceCtorEq, ↓reduceIte, Nat.succ_ne_self, hnone]
      cases e with
      | fault f => exact absurd rfl (hnf f)
      -- (`nofun` here is elaborated against the unreduced `match` of `updateOne` in each of the seven cases)
      | _ => exact ⟨fun _ h => SeqErr.noConfusion h, hspec⟩
    · obtain ⟨hbuilt, hms', hn, al, probs, hrd, hbt⟩ := ha
      refine ⟨hms', by simpa using hn, fun _ => rfl, fun _ => hnew hbuilt hms', fun prev T u hs _ => ?_⟩
      simp only [Spec.readSeqTable, reduceCtorEq, ↓reduceIte, Nat.succ_ne_self, hrd, hbt, Option.map_some, Option.some.injEq,
        Prod.mk.injEq] at hs
      exact ⟨hs.2.symm, hbuilt, hms', hs.1.symm⟩
  rw [if_neg h2]
  by_cases h1 : mode = 1
  · -- RLE: the first byte, if it is a symbol of the alphabet
    subst h1
    rw [if_pos rfl]
    obtain ⟨l⟩ := src
    cases l with
    | nil => exact ⟨hre, fun _ => rfl⟩
    | cons b tl =>
      simp only [List.getElem?_toArray, List.getElem?_cons_zero]
      by_cases hbm : b > t.maxSymbol
      · rw [if_pos hbm]
        exact ⟨fun _ h => SeqErr.noConfusion h, fun _ => by simp only [Spec.readSeqTable, ↓reduceIte, Nat.succ_ne_self, gt_iff_lt, hbm]⟩
      · rw [if_neg hbm]
        refine ⟨rfl, by simp, fun h => absurd h (by omega), fun hpre => ⟨hpre.1, rfl, fun b' hb' => ?_⟩,
          fun prev T u hs _ => ?_⟩
        · cases hb'
          omega
        · simp only [Spec.readSeqTable, ↓reduceIte, Nat.succ_ne_self, gt_iff_lt, hbm, Option.some.injEq,
            Prod.mk.injEq] at hs
          exact ⟨hs.2.symm, hs.1.symm, by omega⟩
  rw [if_neg h1]
  by_cases h0 : mode = 0
  · -- predefined: both build the default table
    subst h0
    obtain ⟨t', hbf, hbuilt, hms', hspec⟩ :=
      buildFromProbabilities_built t maxLog hp.valid (by have := hp.fits; omega) hp.dfltLog_le
    rw [if_pos rfl, hbf]
    refine ⟨hms', Nat.zero_le _, fun h => absurd h (by omega), fun _ => hnew hbuilt hms', fun prev T u hs _ => ?_⟩
    simp only [Spec.readSeqTable, ↓reduceIte, hspec, Option.map_some, Option.some.injEq, Prod.mk.injEq] at hs
    exact ⟨hs.2.symm, hbuilt, hms', hs.1.symm⟩
  · -- repeat: the channel as it is; the Spec wants a table in force
    rw [if_neg h0]
    refine ⟨rfl, Nat.zero_le _, fun h => absurd h h2, id, fun prev T u hs hreq => ?_⟩
    simp only [Spec.readSeqTable, h0, h1, h2, ↓reduceIte, Option.map_eq_some_iff, Prod.mk.injEq] at hs
    obtain ⟨T', rfl, rfl, rfl⟩ := hs
    exact ⟨rfl, hreq.2 (by omega) _ rfl⟩

theorem ArmAgree.of_spec {mode : Nat} {bytes : List Nat} {maxLog maxCode : Nat} {dflt : Nat × List Int} {t : DTable}
    {rle : Option Nat} {p : (DTable × Option Nat) × Except SeqErr Nat} (h : ArmAgree mode bytes maxLog maxCode dflt t rle p)
    {prev : Option Spec.Fse.Table} {T : Spec.Fse.Table} {u : Nat}
    (hs : Spec.readSeqTable mode bytes maxLog maxCode dflt prev = some (T, u))
    (hreq : ChanReq maxLog maxCode mode prev t rle) :
    ∃ t' rle', p = ((t', rle'), .ok u) ∧ ChanCoupled maxLog maxCode T t' rle' ∧ t'.maxSymbol = maxCode ∧
      u ≤ bytes.length ∧ (mode = 2 → rle' = none) ∧ (ChanPre maxLog maxCode t rle → ChanPre maxLog maxCode t' rle') := by
  obtain ⟨⟨t', rle'⟩, e | n⟩ := p
  · rw [h.2 prev] at hs
    cases hs
  · obtain ⟨hm, hn, h2, hpre, hspec⟩ := h
    obtain ⟨rfl, hc⟩ := hspec prev T u hs hreq
    exact ⟨t', rle', rfl, hc, hm, hn, h2, hpre⟩

/-- `&source[n..]` of a list-backed array -/
theorem toArray_extract_drop (l : List Nat) (n : Nat) :
    l.toArray.extract n l.toArray.size = (l.drop n).toArray := by
  apply Array.ext'
  simp only [Array.toList_extract, List.extract_eq_take_drop, List.size_toArray]
  rw [List.take_of_length_le (by simp)]

theorem bytes_extract {src : Array Nat} (hb : Bytes src.toList) (a b : Nat) : Bytes (src.extract a b).toList := by
  intro x hx
  simp only [Array.toList_extract, List.extract_eq_take_drop] at hx
  exact hb x (List.mem_of_mem_drop (List.mem_of_mem_take hx))


theorem buildFromProbabilities_maxSymbol (t : DTable) (al : Nat) (probs : List Int) :
    (t.buildFromProbabilities al probs).1.maxSymbol = t.maxSymbol := by
  unfold DTable.buildFromProbabilities
  split
  · rfl
  · rw [buildDecodingTable_maxSymbol]

theorem updateOne_maxSymbol {mode : Nat} {src : Array Nat} {t : DTable} {rle : Option Nat}
    {maxLog maxCode dfltLog : Nat} {dflt : List Int} {rleErr : SeqErr} {c : DTable × Option Nat}
    {res : Except SeqErr Nat} (h : updateOne mode src t rle maxLog maxCode dfltLog dflt rleErr = (c, res)) :
    c.1.maxSymbol = t.maxSymbol := by
  have hbd := buildDecoder_maxSymbol t src maxLog
  have hbf := buildFromProbabilities_maxSymbol t dfltLog dflt
  unfold updateOne at h
  by_cases h2 : mode = 2
  · rw [if_pos h2] at h
    split at h <;> rename_i e <;> rw [e] at hbd <;> cases h <;> exact hbd
  rw [if_neg h2] at h
  by_cases h1 : mode = 1
  · rw [if_pos h1] at h
    split at h
    · cases h; rfl
    · split at h <;> cases h <;> rfl
  rw [if_neg h1] at h
  split at h
  · split at h <;> rename_i e <;> rw [e] at hbf <;> cases h <;> exact hbf
  · cases h; rfl

/-- the three tables have the alphabet bounds (`max_symbol`) `FSETable::new` gave them; no arm changes them, whatever
the outcome -/
def FseAlphabets (s : FseScratch) : Prop :=
  s.literalLengths.maxSymbol = Gen.maxLiteralLengthCode ∧ s.offsets.maxSymbol = Gen.maxOffsetCode ∧
  s.matchLengths.maxSymbol = Gen.maxMatchLengthCode

theorem maybeUpdateFseTables_alphabets (modes : Option Nat) (src : Array Nat) {s : FseScratch}
    (h : FseAlphabets s) : FseAlphabets (maybeUpdateFseTables modes src s).1 := by
  obtain ⟨a1, a2, a3⟩ := h
  unfold maybeUpdateFseTables
  cases modes with
  | none => exact ⟨a1, a2, a3⟩
  | some m =>
    dsimp only
    split
    · rename_i h1
      exact ⟨(updateOne_maxSymbol h1).trans a1, a2, a3⟩
    rename_i h1
    have b1 := (updateOne_maxSymbol h1).trans a1
    split
    · exact ⟨b1, a2, a3⟩
    split
    · rename_i h2
      exact ⟨b1, (updateOne_maxSymbol h2).trans a2, a3⟩
    rename_i h2
    have b2 := (updateOne_maxSymbol h2).trans a2
    split
    · exact ⟨b1, b2, a3⟩
    split <;> rename_i h3 <;> exact ⟨b1, b2, (updateOne_maxSymbol h3).trans a3⟩

theorem decodeSequences_alphabets (n : Nat) (modes : Option Nat) (source : List Nat) {s : FseScratch}
    (h : FseAlphabets s) : FseAlphabets (decodeSequences n modes source s).1 := by
  have hU := maybeUpdateFseTables_alphabets modes source.toArray h
  unfold decodeSequences
  dsimp only
  split
  · rename_i h1; rw [h1] at hU; exact hU
  · rename_i h1
    rw [h1] at hU
    split <;> exact hU

theorem maybeUpdateFseTables_ok (modes : Option Nat) {src : Array Nat} (hb : Bytes src.toList)
    {s : FseScratch} (hs : FseScratchWF s) :
    Sound .fault (fun s' n => FseScratchWF s' ∧ n ≤ src.size) (maybeUpdateFseTables modes src s) := by
  unfold maybeUpdateFseTables
  cases modes with
  | none => exact .error (by simp)
  | some m =>
    dsimp only
    -- each arm's outcome is named before its `match` is opened (as in `readProbabilities_maxSymbol`)
    have a1 := updateOne_agree (mode := modeOf (m / 64 % 4)) (rleErr := .missingByteForRleLlTable) hb
      chanParams_ll hs.ll.2.1 s.llRle (by simp)
    generalize updateOne _ src _ _ _ _ _ _ _ = p1 at a1 ⊢
    rcases p1 with ⟨⟨t1, r1⟩, e | n1⟩
    · exact .error a1.1
    obtain ⟨_, hn1, _, c1, _⟩ := a1
    rw [Array.length_toList] at hn1
    dsimp only
    rw [if_neg (by omega)]
    have a2 := updateOne_agree (mode := modeOf (m / 16 % 4)) (rleErr := .missingByteForRleOfTable)
      (bytes_extract hb n1 src.size) chanParams_of hs.of.2.1 s.ofRle (by simp)
    generalize updateOne _ (src.extract n1 src.size) _ _ _ _ _ _ _ = p2 at a2 ⊢
    rcases p2 with ⟨⟨t2, r2⟩, e | n2⟩
    · exact .error a2.1
    obtain ⟨_, hn2, _, c2, _⟩ := a2
    have hsz2 : (src.extract n1 src.size).toList.length = src.size - n1 := by simp
    dsimp only
    rw [if_neg (by omega)]
    have a3 := updateOne_agree (mode := modeOf (m / 4 % 4)) (rleErr := .missingByteForRleMlTable)
      (bytes_extract hb (n1 + n2) src.size) chanParams_ml hs.ml.2.1 s.mlRle (by simp)
    generalize updateOne _ (src.extract (n1 + n2) src.size) _ _ _ _ _ _ _ = p3 at a3 ⊢
    rcases p3 with ⟨⟨t3, r3⟩, e | n3⟩
    · exact .error a3.1
    obtain ⟨_, hn3, _, c3, _⟩ := a3
    have hsz3 : (src.extract (n1 + n2) src.size).toList.length = src.size - (n1 + n2) := by simp
    exact .ok ⟨⟨c1 hs.ll, c2 hs.of, c3 hs.ml⟩, by omega⟩

/-- last clause: `m = 168 = 0b10101000` is "all three modes FSE_Compressed", the modes byte the encoder writes
(`Proofs/SeqSectionBlk` names the scratch that results) -/
theorem maybeUpdateFseTables_refines {m : Nat} (hm : m < 256) {rest : List Nat} (hb : Bytes rest)
    {e : Spec.Entropy} {s : FseScratch}
    (rl : ChanReq Gen.llMaxLog Gen.maxLiteralLengthCode (m / 64) e.ll s.literalLengths s.llRle)
    (ro : ChanReq Gen.ofMaxLog Gen.maxOffsetCode (m / 16 % 4) e.of s.offsets s.ofRle)
    (rm : ChanReq Gen.mlMaxLog Gen.maxMatchLengthCode (m / 4 % 4) e.ml s.matchLengths s.mlRle)
    {llT ofT mlT : Spec.Fse.Table} {u1 u2 u3 : Nat}
    (h1 : Spec.readSeqTable (m / 64) rest 9 35 (Spec.llDefaultLog, Spec.llDefaultDist) e.ll = some (llT, u1))
    (h2 : Spec.readSeqTable (m / 16 % 4) (rest.drop u1) 8 31 (Spec.ofDefaultLog, Spec.ofDefaultDist) e.of = some (ofT, u2))
    (h3 : Spec.readSeqTable (m / 4 % 4) (rest.drop (u1 + u2)) 9 52 (Spec.mlDefaultLog, Spec.mlDefaultDist) e.ml = some (mlT, u3)) :
    ∃ s', maybeUpdateFseTables (some m) rest.toArray s = (s', .ok (u1 + u2 + u3)) ∧
      ChanCoupled Gen.llMaxLog Gen.maxLiteralLengthCode llT s'.literalLengths s'.llRle ∧
      ChanCoupled Gen.ofMaxLog Gen.maxOffsetCode ofT s'.offsets s'.ofRle ∧
      ChanCoupled Gen.mlMaxLog Gen.maxMatchLengthCode mlT s'.matchLengths s'.mlRle ∧
      FseAlphabets s' ∧ u1 + u2 + u3 ≤ rest.length ∧ (FseScratchWF s → FseScratchWF s') ∧
      (m = 168 → s'.llRle = none ∧ s'.ofRle = none ∧ s'.mlRle = none) := by
  have e1 : modeOf (m / 64 % 4) = m / 64 := by
    rw [Nat.mod_eq_of_lt (by omega)]; exact modeOf_eq _ (by omega)
  have e2 : modeOf (m / 16 % 4) = m / 16 % 4 := modeOf_eq _ (by omega)
  have e3 : modeOf (m / 4 % 4) = m / 4 % 4 := modeOf_eq _ (by omega)
  -- `h1`–`h3` fit as they are: the constants of the code (`Gen.*`) unfold to the RFC's numbers and lists
  obtain ⟨t1, r1, hu1, c1, a1, l1, n1, w1⟩ := (updateOne_agree (src := rest.toArray) hb chanParams_ll rl.1 s.llRle
    (rleErr := .missingByteForRleLlTable) (by simp)).of_spec h1 rl
  obtain ⟨t2, r2, hu2, c2, a2, l2, n2, w2⟩ := (updateOne_agree (src := (rest.drop u1).toArray) (Bytes_drop hb u1)
    chanParams_of ro.1 s.ofRle (rleErr := .missingByteForRleOfTable) (by simp)).of_spec h2 ro
  obtain ⟨t3, r3, hu3, c3, a3, l3, n3, w3⟩ := (updateOne_agree (src := (rest.drop (u1 + u2)).toArray)
    (Bytes_drop hb (u1 + u2)) chanParams_ml rm.1 s.mlRle (rleErr := .missingByteForRleMlTable) (by simp)).of_spec h3 rm
  simp only [List.length_drop] at l1 l2 l3
  refine ⟨{ s with literalLengths := t1, llRle := r1, offsets := t2, ofRle := r2, matchLengths := t3, mlRle := r3 },
    ?_, c1, c2, c3, ⟨a1, a2, a3⟩, by omega, fun hs => ⟨w1 hs.ll, w2 hs.of, w3 hs.ml⟩, fun h => ?_⟩
  · unfold maybeUpdateFseTables
    simp only [e1, e2, e3, hu1]
    rw [if_neg (by simp only [List.size_toArray]; omega)]
    rw [toArray_extract_drop, hu2]
    dsimp only
    rw [if_neg (by simp only [List.size_toArray]; omega)]
    rw [toArray_extract_drop, hu3]
  · subst h
    exact ⟨n1 (by decide), n2 (by decide), n3 (by decide)⟩

theorem decodeSequences_ok (n : Nat) (modes : Option Nat) {source : List Nat} (hb : Bytes source)
    {s : FseScratch} (hs : FseScratchWF s) :
    Sound .fault (fun s' seqs => FseScratchWF s' ∧ ∀ q ∈ seqs, q.ov ≥ 1) (decodeSequences n modes source s) := by
  have hb' : Bytes source.toArray.toList := by simpa using hb
  have aU := maybeUpdateFseTables_ok modes hb' hs
  unfold decodeSequences
  dsimp only
  split
  · rename_i hU
    exact .error (aU.not_fault hU)
  · rename_i s1 bytesRead hU
    obtain ⟨hs1, hbr⟩ := aU.2 _ _ hU
    rw [if_neg (by omega)]
    obtain ⟨nf, ok⟩ := decodeSeqStream_ok n (bytes_extract hb' bytesRead source.toArray.size) hs1
    exact ⟨nf, fun s' seqs h => ⟨(Prod.mk.inj h).1 ▸ hs1, ok s' seqs h⟩⟩

theorem chanCoupledOpt_new (maxLog maxCode : Nat) :
    ChanCoupledOpt maxLog maxCode none (DTable.new maxCode) none :=
  ⟨⟨.inl rfl, rfl, by simp⟩, by simp⟩

theorem fseCoupled_fresh : FseCoupled {} {} :=
  ⟨chanCoupledOpt_new _ _, chanCoupledOpt_new _ _, chanCoupledOpt_new _ _⟩

/-- the hypotheses of `maybeUpdateFseTables_refines` are satisfiable: first block of a frame, all three
modes Predefined, no table bytes -/
example : ∃ s', maybeUpdateFseTables (some 0) ([] : List Nat).toArray {} = (s', .ok 0) ∧ FseScratchWF s' := by
  have spec0 : ∀ {maxLog maxCode al : Nat} {probs : List Int}, ChanParams maxLog maxCode al probs →
      ∃ T, Spec.readSeqTable 0 [] maxLog maxCode (al, probs) none = some (T, 0) := by
    intro maxLog maxCode al probs hp
    obtain ⟨t', _, _, _, h⟩ := buildFromProbabilities_built (DTable.new maxCode) maxLog hp.valid hp.fits hp.dfltLog_le
    exact ⟨specOf t', by simp only [Spec.readSeqTable, if_true, h, Option.map_some, specOf]⟩
  obtain ⟨llT, h1⟩ := spec0 chanParams_ll
  obtain ⟨ofT, h2⟩ := spec0 chanParams_of
  obtain ⟨mlT, h3⟩ := spec0 chanParams_ml
  obtain ⟨s', h, _, _, _, _, _, hwf, _⟩ := maybeUpdateFseTables_refines (m := 0) (e := {}) (s := {}) (by decide)
    (rest := []) (fun _ h => by cases h) (.of_coupled fseCoupled_fresh.ll _) (.of_coupled fseCoupled_fresh.of _)
    (.of_coupled fseCoupled_fresh.ml _) h1 h2 h3
  exact ⟨s', h, hwf ⟨fseCoupled_fresh.ll.1, fseCoupled_fresh.of.1, fseCoupled_fresh.ml.1⟩⟩

end Zstd.Proofs.Blk
