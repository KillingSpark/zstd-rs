import Zstd.Proofs.BlkHufStream
import Zstd.Proofs.BlkHufTable
import Zstd.Proofs.HufLiterals
/-
C03, Huffman / literals part: `decode_literals` never panics and never hangs, and leaves the Huffman
table well formed (`HufWF`) on success; phase by phase, over the decomposition of `Proofs/HufLiterals`.
-/
namespace Zstd.Proofs.Blk
open Zstd Zstd.Model Zstd.Model.Huf Zstd.Model.Huf.Bits
open Zstd.Proofs.BitIO (Bytes)
open Zstd.Proofs.Huf (six_of_length litStep1 streamsFold litStreams litStreams_four litFinish decompressLiterals_eq
  decodeLiterals_huffman)

theorem Bytes_take {l : List Nat} (h : Bytes l) (n : Nat) : Bytes (l.take n) :=
  Zstd.Proofs.BitIO.Bytes_take h n

theorem litStep1_ok (sec : LitSection) (t : DecTable) (src : List Nat)
    (hb : Bytes src) (hwf : HufWF t) (hty : sec.lsType = .compressed ∨ sec.lsType = .treeless) :
    Sound .fault (fun t1 br => HufBuilt t1 ∧ br ≤ src.length) (litStep1 sec t src) := by
  unfold litStep1
  rcases hty with hty | hty
  · rw [hty]
    dsimp only
    have aB := hufBuildDecoder_ok t src hb
    generalize buildDecoder t src = pB at aB ⊢
    obtain ⟨t1, (e | f) | used⟩ := pB
    · exact Sound.err
    · exact absurd rfl (aB.1 f)
    · exact Sound.ok (aB.2 _ _ rfl)
  · rw [hty]
    simp only
    split
    · exact Sound.err
    · rename_i hm
      exact Sound.ok ⟨hwf.resolve_left hm, Nat.zero_le _⟩

theorem streamsFold_ok {α : Type} {t : DecTable} (hb : HufBuilt t) (check : Bool)
    {k : List Nat → DRes LitErr α} {P : α → Prop}
    (hk : ∀ o, (∀ f, k o ≠ .error (.fault f)) ∧ ∀ a, k o = .ok a → P a) :
    ∀ (ss : List (List Nat)) (o : List Nat),
      (∀ f, streamsFold t check k ss o ≠ .error (.fault f)) ∧ ∀ a, streamsFold t check k ss o = .ok a → P a
  | [], o => hk o
  | s :: ss, o => by
    rw [streamsFold]
    cases h : decodeOneStream t s check o with
    | error e =>
      refine ⟨fun f hf => ?_, fun _ => nofun⟩
      cases Except.error.inj hf
      exact decodeOneStream_no_fault hb s check o f h
    | ok o' => exact streamsFold_ok hb check hk ss o'

theorem litStreams_ok {t : DecTable} (hb : HufBuilt t) {n : Nat} (hn : n = 1 ∨ n = 4) (br : Nat)
    (source target : List Nat) :
    (∀ f, litStreams t n br source target ≠ .error (.fault f)) ∧
    (∀ tg k, litStreams t n br source target = .ok (tg, k) → k = br + source.length) := by
  have K : ∀ m (o : List Nat), (∀ f, (.ok (o.reverse, m) : DRes LitErr (List Nat × Nat)) ≠ .error (.fault f)) ∧
      ∀ a, (.ok (o.reverse, m) : DRes LitErr (List Nat × Nat)) = .ok a → a.2 = m :=
    fun m o => ⟨fun _ => nofun, fun a h => by cases h; rfl⟩
  unfold litStreams
  rcases hn with rfl | rfl
  · rw [if_neg (by omega), if_neg (by omega)]
    obtain ⟨nf, ok⟩ := streamsFold_ok hb false (K (br + source.length)) [source] target.reverse
    exact ⟨nf, fun tg k h => ok _ h⟩
  · rw [if_pos rfl]
    split
    · exact ⟨fun _ => nofun, fun _ _ => nofun⟩
    · rename_i h6
      obtain ⟨b0, b1, b2, b3, b4, b5, src, rfl⟩ := six_of_length (l := source)
        (Nat.le_of_not_lt fun hc => h6 (decide_eq_true hc))
      simp only []
      split
      · exact ⟨fun _ => nofun, fun _ _ => nofun⟩
      · obtain ⟨nf, ok⟩ := streamsFold_ok hb true (K (br + 6 + src.length)) _ target.reverse
        exact ⟨nf, fun tg k h => (ok _ h).trans (by simp only [List.length_cons]; omega)⟩

theorem litFinish_ok {regen : Nat} {t : DecTable} {res : DRes LitErr (List Nat × Nat)}
    {P : DecTable → List Nat × Nat → Prop} (hnf : ∀ f, res ≠ .error (.fault f))
    (hok : ∀ p, res = .ok p → p.1.length = regen → P t p) : Sound .fault P (litFinish regen t res) := by
  unfold litFinish
  split
  · exact Sound.error fun f he => hnf f (congrArg _ he)
  · split
    · exact Sound.err
    · rename_i hl
      exact Sound.ok (hok _ rfl (Decidable.of_not_not hl))

theorem decompressLiterals_ok (sec : LitSection) (t : DecTable) (src : List Nat)
    (hb : Bytes src) (hwf : HufWF t) (hty : sec.lsType = .compressed ∨ sec.lsType = .treeless)
    (hcs : sec.compressedSize = some src.length)
    (hns : sec.numStreams = some 1 ∨ sec.numStreams = some 4) :
    Sound .fault (fun t' p => HufWF t' ∧ p.1.length = sec.regeneratedSize ∧ p.2 = src.length)
      (decompressLiterals sec t src []) := by
  obtain ⟨n, hn, hn14⟩ : ∃ n, sec.numStreams = some n ∧ (n = 1 ∨ n = 4) := by
    rcases hns with h | h
    · exact ⟨1, h, Or.inl rfl⟩
    · exact ⟨4, h, Or.inr rfl⟩
  rw [decompressLiterals_eq]
  simp only [hcs, hn, Nat.lt_irrefl, if_false, List.take_length]
  have a1 := litStep1_ok sec t src hb hwf hty
  generalize litStep1 sec t src = p1 at a1 ⊢
  obtain ⟨t1, e | br⟩ := p1
  · exact Sound.error fun f he => a1.1 f (congrArg _ he)
  obtain ⟨hbuilt, hbr⟩ := a1.2 _ _ rfl
  obtain ⟨snf, sok⟩ := litStreams_ok hbuilt hn14 br (src.drop br) []
  refine litFinish_ok snf fun p hp hl => ⟨Or.inr hbuilt, hl, ?_⟩
  rw [sok p.1 p.2 hp, List.length_drop]
  omega

theorem decodeLiterals_ok (sec : LitSection) (t : DecTable) (src : List Nat)
    (hb : Bytes src) (hwf : HufWF t) (hpre : LitPre sec src) :
    Sound .fault (fun t' p => HufWF t' ∧ p.1.length = sec.regeneratedSize ∧ p.2 = src.length)
      (decodeLiterals sec t src []) := by
  unfold decodeLiterals
  cases hty : sec.lsType with
  | raw =>
    have hl := hpre.raw hty
    simp only
    rw [if_neg (by omega)]
    exact Sound.ok ⟨hwf, by simp [hl], hl.symm⟩
  | rle =>
    have hl := hpre.rle hty
    simp only
    match src, hl with
    | [b], _ => exact Sound.ok ⟨hwf, by simp, rfl⟩
  | compressed =>
    obtain ⟨hcs, hns⟩ := hpre.comp (Or.inl hty)
    exact decompressLiterals_ok sec t src hb hwf (Or.inl hty) hcs hns
  | treeless =>
    obtain ⟨hcs, hns⟩ := hpre.comp (Or.inr hty)
    exact decompressLiterals_ok sec t src hb hwf (Or.inr hty) hcs hns

example : HufWF DecTable.empty := Or.inl rfl

example : Bytes [131, 0x21, 0x03, 0x1b] ∧
    LitPre { lsType := .compressed, regeneratedSize := 3, compressedSize := some 4, numStreams := some 1 }
      [131, 0x21, 0x03, 0x1b] ∧
    (decodeLiterals { lsType := .compressed, regeneratedSize := 3, compressedSize := some 4, numStreams := some 1 }
      DecTable.empty [131, 0x21, 0x03, 0x1b] []).2 = .ok ([3, 0, 3], 4) :=
  ⟨by unfold Bytes; decide, ⟨by simp, by simp, by simp⟩, by decide +kernel⟩

example : HufBuilt (buildTableFromWeights { DecTable.empty with weights := [2, 1, 0, 3] }).1 :=
  buildTableFromWeights_built (by decide) (Prod.ext rfl (by decide +kernel))

end Zstd.Proofs.Blk
