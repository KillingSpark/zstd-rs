import Zstd.Model.FrameCompressor
import Zstd.Proofs.SeqCodes
/-
C16 helper lemmas: every sequence a valid parse can contain maps to in-range (code, extra, bits), so
the `unreachable!()` arms of `encode_literal_length`, `encode_match_len` and `encode_seqnum` cannot
be reached.  Read off the round-trip theorems of `Proofs/SeqCodes.lean` (where the rows of
`Zstd.Gen.EncTables` are checked against the decoder's; C14 states them), with the bound that no code carries more than 16 extra bits.
-/
namespace Zstd.Proofs.Enc
open Zstd Zstd.Model

theorem lookup_bits_le : ∀ c, c ≤ 52 →
    (∀ r, lookupLL c = .ok r → r.2 ≤ 16) ∧ (∀ r, lookupML c = .ok r → r.2 ≤ 16) := by
  have h : ∀ c, c ≤ 52 → ((lookupLL c).toOption.all (·.2 ≤ 16) && (lookupML c).toOption.all (·.2 ≤ 16)) = true := by
    decide
  intro c hc
  have := h c hc
  rw [Bool.and_eq_true] at this
  exact ⟨fun r hr => by simpa [hr, Except.toOption] using this.1, fun r hr => by simpa [hr, Except.toOption] using this.2⟩

theorem encodeLL_ok (v : Nat) (h : v < 131072) :
    ∃ c x b : Nat, encodeLL v = .ok (c, x, b) ∧ c ≤ 35 ∧ x < 2 ^ b ∧ b ≤ 16 := by
  obtain ⟨c, e, b, base, h1, hc, hl, _, he⟩ := Zstd.Proofs.SeqCodes.encodeLL_roundtrip v (by omega)
  exact ⟨c, e, b, h1, hc, he, (lookup_bits_le c (by omega)).1 _ hl⟩

theorem encodeML_ok (v : Nat) (h3 : 3 ≤ v) (h : v < 131075) :
    ∃ c x b : Nat, encodeML v = .ok (c, x, b) ∧ c ≤ 52 ∧ x < 2 ^ b ∧ b ≤ 16 := by
  obtain ⟨c, e, b, base, h1, hc, hl, _, he⟩ := Zstd.Proofs.SeqCodes.encodeML_roundtrip v h3 (by omega)
  exact ⟨c, e, b, h1, hc, he, (lookup_bits_le c hc).2 _ hl⟩

theorem encodeOffset_ok (v : Nat) (h1 : 1 ≤ v) (h : v < 2 ^ 32) :
    ∃ c x : Nat, encodeOffset v = .ok (c, x, c) ∧ c ≤ Gen.maxOffsetCode ∧ x < 2 ^ c ∧ 2 ^ c + x = v := by
  have he : encodeOffset v = .ok (Nat.log2 v, v &&& (2 ^ Nat.log2 v - 1), Nat.log2 v) := by
    simp [encodeOffset, show v ≠ 0 by omega]
  obtain ⟨hc, hv, hx, _⟩ := Zstd.Proofs.SeqCodes.encodeOffset_roundtrip v _ _ _ h1 h he
  exact ⟨_, _, he, hc, hx, hv⟩

/-- 98047 = 0xFFFF + 0x7F00 is the largest count the three-byte form holds; a block has at most 43 690 sequences -/
theorem encodeSeqnum_ok (n : Nat) (h1 : 1 ≤ n) (h : n ≤ 98047) : ∃ bs, encodeSeqnum n = .ok bs ∧ 1 ≤ bs.length ∧ bs.length ≤ 3 := by
  unfold encodeSeqnum
  simp only [Gen.seqnumArms, Gen.seqnumSub, Gen.seqnumLowFirst]
  by_cases a1 : n ≤ 127
  · exact ⟨[n % 256], by simp [h1, a1], by simp, by simp⟩
  · by_cases a2 : n ≤ 32511
    · have : ¬ (1 ≤ n ∧ n ≤ 127) := by omega
      have h2 : 128 ≤ n ∧ n ≤ 32511 := by omega
      exact ⟨[(n / 256 ||| 128) % 256, n % 256], by simp only [this, h2, and_self, ↓reduceIte], by simp, by simp⟩
    · have n1 : ¬ (1 ≤ n ∧ n ≤ 127) := by omega
      have n2 : ¬ (128 ≤ n ∧ n ≤ 32511) := by omega
      have h3 : 32512 ≤ n ∧ n ≤ 98047 := by omega
      have h4 : ¬ n < 32512 := by omega
      exact ⟨[255, (n - 32512) % 256, (n - 32512) / 256 % 256], by simp only [n1, n2, h3, h4, and_self, ↓reduceIte], by simp, by simp⟩

theorem encodeSeqnum_ne_nil {n : Nat} {bs : List Nat} (h : encodeSeqnum n = .ok bs) : bs ≠ [] := by
  rintro rfl
  simp only [encodeSeqnum, Gen.seqnumArms, Gen.seqnumSub, Gen.seqnumLowFirst] at h
  by_cases a1 : 1 ≤ n ∧ n ≤ 127 <;> by_cases a2 : 128 ≤ n ∧ n ≤ 32511 <;> by_cases a3 : 32512 ≤ n ∧ n ≤ 98047 <;>
    by_cases a4 : n < 32512 <;> simp [a1, a2, a3, a4] at h

end Zstd.Proofs.Enc
