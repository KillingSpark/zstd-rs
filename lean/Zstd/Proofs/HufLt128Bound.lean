import Zstd.Proofs.HufFseContract
import Zstd.Proofs.HufLt128Stream
import Zstd.Proofs.HufTableEval
/-
The analytic size bound of the FSE-compressed weight description: `8 · |Enc.fseWeights ws|` is at most
`boundOf (histogram ws)`, a function of the normalised distribution only (`fseWeights_size`); without running the
normaliser, `boundOf` is at most `139 + 6·|ws|` (`boundOf_le`).
-/
namespace Zstd.Proofs.Huf
open Zstd Zstd.Spec Zstd.Model Zstd.Model.BitIO Zstd.Model.Fse Zstd.Model.Huf Zstd.Proofs.BitIO
open Zstd.Proofs.HufLt128

theorem sum_map_split (f : Nat → Nat) (k : Nat) : ∀ ws : List Nat,
    (ws.map f).sum = ((ws.filter (· ≠ k)).map f).sum + ws.count k * f k
  | [] => by simp
  | x :: xs => by
    rw [List.map_cons, List.sum_cons, sum_map_split f k xs, List.count_cons, List.filter_cons]
    by_cases h : x = k
    · subst h; simp [Nat.add_mul]; omega
    · have : (x == k) = false := by simpa using h
      simp [h, this]; omega

theorem sum_map_eq_count (f : Nat → Nat) : ∀ (K : Nat) (ws : List Nat), (∀ x ∈ ws, x < K) →
    (ws.map f).sum = ((List.range K).map fun v => ws.count v * f v).sum
  | 0, ws, h => by
    cases ws with
    | nil => rfl
    | cons x xs => exact absurd (h x List.mem_cons_self) (Nat.not_lt_zero x)
  | K + 1, ws, h => by
    have hlt : ∀ x ∈ ws.filter (· ≠ K), x < K := fun x hx => by
      obtain ⟨h1, h2⟩ := List.mem_filter.mp hx
      have := h x h1
      simp only [ne_eq, decide_not, Bool.not_eq_eq_eq_not, Bool.not_true, decide_eq_false_iff_not] at h2
      omega
    rw [sum_map_split f K ws, sum_map_eq_count f K _ hlt, List.range_succ, List.map_append, List.sum_append]
    simp only [List.map_cons, List.map_nil, List.sum_cons, List.sum_nil, Nat.add_zero]
    congr 2
    apply List.map_congr_left
    intro v hv
    rw [List.count_filter (by simpa using Nat.ne_of_lt (List.mem_range.mp hv))]

theorem costSum_range (al : Nat) : ∀ (h : List Nat) (p : List Int), h.length = p.length →
    costSum al h p 0 = ((List.range h.length).map fun v => h.getD v 0 * (al - Nat.log2 (p.getD v 0).toNat)).sum
  | [], _, _ => by simp [costSum]
  | c :: cs, [], hl => by simp at hl
  | c :: cs, q :: ps, hl => by
    simp only [List.length_cons] at hl
    simp only [costSum, List.length_cons]
    rw [costSum_acc, costSum_range al cs ps (by omega), List.range_succ_eq_map, List.map_cons, List.sum_cons,
      List.map_map]
    simp only [List.getD_cons_zero, Nat.zero_add]
    congr 1

/-- 4 bits of accuracy log, at most `AL + 3` bits per symbol, at most 7 bits of padding -/
theorem writeTable_len (et : ETable) (al : Nat) (probs : List Int)
    (hal5 : 5 ≤ al) (hal : al ≤ 20)
    (hlen : probs.length ≤ 256) (hge : ∀ p ∈ probs, -1 ≤ p) (hmass : FseTableDesc.mass probs = 2 ^ al)
    (hlast : probs.getLast? ≠ some 0) (hc : FseTableDesc.Carries et al probs)
    {w w' : BitWriter} {L D : List Bool} (hw : WInv w L) (hrun : et.writeTable w = .ok w')
    (hw' : WInv w' (L ++ D)) : D.length ≤ 4 + (al + 3) * probs.length + 7 := by
  obtain ⟨w'', hwt, hinv⟩ := FseTableDesc.writeTable_tableBits et al probs hal5 hal hlen hge hmass hlast hc hw
  rw [hrun] at hwt
  cases hwt
  have e := (WInv_index hinv).symm.trans (WInv_index hw')
  have := FseTableDesc.length_descBits_le (al := al) (by omega) 0 probs
  simp only [List.length_append, FseTableDesc.tableBits, FseTableDesc.padBits, length_bitsOfLE] at e
  omega

theorem boundOf_histogram (ws : List Nat) (hle : ∀ w ∈ ws, w ≤ 11) (hpos : ∃ w ∈ ws, 1 ≤ w) :
    ∃ probs al, Fse.normalize (Fse.histogram ws) 6 true = .ok (probs, al) ∧
      FseNormalize.NormOk (Fse.histogram ws) 6 true probs al ∧
      boundOf (Fse.histogram ws) =
        4 + (al + 3) * probs.length + 7 + (ws.map (symCost al probs)).sum + 2 * al + 8 := by
  obtain ⟨_, _, hhget, hhmem, _⟩ := histogram_weights ws hle hpos
  obtain ⟨_, probs, al, _, _, su⟩ := fseWeights_setup ws (fun w hw => Nat.le_succ_of_le (hle w hw))
    (by obtain ⟨w, hw, _⟩ := hpos; exact List.ne_nil_of_mem hw)
  refine ⟨probs, al, su.norm, su.normOk, ?_⟩
  obtain ⟨_, _, hplen, hpge, _⟩ := su.normOk
  have hcost : (ws.map (symCost al probs)).sum = costSum al (Fse.histogram ws) probs 0 := by
    rw [sum_map_eq_count (symCost al probs) (Fse.histogram ws).length ws hhmem,
      costSum_range al _ _ hplen.symm]
    congr 1
    apply List.map_congr_left
    intro v hv
    have hv' : v < (Fse.histogram ws).length := List.mem_range.mp hv
    rw [hhget v hv']
    congr 1
    unfold symCost FseDecTable.nStates
    have hp0 : 0 ≤ probs.getD v 0 := by
      rcases Nat.lt_or_ge v probs.length with hlt | hge
      · rw [List.getD_eq_getElem?_getD, List.getElem?_eq_getElem hlt]
        exact hpge _ (List.getElem_mem _)
      · rw [List.getD_eq_getElem?_getD, List.getElem?_eq_none hge]; simp
    have : ¬ probs.getD v 0 = -1 := by omega
    simp only [this, if_false]
  unfold boundOf
  rw [su.norm, hcost]

/-- without evaluating the normaliser: the accuracy log is at most 6, so the description of at most 12
symbols takes at most `4 + 9·12 + 7` bits and the stream at most 6 bits per weight plus `12 + 8` -/
theorem boundOf_le (ws : List Nat) (hle : ∀ w ∈ ws, w ≤ 11) (hpos : ∃ w ∈ ws, 1 ≤ w) :
    boundOf (Fse.histogram ws) ≤ 139 + 6 * ws.length := by
  obtain ⟨probs, al, _, ⟨_, hal6, hplen, _⟩, hb⟩ := boundOf_histogram ws hle hpos
  have h12 := (histogram_weights ws hle hpos).2.1
  have hsum : ∀ l : List Nat, (l.map (symCost al probs)).sum ≤ al * l.length := by
    intro l
    induction l with
    | nil => simp
    | cons x xs ih =>
      have : symCost al probs x ≤ al := Nat.sub_le _ _
      simp only [List.map_cons, List.sum_cons, List.length_cons, Nat.mul_succ]; omega
  have h1 : (al + 3) * probs.length ≤ 9 * 12 := Nat.mul_le_mul (by omega) (by omega)
  have h2 : al * ws.length ≤ 6 * ws.length := Nat.mul_le_mul_right _ hal6
  have := hsum ws
  omega

theorem fseWeights_size (ws : List Nat) (h4 : 4 ≤ ws.length)
    (hle : ∀ w ∈ ws, w ≤ 11) (hpos : ∃ w ∈ ws, 1 ≤ w) (bytes : List Nat)
    (hencb : Enc.fseWeights ws = .ok bytes) : 8 * bytes.length ≤ boundOf (Fse.histogram ws) := by
  obtain ⟨et, probs, al, dec, ctr, su⟩ := fseWeights_setup ws (fun w hw => Nat.le_succ_of_le (hle w hw))
    (by obtain ⟨w, hw, _⟩ := hpos; exact List.ne_nil_of_mem hw)
  obtain ⟨hal5, hal6, hplen, hpge, _⟩ := su.normOk
  have hms := su.dist.len
  obtain ⟨probs', al', hnorm', _, hbound⟩ := boundOf_histogram ws hle hpos
  obtain ⟨rfl, rfl⟩ := Prod.mk.inj (Except.ok.inj (su.norm.symm.trans hnorm'))
  have hn5 : Gen.normLogMin = 5 := rfl
  obtain ⟨w1, D, hwt, hw1, hD8, _⟩ := FseTableDesc.write_read_table et al probs (by omega) (by omega) (by omega)
    (fun p hp => by have := hpge p hp; omega) su.dist.mass su.dist.last su.carries WInv_new (by simp)
  have hDlen : D.length ≤ 4 + (al + 3) * probs.length + 7 :=
    writeTable_len et al probs (by omega) (by omega) (by omega) (fun p hp => by have := hpge p hp; omega)
      su.dist.mass su.dist.last su.carries WInv_new hwt hw1
  simp only [List.nil_append] at hw1
  obtain ⟨w2, S, henc, hw2, hDS8, hSlen⟩ :=
    interleaved_len su.coupled (symCost al probs)
      (fun s st _ hg => good_numBits_le su.buildable.valid hms su.decTable rfl hg)
      ws h4 su.dist.usable hw1
  obtain ⟨out, hdump, hbits, _⟩ := bitWriter_dump hw2 (by rw [List.length_append]; exact hDS8)
  have hfse := fseWeights_output su hwt henc hdump
  rw [hencb] at hfse
  simp only [Except.ok.injEq] at hfse
  subst hfse
  have hlenout : 8 * out.toList.length = D.length + S.length := by
    have := congrArg List.length hbits
    rw [length_bitsLE, List.length_append] at this; exact this
  rw [hbound, hlenout]
  omega

end Zstd.Proofs.Huf
