import Zstd.Proofs.HufEnc
/-
`build_from_counts` is shape, scatter, `build_from_weights` (`buildFromCounts_eq`): the scatter loop puts the shape
weights on the symbols that occur, in rank order (`scatter_ok`), so what is handed to `build_from_weights` is a
permutation of the shape and zeros.
-/
namespace Zstd.Proofs.Huf
open Zstd Zstd.Model.Huf

theorem setNat_eq : ∀ (out : List Nat) (i v : Nat), i < out.length → setNat out i v = .ok (out.set i v)
  | [], i, v, h => by simp at h
  | c :: cs, 0, v, _ => rfl
  | c :: cs, i + 1, v, h => by
    rw [setNat, setNat_eq cs i v (by simpa using h)]
    rfl

theorem scatter_cons (idx : Nat) (z : Bool) (rest : List (Nat × Bool)) (ws out : List Nat) (hidx : idx < out.length)
    (hcnt : (((idx, z) :: rest).filter (fun p => !p.2)).length = ws.length) :
    ∃ v ws', (rest.filter (fun p => !p.2)).length = ws'.length ∧
      ((z = true ∧ v = 0 ∧ ws' = ws) ∨ (z = false ∧ ws = v :: ws')) ∧
      scatter ((idx, z) :: rest) ws out = scatter rest ws' (out.set idx v) := by
  cases z with
  | true => exact ⟨0, ws, by simpa using hcnt, Or.inl ⟨rfl, rfl, rfl⟩, by rw [scatter, setNat_eq out idx 0 hidx]⟩
  | false =>
    cases ws with
    | nil => simp at hcnt
    | cons w ws' =>
      exact ⟨w, ws', by simpa using hcnt, Or.inr ⟨rfl, rfl⟩, by rw [scatter, setNat_eq out idx w hidx]⟩

theorem weightSum_perm {a b : List Nat} (h : a.Perm b) : weightSum a = weightSum b := by
  induction h with
  | nil => rfl
  | cons x _ ih => simp only [weightSum, ih]
  | swap x y l => simp only [weightSum]; omega
  | trans _ _ ih1 ih2 => rw [ih1, ih2]

theorem set_zero_perm {v : Nat} : ∀ {out : List Nat} {i : Nat}, out[i]? = some 0 → (0 :: out.set i v).Perm (v :: out)
  | c :: cs, 0, h => by
    obtain rfl : c = 0 := by simpa using h
    exact List.Perm.swap v 0 cs
  | c :: cs, i + 1, h =>
    (List.Perm.swap c 0 _).trans (((set_zero_perm (by simpa using h)).cons c).trans (List.Perm.swap v c cs))

/-- the `Perm` says: the scattered vector is the vector it started from with `|ws|` of its zeros replaced by `ws` -/
theorem scatter_ok : ∀ (order : List (Nat × Bool)) (ws out : List Nat),
    order.Pairwise (fun a b => a.1 ≠ b.1) → (∀ p ∈ order, out[p.1]? = some 0) →
    (order.filter (fun p => !p.2)).length = ws.length →
    ∃ wd, scatter order ws out = .ok wd ∧ wd.length = out.length ∧
      (wd ++ List.replicate ws.length 0).Perm (out ++ ws) ∧
      (∀ p ∈ order, p.2 = true → wd[p.1]? = some 0) ∧
      (∀ p ∈ order, p.2 = false → ∃ w ∈ ws, wd[p.1]? = some w) ∧
      (∀ j, (∀ p ∈ order, p.1 ≠ j) → wd[j]? = out[j]?)
  | [], ws, out, _, _, hcnt => by
    obtain rfl : ws = [] := by simpa using hcnt.symm
    exact ⟨out, rfl, rfl, .refl _, fun _ hp => (nomatch hp), fun _ hp => (nomatch hp), fun _ _ => rfl⟩
  | (idx, z) :: rest, ws, out, hnd, hin, hcnt => by
    rw [List.pairwise_cons] at hnd
    have h0 := hin (idx, z) List.mem_cons_self
    have hlt := (List.getElem?_eq_some_iff.mp h0).1
    obtain ⟨v, ws', hcnt', hv, heq⟩ := scatter_cons idx z rest ws out hlt hcnt
    obtain ⟨wd, r1, r2, r3, r0, r4, r5⟩ := scatter_ok rest ws' (out.set idx v) hnd.2
      (fun p hp => (List.getElem?_set_ne (hnd.1 p hp)).trans (hin p (List.mem_cons_of_mem _ hp))) hcnt'
    -- position `idx` is written in this round and in no later one
    have hidx : wd[idx]? = some v := (r5 idx (fun q hq => (hnd.1 q hq).symm)).trans (List.getElem?_set_self hlt)
    have hset := set_zero_perm (v := v) h0
    refine ⟨wd, heq.trans r1, by rw [r2, List.length_set], ?_, fun p hp hf => ?_, fun p hp hf => ?_, fun j hj => ?_⟩
    · rcases hv with ⟨_, rfl, rfl⟩ | ⟨_, rfl⟩
      · exact r3.trans (hset.cons_inv.append_right ws')
      · rw [List.length_cons, List.replicate_succ', ← List.append_assoc]
        exact (List.perm_append_singleton 0 _).trans ((r3.cons 0).trans
          ((hset.append_right ws').trans List.perm_middle.symm))
    · rcases List.mem_cons.mp hp with rfl | hp
      · rcases hv with ⟨_, rfl, _⟩ | ⟨hz, _⟩
        · exact hidx
        · rw [hz] at hf; cases hf
      · exact r0 p hp hf
    · rcases List.mem_cons.mp hp with rfl | hp
      · rcases hv with ⟨hz, _, _⟩ | ⟨_, rfl⟩
        · rw [hz] at hf; cases hf
        · exact ⟨v, List.mem_cons_self, hidx⟩
      · obtain ⟨x, hx, hx'⟩ := r4 p hp hf
        refine ⟨x, ?_, hx'⟩
        rcases hv with ⟨_, _, rfl⟩ | ⟨_, rfl⟩
        · exact hx
        · exact List.mem_cons_of_mem _ hx
    · rw [r5 j (fun q hq => hj q (List.mem_cons_of_mem _ hq))]
      exact List.getElem?_set_ne (hj (idx, z) List.mem_cons_self)

theorem filter_not_length {α : Type} (l : List α) (f : α → Bool) :
    (l.filter fun p => !f p).length = l.length - (l.filter f).length := by
  induction l with
  | nil => rfl
  | cons x xs ih =>
    have hle : (xs.filter f).length ≤ xs.length := List.length_filter_le _ _
    simp only [List.filter_cons]
    cases f x <;> simp [ih] <;> omega

theorem rankOrder_props (counts : List Nat) :
    (rankOrder counts).Pairwise (fun a b => a.1 ≠ b.1) ∧ (∀ p ∈ rankOrder counts, p.1 < counts.length) ∧
      (rankOrder counts).length = counts.length := by
  unfold rankOrder
  have hperm := stableSort_perm (fun (a b : Nat × Nat) => decide (a.1 ≤ b.1)) counts.zipIdx
  refine ⟨?_, ?_, ?_⟩
  · rw [List.pairwise_map]
    exact (List.Perm.pairwise_iff (fun h => Ne.symm h) hperm).mpr (zipIdx_pairwise_snd counts 0)
  · intro p hp
    obtain ⟨q, hq, rfl⟩ := List.mem_map.mp hp
    have := (List.mem_zipIdx (x := q.1) (i := q.2) (hperm.mem_iff.mp hq)).2.1
    simpa using this
  · rw [List.length_map, hperm.length_eq]; simp

theorem rankOrder_mem (counts : List Nat) (i : Nat) (h : i < counts.length) :
    (i, counts[i] == 0) ∈ rankOrder counts := by
  unfold rankOrder
  have hperm := stableSort_perm (fun (a b : Nat × Nat) => decide (a.1 ≤ b.1)) counts.zipIdx
  exact List.mem_map.mpr ⟨(counts[i], i),
    hperm.mem_iff.mpr (List.mk_mem_zipIdx_iff_getElem?.mpr (List.getElem?_eq_getElem h)), rfl⟩

theorem weightSum_replicate_zero (k : Nat) : weightSum (List.replicate k 0) = 0 := by
  induction k with
  | zero => rfl
  | succ k ih => simp [List.replicate_succ, weightSum, ih]

theorem length_le_weightSum : ∀ {l : List Nat}, (∀ w ∈ l, 1 ≤ w) → l.length ≤ weightSum l
  | [], _ => Nat.zero_le _
  | x :: xs, hl => by
    have hx : 1 ≤ x := hl x List.mem_cons_self
    have := length_le_weightSum (fun w hw => hl w (List.mem_cons_of_mem _ hw))
    have hp := Nat.two_pow_pos (x - 1)
    simp only [weightSum, List.length_cons]
    rw [if_pos (by omega)]; omega

theorem weightSum_ge_of_mem {ws : List Nat} (h1 : ∀ w ∈ ws, 1 ≤ w) {w : Nat} (hw : w ∈ ws) :
    2 ^ (w - 1) + (ws.length - 1) ≤ weightSum ws := by
  induction ws with
  | nil => cases hw
  | cons x xs ih =>
    have hx : 1 ≤ x := h1 x List.mem_cons_self
    have hxs : ∀ w ∈ xs, 1 ≤ w := fun w hw => h1 w (List.mem_cons_of_mem _ hw)
    simp only [weightSum, List.length_cons]
    rw [if_pos (by omega)]
    rcases List.mem_cons.mp hw with rfl | hw
    · have := length_le_weightSum hxs; omega
    · have := ih hxs hw
      have hp := Nat.two_pow_pos (x - 1)
      have : 1 ≤ xs.length := List.length_pos_of_mem hw
      omega

theorem buildFromRank_eq (len : Nat) (order : List (Nat × Bool)) (hlen : len ≤ 256) :
    buildFromRank len order =
      match shape (len - (order.filter (·.2)).length) with
      | .error f => .error f
      | .ok ws =>
        match scatter order ws (List.replicate len 0) with
        | .error f => .error f
        | .ok wd => buildFromWeights wd := by
  have hlenok : Gen.hufCountsLenOk len Gen.hufMaxCounts = true := by
    simp only [Gen.hufCountsLenOk, Gen.hufMaxCounts]; exact decide_eq_true hlen
  unfold buildFromRank
  rw [hlenok]
  rfl

theorem buildFromCounts_eq (counts : List Nat) (hlen : counts.length ≤ 256) :
    buildFromCounts counts =
      match shape (counts.length - ((rankOrder counts).filter (·.2)).length) with
      | .error f => .error f
      | .ok ws =>
        match scatter (rankOrder counts) ws (List.replicate counts.length 0) with
        | .error f => .error f
        | .ok wd => buildFromWeights wd :=
  buildFromRank_eq counts.length (rankOrder counts) hlen

end Zstd.Proofs.Huf
