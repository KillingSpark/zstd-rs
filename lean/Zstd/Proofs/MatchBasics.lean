import Zstd.Model.MatchGenerator
/-
The match finder: `mismatch_chunks` computes the maximal common prefix; what a candidate reported by
`candOf` / `findCandidate` means (`GoodCand` in one window entry, `GoodIn` in the window).  Nothing here
depends on the hash function or on the content of the suffix stores.
-/
namespace Zstd.Proofs.MG
open Zstd Zstd.Model.MG

theorem minMatchLen_pos : 0 < minMatchLen := by decide

/-- a number `r` is the length of the maximal common prefix of `a[i..ihi]` and `b[j..jhi]` -/
def IsMaxCommonPrefix (a : Array Byte) (i ihi : Nat) (b : Array Byte) (j jhi : Nat) (r : Nat) : Prop :=
  i + r ≤ ihi ∧ j + r ≤ jhi ∧ (∀ k, k < r → a[i + k]? = b[j + k]?) ∧
  (i + r = ihi ∨ j + r = jhi ∨ a[i + r]? ≠ b[j + r]?)

theorem isMaxCommonPrefix_unique {a : Array Byte} {i ihi : Nat} {b : Array Byte} {j jhi r1 r2 : Nat}
    (h1 : IsMaxCommonPrefix a i ihi b j jhi r1) (h2 : IsMaxCommonPrefix a i ihi b j jhi r2) : r1 = r2 := by
  obtain ⟨a1, a2, a3, a4⟩ := h1
  obtain ⟨b1, b2, b3, b4⟩ := h2
  rcases Nat.lt_trichotomy r1 r2 with h | h | h
  · rcases a4 with h' | h' | h'
    · omega
    · omega
    · exact absurd (b3 r1 h) h'
  · exact h
  · rcases b4 with h' | h' | h'
    · omega
    · omega
    · exact absurd (a3 r2 h) h'

theorem IsMaxCommonPrefix.zero {a : Array Byte} {i ihi : Nat} {b : Array Byte} {j jhi : Nat}
    (hi : i ≤ ihi) (hj : j ≤ jhi) (h : i = ihi ∨ j = jhi ∨ a[i]? ≠ b[j]?) : IsMaxCommonPrefix a i ihi b j jhi 0 :=
  ⟨hi, hj, fun k hk => absurd hk (Nat.not_lt_zero k), h⟩

theorem eqBytes_add {a b : Array Byte} {i j n m : Nat} (hn : ∀ k, k < n → a[i + k]? = b[j + k]?)
    (hm : ∀ k, k < m → a[i + n + k]? = b[j + n + k]?) : ∀ k, k < n + m → a[i + k]? = b[j + k]? := by
  intro k hk
  by_cases hkn : k < n
  · exact hn k hkn
  · have := hm (k - n) (by omega)
    rwa [show i + n + (k - n) = i + k by omega, show j + n + (k - n) = j + k by omega] at this

theorem IsMaxCommonPrefix.add {a : Array Byte} {i ihi : Nat} {b : Array Byte} {j jhi n r : Nat}
    (h : IsMaxCommonPrefix a (i + n) ihi b (j + n) jhi r) (hn : ∀ k, k < n → a[i + k]? = b[j + k]?) :
    IsMaxCommonPrefix a i ihi b j jhi (n + r) := by
  obtain ⟨h1, h2, h3, h4⟩ := h
  exact ⟨by omega, by omega, eqBytes_add hn h3, by simpa only [Nat.add_assoc] using h4⟩

theorem cplAux_isMax (a b : Array Byte) (ihi jhi : Nat) (ha : ihi ≤ a.size) (hb : jhi ≤ b.size) :
    ∀ (f i j acc : Nat), ihi - i ≤ f → i ≤ ihi → j ≤ jhi →
      ∃ r, cplAux a b ihi jhi f i j acc = acc + r ∧ IsMaxCommonPrefix a i ihi b j jhi r := by
  intro f
  induction f with
  | zero => intro i j acc hf hi hj; exact ⟨0, rfl, .zero hi hj (by omega)⟩
  | succ f ih =>
    intro i j acc hf hi hj
    by_cases hlt : i < ihi ∧ j < jhi
    · have hia : i < a.size := by omega
      have hjb : j < b.size := by omega
      have hx : a[i]? = some a[i] := Array.getElem?_eq_getElem hia
      have hy : b[j]? = some b[j] := Array.getElem?_eq_getElem hjb
      by_cases hxy : a[i] = b[j]
      · obtain ⟨r, hr, hm⟩ := ih (i + 1) (j + 1) (acc + 1) (by omega) (by omega) (by omega)
        refine ⟨1 + r, by simp only [cplAux, hlt, hx, hy, hxy, hr, and_self, ↓reduceIte]; omega, hm.add ?_⟩
        intro k hk
        obtain rfl : k = 0 := by omega
        simp only [Nat.add_zero, hx, hy, hxy]
      · exact ⟨0, by simp only [cplAux, hlt, hx, hy, hxy, and_self, ↓reduceIte]; rfl,
          .zero hi hj (.inr (.inr (by simpa only [hx, hy, ne_eq, Option.some.injEq] using hxy)))⟩
    · exact ⟨0, by simp only [cplAux, hlt, ↓reduceIte]; rfl, .zero hi hj (by omega)⟩

theorem commonPrefixLen_isMax (a : Array Byte) (i ihi : Nat) (b : Array Byte) (j jhi : Nat)
    (ha : ihi ≤ a.size) (hb : jhi ≤ b.size) (hi : i ≤ ihi) (hj : j ≤ jhi) :
    IsMaxCommonPrefix a i ihi b j jhi (commonPrefixLen a i ihi b j jhi) := by
  obtain ⟨r, hr, hm⟩ := cplAux_isMax a b ihi jhi ha hb (ihi - i) i j 0 (Nat.le_refl _) hi hj
  rw [commonPrefixLen, hr, Nat.zero_add]
  exact hm

theorem chunkEq_sound (a b : Array Byte) : ∀ (n i j : Nat), chunkEq a b n i j = true →
    ∀ k, k < n → a[i + k]? = b[j + k]? := by
  intro n
  induction n with
  | zero => intro i j _ k hk; omega
  | succ n ih =>
    intro i j h k hk
    unfold chunkEq at h
    split at h
    · rename_i x y hx hy
      simp only [Bool.and_eq_true, decide_eq_true_eq] at h
      cases k with
      | zero => simp [hx, hy, h.1]
      | succ k =>
        have := ih (i + 1) (j + 1) h.2 k (by omega)
        simpa [Nat.add_assoc, Nat.add_comm 1 k] using this
    · simp at h

theorem chunkPhase_sound (N : Nat) (a b : Array Byte) (ihi jhi : Nat) :
    ∀ (f i j cnt : Nat), i ≤ ihi → j ≤ jhi →
      ∃ c, chunkPhase N a b ihi jhi f i j cnt = cnt + c ∧ i + c * N ≤ ihi ∧ j + c * N ≤ jhi ∧
        ∀ k, k < c * N → a[i + k]? = b[j + k]? := by
  intro f
  induction f with
  | zero => intro i j cnt hi hj; exact ⟨0, rfl, by omega, by omega, by omega⟩
  | succ f ih =>
    intro i j cnt hi hj
    by_cases hc : i + N ≤ ihi ∧ j + N ≤ jhi ∧ chunkEq a b N i j = true
    · obtain ⟨c, hr, h2, h3, h4⟩ := ih (i + N) (j + N) (cnt + 1) hc.1 hc.2.1
      refine ⟨c + 1, by simp only [chunkPhase, hc, hr, and_self, ↓reduceIte]; omega, ?_, ?_, ?_⟩
      all_goals rw [Nat.add_one_mul, Nat.add_comm (c * N)]
      · omega
      · omega
      · exact eqBytes_add (chunkEq_sound a b N i j hc.2.2) h4
    · exact ⟨0, by simp only [chunkPhase, hc, ↓reduceIte]; rfl, by omega, by omega, by omega⟩

theorem mismatchChunks_isMax (N : Nat) (a : Array Byte) (i ihi : Nat) (b : Array Byte) (j jhi : Nat)
    (ha : ihi ≤ a.size) (hb : jhi ≤ b.size) (hi : i ≤ ihi) (hj : j ≤ jhi) :
    IsMaxCommonPrefix a i ihi b j jhi (mismatchChunks N a i ihi b j jhi) := by
  obtain ⟨c, hc, h2, h3, h4⟩ := chunkPhase_sound N a b ihi jhi (ihi - i) i j 0 hi hj
  simp only [mismatchChunks, hc, Nat.zero_add]
  exact (commonPrefixLen_isMax a (i + c * N) ihi b (j + c * N) jhi ha hb h2 h3).add h4

theorem mismatchChunks_eq_commonPrefixLen (N : Nat) (a : Array Byte) (i ihi : Nat) (b : Array Byte) (j jhi : Nat)
    (ha : ihi ≤ a.size) (hb : jhi ≤ b.size) (hi : i ≤ ihi) (hj : j ≤ jhi) :
    mismatchChunks N a i ihi b j jhi = commonPrefixLen a i ihi b j jhi :=
  isMaxCommonPrefix_unique (mismatchChunks_isMax N a i ihi b j jhi ha hb hi hj)
    (commonPrefixLen_isMax a i ihi b j jhi ha hb hi hj)

/-- What a candidate `(offset, match_len)` reported for position `s` of the current block `cur` means in the
window entry it was found in (`ed` = data, `eb` = base offset, `isLast` = it is the current block itself); the
source slice ends before `s` (`data[match_index..suffix_idx]`) or at the end of an older entry. -/
def GoodCand (cur : Array Byte) (s : Nat) (ed : Array Byte) (eb : Nat) (isLast : Bool) (c : Nat × Nat) : Prop :=
  ∃ mi, c.1 = eb + s - mi ∧ mi ≤ eb + s ∧ minMatchLen ≤ c.2 ∧
    mi + c.2 ≤ (if isLast then s else ed.size) ∧ (if isLast then s else ed.size) ≤ ed.size ∧
    s + c.2 ≤ cur.size ∧ ∀ k, k < c.2 → ed[mi + k]? = cur[s + k]?

theorem better_cases (old : Option (Nat × Nat)) (new : Nat × Nat) :
    better old new = some new ∨ (better old new = old ∧ old ≠ none) := by
  unfold better
  split
  · simp
  · split
    · simp
    · simp

/-- data and base offset of every entry: all that the meaning of a candidate depends on -/
abbrev Shape := List (Array Byte × Nat)
def shape (w : List Entry) : Shape := w.map (fun e => (e.data, e.baseOffset))

@[simp] theorem shape_nil : shape [] = [] := rfl
@[simp] theorem shape_cons (e : Entry) (w : List Entry) : shape (e :: w) = (e.data, e.baseOffset) :: shape w := rfl
@[simp] theorem shape_append (a b : List Entry) : shape (a ++ b) = shape a ++ shape b := by simp [shape]
@[simp] theorem shape_length (w : List Entry) : (shape w).length = w.length := by simp [shape]

/-- `c = (offset, match_len)` is a good candidate (`GoodCand`) for position `s` of the block `cur` with respect to
SOME entry of the window `w`, the last entry counting as the block itself.  This is what the reported sequences
are described in (`StepOut`, `Parse`); `goodIn_bytes` turns it into equal bytes of the retained window. -/
def GoodIn (cur : Array Byte) (s : Nat) (w : Shape) (c : Nat × Nat) : Prop :=
  ∃ pre ed eb post, w = pre ++ (ed, eb) :: post ∧ GoodCand cur s ed eb post.isEmpty c

theorem GoodIn.cons {cur : Array Byte} {s : Nat} {w : Shape} {c : Nat × Nat} (x : Array Byte × Nat)
    (h : GoodIn cur s w c) : GoodIn cur s (x :: w) c := by
  obtain ⟨pre, ed, eb, post, hw, hg⟩ := h
  exact ⟨x :: pre, ed, eb, post, by rw [hw, List.cons_append], hg⟩

theorem GoodIn.len {cur : Array Byte} {s : Nat} {w : Shape} {c : Nat × Nat} (h : GoodIn cur s w c) :
    minMatchLen ≤ c.2 ∧ s + c.2 ≤ cur.size := by
  obtain ⟨pre, ed, eb, post, -, mi, -, -, h3, -, -, h6, -⟩ := h
  exact ⟨h3, h6⟩

theorem GoodIn.pos {cur : Array Byte} {s : Nat} {w : Shape} {off ml : Nat} (h : GoodIn cur s w (off, ml)) : 0 < ml :=
  Nat.lt_of_lt_of_le minMatchLen_pos h.len.1

end Zstd.Proofs.MG
