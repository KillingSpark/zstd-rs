import Zstd.Proofs.BitIO
import Zstd.Proofs.FseStreamInter
import Zstd.Proofs.FseCoupled
import Zstd.Proofs.FseDecTable
/-
Size of the interleaved FSE stream (`FSEEncoder::encode_interleaved`, stream part): every encoder step
for a symbol `x` writes the `numBits` of a state of `x`, at most `AL − ⌊log₂ p_x⌋` (closed form of the
table); then two state indices of `AL` bits and an end mark of at most 8 bits.  The bound does not
depend on the order of the symbols.
-/
namespace Zstd.Proofs.Huf
open Zstd Zstd.Spec Zstd.Model.BitIO Zstd.Model.Fse Zstd.Proofs.BitIO Zstd.Proofs.FseStream Zstd.Proofs.FseStreamInter

/-- per-symbol cost: an upper bound for the number of bits of any state of `s` -/
def symCost (al : Nat) (probs : List Int) (s : Nat) : Nat := al - Nat.log2 (FseDecTable.nStates probs s)

variable {et : ETable} {dt : DTable} {al : Nat}

theorem good_numBits_le {probs : List Int} {maxSymbol : Nat} {dec : Array DEntry} {ctr : Array Nat}
    (hv : FseDecTable.ValidDist al probs) (hms : probs.length ≤ maxSymbol + 1)
    (hdec : buildDecodingTableCore al probs.toArray maxSymbol = .ok (dec, ctr)) (hdt : dt.decode = dec)
    {s : Nat} {st : EState} (hg : Good dt al s st) : st.numBits ≤ symCost al probs s := by
  obtain ⟨syms, hL, rfl⟩ := FseDecTable.dec_eq hv hms hdec
  obtain ⟨hidx, hget, _⟩ := hg
  rw [hdt, FseDecTable.decOf_getElem? probs syms hidx] at hget
  have he := Option.some.inj hget
  have hk := hL.rank_lt hidx
  have hs : syms.getD st.index 0 = s := congrArg DEntry.symbol he
  rw [← show (FseDecTable.finEntry al probs syms st.index).numBits = st.numBits from congrArg DEntry.numBits he, ← hs]
  exact FseFin.rfcEntry_numBits_le al _ _ (by omega)

theorem interleaved_len {usable : Nat → Prop} (hc : Coupled2 et dt al usable) (cost : Nat → Nat)
    (hcost : ∀ s st, usable s → Good dt al s st → st.numBits ≤ cost s)
    (data : List Nat) (h4 : 4 ≤ data.length) (hu : ∀ x ∈ data, usable x)
    {w : BitWriter} {L : List Bool} (hw : WInv w L) :
    ∃ w' S, encodeInterleavedStream et w data = .ok w' ∧ WInv w' (L ++ S) ∧ (L.length + S.length) % 8 = 0 ∧
      S.length ≤ (data.map cost).sum + 2 * al + 8 := by
  obtain ⟨ys, c2, c1, rfl⟩ := split_last2 data (by omega)
  have hn : (ys.reverse ++ [c2, c1]).length = ys.length + 2 := by simp
  rw [hn] at h4
  obtain ⟨s1, hs1, hg1⟩ := hc.start c1 (hu c1 (by simp))
  obtain ⟨s2, hs2, hg2⟩ := hc.start c2 (hu c2 (by simp))
  -- every state the run enters is a state of a usable symbol
  have h := EncOK.ofCoupled hc.toCoupled
  obtain ⟨w', p, q, F, m, hrun, hm1, hm8, henc, hinv, hal8⟩ :=
    encodeInterleaved_run (G := fun s st => usable s ∧ Good dt al s st)
      ⟨h.al_le, h.encLog, fun s st g => h.good s st g.2,
        fun s idx hs hi => (h.next s idx hs hi).imp fun _ g => ⟨g.1, g.2.1, g.2.2.1, hs, g.2.2.2⟩⟩
      ys c2 c1 (by omega) (fun y hy => hu y (by simp [hy])) hs1 hs2 hg1.1 hg2.1 hw
  refine ⟨w', _, henc, hinv, hal8, ?_⟩
  have := hrun.length_le cost (fun s st g => hcost s st g.1 g.2)
  simp only [List.length_append, length_bitsOfLE, List.map_append, List.sum_append, List.map_reverse,
    List.sum_reverse, List.map_cons, List.sum_cons, List.map_nil, List.sum_nil]
  omega

end Zstd.Proofs.Huf
