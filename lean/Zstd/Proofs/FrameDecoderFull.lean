import Zstd.Proofs.FrameDecoderConcat
/-
The full statements over frames the Spec accepts:
* `decode_all` on exactly one valid frame delivers exactly its content (`Segment.Valid` of a Spec-valid
  frame: closes C01 through the multi-frame entry point);
* documented programs over the WHOLE driver grammar (`FOp`, `runFull`, `FullDocOk`: drains, `decode_blocks`,
  `StreamingDecoder::read`, `decode_from_to` with any chunking; invariant `FullInv` = `FrameInv` or `Pending`) — C06
  `schedule_independent_full`.
-/
set_option linter.unusedSectionVars false
namespace Zstd.Model
open Zstd

variable {σ : Type} [BlockDec σ] [BlockContract σ] [RefinesSpec σ]

/-- how many bytes `read` may hand out (the `let avail` of `Decoder.read`): everything once the frame is finished,
before that what exceeds the window -/
def FState.avail (st : FState σ) : Nat :=
  if st.finished then st.buf.content.size else st.buf.canDrainToWindow.getD 0

theorem Decoder.read_some (d : Decoder σ) (st : FState σ) (hst : d.state = some st) (n : Nat) :
    d.read n = ({ d with state := some { st with buf := (st.buf.take (min st.avail n)).2 } },
                (st.buf.take (min st.avail n)).1) := by
  simp only [Decoder.read, hst, FState.avail]

theorem FState.avail_le (st : FState σ) : st.avail ≤ st.buf.content.size := by
  simp only [FState.avail, DBuf.canDrainToWindow_getD]
  split <;> omega

theorem Decoder.read_all (d : Decoder σ) (st : FState σ) (hst : d.state = some st) (n : Nat)
    (hn : st.buf.content.size ≤ n) (hfin : d.isFinished = st.finished) :
    (d.read n).1.canCollect = 0 ∧ (d.read n).1.isFinished = d.isFinished ∧
    (d.read n).1.hashed = d.hashed ++ (d.read n).2 ∧ (d.read n).2.size ≤ st.buf.content.size ∧
    (d.isFinished = true → (d.read n).1.content = #[]) := by
  have hav := st.avail_le
  have hmin : min st.avail n = st.avail := by omega
  rw [Decoder.read_some d st hst n, hmin]
  have hif : ({ d with state := some { st with buf := (st.buf.take st.avail).2 } } : Decoder σ).isFinished = d.isFinished := by
    simp only [Decoder.isFinished, hst]
  refine ⟨?_, hif, ?_, ?_, ?_⟩
  · simp only [Decoder.canCollect, hif, hfin]
    cases hf : st.finished with
    | true =>
      simp only [if_true, DBuf.take_content_size, FState.avail, hf]
      omega
    | false =>
      simp only [Bool.false_eq_true, if_false, DBuf.canDrainToWindow_getD, DBuf.take_content_size,
        DBuf.take_window, FState.avail, hf]
      omega
  · simp only [Decoder.hashed, hst, DBuf.take_hashed]
  · simp only [DBuf.take_fst_size]; omega
  · intro h
    rw [hfin] at h
    simp only [Decoder.content]
    apply Array.eq_empty_of_size_eq_zero
    simp only [DBuf.take_content_size, FState.avail, h, if_true]
    omega

/-- the per-frame loop of `decode_all`, started anywhere inside a frame the Spec accepts; `X` = the rest of the content -/
theorem decodeAllFrame_frameInv {out' : Array Nat} {sEnd : Src} {cons : Nat} {cks : Option Nat} (fuel : Nat)
    (d : Decoder σ) (s : Src) (room : Nat) (out : Array Nat)
    (h : FrameInv out' sEnd cons cks d s) (hnd : d.blocksDone = false) (hfuel : s.length < fuel)
    (hroom : out'.size ≤ d.hashed.size + room) :
    ∃ d2 X, decodeAllFrame fuel d s room out = (d2, .ok (sEnd, room - X.size, out ++ X)) ∧ d.hashed ++ X = out' ∧
      d2.dicts = d.dicts ∧ d2.maxWindow = d.maxWindow := by
  induction fuel generalizing d s room out with
  | zero => omega
  | succ fuel ih =>
    obtain ⟨d1, s1, hdb, hinv1, hprog, hdi1, hmw1, -, hh1⟩ := h.blocks_ok hnd (.uptoBytes (1024 * 1024))
    obtain ⟨st1, tail1, hst1, hfin1, hpre1, hdone1⟩ := hinv1.facts
    have hsz1 : st1.buf.content.size ≤ room := by
      have hsz := congrArg Array.size hpre1
      simp only [Array.size_append] at hsz
      have : d1.hashed.size = st1.buf.hashed.size := by simp [Decoder.hashed, hst1]
      have hh1s := congrArg Array.size hh1
      omega
    obtain ⟨hcc, hif2, hh2, hgs, hempty⟩ := Decoder.read_all d1 st1 hst1 room hsz1 hfin1
    have hinv2 : FrameInv out' sEnd cons cks (d1.read room).1 s1 := hinv1.drain (.read room)
    have hcfg2 : (d1.read room).1.dicts = d1.dicts ∧ (d1.read room).1.maxWindow = d1.maxWindow := by
      rw [Decoder.read_some d1 st1 hst1 room]; exact ⟨rfl, rfl⟩
    rw [decodeAllFrame, hdb]
    simp only [hcc, ne_eq, not_true_eq_false, if_false]
    by_cases hfin : (d1.read room).1.isFinished = true
    · rw [if_pos hfin]
      rw [hif2, hfin1] at hfin
      obtain ⟨htail, hs1, -, -⟩ := hdone1 hfin
      refine ⟨_, (d1.read room).2, by rw [hs1], ?_, by rw [hcfg2.1, hdi1], by rw [hcfg2.2, hmw1]⟩
      -- everything is delivered: hashed = out'
      obtain ⟨st2, tail2, hst2, hfin2, hpre2, hdone2⟩ := hinv2.facts
      obtain ⟨ht2, -⟩ := hdone2 (by rw [← hfin2, hif2, hfin1, hfin])
      have hc2 : st2.buf.content = #[] := by
        simpa [Decoder.content, hst2] using hempty (by rw [hfin1, hfin])
      have hh2' : (d1.read room).1.hashed = st2.buf.hashed := by simp [Decoder.hashed, hst2]
      rw [hpre2, hc2, ht2, ← hh2', hh2, hh1]; simp
    · rw [if_neg hfin]
      have hnf2 : (d1.read room).1.isFinished = false := by simpa using hfin
      have hlt : s1.length < s.length := by
        rcases hprog with h | h
        · exact h
        · rw [hif2] at hnf2; rw [h] at hnf2; cases hnf2
      have hnd2 : (d1.read room).1.blocksDone = false := by
        obtain ⟨st2, tail2, hst2, hfin2, -, -⟩ := hinv2.facts
        simp only [Decoder.blocksDone, hst2]
        rw [← hfin2]; exact hnf2
      have hroom2 : out'.size ≤ (d1.read room).1.hashed.size + (room - (d1.read room).2.size) := by
        rw [hh2, hh1, Array.size_append]; omega
      obtain ⟨d3, X, hrun, hX, hdi3, hmw3⟩ := ih (d1.read room).1 s1 (room - (d1.read room).2.size) (out ++ (d1.read room).2)
        hinv2 hnd2 (by omega) hroom2
      refine ⟨d3, (d1.read room).2 ++ X, ?_, ?_, by rw [hdi3, hcfg2.1, hdi1], by rw [hmw3, hcfg2.2, hmw1]⟩
      · rw [hrun, Array.size_append, Array.append_assoc, Nat.sub_sub]
      · rw [← hX, hh2, hh1, Array.append_assoc]

/-- ties `Segment.Valid` (C10's `decodeAll_concat`) to `Spec.decodeFrame` -/
theorem segment_valid_of_spec (d : Decoder σ) (sdicts : List Spec.Dict) (hdc : DictsCoupled d.dicts sdicts)
    (f : List Nat) (hb : ∀ x ∈ f, x < 256) (r : Spec.FrameResult)
    (hs : Spec.decodeFrame f sdicts = some r) (hlim : r.header.window ≤ d.maxWindow) (hcons : r.consumed = f.length) :
    (Segment.frame f r.content.toArray).Valid d.dicts d.maxWindow := by
  obtain ⟨d0, rest, hres, hh0, hinv, -⟩ := frameInv_of_decodeFrame d sdicts hdc f hb r hs hlim
  obtain ⟨st, rfl, hrc, hf⟩ := Decoder.reset_ok d d0 f rest hres
  have hnd : ({ d with state := some st } : Decoder σ).blocksDone = false := hf.finished
  have hend : f.drop r.consumed = [] := by rw [hcons]; simp
  rw [hend] at hinv
  obtain ⟨d2, X, hrun, hX, -, -⟩ := decodeAllFrame_frameInv (rest.length + 2) _ rest r.content.toArray.size #[]
    hinv hnd (by omega) (by rw [hh0]; simp)
  rw [hh0, Array.empty_append] at hX
  subst hX
  refine ⟨st, rest, d2, hrc, ?_⟩
  have : ({ state := some st, dicts := d.dicts, maxWindow := d.maxWindow } : Decoder σ) = { d with state := some st } := rfl
  rw [this, hrun]
  simp

theorem Decoder.decodeAll_valid_frame (d : Decoder σ) (sdicts : List Spec.Dict) (hdc : DictsCoupled d.dicts sdicts)
    (f : List Nat) (hb : ∀ x ∈ f, x < 256) (r : Spec.FrameResult)
    (hs : Spec.decodeFrame f sdicts = some r) (hlim : r.header.window ≤ d.maxWindow) (hcons : r.consumed = f.length)
    (room : Nat) (hroom : r.content.length ≤ room) :
    ∃ d', d.decodeAll f room = (d', .ok r.content.toArray) := by
  have hv := segment_valid_of_spec d sdicts hdc f hb r hs hlim hcons
  have := Decoder.decodeAll_concat [Segment.frame f r.content.toArray] d
    (fun sg hsg => by simp only [List.mem_singleton] at hsg; rw [hsg]; exact hv) room
    (by simpa [totalContent, Segment.content] using hroom)
  simpa [totalBytes, totalContent, Segment.bytes, Segment.content] using this

theorem Decoder.collect_finished (d : Decoder σ) (st : FState σ) (hst : d.state = some st) (hfin : d.isFinished = true) :
    (d.collect).2 = some st.buf.content ∧ (d.collect).1.canCollect = 0 := by
  have hfin' := hfin
  simp only [Decoder.isFinished, hst] at hfin'
  constructor
  · simp [Decoder.collect, hst, hfin, DBuf.take]
  · simp only [Decoder.collect, hst, if_true, DBuf.take, Decoder.canCollect, Decoder.isFinished, hfin']
    simp

theorem Decoder.reset_blocks_collect_valid_frame (d : Decoder σ) (sdicts : List Spec.Dict) (hdc : DictsCoupled d.dicts sdicts)
    (f : List Nat) (hb : ∀ x ∈ f, x < 256) (r : Spec.FrameResult)
    (hs : Spec.decodeFrame f sdicts = some r) (hlim : r.header.window ≤ d.maxWindow) :
    ∃ d0 rest d1, d.reset f = (d0, .ok rest) ∧ d0.decodeBlocks rest .all = (d1, .ok (f.drop r.consumed, true)) ∧
      d1.isFinished = true ∧ (d1.collect).2 = some r.content.toArray ∧ (d1.collect).1.canCollect = 0 := by
  obtain ⟨d0, d1, rest, st1, hres, hdb, hst1, hcont, hfin, -⟩ := decodeFrame_refines d sdicts hdc f hb r hs hlim
  obtain ⟨hc1, hc2⟩ := Decoder.collect_finished d1 st1 hst1 hfin
  refine ⟨d0, rest, d1, hres, hdb, hfin, ?_, hc2⟩
  rw [hc1, ← hcont]

/-- `blockLoop_sim` for `decode_from_to`, given the chunk `bytes.take k`: it decodes the complete blocks the chunk holds -/
theorem decodeFromToLoop_sim (d : Array Nat) (fuelS fuel k : Nat) (bytes : List Nat)
    (hb : ∀ x ∈ bytes, x < 256) (e : Spec.Entropy) (st : FState σ) (out out' : Array Nat) (consumed consumed' : Nat)
    (hfuel : (bytes.take k).length < fuel) (hf : Sim d st e out)
    (hs : Spec.decodeBlocks st.buf.window st.buf.dict fuelS bytes e out consumed = some (out', consumed')) :
    (∃ st1 n e1 out1 fuelS1, n ≤ k ∧ n ≤ bytes.length ∧
        decodeFromToLoop fuel st (bytes.take k) = (st1, .ok ()) ∧ Sim d st1 e1 out1 ∧
        Spec.decodeBlocks st.buf.window st.buf.dict fuelS1 (bytes.drop n) e1 out1 (consumed + n) = some (out', consumed') ∧
        FollowStep st st1 n) ∨
    (∃ st' n, consumed' = consumed + n ∧ n ≤ k ∧ n ≤ bytes.length ∧
        decodeFromToLoop fuel st (bytes.take k) = finishFromTo st' ((bytes.take k).drop n) ∧
        d ++ st'.buf.content = out' ∧ FollowStep st st' n) := by
  have h := blockLoop_sim (guard := blockComplete) (stop := fun _ => false) (fin := finishFromTo) (ret := fun _ => ())
    d fuelS fuel k bytes (.inl (fun _ h => h)) hb e st out out' consumed consumed' hfuel hf hs
  rw [← decodeFromToLoop_eq] at h
  rcases h with ⟨st1, n, e1, out1, fS, hnk, hn, hrun, hf1, hs1, hfs, -⟩ | h
  · exact .inl ⟨st1, n, e1, out1, fS, hnk, hn, hrun, hf1, hs1, hfs⟩
  · exact .inr h

/-- the one state of a valid frame that `FrameInv` does not cover, reachable only through
`decode_from_to` with a chunk that ends between the last block and the checksum: all blocks are in, the
four checksum bytes are still in the source -/
def Pending (out' : Array Nat) (cons : Nat) (cks : Option Nat) (d : Decoder σ) (s : Src) : Prop :=
  ∃ st, d.state = some st ∧ st.finished = true ∧ st.checksum = none ∧ st.header.checksumFlag = true ∧
    st.buf.hashed ++ st.buf.content = out' ∧ s.length = 4 ∧ cks = some (leNat s) ∧ st.bytesRead + 4 = cons

/-- the invariant of a decoder working through a frame the Spec accepts, the input being exactly the
frame, under ANY mix of the four kinds of calls -/
def FullInv (out' : Array Nat) (cons : Nat) (cks : Option Nat) (d : Decoder σ) (s : Src) : Prop :=
  FrameInv out' [] cons cks d s ∨ Pending out' cons cks d s

theorem Pending.drain {out' : Array Nat} {cons : Nat} {cks : Option Nat} {d : Decoder σ} {s : Src}
    (h : Pending out' cons cks d s) (op : DrainOp) : Pending out' cons cks (applyDrain d op).1 s := by
  obtain ⟨st, hst, h1, h2, h3, h4, h5, h6, h7⟩ := h
  rcases applyDrain_take d op with ⟨hn, -⟩ | ⟨st', k, hs', hk, -, he⟩
  · rw [hst] at hn; cases hn
  · rw [hst] at hs'; cases hs'
    rw [he]
    refine ⟨_, rfl, h1, h2, h3, ?_, h5, h6, h7⟩
    simp only [DBuf.take_hashed]
    rw [Array.append_assoc, DBuf.take_partition]; exact h4

theorem FullInv.drain {out' : Array Nat} {cons : Nat} {cks : Option Nat} {d : Decoder σ} {s : Src}
    (h : FullInv out' cons cks d s) (op : DrainOp) : FullInv out' cons cks (applyDrain d op).1 s := by
  rcases h with h | h
  · exact Or.inl (h.drain op)
  · exact Or.inr (h.drain op)

theorem FullInv.prefix {out' : Array Nat} {cons : Nat} {cks : Option Nat} {d : Decoder σ} {s : Src}
    (h : FullInv out' cons cks d s) : ∃ tail, out' = d.hashed ++ d.content ++ tail := by
  rcases h with h | ⟨st, hst, -, -, -, h4, -⟩
  · obtain ⟨st, tail, hst, hpre⟩ := h.prefix
    exact ⟨tail, by simp only [Decoder.hashed, Decoder.content, hst]; exact hpre⟩
  · exact ⟨#[], by simp only [Decoder.hashed, Decoder.content, hst]; rw [h4]; simp⟩

theorem FullInv.blocks {out' : Array Nat} {cons : Nat} {cks : Option Nat} {d : Decoder σ} {s : Src}
    (h : FullInv out' cons cks d s) (hnd : d.blocksDone = false) (strat : Strategy) :
    ∃ d1 s1 fin, d.decodeBlocks s strat = (d1, .ok (s1, fin)) ∧ FullInv out' cons cks d1 s1 ∧ d1.hashed = d.hashed := by
  rcases h with h | ⟨st, hst, h1, -⟩
  · obtain ⟨d1, s1, hd, hinv, -, -, -, -, hh⟩ := h.blocks_ok hnd strat
    exact ⟨d1, s1, _, hd, Or.inl hinv, hh⟩
  · simp [Decoder.blocksDone, hst, h1] at hnd

theorem FrameInv.streamingFill {out' : Array Nat} {sEnd : Src} {cons : Nat} {cks : Option Nat} (fuel : Nat)
    (d : Decoder σ) (s : Src) (n : Nat) (h : FrameInv out' sEnd cons cks d s) :
    ∃ d1 s1, streamingFill fuel d s n = (d1, .ok s1) ∧ FrameInv out' sEnd cons cks d1 s1 ∧ d1.hashed = d.hashed := by
  induction fuel generalizing d s with
  | zero => exact ⟨d, s, rfl, h, rfl⟩
  | succ fuel ih =>
    rw [Model.streamingFill]
    split
    · rename_i hc
      have hnf : d.isFinished = false := by simpa using hc.2
      obtain ⟨st, tail, hst, hfin, -, -⟩ := h.facts
      have hnd : d.blocksDone = false := by simp only [Decoder.blocksDone, hst]; rw [← hfin]; exact hnf
      obtain ⟨d1, s1, hd, hinv, -, -, -, -, hh⟩ := h.blocks_ok hnd (.uptoBytes (n - d.canCollect))
      rw [hd]
      obtain ⟨d2, s2, h2, hinv2, hh2⟩ := ih d1 s1 hinv
      exact ⟨d2, s2, h2, hinv2, by rw [hh2, hh]⟩
    · exact ⟨d, s, rfl, h, rfl⟩

/-- `StreamingDecoder::read(buf)` anywhere in the frame (not in the checksum-outstanding state) -/
theorem FrameInv.streamingRead {out' : Array Nat} {sEnd : Src} {cons : Nat} {cks : Option Nat}
    (d : Decoder σ) (s : Src) (n : Nat) (h : FrameInv out' sEnd cons cks d s) :
    ∃ d1 s1 got, streamingRead d s n = (d1, .ok (s1, got)) ∧ FrameInv out' sEnd cons cks d1 s1 ∧
      d1.hashed = d.hashed ++ got := by
  simp only [Model.streamingRead]
  split
  · exact ⟨d, s, #[], rfl, h, by simp⟩
  · obtain ⟨d1, s1, hf, hinv, hh⟩ := h.streamingFill (s.length + 2) d s n
    rw [hf]
    refine ⟨(d1.read n).1, s1, (d1.read n).2, rfl, hinv.drain (.read n), ?_⟩
    rw [← hh]
    exact (applyDrain_dstep d1 (.read n)).hashed

/-- the tail of `decode_from_to`: `read(target)` on the state `st2` the block loop left `k` bytes further on;
the count reported is the advance of `bytes_read_from_source` -/
theorem FullInv.fromTo_read {out' : Array Nat} {cons : Nat} {cks : Option Nat} {s : Src} {d : Decoder σ}
    {st : FState σ} (hst : d.state = some st) (n : Nat) (st2 : FState σ) (k : Nat)
    (hbr : st2.bytesRead = st.bytesRead + k) (hh : st2.buf.hashed = st.buf.hashed)
    (hinv : FullInv out' cons cks ({ d with state := some st2 } : Decoder σ) (s.drop k)) :
    ∃ d1 rd got, ((({ d with state := some st2 } : Decoder σ).read n).1,
        Out.ok ((({ d with state := some st2 } : Decoder σ).read n).1.bytesRead - st.bytesRead,
          (({ d with state := some st2 } : Decoder σ).read n).2)) = (d1, Out.ok (rd, got)) ∧
      FullInv out' cons cks d1 (s.drop rd) ∧ d1.hashed = d.hashed ++ got := by
  have hcount : (({ d with state := some st2 } : Decoder σ).read n).1.bytesRead - st.bytesRead = k := by
    obtain ⟨j, -, -, hr⟩ := Decoder.read_state ({ d with state := some st2 } : Decoder σ) st2 n rfl
    rw [hr]; simp only [Decoder.bytesRead]; omega
  refine ⟨_, _, _, rfl, by rw [hcount]; exact hinv.drain (.read n), ?_⟩
  exact (applyDrain_dstep ({ d with state := some st2 } : Decoder σ) (.read n)).hashed.trans
    (by simp only [Decoder.hashed, hst, hh, applyDrain])

/-- `decode_from_to(&src[..chunk], target[..n])` anywhere in the frame, the caller advancing by the reported count;
afterwards possibly in the checksum-outstanding state -/
theorem FullInv.fromTo {out' : Array Nat} {cons : Nat} {cks : Option Nat} {d : Decoder σ} {s : Src}
    (h : FullInv out' cons cks d s) (chunk n : Nat) :
    ∃ d1 rd got, d.decodeFromTo (s.take chunk) n = (d1, .ok (rd, got)) ∧ FullInv out' cons cks d1 (s.drop rd) ∧
      d1.hashed = d.hashed ++ got := by
  rcases h with h | ⟨st, hst, hfin, hck, hflag, hstr, hlen, hcks, hbr⟩
  · obtain ⟨st, hst, hcase⟩ := h
    rcases hcase with ⟨hnf, hcs, hb, e, out, fuelS, consumed, m, hf, hsp, hm, hc1, hc2⟩ | ⟨hfin, hstr, hs, hbr, hck, hif⟩
    · -- still following the block run
      have hnif : d.isFinished = false := by simp only [Decoder.isFinished, hst, hnf]; split <;> simp
      rw [Decoder.decodeFromTo_some d st _ n hst, hnif]
      simp only [Bool.false_eq_true, if_false, fromToCore]
      rw [if_neg (by rw [hnf]; simp)]
      have fin := @FullInv.fromTo_read σ _ _ _ out' cons cks s d st hst n
      rcases decodeFromToLoop_sim _ fuelS ((s.take chunk).length + 1) chunk s hb e st out out' consumed (consumed + m)
          (Nat.lt_succ_self _) hf.sim hsp with
        ⟨st1, k, e1, out1, fS1, hkc, hks, hrun, hf1, hs1, hfs⟩ | ⟨st', k, hck', hkc, hks, hrun, hstr', hfs⟩
      · rw [hrun]
        exact fin st1 k hfs.bytesRead hfs.hashed
          (Or.inl (FrameInv.advance d hnf hcs hb hm hc1 hc2 hfs (hf1.follows hfs.hashed) hs1))
      · -- the last block is in
        have hkm : k = m := by omega
        subst hkm
        rw [← hfs.hashed] at hstr'
        rw [hrun]
        have hdt : (s.take chunk).drop k = (s.drop k).take (chunk - k) := by rw [List.drop_take]
        by_cases hfl : st.header.checksumFlag = true
        · obtain ⟨cb, hre, hck2, hbr2⟩ := hc1 hfl
          rw [readExact_eq_some] at hre
          obtain ⟨hl4, hcb, hnil⟩ := hre
          have hdl : (s.drop k).length = 4 := by
            have := congrArg List.length hnil
            simp only [List.length_drop, List.length_nil] at this hl4 ⊢
            omega
          by_cases h4 : 4 ≤ ((s.take chunk).drop k).length
          · -- checksum taken
            have hall : (s.take chunk).drop k = s.drop k := by
              rw [hdt]; apply List.take_of_length_le
              rw [hdt, List.length_take] at h4; omega
            rw [finishFromTo, if_pos ⟨by rw [hfs.header]; exact hfl, h4⟩, hall]
            refine fin _ (k + 4) (by simp only; rw [hfs.bytesRead]; omega) hfs.hashed (Or.inl ?_)
            rw [← List.drop_drop, ← hnil]
            exact And.left (FrameInv.done d [] rfl hstr' (by simp only; rw [hfs.bytesRead]; omega)
              (by simp only; rw [hck2, hcb]) (fun _ => rfl))
          · -- checksum outstanding
            rw [finishFromTo, if_neg (fun hh => h4 hh.2)]
            refine fin _ k (by simp only; rw [hfs.bytesRead]) hfs.hashed (Or.inr ?_)
            exact ⟨_, rfl, rfl, by simp only; rw [hfs.checksum, hcs], by simp only; rw [hfs.header]; exact hfl,
              hstr', hdl, by rw [hck2, hcb, List.take_of_length_le (by omega)], by simp only; rw [hfs.bytesRead]; omega⟩
        · have hfl' : st.header.checksumFlag = false := by simpa using hfl
          obtain ⟨hse, hck2, hbr2⟩ := hc2 hfl'
          rw [finishFromTo, if_neg (fun hh => by rw [hfs.header, hfl'] at hh; exact absurd hh.1 (by simp))]
          refine fin _ k (by simp only; rw [hfs.bytesRead]) hfs.hashed (Or.inl ?_)
          rw [hse]
          exact And.left (FrameInv.done d [] rfl hstr' (by simp only; rw [hfs.bytesRead]; omega)
            (by simp only; rw [hfs.checksum, hcs, hck2]) (fun h => by rw [hfs.header, hfl'] at h; cases h))
    · -- finished: only draining
      rw [Decoder.decodeFromTo_some d st _ n hst, hif]
      simp only [if_true]
      have hfi : FrameInv out' [] cons cks d s := ⟨st, hst, Or.inr ⟨hfin, hstr, hs, hbr, hck, hif⟩⟩
      exact ⟨_, _, _, rfl, Or.inl (hfi.drain (.read n)), (applyDrain_dstep d (.read n)).hashed⟩
  · -- the checksum is outstanding
    have hnif : d.isFinished = false := by simp [Decoder.isFinished, hst, hflag, hfin, hck]
    rw [Decoder.decodeFromTo_some d st _ n hst, hnif]
    simp only [Bool.false_eq_true, if_false, fromToCore]
    rw [if_pos ⟨hflag, hfin, by rw [hck]; rfl⟩]
    by_cases h4 : (s.take chunk).length ≥ 4
    · rw [if_pos h4]
      have hall : s.take chunk = s := by
        apply List.take_of_length_le
        rw [List.length_take] at h4; omega
      have hnil : s.drop 4 = [] := by apply List.eq_nil_of_length_eq_zero; rw [List.length_drop]; omega
      refine ⟨_, 4, #[], rfl, Or.inl ?_, by simp [Decoder.hashed, hst]⟩
      rw [hnil]
      exact And.left (FrameInv.done d [] hfin hstr hbr
        (by simp only; rw [hcks, hall, List.take_of_length_le (by omega)]) (fun _ => rfl))
    · rw [if_neg h4]
      exact ⟨d, 0, #[], rfl, Or.inr ⟨st, hst, hfin, hck, hflag, hstr, hlen, hcks, hbr⟩, by simp⟩

/-- every way of driving the decoder through a frame: the three drains, `decode_blocks`,
`StreamingDecoder::read(buf)` and `decode_from_to(&src[..chunk], target[..n])` (the caller advancing by
the reported count) -/
inductive FOp where
  | drain (o : DrainOp)
  | blocks (strat : Strategy)
  | sread (n : Nat)
  | fromTo (chunk n : Nat)

/-- run a program, threading the source; the run stops at the first decode error or fault.  Result: decoder,
source left, bytes delivered (in order), the error that stopped the run — `none` also when a fault stopped it: a
conclusion `… = none` excludes faults only together with `FullInv`, under which every call returns `.ok`. -/
def runFull (d : Decoder σ) (s : Src) : List FOp → Decoder σ × Src × Array Nat × Option DErr
  | [] => (d, s, #[], none)
  | .drain o :: ops =>
    let r := runFull (applyDrain d o).1 s ops
    (r.1, r.2.1, (applyDrain d o).2 ++ r.2.2.1, r.2.2.2)
  | .blocks strat :: ops =>
    match d.decodeBlocks s strat with
    | (d1, .ok (s1, _)) => runFull d1 s1 ops
    | (d1, .err e) => (d1, s, #[], some e)
    | (d1, .fault _) => (d1, s, #[], none)
  | .sread n :: ops =>
    match streamingRead d s n with
    | (d1, .ok (s1, out)) => let r := runFull d1 s1 ops; (r.1, r.2.1, out ++ r.2.2.1, r.2.2.2)
    | (d1, .err e) => (d1, s, #[], some e)
    | (d1, .fault _) => (d1, s, #[], none)
  | .fromTo chunk n :: ops =>
    match d.decodeFromTo (s.take chunk) n with
    | (d1, .ok (rd, out)) => let r := runFull d1 (s.drop rd) ops; (r.1, r.2.1, out ++ r.2.2.1, r.2.2.2)
    | (d1, .err e) => (d1, s, #[], some e)
    | (d1, .fault _) => (d1, s, #[], none)

/-- documented use over the whole grammar: `decode_blocks` only while the frame's last block is not in;
`StreamingDecoder::read` not in the state "all blocks in, checksum still in the source" (which only a
`decode_from_to` call given a chunk ending right before the checksum leaves behind, and which only
`decode_from_to` knows how to continue from: `decode_blocks` — directly or through
`StreamingDecoder::read` — would take the checksum bytes for a block header).  Drains and
`decode_from_to` are always allowed. -/
def FullDocOk (d : Decoder σ) (s : Src) : List FOp → Prop
  | [] => True
  | .drain o :: ops => FullDocOk (applyDrain d o).1 s ops
  | .blocks strat :: ops =>
    d.blocksDone = false ∧
    match d.decodeBlocks s strat with
    | (d1, .ok (s1, _)) => FullDocOk d1 s1 ops
    | _ => True
  | .sread n :: ops =>
    (d.blocksDone = false ∨ d.isFinished = true) ∧
    match streamingRead d s n with
    | (d1, .ok (s1, _)) => FullDocOk d1 s1 ops
    | _ => True
  | .fromTo chunk n :: ops =>
    match d.decodeFromTo (s.take chunk) n with
    | (d1, .ok (rd, _)) => FullDocOk d1 (s.drop rd) ops
    | _ => True

theorem runFull_fullInv {out' : Array Nat} {cons : Nat} {cks : Option Nat} (d : Decoder σ) (s : Src)
    (ops : List FOp) (h : FullInv out' cons cks d s) (hdoc : FullDocOk d s ops) :
    (runFull d s ops).2.2.2 = none ∧ FullInv out' cons cks (runFull d s ops).1 (runFull d s ops).2.1 ∧
    (runFull d s ops).1.hashed = d.hashed ++ (runFull d s ops).2.2.1 := by
  induction ops generalizing d s with
  | nil => exact ⟨rfl, h, by simp [runFull]⟩
  | cons op ops ih =>
    cases op with
    | drain o =>
      simp only [FullDocOk] at hdoc
      obtain ⟨h1, h2, h3⟩ := ih _ _ (h.drain o) hdoc
      simp only [runFull]
      refine ⟨h1, h2, ?_⟩
      rw [h3, (applyDrain_dstep d o).hashed, Array.append_assoc]
    | blocks strat =>
      simp only [FullDocOk] at hdoc
      obtain ⟨hnd, hrest⟩ := hdoc
      obtain ⟨d1, s1, fin, hd, hinv, hh⟩ := h.blocks hnd strat
      rw [hd] at hrest
      obtain ⟨h1, h2, h3⟩ := ih _ _ hinv hrest
      simp only [runFull, hd]
      exact ⟨h1, h2, by rw [h3, hh]⟩
    | sread n =>
      simp only [FullDocOk] at hdoc
      obtain ⟨hnp, hrest⟩ := hdoc
      have hfi : FrameInv out' [] cons cks d s := by
        rcases h with h | ⟨st, hst, hfin, hck, hflag, -⟩
        · exact h
        · rcases hnp with hnp | hnp
          · simp [Decoder.blocksDone, hst, hfin] at hnp
          · simp [Decoder.isFinished, hst, hflag, hfin, hck] at hnp
      obtain ⟨d1, s1, got, hd, hinv, hh⟩ := hfi.streamingRead d s n
      rw [hd] at hrest
      obtain ⟨h1, h2, h3⟩ := ih _ _ (Or.inl hinv) hrest
      simp only [runFull, hd]
      exact ⟨h1, h2, by rw [h3, hh, Array.append_assoc]⟩
    | fromTo chunk n =>
      simp only [FullDocOk] at hdoc
      obtain ⟨d1, rd, got, hd, hinv, hh⟩ := h.fromTo chunk n
      rw [hd] at hdoc
      obtain ⟨h1, h2, h3⟩ := ih _ _ hinv hdoc
      simp only [runFull, hd]
      exact ⟨h1, h2, by rw [h3, hh, Array.append_assoc]⟩

/-- schedule independence over the whole API (C06 `schedule_independent_full`): every frame the Spec accepts, the input
being exactly the frame, every documented program (`FullDocOk`) after `reset` -/
theorem valid_frame_full_schedule (d : Decoder σ) (sdicts : List Spec.Dict) (hdc : DictsCoupled d.dicts sdicts)
    (f : List Nat) (hb : ∀ x ∈ f, x < 256) (r : Spec.FrameResult)
    (hs : Spec.decodeFrame f sdicts = some r) (hlim : r.header.window ≤ d.maxWindow) (hcons : r.consumed = f.length)
    (ops : List FOp) :
    ∃ d0 rest, d.reset f = (d0, .ok rest) ∧ (FullDocOk d0 rest ops →
      (runFull d0 rest ops).2.2.2 = none ∧
      (runFull d0 rest ops).1.hashed = (runFull d0 rest ops).2.2.1 ∧
      ∃ tail, r.content = ((runFull d0 rest ops).2.2.1 ++ (runFull d0 rest ops).1.content ++ tail).toList ∧
        ((runFull d0 rest ops).1.isFinished = true → tail = #[] ∧ (runFull d0 rest ops).2.1 = [] ∧
          (runFull d0 rest ops).1.bytesRead = r.consumed)) := by
  obtain ⟨d0, rest, hres, hh0, hinv, -⟩ := frameInv_of_decodeFrame d sdicts hdc f hb r hs hlim
  have hend : f.drop r.consumed = [] := by rw [hcons]; simp
  rw [hend] at hinv
  refine ⟨d0, rest, hres, fun hdoc => ?_⟩
  obtain ⟨h1, h2, h3⟩ := runFull_fullInv d0 rest ops (Or.inl hinv) hdoc
  rw [hh0, Array.empty_append] at h3
  obtain ⟨tail, hpre⟩ := h2.prefix
  refine ⟨h1, h3, tail, by rw [← h3, ← hpre], ?_⟩
  intro hfin
  rcases h2 with h2 | ⟨st, hst, hf, hck, hflag, -⟩
  · obtain ⟨st, tail', hst, hfin', hpre', hdone⟩ := h2.facts
    rw [hfin'] at hfin
    obtain ⟨ht, hs', hbr, -⟩ := hdone hfin
    refine ⟨?_, hs', by simp only [Decoder.bytesRead, hst]; exact hbr⟩
    have e1 : r.content.toArray = (runFull d0 rest ops).1.hashed ++ (runFull d0 rest ops).1.content ++ tail := hpre
    have e2 : r.content.toArray = (runFull d0 rest ops).1.hashed ++ (runFull d0 rest ops).1.content ++ tail' := by
      simp only [Decoder.hashed, Decoder.content, hst]; exact hpre'
    rw [ht] at e2
    have hsz := congrArg Array.size (e1.symm.trans e2)
    simp only [Array.size_append, Array.size_empty] at hsz
    exact Array.eq_empty_of_size_eq_zero (by omega)
  · simp [Decoder.isFinished, hst, hflag, hf, hck] at hfin

end Zstd.Model
