import Zstd.Proofs.LitCoderTotal
import Zstd.Proofs.SeqBlock
/-
The frame level over the literal coder: one statement for ANY literal coder under its contract
(`compress_spec_of_litCoder`: any state invariant `I`, any set `A` of allowed faults) and its three readings for the
real coder.  `compress_literals` is not total on arbitrary remembered tables, so totality is carried along the block
loop with `I := GoodState` (the remembered Huffman table is canonical) and `A := WriteTableAssert`; and the input must
consist of bytes (`< 256`), because the model's `Byte` is `Nat` and a literal `≥ 256` has no code.
-/
namespace Zstd.Proofs.LitCoder
open Zstd Zstd.Spec Zstd.Model Zstd.Model.Huf Zstd.Model.Enc Zstd.Proofs.Huf Zstd.Proofs.Enc
open Zstd.Proofs.SeqBlock Zstd.Proofs.SeqSection

/-- the encoder state a frame can reach: the remembered table, if any, came out of `build_from_data` -/
def GoodState (st : EncState EncTable) : Prop := ∀ tp, st.lastHuff = some tp → GoodTable tp

theorem validParse_literals_mem {w : Nat} {pre blk : List Byte} {p : Parse} (hv : validParse w pre blk p = true) :
    ∀ x ∈ parseLiterals p, x ∈ pre ++ blk := by
  intro x hx
  simpa using (execParse_facts w p.seqs p.tail _ _ (validParse_exec hv)).2.2.2.2.2 x hx

/-- `hlit` asks of the literal coder only what `compress_block` hands it: more than 1024 and at most 128 Ki literals, all
of them bytes of the data, from a state satisfying `I`; `hI0`: the per-frame reset and the raw fallback forget the table. -/
theorem compress_spec_of_litCoder {H : Type} (R : H → Spec.Huffman.Table → Prop) (cd : Coders H)
    (hcd : LitCoderCorrect R cd) (hseq : cd.encodeSeqSection = encodeSeqSectionReal)
    (I : EncState H → Prop) (A : Fault → Prop) (hI0 : ∀ st : EncState H, I { st with lastHuff := none })
    (hash : Bool) (c : Compressor H) (hc : c.level = .fastest) (w : Nat) (script : Nat → MBlock)
    (data : List Byte) (frags : List Nat) (hm : ValidMatcher w script data) (hw32 : w + 3 < 2 ^ 32)
    (hlit : ∀ lits st, I st → 1024 < lits.length → lits.length ≤ 131072 → (∀ b ∈ lits, b ∈ data) →
      ReturnsOr (fun r => I { st with lastHuff := r.2 <|> st.lastHuff }) A (cd.compressLiterals lits st.lastHuff)) :
    ReturnsOr (fun r => I r.2.st ∧ Spec.decodeFrame r.1 = some (specResult hash w data r.1)) A
      (compressFrame hash (compressBlock cd) c w script data frags) := by
  refine compressFrame_fastest_sim R hash _ c hc w script data frags hm
    (blockEncCorrect_of_litCoder R cd hcd hseq w _ (le_declaredWindow w hm.window_le) hw32) I A hI0
    fun i st hst hconst => ?_
  have hv := hm.parse_ok i hconst
  have hblk : (blockAt script data i).length ≤ 131072 :=
    Nat.le_trans (blockAt_length_le script data i) (hm.space_le i)
  have hlen : (parseLiterals (script i).parse).length ≤ (blockAt script data i).length :=
    (validParse_bounds w _ _ (script i).parse.seqs (script i).parse.tail hv).2.2.2
  refine compressBlock_returnsOr cd hseq w hw32 _ _ _ hv hblk I A st
    (litStep_returnsOr cd I A _ st (by omega) hst fun h1024 =>
      hlit _ st hst h1024 (by omega) fun b hb => ?_)
  -- a literal of the parse is a byte of the block or of what precedes it
  rcases List.mem_append.mp (validParse_literals_mem hv b hb) with h | h
  · exact List.mem_of_mem_take h
  · exact List.mem_of_mem_drop (List.mem_of_mem_take h)

theorem compress_real_decodes (hash : Bool) (c : Compressor EncTable) (hc : c.level = .fastest) (w : Nat)
    (script : Nat → MBlock) (data : List Byte) (frags : List Nat) (hm : ValidMatcher w script data)
    (hw32 : w + 3 < 2 ^ 32) (frame : List Byte) (c' : Compressor EncTable)
    (hrun : compressFrame hash compressBlockReal c w script data frags = .ok (frame, c')) :
    Spec.decodeFrame frame = some (specResult hash w data frame) :=
  ((compress_spec_of_litCoder TableRel realCoders lit_coder_contract rfl (fun _ => True) (fun _ => True)
    (fun _ => trivial) hash c hc w script data frags hm hw32 fun _ _ _ _ _ _ => .trivial _).of_ok hrun).2

theorem compress_real_correct_or_assert (hash : Bool) (c : Compressor EncTable) (hc : c.level = .fastest) (w : Nat)
    (script : Nat → MBlock) (data : List Byte) (frags : List Nat) (hm : ValidMatcher w script data)
    (hw32 : w + 3 < 2 ^ 32) (hbytes : ∀ b ∈ data, b < 256) :
    (∃ frame c', compressFrame hash compressBlockReal c w script data frags = .ok (frame, c') ∧
        Spec.decodeFrame frame = some (specResult hash w data frame)) ∨
      (∃ f, compressFrame hash compressBlockReal c w script data frags = .error f ∧ WriteTableAssert f) := by
  -- along the block loop the remembered table stays good: the per-frame reset and the raw fallback forget it
  rcases compress_spec_of_litCoder TableRel realCoders lit_coder_contract rfl GoodState WriteTableAssert
      (fun st tp htp => by cases htp) hash c hc w script data frags hm hw32 fun lits st hst h1 h2 hmem => by
        rcases compressLiterals_total_or_assert lits st.lastHuff (fun b hb => hbytes b (hmem b hb)) (by omega) h2 hst
          with ⟨bytes, t, hr, hgood⟩ | ⟨f, hr, hA⟩
        · refine .intro_ok hr ?_
          -- a table that was returned replaces the remembered one
          cases t with
          | none => exact hst
          | some t' => exact fun tp htp => hgood tp htp
        · exact .intro_error hr hA with
    ⟨⟨frame, c'⟩, hrun, _, hdec⟩ | ⟨f, hrun, hA⟩
  · exact .inl ⟨frame, c', hrun, hdec⟩
  · exact .inr ⟨f, hrun, hA⟩

theorem compress_real_correct (hW : FseWeightsLt128) (hash : Bool) (c : Compressor EncTable)
    (hc : c.level = .fastest) (w : Nat) (script : Nat → MBlock) (data : List Byte) (frags : List Nat)
    (hm : ValidMatcher w script data) (hw32 : w + 3 < 2 ^ 32) (hbytes : ∀ b ∈ data, b < 256) :
    ∃ frame c', compressFrame hash compressBlockReal c w script data frags = .ok (frame, c') ∧
      Spec.decodeFrame frame = some (specResult hash w data frame) := by
  rcases compress_real_correct_or_assert hash c hc w script data frags hm hw32 hbytes with h | ⟨f, _, hA⟩
  · exact h
  · exact absurd hA (not_writeTableAssert hW f)

end Zstd.Proofs.LitCoder
