import Zstd.Proofs.BlkSeqTables
import Zstd.Proofs.BlkHuf
import Zstd.Proofs.Headers
import Zstd.Proofs.FrameDecoderNoFault
import Zstd.Model.FrameFaithful
/-
C03 at block level: `BlockDecoder::decompress_block` (model `Blk.decompressBlock`) never faults on a
well-formed scratch, keeps it well formed on success, and `reset` re-establishes well-formedness after
any outcome.  Components: literals header (`parseLitHeader_shape` + C14), literals (`Proofs/BlkHuf`),
sequence section (`Proofs/BlkSeq`, `Proofs/BlkSeqTables`, FSE builders `Proofs/BlkFse`), sequence execution
(`Proofs/FrameDecoderNoFault`).  `decompressBlock_eq_stage`: `decompress_block` is the buffer-independent
`Blk.stage` of `Model/FrameFaithful` followed by one buffer operation, which is what the frame level and the refinement
build on.  `Blk.decodeBlocks`, `Blk.runFrames` are the legal histories on one scratch that `C03.blockChain_no_fault` and
`C03.legal_history_no_fault` speak of.  The third `assert!` of `decompress_block` (block_decoder.rs:174-180: the four
lengths add up to `content_size`) is no `Fault` site of the model: the model works on the content, which the three
slices partition.
-/
namespace Zstd.Proofs.Blk
open Zstd Zstd.Model Zstd.Model.Blk Zstd.Proofs.BitIO

theorem litHeaderOfValue_shape (v : Nat) :
    ((Spec.Hdr.litHeaderOfValue v).ltype < 2 ∧ (Spec.Hdr.litHeaderOfValue v).comp = none) ∨
    (¬ (Spec.Hdr.litHeaderOfValue v).ltype < 2 ∧ (∃ c, (Spec.Hdr.litHeaderOfValue v).comp = some c) ∧
      ((Spec.Hdr.litHeaderOfValue v).streams = some 1 ∨ (Spec.Hdr.litHeaderOfValue v).streams = some 4)) := by
  unfold Spec.Hdr.litHeaderOfValue
  -- every arm of a branch has the branch's type bits and its kind of size fields
  by_cases ht : v % 4 < 2
  · let P := fun h : Spec.Hdr.LitHeader => h.ltype < 2 ∧ h.comp = none
    rw [if_pos ht]
    exact Or.inl (ite_elim P ⟨ht, rfl⟩ (ite_elim P ⟨ht, rfl⟩ ⟨ht, rfl⟩))
  · let P := fun h : Spec.Hdr.LitHeader =>
      ¬ h.ltype < 2 ∧ (∃ c, h.comp = some c) ∧ (h.streams = some 1 ∨ h.streams = some 4)
    rw [if_neg ht]
    exact Or.inr (ite_elim P ⟨ht, ⟨_, rfl⟩, Or.inl rfl⟩ (ite_elim P ⟨ht, ⟨_, rfl⟩, Or.inr rfl⟩
      (ite_elim P ⟨ht, ⟨_, rfl⟩, Or.inr rfl⟩ ⟨ht, ⟨_, rfl⟩, Or.inr rfl⟩)))

theorem specLitHeader_shape {bs : List Nat} {h : Spec.Hdr.LitHeader} (hh : Spec.Hdr.parseLitHeader bs = some h) :
    (h.ltype < 2 ∧ h.comp = none) ∨
    (¬ h.ltype < 2 ∧ (∃ c, h.comp = some c) ∧ (h.streams = some 1 ∨ h.streams = some 4)) := by
  unfold Spec.Hdr.parseLitHeader at hh
  cases bs with
  | nil => cases hh
  | cons b0 tl =>
    dsimp only at hh
    split at hh
    · cases hh
    · cases hh
      exact litHeaderOfValue_shape _

theorem parseLitHeader_shape {self sec : Hdr.LitSection} {raw : List Nat} {n : Nat} (hb : Bytes raw)
    (h : Hdr.parseLitHeader self raw = .ok (sec, n)) :
    ((sec.ty = 0 ∨ sec.ty = 1) ∧ sec.comp = none) ∨
    (¬ (sec.ty = 0 ∨ sec.ty = 1) ∧ (∃ c, sec.comp = some c) ∧ (sec.streams = some 1 ∨ sec.streams = some 4)) := by
  rw [Zstd.Proofs.Headers.parseLitHeader_eq_rfc self raw hb] at h
  cases raw with
  | nil => cases h
  | cons r0 tl =>
    cases hh : Spec.Hdr.parseLitHeader (r0 :: tl) with
    | none => rw [hh] at h; cases h
    | some H =>
      rw [hh] at h
      simp only [Except.ok.injEq, Prod.mk.injEq] at h
      obtain ⟨rfl, _⟩ := h
      rcases specLitHeader_shape hh with ⟨ht, hc⟩ | ⟨ht, hc, hs⟩
      · exact Or.inl ⟨show H.ltype = 0 ∨ H.ltype = 1 by omega, hc⟩
      · exact Or.inr ⟨show ¬ (H.ltype = 0 ∨ H.ltype = 1) by omega, hc, by rw [if_neg ht]; exact hs⟩
end Zstd.Proofs.Blk

namespace Zstd.Model.Blk
open Zstd Zstd.Model Zstd.Proofs.Blk Zstd.Proofs.BitIO

/-- **Well-formed entropy state** — what `DecoderScratch::new` / `reset` establish and every
successful `decompress_block` preserves: each of the three FSE tables uninitialised or built, with the alphabet's
`max_symbol` (35 / 31 / 52) and an RLE symbol, if any, within the alphabet; the Huffman table empty or built.
It is NOT preserved by a failed table build (`FSETable::build_decoder` stores the new
`accuracy_log` before validating the description; `HuffmanTable::build_decoder` clears `decode` and
may store `max_num_bits` before rejecting the weights) — see `continue_after_error_faults_*`. -/
structure WF (s : Scratch) : Prop where
  huf : HufWF s.huf
  fse : FseScratchWF s.fse

/-- the part that survives every outcome: the alphabets of the three tables (set by `FSETable::new`,
never written afterwards) -/
def Alphabets (s : Scratch) : Prop := FseAlphabets s.fse

theorem WF.alphabets {s : Scratch} (h : WF s) : Alphabets s := ⟨h.fse.ll.2.1, h.fse.of.2.1, h.fse.ml.2.1⟩

theorem WF_new : WF {} := by
  refine ⟨Or.inl rfl, ⟨⟨Or.inl rfl, rfl, ?_⟩, ⟨Or.inl rfl, rfl, ?_⟩, ⟨Or.inl rfl, rfl, ?_⟩⟩⟩ <;>
    (intro b hb; cases hb)

/-- `DecoderScratch::reset` re-establishes well-formedness from any state that has kept the alphabets, which every
outcome of `decompress_block` does (`decompressBlock_alphabets`): in particular after any decode error.  (The frame
model does not call `Scratch.reset`, it starts a frame from `BlockDec.fresh`; that the two agree on such a state is
`C07.faithful_reset_eq_fresh`.) -/
theorem WF_reset {s : Scratch} (h : Alphabets s) : WF s.reset := by
  obtain ⟨a1, a2, a3⟩ := h
  refine ⟨Or.inl rfl, ⟨⟨Or.inl rfl, a1, ?_⟩, ⟨Or.inl rfl, a2, ?_⟩, ⟨Or.inl rfl, a3, ?_⟩⟩⟩ <;>
    (intro b hb; cases hb)

/-- the outcome of `decompress_block` (`BOut` is not an `Except`, so this stands beside `Sound`): never a fault; on
success the scratch is well formed; on an error the half of the scratch the error did not come from is still well
formed (a failed table build breaks only its own half) -/
def Post (s' : Scratch) (o : BOut) : Prop :=
  (∀ f, o ≠ .fault f) ∧ (o = .ok → WF s') ∧
  (∀ e, o = .err e → (e ≠ .literals → HufWF s'.huf) ∧ (e ≠ .sequences → FseScratchWF s'.fse))

theorem post_err {s' : Scratch} {e : BlkErr} (h1 : e ≠ .literals → HufWF s'.huf)
    (h2 : e ≠ .sequences → FseScratchWF s'.fse) : Post s' (.err e) :=
  ⟨fun f h => (by cases h), fun h => (by cases h), fun e' he => (by cases he; exact ⟨h1, h2⟩)⟩

theorem post_ok {s' : Scratch} (h : WF s') : Post s' .ok :=
  ⟨fun f h => (by cases h), fun _ => h, fun e he => (by cases he)⟩

theorem decompressBody_ok {raw : List Nat} (hb : Bytes raw) {s : Scratch} (hwf : WF s) (b : DBuf)
    (sec : Hdr.LitSection) (upper : Nat)
    (hpreOf : ∀ src : List Nat, src.length = upper →
      LitPre { lsType := litTypeOf sec.ty, regeneratedSize := sec.regen, compressedSize := sec.comp,
               numStreams := sec.streams } src) :
    Post (decompressBody s b sec raw upper).1.1 (decompressBody s b sec raw upper).2 := by
  unfold decompressBody
  by_cases hshort : raw.length < upper
  · rw [if_pos hshort]
    exact post_err (fun _ => hwf.huf) (fun _ => hwf.fse)
  · rw [if_neg hshort]
    have hlen : (raw.take upper).length = upper := by rw [List.length_take]; omega
    have hpre := hpreOf _ hlen
    have hbsrc : Bytes (raw.take upper) := Zstd.Proofs.BitIO.Bytes_take hb _
    have aL := decodeLiterals_ok _ s.huf _ hbsrc hwf.huf hpre
    dsimp only
    generalize Huf.decodeLiterals _ s.huf (raw.take upper) [] = pL at aL ⊢
    obtain ⟨huf, (e | f) | ⟨lits, used⟩⟩ := pL
    · exact post_err (fun h => absurd rfl h) (fun _ => hwf.fse)
    · exact absurd rfl (aL.1 f)
    obtain ⟨hhuf, hll, hused⟩ := aL.2 _ _ rfl
    dsimp only at hll hused ⊢
    rw [if_neg (by omega), if_neg (by omega)]
    cases hsh : parseSeqHeader (raw.drop upper) with
    | error e => exact post_err (fun _ => hhuf) (fun _ => hwf.fse)
    | ok q =>
      obtain ⟨n, modes, shLen⟩ := q
      dsimp only
      by_cases hn : n ≠ 0
      · rw [if_pos hn]
        have aS := decodeSequences_ok n modes (Bytes_drop (Bytes_drop hb upper) shLen) hwf.fse
        generalize decodeSequences n modes ((raw.drop upper).drop shLen) s.fse = pS at aS ⊢
        obtain ⟨fse, e | seqs⟩ := pS
        · cases e with
          | fault f => exact absurd rfl (aS.1 f)
          | _ => exact post_err (fun _ => hhuf) (fun h => absurd rfl h)
        obtain ⟨hfse, hov⟩ := aS.2 _ _ rfl
        dsimp only
        have hex := executeSequences_noFault seqs hov lits s.hist 0 b
        generalize executeSequences seqs lits s.hist 0 b = pX at hex ⊢
        obtain ⟨⟨b1, h1⟩, u | e | f⟩ := pX
        · exact post_ok ⟨hhuf, hfse⟩
        · exact post_err (fun _ => hhuf) (fun _ => hfse)
        · exact absurd rfl (hex f)
      · rw [if_neg hn]
        split
        · exact post_err (fun _ => hhuf) (fun h => absurd rfl h)
        · exact post_ok ⟨hhuf, hwf.fse⟩

/-- `upper_limit_for_literals` cannot hit its `panic!("Bug in this library")` arm and, together with
the length check, yields the slice `decode_literals` expects -/
theorem upperLimit_ok {sec : Hdr.LitSection}
    (hshape : ((sec.ty = 0 ∨ sec.ty = 1) ∧ sec.comp = none) ∨
      (¬ (sec.ty = 0 ∨ sec.ty = 1) ∧ (∃ c, sec.comp = some c) ∧ (sec.streams = some 1 ∨ sec.streams = some 4))) :
    ∃ upper, upperLimit sec = .ok upper ∧
      ∀ src : List Nat, src.length = upper →
        LitPre { lsType := litTypeOf sec.ty, regeneratedSize := sec.regen, compressedSize := sec.comp,
                 numStreams := sec.streams } src := by
  unfold upperLimit
  rcases hshape with ⟨hty, hc⟩ | ⟨hty, ⟨c, hc⟩, hst⟩
  · rw [hc]
    rcases hty with h0 | h1
    · refine ⟨sec.regen, by simp [h0], ?_⟩
      intro src hl
      refine ⟨fun _ => hl, fun h => ?_, fun h => ?_⟩
      · simp [litTypeOf, h0] at h
      · simp [litTypeOf, h0] at h
    · refine ⟨1, by simp [h1], ?_⟩
      intro src hl
      refine ⟨fun h => ?_, fun _ => hl, fun h => ?_⟩
      · simp [litTypeOf, h1] at h
      · simp [litTypeOf, h1] at h
  · rw [hc]
    refine ⟨c, rfl, ?_⟩
    intro src hl
    have h0 : sec.ty ≠ 0 := fun h => hty (Or.inl h)
    have h1 : sec.ty ≠ 1 := fun h => hty (Or.inr h)
    refine ⟨fun h => ?_, fun h => ?_, fun _ => ⟨by rw [hl], hst⟩⟩
    · simp only [litTypeOf, h0, h1, if_false] at h; split at h <;> cases h
    · simp only [litTypeOf, h0, h1, if_false] at h; split at h <;> cases h

theorem decompressBlock_ok {content : List Nat} (hb : Bytes content) {s : Scratch} (hwf : WF s) (b : DBuf) :
    Post (decompressBlock content s b).1.1 (decompressBlock content s b).2 := by
  unfold decompressBlock
  cases hp : Hdr.parseLitHeader Hdr.LitSection.new content with
  | error e =>
    cases e with
    | fault f => exact absurd hp (Zstd.Proofs.Headers.parseLitHeader_no_fault _ _ f hb)
    | _ => exact post_err (fun _ => hwf.huf) (fun _ => hwf.fse)
  | ok p =>
    obtain ⟨sec, hdrLen⟩ := p
    dsimp only
    by_cases hbig : sec.regen > Gen.maxBlockSize
    · rw [if_pos hbig]
      exact post_err (fun _ => hwf.huf) (fun _ => hwf.fse)
    · rw [if_neg hbig]
      obtain ⟨upper, hupper, hpreOf⟩ := upperLimit_ok (parseLitHeader_shape hb hp)
      rw [hupper]
      exact decompressBody_ok (Bytes_drop hb _) hwf b sec upper hpreOf

theorem decompressBody_alphabets (s : Scratch) (b : DBuf) (sec : Hdr.LitSection) (raw : List Nat) (upper : Nat)
    (h : Alphabets s) : Alphabets (decompressBody s b sec raw upper).1.1 := by
  unfold decompressBody
  split
  · exact h
  · dsimp only
    split
    · exact h
    · exact h
    · split
      · exact h
      · split
        · exact h
        · split
          · exact h
          · rename_i n modes shLen _
            split
            · have := decodeSequences_alphabets n modes ((raw.drop upper).drop shLen) h
              split <;> rename_i hd <;> rw [hd] at this
              · exact this
              · exact this
              · split <;> exact this
            · split <;> exact h

theorem decompressBlock_alphabets (content : List Nat) (s : Scratch) (b : DBuf) (h : Alphabets s) :
    Alphabets (decompressBlock content s b).1.1 := by
  unfold decompressBlock
  split
  · exact h
  · exact h
  · dsimp only
    split
    · exact h
    · split
      · exact h
      · exact decompressBody_alphabets _ _ _ _ _ h

theorem decompressBody_eq_stage (s : Scratch) (b : DBuf) (sec : Hdr.LitSection) (raw : List Nat) (upper : Nat) :
    decompressBody s b sec raw upper = (stageBody s sec raw upper).apply b := by
  unfold decompressBody stageBody
  by_cases h1 : raw.length < upper
  · rw [if_pos h1, if_pos h1]; rfl
  · rw [if_neg h1, if_neg h1]
    dsimp only
    generalize Huf.decodeLiterals _ s.huf (raw.take upper) [] = r
    obtain ⟨huf, r⟩ := r
    cases r with
    | error e => cases e <;> rfl
    | ok p =>
      obtain ⟨lits, used⟩ := p
      dsimp only
      by_cases h2 : sec.regen ≠ lits.length
      · rw [if_pos h2, if_pos h2]; rfl
      · rw [if_neg h2, if_neg h2]
        by_cases h3 : used ≠ upper
        · rw [if_pos h3, if_pos h3]; rfl
        · rw [if_neg h3, if_neg h3]
          generalize parseSeqHeader (raw.drop upper) = r
          cases r with
          | error e => rfl
          | ok p =>
            obtain ⟨n, modes, shLen⟩ := p
            dsimp only
            by_cases h4 : n ≠ 0
            · rw [if_pos h4, if_pos h4]
              generalize decodeSequences n modes _ s.fse = r
              obtain ⟨fse, r⟩ := r
              cases r with
              | error e => cases e <;> rfl
              | ok seqs => rfl
            · rw [if_neg h4, if_neg h4]
              by_cases h5 : (!((raw.drop upper).drop shLen).isEmpty) = true
              · rw [if_pos h5, if_pos h5]; rfl
              · rw [if_neg h5, if_neg h5]; rfl

theorem decompressBlock_eq_stage (content : List Nat) (s : Scratch) (b : DBuf) :
    decompressBlock content s b = (stage content s).apply b := by
  unfold decompressBlock stage
  generalize Hdr.parseLitHeader Hdr.LitSection.new content = r
  cases r with
  | error e => cases e <;> rfl
  | ok p =>
    obtain ⟨sec, hdrLen⟩ := p
    dsimp only
    by_cases h1 : sec.regen > Gen.maxBlockSize
    · rw [if_pos h1, if_pos h1]; rfl
    · rw [if_neg h1, if_neg h1]
      generalize upperLimit sec = r
      cases r with
      | error e => rfl
      | ok upper => exact decompressBody_eq_stage _ _ _ _ _

/-- decode the blocks of one frame in order, stopping at the first error (the legal use of the API:
"after a decode error the caller may drain, query and reset, but not continue that frame") -/
def decodeBlocks : List (List Nat) → Scratch → DBuf → (Scratch × DBuf) × BOut
  | [], s, b => ((s, b), .ok)
  | c :: cs, s, b =>
    match decompressBlock c s b with
    | ((s', b', _, _), .ok) => decodeBlocks cs s' b'
    | ((s', b', _, _), o) => ((s', b'), o)

theorem decodeBlocks_ok : ∀ (blocks : List (List Nat)) (s : Scratch) (b : DBuf),
    (∀ c ∈ blocks, Bytes c) → WF s →
    (∀ f, (decodeBlocks blocks s b).2 ≠ .fault f) ∧ ((decodeBlocks blocks s b).2 = .ok → WF (decodeBlocks blocks s b).1.1) ∧
    Alphabets (decodeBlocks blocks s b).1.1 := by
  intro blocks
  induction blocks with
  | nil => intro s b _ h; exact ⟨fun f h => (by cases h), fun _ => h, h.alphabets⟩
  | cons c cs ih =>
    intro s b hb hwf
    have hspec := decompressBlock_ok (hb c List.mem_cons_self) hwf b
    have halph := decompressBlock_alphabets c s b hwf.alphabets
    rw [decodeBlocks]
    generalize decompressBlock c s b = p at hspec halph ⊢
    obtain ⟨⟨s', b', l, q⟩, _ | e | f⟩ := p
    · exact ih s' b' (fun c' hc' => hb c' (List.mem_cons_of_mem _ hc')) (hspec.2.1 rfl)
    · exact ⟨fun f h => (by cases h), fun h => (by cases h), halph⟩
    · exact absurd rfl (hspec.1 f)

/-- a legal history on one scratch: frame after frame, each started with `reset` (the buffer is reset
to the frame's window) and decoded block by block up to its first error -/
def runFrames : List (Nat × List (List Nat)) → Scratch → DBuf → List BOut
  | [], _, _ => []
  | (window, blocks) :: rest, s, b =>
    match decodeBlocks blocks s.reset (b.reset window) with
    | ((s', b'), o) => o :: runFrames rest s' b'

theorem runFrames_no_fault : ∀ (frames : List (Nat × List (List Nat))) (s : Scratch) (b : DBuf),
    (∀ fr ∈ frames, ∀ c ∈ fr.2, Bytes c) → Alphabets s →
    ∀ o ∈ runFrames frames s b, ∀ f, o ≠ .fault f := by
  intro frames
  induction frames with
  | nil => intro s b _ _ o ho; cases ho
  | cons fr rest ih =>
    intro s b hb ha o ho
    obtain ⟨window, blocks⟩ := fr
    have hspec := decodeBlocks_ok blocks s.reset (b.reset window) (hb _ List.mem_cons_self) (WF_reset ha)
    rw [runFrames] at ho
    generalize decodeBlocks blocks s.reset (b.reset window) = p at ho hspec
    obtain ⟨⟨s', b'⟩, o1⟩ := p
    rcases List.mem_cons.mp ho with rfl | ho
    · exact hspec.1
    · exact ih s' b' (fun fr' hfr' => hb fr' (List.mem_cons_of_mem _ hfr')) hspec.2.2 o ho

end Zstd.Model.Blk
