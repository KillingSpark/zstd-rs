import Zstd.Proofs.RingRun
import Zstd.Proofs.OverlapCopy
/-
`DecodeBuffer::{push, reset, repeat, repeat_in_chunks, repeat_from_dict}`.
-/
namespace Zstd.Model
open Zstd RingBuffer

namespace DecodeBuffer

/-- a decode buffer is valid when its ring is: `dict`, `windowSize`, `total`, `hash` carry no invariant -/
def Inv (d : DecodeBuffer) : Prop := d.buffer.Inv

/-- the bytes the decode buffer holds, oldest first (the dictionary is not among them) -/
def abs (d : DecodeBuffer) : List Byte := d.buffer.abs

variable {d : DecodeBuffer}

theorem inv_new (ws : Nat) : (DecodeBuffer.new ws).Inv ∧ (DecodeBuffer.new ws).abs = [] :=
  ⟨RingBuffer.inv_new, RingBuffer.abs_new⟩

theorem reset_ok (hI : d.Inv) (ws : Nat) :
    ∃ d', d.reset ws = .ok d' ∧ d'.Inv ∧ d'.abs = [] ∧ d'.dict = [] ∧ d'.windowSize = ws ∧
      d'.total = 0 ∧ d'.hash = [] ∧ ws ≤ d'.buffer.free ∧ CapStep d.buffer d'.buffer ws := by
  unfold reset
  obtain ⟨b, e, hR⟩ := reserve_ok (clear_ok hI).1 ws
  rw [e, ok_bind, pure_eq_ok]
  refine ⟨_, rfl, hR.inv, ?_, rfl, rfl, rfl, rfl, hR.free, ?_⟩
  · show b.abs = []
    rw [hR.abs, (clear_ok hI).2.1]
  · have h1 := hR.capStep.mono; have h2 := hR.capStep.bound
    have hc : d.buffer.clear.cap = d.buffer.cap := rfl
    have hl : d.buffer.clear.len = 0 := by simp [RingBuffer.len, RingBuffer.clear]
    exact ⟨by show d.buffer.cap ≤ b.cap; omega, by show b.cap = d.buffer.cap ∨ b.cap ≤ _; omega⟩

/-- what `push` and a successful `repeat` leave; `n` is what was asked of `reserve` (for `capStep`), not the growth of
`total` -/
structure Pushed (d d' : DecodeBuffer) (content : List Byte) (total n : Nat) : Prop where
  inv : d'.Inv
  abs : d'.abs = content
  total : d'.total = total
  hash : d'.hash = d.hash
  capStep : CapStep d.buffer d'.buffer n

theorem push_ok (hI : d.Inv) (data : List Byte) :
    ∃ d', d.push data = .ok d' ∧ Pushed d d' (d.abs ++ data) (d.total + data.length) data.length := by
  unfold push
  obtain ⟨b, e, hI', ha, _, hcs⟩ := extend_ok hI data
  rw [e, ok_bind, pure_eq_ok]
  exact ⟨_, rfl, hI', ha, rfl, rfl, hcs⟩

theorem repeatInChunks_ok {C : Nat} (hC : 0 < C) {offset : Nat} (ho : 0 < offset) :
    ∀ (fuel : Nat) {b : RingBuffer} {left startIdx : Nat}, b.Inv → offset ≤ b.len →
      startIdx = b.len - offset → left ≤ b.free → left ≤ fuel →
      ∃ b', repeatInChunks C fuel b offset left startIdx = .ok b' ∧ b'.Inv ∧
        b'.abs = overlapCopy b.abs offset left ∧ b'.len = b.len + left ∧ b'.cap = b.cap
  | 0, b, left, startIdx, hI, _, _, _, hfu => by
    have : left = 0 := by omega
    subst this
    exact ⟨b, by simp [repeatInChunks], hI, rfl, rfl, rfl⟩
  | fuel + 1, b, left, startIdx, hI, hol, hs, hfr, hfu => by
    unfold repeatInChunks
    by_cases hl : left > 0
    · simp only [hl, ↓reduceIte]
      have hc : 0 < b.cap := hI.cap_pos_of_len (by omega)
      obtain ⟨b1, e1, hI1, ha1, hl1, hc1, _⟩ := efwu_ok hC hI hc (start := startIdx) (len := min offset left)
        (by omega) (by omega)
      rw [e1, ok_bind]
      have hlf := hI.len_free hc
      have hlf1 := hI1.len_free (by omega)
      obtain ⟨b', e', hI', ha', hl', hc'⟩ := repeatInChunks_ok hC ho fuel (b := b1)
        (left := left - min offset left) (startIdx := startIdx + min offset left) hI1
        (by omega) (by omega) (by omega) (by omega)
      refine ⟨b', e', hI', ?_, by omega, by omega⟩
      rw [ha', ha1, hs, ← abs_length (r := b), ← overlapCopy_le b.abs offset (by rw [abs_length]; exact hol)
        (min offset left) (by omega), ← overlapCopy_add]
      congr 1; omega
    · have : left = 0 := by omega
      subst this
      simp only [Nat.lt_irrefl, ↓reduceIte]
      exact ⟨b, rfl, hI, rfl, rfl, rfl⟩

/-- the non-dictionary branch of `repeat` (`0 < offset ≤ len`), at any recursion depth ≥ 1 -/
theorem repeatF_local {C : Nat} (hC : 0 < C) (hI : d.Inv) (fuel : Nat) {offset ml : Nat}
    (ho : 0 < offset) (hol : offset ≤ d.buffer.len) :
    ∃ d', repeatF C (fuel + 1) d offset ml = .ok (d', .ok ()) ∧
      Pushed d d' (overlapCopy d.abs offset ml) (d.total + ml) ml := by
  unfold repeatF
  rw [RingBuffer.Inv.lenC_eq hI, ok_bind]
  have hno : ¬ offset > d.buffer.len := by omega
  simp only [hno, ↓reduceIte]
  obtain ⟨b, eb, hR⟩ := reserve_ok hI ml
  rw [eb, ok_bind]
  have hc : 0 < b.cap := hR.inv.cap_pos_of_len (by rw [hR.len]; omega)
  by_cases hch : d.buffer.len - offset + ml > d.buffer.len
  · simp only [hch, ↓reduceIte]
    obtain ⟨b', e', hI', ha', _, hcap'⟩ := repeatInChunks_ok hC ho ml (b := b) (left := ml)
      (startIdx := d.buffer.len - offset) hR.inv (by rw [hR.len]; exact hol) (by rw [hR.len]) hR.free
      (Nat.le_refl _)
    rw [e', ok_bind, pure_eq_ok]
    refine ⟨_, rfl, hI', ?_, rfl, rfl, hR.capStep.trans_eq hcap'⟩
    show b'.abs = _
    rw [ha', hR.abs]; rfl
  · simp only [hch, ↓reduceIte]
    obtain ⟨b', e', hI', ha', _, hcap', _⟩ := efwu_ok hC hR.inv hc (start := d.buffer.len - offset) (len := ml)
      (by rw [hR.len]; omega) hR.free
    rw [e', ok_bind, pure_eq_ok]
    refine ⟨_, rfl, hI', ?_, rfl, rfl, hR.capStep.trans_eq hcap'⟩
    show b'.abs = _
    rw [ha', hR.abs]
    show Queue.copyWithin d.buffer.abs _ _ = overlapCopy d.buffer.abs offset ml
    rw [overlapCopy_le d.buffer.abs offset (by rw [abs_length]; exact hol) ml (by omega), abs_length]

theorem repeat_ok {C : Nat} (hC : 0 < C) (hI : d.Inv) {offset ml : Nat}
    (ho : 0 < offset) (hol : offset ≤ d.buffer.len) :
    ∃ d', d.repeat C offset ml = .ok (d', .ok ()) ∧
      Pushed d d' (overlapCopy d.abs offset ml) (d.total + ml) ml :=
  repeatF_local hC hI 1 ho hol

theorem repeat_dict_err {C : Nat} (hI : d.Inv) {offset ml : Nat} (hol : offset > d.buffer.len) :
    (d.total > d.windowSize →
      d.repeat C offset ml = .ok (d, .error (.offsetTooBig offset d.buffer.len))) ∧
    (d.total ≤ d.windowSize → offset - d.buffer.len > d.dict.length →
      d.repeat C offset ml =
        .ok (d, .error (.notEnoughBytesInDictionary d.dict.length (offset - d.buffer.len)))) := by
  unfold DecodeBuffer.repeat repeatF
  rw [RingBuffer.Inv.lenC_eq hI, ok_bind]
  constructor
  · intro ht
    have : ¬ d.total ≤ d.windowSize := by omega
    simp only [hol, this, ↓reduceIte, pure_eq_ok]
  · intro ht hb
    simp only [hol, ht, hb, ↓reduceIte, pure_eq_ok]

theorem repeat_dict_ok {C : Nat} (hC : 0 < C) (hI : d.Inv) {offset ml : Nat}
    (hol : offset > d.buffer.len) (ht : d.total ≤ d.windowSize)
    (hb : offset - d.buffer.len ≤ d.dict.length) :
    ∃ d', d.repeat C offset ml = .ok (d', .ok ()) ∧
      Pushed d d' ((overlapCopy (d.dict ++ d.abs) offset ml).drop d.dict.length)
        (if offset - d.buffer.len < ml then d.total + ml else d.total) ml := by
  have hlabs : d.abs.length = d.buffer.len := abs_length
  unfold DecodeBuffer.repeat repeatF
  rw [RingBuffer.Inv.lenC_eq hI, ok_bind]
  -- `j` bytes come from the end of the dictionary
  generalize hj : offset - d.buffer.len = j at hb ⊢
  have hnb : ¬ j > d.dict.length := by omega
  simp only [hol, ht, hnb, ↓reduceIte]
  generalize htl : d.dict.drop (d.dict.length - j) = tl
  have hsl : tl.length = j := by rw [← htl, List.length_drop]; omega
  have hspec : ∀ k, k ≤ j → overlapCopy (d.dict ++ d.abs) offset k = d.dict ++ (d.abs ++ tl.take k) := fun k hk => by
    have := overlapCopy_prefix d.dict d.abs (off := offset) (k := k) (by omega) (by omega) (by omega)
    rwa [hlabs, hj, htl] at this
  by_cases hlt : j < ml
  · simp only [hlt, ↓reduceIte]
    obtain ⟨b, eb, hIb, hab, hlb, hcs1⟩ := extend_ok hI tl
    rw [eb, ok_bind, RingBuffer.Inv.lenC_eq hIb, ok_bind]
    rw [hsl] at hlb hcs1
    obtain ⟨d', e', hI', ha', ht', hh', hcs2⟩ := repeatF_local hC
      (d := { d with buffer := b, total := d.total + j }) hIb 0
      (offset := b.len) (ml := ml - j) (by omega) (Nat.le_refl _)
    rw [e']
    refine ⟨d', rfl, hI', ?_, by rw [ht']; show d.total + _ + _ = _; omega, hh', ?_⟩
    · -- the rest of the match is an ordinary copy inside the buffer, which now ends with those bytes
      rw [ha']
      show overlapCopy b.abs b.len _ = _
      rw [show b.len = offset by omega, hab, show ml = j + (ml - j) by omega, overlapCopy_add,
        hspec _ (Nat.le_refl _), List.take_of_length_le (Nat.le_of_eq hsl),
        overlapCopy_append_left d.dict _ offset (by rw [List.length_append, hlabs, hsl]; omega), List.drop_left,
        ← show ml = j + (ml - j) by omega]
      rfl
    · have m1 := hcs1.mono; have b1 := hcs1.bound
      have m2 := hcs2.mono; have b2 := hcs2.bound
      have e1 : ({ d with buffer := b, total := d.total + j } : DecodeBuffer).buffer = b := rfl
      rw [e1] at m2 b2
      exact ⟨by omega, by omega⟩
  · simp only [hlt, ↓reduceIte]
    obtain ⟨b, eb, hIb, hab, hlb, hcs1⟩ := extend_ok hI (tl.take ml)
    rw [eb, ok_bind, pure_eq_ok]
    rw [List.length_take, hsl, Nat.min_eq_left (by omega)] at hcs1
    refine ⟨_, rfl, hIb, ?_, rfl, rfl, hcs1⟩
    show b.abs = _
    rw [hab, hspec ml (by omega), List.drop_left]
    rfl

end DecodeBuffer

end Zstd.Model
