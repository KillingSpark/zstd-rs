import Zstd.Proofs.FrameDecoderSched
/-
Schedule independence (C06): what a block appends does not depend on bytes the caller has already
drained, as long as offsets stay inside the retained window.  A decoder that has been drained in any
way and its "never drained" twin decode every block identically; lifted to `decode_blocks`,
`decode_from_to` and to driver programs.
-/
set_option linter.unusedSectionVars false
namespace Zstd.Model
open Zstd

variable {σ : Type} [BlockDec σ] [BlockContract σ]

/-- the same buffer with `d` (bytes already drained by the caller) still in front: `b.twin d b.hashed`, the form
`C06.executeSequences_drop` is stated in -/
def DBuf.prepend (d : Array Nat) (b : DBuf) : DBuf := { b with content := d ++ b.content }

theorem DBuf.twin_push (d x : Array Nat) (b : DBuf) (y : Array Nat) :
    (b.twin d x).push y = (b.push y).twin d x := by
  simp [DBuf.twin, DBuf.push, Array.append_assoc]

theorem DBuf.twin_repeat (d x : Array Nat) (b : DBuf) (off ml : Nat) (h : off ≤ b.content.size) :
    (b.twin d x).repeat off ml = (b.repeat off ml).map (DBuf.twin d x) := by
  rw [DBuf.repeat_within b off ml h]; exact DBuf.repeat_drop { b with hashed := x } d b.content off ml h

/-- a block's effect is local, for sequence execution: with the offsets within the retained bytes, the dictionary and
`total_output_counter` are never consulted (they only matter for offsets reaching beyond the buffer) -/
theorem executeSequences_twin (W : Nat) (d x : Array Nat) (seqs : List Spec.Seq) (lits : List Nat)
    (h : Nat × Nat × Nat) (q : Nat) (b : DBuf)
    (hW : W ≤ b.content.size) (hoff : ∀ o ∈ resolvedOffsets seqs h, o ≤ W) :
    executeSequences seqs lits h q (b.twin d x) =
      ((((executeSequences seqs lits h q b).1.1).twin d x, (executeSequences seqs lits h q b).1.2),
        (executeSequences seqs lits h q b).2) :=
  executeSequences_comm (DBuf.twin d x) (DBuf.twin_push d x) W (· ≤ W)
    (fun b off ml hb ho => DBuf.twin_repeat d x b off ml (Nat.le_trans ho hb)) seqs lits h q b hW hoff

theorem executeSequences_drop (W : Nat) (d : Array Nat) (seqs : List Spec.Seq) (lits : List Nat)
    (h : Nat × Nat × Nat) (q : Nat) (b : DBuf)
    (hW : W ≤ b.content.size) (hoff : ∀ o ∈ resolvedOffsets seqs h, o ≤ W) :
    executeSequences seqs lits h q (b.prepend d) =
      ((((executeSequences seqs lits h q b).1.1).prepend d, (executeSequences seqs lits h q b).1.2),
        (executeSequences seqs lits h q b).2) := by
  -- execution leaves the hasher field alone
  obtain ⟨x, hx, -⟩ := executeSequences_extends seqs lits h q b
  rw [show b.prepend d = b.twin d b.hashed from rfl, executeSequences_twin W d b.hashed seqs lits h q b hW hoff,
    ← hx.hashed]
  rfl

theorem decompressBlock_twin (W : Nat) (d x : Array Nat) (content : List Nat) (e : Spec.Entropy) (b : DBuf)
    (hW : W ≤ b.content.size) (hoff : ∀ o ∈ blockOffsets content e, o ≤ W) :
    decompressBlock content e (b.twin d x) =
      (((decompressBlock content e b).1.1.twin d x, (decompressBlock content e b).1.2), (decompressBlock content e b).2) := by
  rcases decompressBlock_cases content e with ⟨e1, er, h⟩ | ⟨e1, lits, -, h⟩ | ⟨seqs, lits, e', -, hoffs, h⟩
  · simp only [h]
  · simp only [h, DBuf.twin_push]
  · rw [hoffs] at hoff
    rw [h _ _ rfl, h b _ rfl, executeSequences_twin W d x seqs lits _ 0 b hW hoff]

def FState.twin (d x : Array Nat) (st : FState σ) : FState σ := { st with buf := st.buf.twin d x }

theorem blockBody_twin (W : Nat) (d x : Array Nat) (st : FState σ) (bh : BHeader) (body : List Nat)
    (hW : W ≤ st.buf.content.size) (hoff : bh.btype ≠ 1 → bh.btype ≠ 0 → ∀ o ∈ BlockDec.offsets body st.entropy, o ≤ W) :
    blockBody (st.twin d x) bh body = ((blockBody st bh body).1.twin d x, (blockBody st bh body).2) := by
  simp only [blockBody]
  by_cases h1 : bh.btype = 1
  · simp [h1, FState.twin, DBuf.twin, Array.append_assoc]
  · by_cases h0 : bh.btype = 0
    · simp [h0, FState.twin, DBuf.twin, Array.append_assoc]
    · simp only [h1, h0, if_false]
      have := BlockContract.twin W d x body st.entropy st.buf hW (hoff h1 h0)
      simp only [FState.twin] at this ⊢
      rw [this]
      cases hd : BlockDec.run body st.entropy st.buf with
      | mk p o =>
        obtain ⟨buf, e⟩ := p
        cases o with
        | ok u => rfl
        | err er => rfl
        | fault f => rfl

/-- offsets of the block at the front of `s` ([] unless it is a complete compressed block) -/
def nextBlockOffsets (st : FState σ) (s : Src) : List Nat :=
  if s.length < 3 then []
  else match parseBlockHeader (s.getD 0 0) (s.getD 1 0) (s.getD 2 0) with
    | .error _ => []
    | .ok bh =>
      if s.length < 3 + bh.contentSize ∨ bh.btype = 1 ∨ bh.btype = 0 then []
      else BlockDec.offsets ((s.drop 3).take bh.contentSize) st.entropy

theorem decodeOneBlock_twin (W : Nat) (d x : Array Nat) (st : FState σ) (s : Src)
    (hW : W ≤ st.buf.content.size) (hoff : ∀ o ∈ nextBlockOffsets st s, o ≤ W) :
    decodeOneBlock (st.twin d x) s = ((decodeOneBlock st s).1.twin d x, (decodeOneBlock st s).2) := by
  rw [decodeOneBlock_eq, decodeOneBlock_eq]
  unfold nextBlockOffsets at hoff
  split
  · rfl
  · rename_i h3
    rw [if_neg h3] at hoff
    cases hp : parseBlockHeader (s.getD 0 0) (s.getD 1 0) (s.getD 2 0) with
    | error e => rfl
    | ok bh =>
      simp only [hp] at hoff ⊢
      split
      · rfl
      · rename_i hlen
        have := blockBody_twin W d x st bh ((s.drop 3).take bh.contentSize) hW (by
          intro h1 h0
          rw [if_neg (by simp [hlen, h1, h0])] at hoff
          exact hoff)
        rw [this]

/-- every block the loop decodes on this source keeps its offsets within `W` -/
def LoopOffsetsOk (W : Nat) (strat : Strategy) (a c : Nat) : Nat → FState σ → Src → Prop
  | 0, _, _ => True
  | fuel + 1, st, s =>
    (∀ o ∈ nextBlockOffsets st s, o ≤ W) ∧
    match decodeOneBlock st s with
    | (st1, .ok (bh, s1)) =>
      if bh.last then True else if stratStop strat a c st1 then True else LoopOffsetsOk W strat a c fuel st1 s1
    | _ => True

theorem stratStop_twin (strat : Strategy) (a c : Nat) (d x : Array Nat) (st1 : FState σ) :
    stratStop strat (d.size + a) c (st1.twin d x) = stratStop strat a c st1 := by
  cases strat with
  | all => rfl
  | uptoBlocks n => rfl
  | uptoBytes n =>
    simp only [stratStop, FState.twin, DBuf.twin, Array.size_append]
    congr 1
    apply propext
    omega

/-- `J f` says of the next `f` blocks that their offsets stay within `W` (`LoopOffsetsOk`, `FromToOffsetsOk`) -/
theorem blockLoop_twin {ρ : Type} {guard : Src → Bool} {stop stop' : FState σ → Bool}
    {fin : FState σ → Src → FState σ × Out ρ} {ret : Src → ρ} (W : Nat) (d x : Array Nat)
    (hstop : ∀ st1, stop' (st1.twin d x) = stop st1)
    (hfin : ∀ st1 s1, fin (st1.twin d x) s1 = ((fin st1 s1).1.twin d x, (fin st1 s1).2))
    (J : Nat → FState σ → Src → Prop)
    (hJ : ∀ f st s, J (f + 1) st s → guard s = true → (∀ o ∈ nextBlockOffsets st s, o ≤ W) ∧
      ∀ st1 bh s1, decodeOneBlock st s = (st1, .ok (bh, s1)) → bh.last = false → stop st1 = false → J f st1 s1)
    (fuel : Nat) (st : FState σ) (s : Src) (hW : W ≤ st.buf.content.size) (hok : J fuel st s) :
    blockLoop guard stop' fin ret fuel (st.twin d x) s =
      ((blockLoop guard stop fin ret fuel st s).1.twin d x, (blockLoop guard stop fin ret fuel st s).2) := by
  induction fuel generalizing st s with
  | zero => rfl
  | succ fuel ih =>
    rw [blockLoop, blockLoop]
    by_cases hg : guard s = true
    · rw [if_pos hg, if_pos hg]
      obtain ⟨hoff, hnext⟩ := hJ fuel st s hok hg
      rw [decodeOneBlock_twin W d x st s hW hoff]
      cases hd : decodeOneBlock st s with
      | mk st1 o =>
        cases o with
        | err e => rfl
        | fault f => rfl
        | ok p =>
          obtain ⟨y, hy, -⟩ := (BlockStep.of_eq hd).appends
          simp only [hstop]
          split
          · exact hfin _ _
          · rename_i hl
            split
            · rfl
            · rename_i hs
              exact ih st1 p.2 (by rw [hy.size]; omega)
                (hnext st1 p.1 p.2 hd (by simpa using hl) (by simpa using hs))
    · rw [if_neg hg, if_neg hg]

/-- `a` is the buffer size sampled when the call began, which `UptoBytes` is tested against; the twin's buffer is
`d.size` bytes longer, so its sample is `d.size + a` -/
theorem decodeBlocksLoop_twin (W : Nat) (d x : Array Nat) (strat : Strategy) (a c fuel : Nat) (st : FState σ) (s : Src)
    (hW : W ≤ st.buf.content.size) (hok : LoopOffsetsOk W strat a c fuel st s) :
    decodeBlocksLoop strat (d.size + a) c fuel (st.twin d x) s =
      ((decodeBlocksLoop strat a c fuel st s).1.twin d x, (decodeBlocksLoop strat a c fuel st s).2) := by
  rw [decodeBlocksLoop_eq, decodeBlocksLoop_eq]
  refine blockLoop_twin W d x (stratStop_twin strat a c d x) (fun st1 s1 => ?_) (LoopOffsetsOk W strat a c) ?_
    fuel st s hW hok
  · unfold finishFrame
    show (if (st1.twin d x).header.checksumFlag = true then _ else _) = _
    rw [show (st1.twin d x).header = st1.header from rfl]
    split
    · split <;> rfl
    · rfl
  · intro f st s h _
    simp only [LoopOffsetsOk] at h
    refine ⟨h.1, fun st1 bh s1 he hl hs => ?_⟩
    have h2 := h.2
    rw [he] at h2
    simpa [hl, hs] using h2

/-- `dF` is the never-drained twin of `dD`: same decoder, but everything `dD` has handed out
(= `hashed`, by C08) is still in front of the buffer -/
def IsTwin (dD dF : Decoder σ) : Prop :=
  dF.dicts = dD.dicts ∧ dF.maxWindow = dD.maxWindow ∧
  ((dD.state = none ∧ dF.state = none) ∨
   ∃ st, dD.state = some st ∧ dF.state = some (st.twin st.buf.hashed #[]))

/-- the retention invariant: nothing was drained yet (then the twin is the decoder itself and no offset
bound is needed), or at least a window is still buffered (then `BlockContract.twin` applies) -/
def Retains (d : Decoder σ) : Prop :=
  match d.state with
  | none => True
  | some st => st.buf.hashed = #[] ∨ st.buf.window ≤ st.buf.content.size

theorem IsTwin.state_some {dD dF : Decoder σ} (h : IsTwin dD dF) {st : FState σ} (hs : dD.state = some st) :
    dF.state = some (st.twin st.buf.hashed #[]) := by
  rcases h.2.2 with ⟨hn, -⟩ | ⟨st', hs', hf⟩
  · rw [hs] at hn; cases hn
  · rw [hs] at hs'; cases hs'; exact hf

theorem IsTwin.setState {dD dF : Decoder σ} (h : IsTwin dD dF) (st' : FState σ) (x : Array Nat)
    (hx : st'.buf.hashed = x) :
    IsTwin { dD with state := some st' } { dF with state := some (st'.twin x #[]) } :=
  ⟨h.1, h.2.1, Or.inr ⟨st', rfl, by rw [hx]⟩⟩

theorem Retains.loopStep {d : Decoder σ} {st st' : FState σ} (h : Retains d) (hs : d.state = some st)
    (hl : LoopStep st st') : Retains ({ d with state := some st' } : Decoder σ) := by
  obtain ⟨y, hy⟩ := hl.appends
  simp only [Retains, hs] at h ⊢
  rcases h with h | h
  · left; rw [hy.hashed]; exact h
  · right; rw [hy.window, hy.size]; omega

theorem FState.twin_take (st : FState σ) (k : Nat) :
    ({ st with buf := (st.buf.take k).2 } : FState σ).twin (st.buf.take k).2.hashed #[] = st.twin st.buf.hashed #[] := by
  simp only [FState.twin, DBuf.twin]
  congr 2
  rw [DBuf.take_hashed, Array.append_assoc, DBuf.take_partition]

theorem IsTwin.drain {dD dF : Decoder σ} (h : IsTwin dD dF) (op : DrainOp) : IsTwin (applyDrain dD op).1 dF := by
  rcases applyDrain_take dD op with ⟨hn, he⟩ | ⟨st, k, hs, hk, -, he⟩
  · rw [he]; exact h
  · rw [he]
    exact ⟨h.1, h.2.1, Or.inr ⟨_, rfl, by rw [h.state_some hs, FState.twin_take]⟩⟩

theorem applyDrain_retains (d : Decoder σ) (op : DrainOp) (h : d.blocksDone = false) :
    min d.window d.content.size ≤ (applyDrain d op).1.content.size ∧
    (applyDrain d op).1.window = d.window ∧ (applyDrain d op).1.blocksDone = false := by
  rcases applyDrain_take d op with ⟨hn, -⟩ | ⟨st, k, hs, hk, hw, he⟩
  · simp [Decoder.blocksDone, hn] at h
  · have hf : st.finished = false := by simpa [Decoder.blocksDone, hs] using h
    have := hw hf
    rw [he]
    simp only [Decoder.window, Decoder.content, Decoder.blocksDone, hs, DBuf.take_content_size, DBuf.take_window,
      hf, and_true]
    omega

theorem Retains.drain {d : Decoder σ} (h : Retains d) (op : DrainOp) (hnd : d.blocksDone = false) :
    Retains (applyDrain d op).1 := by
  rcases applyDrain_take d op with ⟨hn, he⟩ | ⟨st, k, hs, hk, hw, he⟩
  · rw [he]; exact h
  · have hk' := hw (by simpa [Decoder.blocksDone, hs] using hnd)
    simp only [Retains, hs] at h
    rw [he]
    simp only [Retains, DBuf.take_window, DBuf.take_content_size]
    rcases h with h | h
    · by_cases hc : st.buf.window ≤ st.buf.content.size
      · right; omega
      · -- fewer bytes than a window: nothing could be drained
        left
        have : k = 0 := by omega
        subst this
        rw [DBuf.take_zero]; exact h
    · right; omega

theorem applyDrain_blocksDone (d : Decoder σ) (op : DrainOp) : (applyDrain d op).1.blocksDone = d.blocksDone := by
  rcases applyDrain_take d op with ⟨hn, he⟩ | ⟨st, k, hs, hk, -, he⟩
  · rw [he]
  · rw [he]; simp [Decoder.blocksDone, hs]

theorem Retains.drain_or_done {d : Decoder σ} (h : Retains d) (op : DrainOp) :
    Retains (applyDrain d op).1 ∨ (applyDrain d op).1.blocksDone = true := by
  by_cases hb : d.blocksDone = false
  · exact Or.inl (h.drain op hb)
  · right; rw [applyDrain_blocksDone]; simpa using hb

theorem FState.twin_self (st : FState σ) (h : st.buf.hashed = #[]) : st.twin st.buf.hashed #[] = st := by
  obtain ⟨hd, fin, bc, br, cs, ud, en, ⟨c, di, w, t, hsh⟩⟩ := st
  simp only at h
  subst h
  simp [FState.twin, DBuf.twin]

theorem IsTwin.decodeBlocks {dD dF : Decoder σ} (h : IsTwin dD dF) (hr : Retains dD) (s : Src) (strat : Strategy)
    (hoff : ∀ st, dD.state = some st →
      LoopOffsetsOk st.buf.window strat st.buf.content.size st.blockCounter (s.length + 1) st s) :
    (dF.decodeBlocks s strat).2 = (dD.decodeBlocks s strat).2 ∧
    IsTwin (dD.decodeBlocks s strat).1 (dF.decodeBlocks s strat).1 ∧ Retains (dD.decodeBlocks s strat).1 := by
  rcases h.2.2 with ⟨hn, hfn⟩ | ⟨st, hs, hf⟩
  · rw [Decoder.decodeBlocks_none dD s strat hn, Decoder.decodeBlocks_none dF s strat hfn]
    exact ⟨rfl, h, by simp [Retains, hn]⟩
  · rw [Decoder.decodeBlocks_some dD st s strat hs, Decoder.decodeBlocks_some dF _ s strat hf]
    have hstep := decodeBlocksLoop_step strat st.buf.content.size st.blockCounter (s.length + 1) st s
    obtain ⟨y, hy⟩ := hstep.appends
    have hret := hr.loopStep hs hstep
    simp only [Retains, hs] at hr
    rcases hr with hr | hr
    · -- nothing drained yet: the twin is the decoder itself
      rw [FState.twin_self st hr]
      refine ⟨rfl, ?_, hret⟩
      have := h.setState _ _ hy.hashed
      rwa [← hy.hashed, FState.twin_self _ (hy.hashed.trans hr)] at this
    · have key := decodeBlocksLoop_twin st.buf.window st.buf.hashed #[] strat st.buf.content.size st.blockCounter
        (s.length + 1) st s hr (hoff st hs)
      have e1 : (st.twin st.buf.hashed #[]).buf.content.size = st.buf.hashed.size + st.buf.content.size :=
        Array.size_append
      have e2 : (st.twin st.buf.hashed #[]).blockCounter = st.blockCounter := rfl
      rw [e1, e2, key]
      exact ⟨rfl, h.setState _ _ hy.hashed, hret⟩

/-- a call in a program that threads ONE source (`runSched`): a drain, or `decode_blocks` on what the
previous call left of the source -/
inductive SOp where
  | drain (o : DrainOp)
  | blocks (strat : Strategy)

/-- run a program: `decode_blocks` calls continue where the previous one stopped; the run stops at
the first decode error or fault.  Result: decoder, remaining source, bytes delivered (in order), and the
error that stopped the run (`none` if it ran to the end, and also if a fault stopped it) -/
def runSched (d : Decoder σ) (s : Src) : List SOp → Decoder σ × Src × Array Nat × Option DErr
  | [] => (d, s, #[], none)
  | .drain o :: ops =>
    let r := runSched (applyDrain d o).1 s ops
    (r.1, r.2.1, (applyDrain d o).2 ++ r.2.2.1, r.2.2.2)
  | .blocks strat :: ops =>
    match d.decodeBlocks s strat with
    | (d1, .ok (s1, _)) => runSched d1 s1 ops
    | (d1, .err e) => (d1, s, #[], some e)
    | (d1, .fault _) => (d1, s, #[], none)

/-- the program without its drains: what the never-drained twin runs -/
def blocksOnly : List SOp → List SOp
  | [] => []
  | .drain _ :: ops => blocksOnly ops
  | .blocks strat :: ops => .blocks strat :: blocksOnly ops

/-- the program is a documented use: `decode_blocks` is only called while the last block is not in,
and every block it decodes keeps its offsets within the frame's window -/
def SchedOk (d : Decoder σ) (s : Src) : List SOp → Prop
  | [] => True
  | .drain o :: ops => SchedOk (applyDrain d o).1 s ops
  | .blocks strat :: ops =>
    d.blocksDone = false ∧
    (∀ st, d.state = some st →
      LoopOffsetsOk st.buf.window strat st.buf.content.size st.blockCounter (s.length + 1) st s) ∧
    match d.decodeBlocks s strat with
    | (d1, .ok (s1, _)) => SchedOk d1 s1 ops
    | _ => True

theorem runSched_twin (dD dF : Decoder σ) (s : Src) (ops : List SOp)
    (htw : IsTwin dD dF) (hret : Retains dD ∨ dD.blocksDone = true) (hok : SchedOk dD s ops) :
    IsTwin (runSched dD s ops).1 (runSched dF s (blocksOnly ops)).1 ∧
    (runSched dD s ops).2.1 = (runSched dF s (blocksOnly ops)).2.1 ∧
    (runSched dD s ops).2.2.2 = (runSched dF s (blocksOnly ops)).2.2.2 ∧
    (runSched dF s (blocksOnly ops)).2.2.1 = #[] := by
  induction ops generalizing dD dF s with
  | nil => exact ⟨htw, rfl, rfl, rfl⟩
  | cons op ops ih =>
    cases op with
    | drain o =>
      simp only [runSched, blocksOnly]
      simp only [SchedOk] at hok
      refine ih _ _ _ (htw.drain o) ?_ hok
      rcases hret with hret | hret
      · exact hret.drain_or_done o
      · right; rw [applyDrain_blocksDone]; exact hret
    | blocks strat =>
      simp only [SchedOk] at hok
      obtain ⟨hnd, hoff, hrest⟩ := hok
      have hr : Retains dD := by
        rcases hret with h | h
        · exact h
        · rw [hnd] at h; cases h
      obtain ⟨ho, htw', hret'⟩ := htw.decodeBlocks hr s strat hoff
      simp only [runSched, blocksOnly]
      cases hD : dD.decodeBlocks s strat with
      | mk d1 o =>
        cases hF : dF.decodeBlocks s strat with
        | mk f1 o' =>
          rw [hD, hF] at ho htw' 
          rw [hD] at hret' hrest
          simp only at ho htw' hret' hrest
          subst ho
          cases o' with
          | ok p => obtain ⟨s1, fin⟩ := p; exact ih _ _ _ htw' (Or.inl hret') hrest
          | err e => exact ⟨htw', rfl, rfl, rfl⟩
          | fault f => exact ⟨htw', rfl, rfl, rfl⟩

theorem delivered_prefix_of_undrained (d0 : Decoder σ) (s : Src) (ops : List SOp)
    (hfresh : d0.hashed = #[]) (hok : SchedOk d0 s ops) (st stF : FState σ)
    (hD : (runSched d0 s ops).1.state = some st) (hF : (runSched d0 s (blocksOnly ops)).1.state = some stF) :
    st.buf.hashed ++ st.buf.content = stF.buf.content := by
  have htw : IsTwin d0 d0 := by
    refine ⟨rfl, rfl, ?_⟩
    cases hs : d0.state with
    | none => exact Or.inl ⟨rfl, rfl⟩
    | some st0 =>
      right
      refine ⟨st0, rfl, ?_⟩
      rw [FState.twin_self st0 (by simpa [Decoder.hashed, hs] using hfresh)]
  have hret : Retains d0 := by
    simp only [Retains]
    cases hs : d0.state with
    | none => trivial
    | some st0 => exact Or.inl (by simpa [Decoder.hashed, hs] using hfresh)
  obtain ⟨h1, -, -, -⟩ := runSched_twin d0 d0 s ops htw (Or.inl hret) hok
  have hf' := h1.state_some hD
  rw [hF] at hf'; cases hf'
  rfl

/-- after an error or fault nothing is said about the source (`sE` is only claimed to exist): `streamingFill` returns
none then -/
theorem streamingFill_is_program (fuel : Nat) (d : Decoder σ) (s : Src) (n : Nat) :
    ∃ prog sE, runSched d s prog =
      match streamingFill fuel d s n with
      | (d1, .ok s1) => ((d1.read n).1, s1, (d1.read n).2, none)
      | (d1, .err e) => (d1, sE, #[], some e)
      | (d1, .fault _) => (d1, sE, #[], none) := by
  induction fuel generalizing d s with
  | zero => exact ⟨[.drain (.read n)], s, by simp [streamingFill, runSched, applyDrain]⟩
  | succ fuel ih =>
    rw [streamingFill]
    by_cases hc : d.canCollect < n ∧ !d.isFinished
    · rw [if_pos hc]
      cases hd : d.decodeBlocks s (.uptoBytes (n - d.canCollect)) with
      | mk d1 o =>
        cases o with
        | ok p =>
          obtain ⟨prog, sE, h⟩ := ih d1 p.1
          exact ⟨.blocks (.uptoBytes (n - d.canCollect)) :: prog, sE, by simp only [runSched, hd]; exact h⟩
        | err e => exact ⟨[.blocks (.uptoBytes (n - d.canCollect))], s, by simp only [runSched, hd]⟩
        | fault f => exact ⟨[.blocks (.uptoBytes (n - d.canCollect))], s, by simp only [runSched, hd]⟩
    · rw [if_neg hc]
      exact ⟨[.drain (.read n)], s, by simp [runSched, applyDrain]⟩

theorem streamingRead_is_program (d : Decoder σ) (s : Src) (n : Nat) :
    ∃ prog sE, runSched d s prog =
      match streamingRead d s n with
      | (d1, .ok (s1, out)) => (d1, s1, out, none)
      | (d1, .err e) => (d1, sE, #[], some e)
      | (d1, .fault _) => (d1, sE, #[], none) := by
  simp only [streamingRead]
  by_cases hsc : d.isFinished = true ∧ d.canCollect = 0
  · rw [if_pos hsc]; exact ⟨[], s, rfl⟩
  · rw [if_neg hsc]
    obtain ⟨prog, sE, h⟩ := streamingFill_is_program (s.length + 2) d s n
    refine ⟨prog, sE, ?_⟩
    rw [h]
    cases hf : streamingFill (s.length + 2) d s n with
    | mk d1 o =>
      cases o with
      | ok s1 => rfl
      | err e => rfl
      | fault f => rfl

/-- every block the `decode_from_to` loop decodes on this chunk keeps its offsets within `W` -/
def FromToOffsetsOk (W : Nat) : Nat → FState σ → Src → Prop
  | 0, _, _ => True
  | fuel + 1, st, s =>
    (∀ o ∈ nextBlockOffsets st s, o ≤ W) ∧
    match decodeOneBlock st s with
    | (st1, .ok (bh, s1)) => if bh.last then True else FromToOffsetsOk W fuel st1 s1
    | _ => True

theorem decodeFromToLoop_twin (W : Nat) (d x : Array Nat) (fuel : Nat) (st : FState σ) (s : Src)
    (hW : W ≤ st.buf.content.size) (hok : FromToOffsetsOk W fuel st s) :
    decodeFromToLoop fuel (st.twin d x) s =
      ((decodeFromToLoop fuel st s).1.twin d x, (decodeFromToLoop fuel st s).2) := by
  rw [decodeFromToLoop_eq, decodeFromToLoop_eq]
  refine blockLoop_twin W d x (fun _ => rfl) (fun st1 s1 => ?_) (FromToOffsetsOk W) ?_ fuel st s hW hok
  · unfold finishFromTo
    show (if (st1.twin d x).header.checksumFlag = true ∧ _ then _ else _) = _
    rw [show (st1.twin d x).header = st1.header from rfl]
    split <;> rfl
  · intro f st s h _
    simp only [FromToOffsetsOk] at h
    refine ⟨h.1, fun st1 bh s1 he hl _ => ?_⟩
    have h2 := h.2
    rw [he] at h2
    simpa [hl] using h2

theorem Decoder.read_zero (d : Decoder σ) : (d.read 0).1 = d := by
  cases hst : d.state with
  | none => simp [Decoder.read, hst]
  | some st =>
    simp only [Decoder.read, hst, Nat.min_zero, DBuf.take_zero]
    obtain ⟨s0, di, m⟩ := d
    simp only at hst
    subst hst
    rfl

/-- the twin is given the empty target (`n = 0`), so it never drains -/
theorem IsTwin.decodeFromTo {dD dF : Decoder σ} (h : IsTwin dD dF) (hr : Retains dD) (s : Src) (n : Nat)
    (st : FState σ) (hst : dD.state = some st)
    (hoff : FromToOffsetsOk st.buf.window (s.length + 1) st s) :
    IsTwin (dD.decodeFromTo s n).1 (dF.decodeFromTo s 0).1 ∧
    (dD.decodeFromTo s n).2.mapOk (·.1) = (dF.decodeFromTo s 0).2.mapOk (·.1) := by
  have hf := h.state_some hst
  have hfin : dF.isFinished = dD.isFinished := by simp [Decoder.isFinished, hst, hf, FState.twin]
  rw [Decoder.decodeFromTo_some dD st s n hst, Decoder.decodeFromTo_some dF _ s 0 hf, hfin]
  by_cases hfd : dD.isFinished = true
  · rw [if_pos hfd, if_pos hfd, Decoder.read_zero]
    exact ⟨by simpa [applyDrain] using h.drain (.read n), rfl⟩
  · rw [if_neg hfd, if_neg hfd]
    simp only [fromToCore]
    have hhd : (st.twin st.buf.hashed #[]).header = st.header := rfl
    have hfi : (st.twin st.buf.hashed #[]).finished = st.finished := rfl
    have hck : (st.twin st.buf.hashed #[]).checksum = st.checksum := rfl
    have hbr : (st.twin st.buf.hashed #[]).bytesRead = st.bytesRead := rfl
    rw [hhd, hfi, hck]
    by_cases hc : st.header.checksumFlag = true ∧ st.finished = true ∧ st.checksum.isNone = true
    · rw [if_pos hc, if_pos hc]
      by_cases h4 : s.length ≥ 4
      · rw [if_pos h4, if_pos h4]
        exact ⟨⟨h.1, h.2.1, Or.inr ⟨_, rfl, rfl⟩⟩, rfl⟩
      · rw [if_neg h4, if_neg h4]
        exact ⟨h, rfl⟩
    · rw [if_neg hc, if_neg hc]
      have hstep := (decodeFromToLoop_ran (s.length + 1) st s).step
      obtain ⟨y, hy⟩ := hstep.appends
      have hloop : decodeFromToLoop (s.length + 1) (st.twin st.buf.hashed #[]) s =
          ((decodeFromToLoop (s.length + 1) st s).1.twin st.buf.hashed #[], (decodeFromToLoop (s.length + 1) st s).2) := by
        simp only [Retains, hst] at hr
        rcases hr with hr | hr
        · have e : (decodeFromToLoop (s.length + 1) st s).1.twin st.buf.hashed #[] = (decodeFromToLoop (s.length + 1) st s).1 := by
            rw [← hy.hashed]; exact FState.twin_self _ (hy.hashed.trans hr)
          rw [e, FState.twin_self st hr]
        · exact decodeFromToLoop_twin st.buf.window st.buf.hashed #[] (s.length + 1) st s hr hoff
      rw [hloop]
      cases hl : decodeFromToLoop (s.length + 1) st s with
      | mk st2 o =>
        rw [hl] at hy
        have htw2 := h.setState st2 _ hy.hashed
        cases o with
        | ok u =>
          simp only [Decoder.read_zero]
          refine ⟨by simpa [applyDrain] using htw2.drain (.read n), ?_⟩
          simp only [Out.mapOk, hbr]
          obtain ⟨k, -, -, hrd⟩ := Decoder.read_state { dD with state := some st2 } st2 n rfl
          rw [hrd]
          simp [Decoder.bytesRead, FState.twin]
        | err e => exact ⟨htw2, rfl⟩
        | fault f => exact ⟨htw2, rfl⟩

theorem Retains.decodeFromTo {d : Decoder σ} (h : Retains d) (s : Src) (n : Nat) (st : FState σ) (hst : d.state = some st) :
    Retains (d.decodeFromTo s n).1 ∨ (d.decodeFromTo s n).1.blocksDone = true := by
  rw [Decoder.decodeFromTo_some d st s n hst]
  split
  · simpa [applyDrain] using h.drain_or_done (.read n)
  · simp only [fromToCore]
    split
    · split
      · left; simpa [Retains, hst] using h
      · exact Or.inl h
    · have hr2 := h.loopStep hst (decodeFromToLoop_ran (s.length + 1) st s).step
      cases hl : decodeFromToLoop (s.length + 1) st s with
      | mk st2 o =>
        rw [hl] at hr2
        cases o with
        | ok u => simpa [applyDrain] using hr2.drain_or_done (.read n)
        | err e => exact Or.inl hr2
        | fault f => exact Or.inl hr2

end Zstd.Model
