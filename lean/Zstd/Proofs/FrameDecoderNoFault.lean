import Zstd.Proofs.FrameDecoderOps
/-
C03 at the frame level.  First the stand-in block decoder: its only `Fault` comes from
`do_offset_history` with offset value 0, which decoded sequences never have.  Then, for every block
decoder with a `NoFaultContract`: no public operation of `FrameDecoder` faults (the blocks do not, and the two
`panic!("Bug in library")` arms of `decode_from_to` are unreachable), and the entropy state stays well
formed unless the operation ends in `err literals` / `err sequences`.
-/
set_option linter.unusedSectionVars false
namespace Zstd.Model
open Zstd

theorem doOffsetHistory_ok (ov ll : Nat) (h : Nat × Nat × Nat) (hov : ov ≥ 1) :
    ∃ r, doOffsetHistory ov ll h = .ok r := by
  unfold doOffsetHistory
  obtain ⟨a, b, c⟩ := h
  have : ov ≠ 0 := by omega
  simp [this]

theorem executeSequences_noFault (seqs : List Spec.Seq) (hov : ∀ s ∈ seqs, s.ov ≥ 1)
    (lits : List Nat) (h : Nat × Nat × Nat) (q : Nat) (b : DBuf) (f : Fault) :
    (executeSequences seqs lits h q b).2 ≠ .fault f := by
  fun_induction executeSequences seqs lits h q b with
  | case1 => simp
  | case2 => simp
  | case3 => simp
  | case4 => simp
  | case5 => simp
  -- the branch that returns the fault of `do_offset_history`: not taken for an offset value ≥ 1
  | case6 s rest lits h q b hle hll b1 f' hf =>
    obtain ⟨r, hr⟩ := doOffsetHistory_ok s.ov s.ll h (hov s List.mem_cons_self)
    rw [hr] at hf; cases hf
  | case7 => simp
  | case8 => simp
  -- the recursive call
  | case9 s rest lits h q b hle hll b1 actual h' hf ha r b2 hr ih =>
    exact ih (fun s' hs' => hov s' (List.mem_cons_of_mem _ hs'))

theorem decompressBlock_noFault (content : List Nat) (e : Spec.Entropy) (b : DBuf) (f : Fault) :
    (decompressBlock content e b).2 ≠ .fault f := by
  rcases decompressBlock_cases content e with ⟨e1, er, h⟩ | ⟨e1, lits, -, h⟩ | ⟨seqs, lits, e', hov, -, h⟩
  · simp [h b]
  · simp [h b]
  · rw [h b _ rfl]; exact executeSequences_noFault seqs hov lits _ 0 b f

section generic
variable {σ : Type} [BlockDec σ] [BlockContract σ] [NoFaultContract σ]

def FState.entWF (st : FState σ) : Prop := NoFaultContract.wf st.entropy

def Decoder.dictsWF (d : Decoder σ) : Prop := ∀ dict ∈ d.dicts, NoFaultContract.wf dict.entropy

/-- decoder invariant for C03: the current frame state and every registered dictionary carry a
well-formed entropy state.  Established by `new` / a successful `reset`, kept by every operation
that does not end in `err literals` / `err sequences` (`Out.clean`); `dictsWF` — which is all
`reset` needs — is kept by everything. -/
def Decoder.entWF (d : Decoder σ) : Prop :=
  (∀ st, d.state = some st → st.entWF) ∧ d.dictsWF

theorem Decoder.entWF.setState {d : Decoder σ} (h : d.dictsWF) (st : FState σ) (hst : st.entWF) :
    ({ d with state := some st } : Decoder σ).entWF :=
  ⟨fun st' h' => by simp only [Option.some.injEq] at h'; rw [← h']; exact hst, h⟩

abbrev FSafe {α : Type} (r : FState σ × Out α) : Prop := Safe FState.entWF (fun _ => True) r

abbrev DSafe {α : Type} (r : Decoder σ × Out α) : Prop := Safe Decoder.entWF Decoder.dictsWF r

theorem DSafe.ok {α : Type} {d : Decoder σ} (a : α) (h : d.entWF) : DSafe (d, Out.ok a) := Safe.ok a h h.2

theorem Safe.mapOk {S α β : Type} {P Q : S → Prop} {x : S} {o : Out α} (f : α → β) (h : Safe P Q (x, o)) :
    Safe P Q (x, o.mapOk f) := by
  cases o with
  | ok a => exact .ok _ h.of_ok h.always
  | err e => exact h.err_cast
  | fault f => exact h.not_fault.elim

theorem blockBody_noFault (st : FState σ) (bh : BHeader) (body : List Nat) (hw : st.entWF)
    (hi : NoFaultContract.inp σ body) : FSafe (blockBody st bh body) := by
  simp only [blockBody]
  split
  · exact .ok _ hw trivial
  · split
    · exact .ok _ hw trivial
    · have h1 := NoFaultContract.wf_run body st.entropy st.buf hw hi
      have h2 := fun f => NoFaultContract.noFault body st.entropy st.buf f hw hi
      split <;> rename_i heq <;> rw [heq] at h1 h2
      · exact .ok _ (h1 (Out.clean_ok ())) trivial
      · exact .err (fun hc => h1 hc) trivial
      · exact absurd rfl (h2 _)

theorem decodeOneBlock_noFault (st : FState σ) (s : Src) (hw : st.entWF) (hi : NoFaultContract.inp σ s) :
    FSafe (decodeOneBlock st s) := by
  rw [decodeOneBlock_eq]
  split
  · exact .err (fun _ => hw) trivial
  · split
    · exact .err (fun _ => hw) trivial
    · split
      · exact .err (fun _ => hw) trivial
      · rename_i bh _ _
        exact (blockBody_noFault st bh ((s.drop 3).take bh.contentSize) hw
          (NoFaultContract.inp_take _ _ (NoFaultContract.inp_drop _ _ hi))).mapOk _

theorem blockLoop_noFault {ρ : Type} {guard : Src → Bool} {stop : FState σ → Bool}
    {fin : FState σ → Src → FState σ × Out ρ} {ret : Src → ρ} (hfin : Finishes fin ret)
    (fuel : Nat) (st : FState σ) (s : Src) (hw : st.entWF) (hi : NoFaultContract.inp σ s) :
    FSafe (blockLoop guard stop fin ret fuel st s) := by
  induction fuel generalizing st s with
  | zero => exact .ok _ hw trivial
  | succ fuel ih =>
    rw [blockLoop]
    split
    · have hb := decodeOneBlock_noFault st s hw hi
      split <;> rename_i heq <;> rw [heq] at hb
      · exact hb.err_cast
      · exact hb.not_fault.elim
      · rename_i st1 bh s1
        have hs1 := (decodeOneBlock_ok _ _ _ _ _ heq).rest
        have hw1 : st1.entWF := hb.of_ok
        split
        · obtain ⟨k, c, o, he, hnf, -⟩ := hfin st1 s1
          rw [he]
          exact ⟨fun _ => hw1, trivial, hnf⟩
        · split
          · exact .ok _ hw1 trivial
          · exact ih _ _ hw1 (by rw [hs1]; exact NoFaultContract.inp_drop _ _ hi)
    · exact .ok _ hw trivial

theorem decodeBlocksLoop_noFault (strat : Strategy) (a c fuel : Nat) (st : FState σ) (s : Src)
    (hw : st.entWF) (hi : NoFaultContract.inp σ s) : FSafe (decodeBlocksLoop strat a c fuel st s) := by
  rw [decodeBlocksLoop_eq]
  exact blockLoop_noFault finishFrame_finishes fuel st s hw hi

theorem Decoder.decodeBlocks_dicts (d : Decoder σ) (s : Src) (strat : Strategy) :
    (d.decodeBlocks s strat).1.dicts = d.dicts :=
  (Decoder.decodeBlocks_dstep d s strat).1

theorem Decoder.decodeBlocks_noFault (d : Decoder σ) (s : Src) (strat : Strategy) (hw : d.entWF)
    (hi : NoFaultContract.inp σ s) :
    DSafe (d.decodeBlocks s strat) ∧
    (∀ s' fin, (d.decodeBlocks s strat).2 = .ok (s', fin) → NoFaultContract.inp σ s') := by
  cases hst : d.state with
  | none =>
    rw [Decoder.decodeBlocks_none d s strat hst]
    exact ⟨.err (fun _ => hw) hw.2, fun s' fin h => by cases h⟩
  | some st =>
    have h4 : ∀ s' fin, (d.decodeBlocks s strat).2 = .ok (s', fin) → NoFaultContract.inp σ s' := by
      intro s' fin h
      obtain ⟨-, n, -, hn, -⟩ := Decoder.decodeBlocks_ok_consumes d _ s s' strat fin (Prod.ext rfl h)
      rw [hn]; exact NoFaultContract.inp_drop _ _ hi
    have hl := decodeBlocksLoop_noFault strat st.buf.content.size st.blockCounter (s.length + 1) st s (hw.1 st hst) hi
    rw [Decoder.decodeBlocks_some d st s strat hst] at h4 ⊢
    generalize decodeBlocksLoop strat st.buf.content.size st.blockCounter (s.length + 1) st s = r at hl h4 ⊢
    obtain ⟨st', o⟩ := r
    cases o with
    | ok r => exact ⟨.ok _ (Decoder.entWF.setState hw.2 _ hl.of_ok), h4⟩
    | err e => exact ⟨.err (fun hc => Decoder.entWF.setState hw.2 _ (hl.clean (Out.clean_cast hc))) hw.2, h4⟩
    | fault f => exact hl.not_fault.elim

theorem applyDrain_entWF (d : Decoder σ) (op : DrainOp) (hw : d.entWF) : (applyDrain d op).1.entWF := by
  rcases applyDrain_take d op with ⟨hn, he⟩ | ⟨st, k, hs, hk, -, he⟩
  · rw [he]; exact hw
  · rw [he]; exact Decoder.entWF.setState hw.2 _ (hw.1 st hs)

theorem applyDrain_dictsWF (d : Decoder σ) (op : DrainOp) (hw : d.dictsWF) : (applyDrain d op).1.dictsWF := by
  rcases applyDrain_take d op with ⟨hn, he⟩ | ⟨st, k, hs, hk, -, he⟩
  · rw [he]; exact hw
  · rw [he]; exact hw

theorem Decoder.read_entWF (d : Decoder σ) (n : Nat) (hw : d.entWF) : (d.read n).1.entWF :=
  applyDrain_entWF d (.read n) hw

theorem Decoder.read_dictsWF (d : Decoder σ) (n : Nat) (hw : d.dictsWF) : (d.read n).1.dictsWF :=
  applyDrain_dictsWF d (.read n) hw

theorem resetCore_entWF (dicts : List (Dict σ)) (mw : Nat) (s : Src) (st : FState σ) (o : Out Src)
    (hd : ∀ dict ∈ dicts, NoFaultContract.wf dict.entropy) (h : resetCore dicts mw s = .replace st o) : st.entWF := by
  obtain ⟨_, _, _, _, -, -, -, hc⟩ := resetCore_eq_replace h
  rcases (applyDictChoice_cases hc).1 with rfl | ⟨dict, hmem, rfl⟩
  · exact NoFaultContract.wf_fresh
  · exact hd dict hmem

/-- what `reset` guarantees given well-formed dictionaries only: the state it starts from may be the debris of a
failed frame -/
structure ResetSafe (d : Decoder σ) (r : Decoder σ × Out Src) : Prop where
  dictsWF : r.1.dictsWF
  noFault : ∀ f, r.2 ≠ .fault f
  keeps : d.entWF → r.1.entWF
  fresh : ∀ rest, r.2 = .ok rest → r.1.entWF

theorem Decoder.reset_noFault (d : Decoder σ) (s : Src) (hd : d.dictsWF) : ResetSafe d (d.reset s) := by
  rcases Decoder.reset_cases d s with ⟨e, he⟩ | ⟨st, o, he, hr⟩
  · rw [he]; exact ⟨hd, fun f => by simp, fun h => h, fun rest h => by cases h⟩
  · rw [he]
    have := Decoder.entWF.setState hd _ (resetCore_entWF _ _ _ _ _ hd hr)
    exact ⟨hd, (resetCore_replace _ _ _ _ _ hr).noFault, fun _ => this, fun _ _ => this⟩

theorem decodeFromToLoop_noFault (fuel : Nat) (st : FState σ) (s : Src) (hw : st.entWF) (hi : NoFaultContract.inp σ s) :
    FSafe (decodeFromToLoop fuel st s) := by
  rw [decodeFromToLoop_eq]
  exact blockLoop_noFault finishFromTo_finishes fuel st s hw hi

theorem fromToCore_noFault (d1 : Decoder σ) (st : FState σ) (s1 : Src) (startRead n : Nat)
    (hw : d1.entWF) (hst : st.entWF) (hi : NoFaultContract.inp σ s1) :
    DSafe (fromToCore d1 st s1 startRead n) := by
  simp only [fromToCore]
  split
  · split
    · exact .ok _ (Decoder.entWF.setState hw.2 _ hst)
    · exact .ok _ hw
  · have hl := decodeFromToLoop_noFault (s1.length + 1) st s1 hst hi
    split <;> rename_i heq <;> rw [heq] at hl
    · exact .ok _ (Decoder.read_entWF _ n (Decoder.entWF.setState (d := d1) hw.2 _ hl.of_ok))
    · exact .err (fun hc => Decoder.entWF.setState hw.2 _ (hl.clean (Out.clean_cast hc))) hw.2
    · exact hl.not_fault.elim

/-- `decode_from_to` never panics: neither through a block nor through its two `panic!("Bug in
library")` arms (the state is always `Some` where they are tested) -/
theorem Decoder.decodeFromTo_noFault (d : Decoder σ) (s : Src) (n : Nat) (hw : d.entWF) (hi : NoFaultContract.inp σ s) :
    DSafe (d.decodeFromTo s n) := by
  cases hst : d.state with
  | some st =>
    rw [Decoder.decodeFromTo_some d st s n hst]
    split
    · exact .ok _ (Decoder.read_entWF d n hw)
    · exact fromToCore_noFault _ _ _ _ _ hw (hw.1 st hst) hi
  | none =>
    rw [Decoder.decodeFromTo_none d s n hst]
    cases hr : resetCore d.dicts d.maxWindow s with
    | keep e => exact .err (fun _ => hw) hw.2
    | replace st o =>
      have hrc := resetCore_replace _ _ _ _ _ hr
      have hstw := resetCore_entWF _ _ _ _ _ hw.2 hr
      cases o with
      | err e => exact .err (fun _ => Decoder.entWF.setState hw.2 _ hstw) hw.2
      | fault f' => exact absurd rfl (hrc.noFault f')
      | ok s1 =>
        have := hrc.rest s1 rfl
        exact fromToCore_noFault _ _ _ _ _ (Decoder.entWF.setState hw.2 _ hstw) hstw (by rw [this]; exact NoFaultContract.inp_drop _ _ hi)

end generic

end Zstd.Model
