import Zstd.Proofs.FseStreamInter
import Zstd.Proofs.FseEncTable
import Zstd.Proofs.FseDecTable
import Zstd.Proofs.FseTableDesc
/-
Glue: the encoder table and the decoder table of one layout are `Coupled` (and `Coupled2` under zero-bit
avoidance) — every encoder state sits on the cell where the decoding table has its entry (`mem_encStates`) — so
the stream round-trip theorems of `FseStream`/`FseStreamInter` apply to the tables the two builders produce from
one valid distribution (`tables_eq`).
-/
namespace Zstd.Proofs.FseCoupled
open Zstd Zstd.Model.Fse Zstd.Model.BitIO Zstd.Proofs.FseStream Zstd.Proofs.FseStreamInter Zstd.Proofs.FseFin
open Zstd.Proofs.FseDecTable (Layout decOf decOf_size decOf_getElem? nStates nStates_pos_iff lt_length_of_getD_ne)
open Zstd.Proofs.FseEncTable (encOf encStates stateOf mem_encStates start_state next_state stateOf_contains_iff
  tables_eq)

/-- symbols that may occur in a stream coded with the tables of `probs` -/
def usableOf (probs : List Int) (s : Nat) : Prop := probs.getD s 0 ≠ 0

/-- zero-bit avoidance: no probability above half of the table -/
def Avoids (al : Nat) (probs : List Int) : Prop := ∀ p ∈ probs, p ≤ ((2 ^ (al - 1) : Nat) : Int)

section
variable {al : Nat} {probs : List Int} {syms : List Nat} {dt : DTable} (h : Layout al probs syms)
  (hdt : dt.decode = decOf al probs syms)
include h hdt

theorem good_of_mem {s : Nat} {st : EState} (hst : st ∈ (encStates al probs syms s).states.toList) :
    Good dt al s st := by
  obtain ⟨_, k, c, hk, -, rfl, hc, he⟩ := mem_encStates h hst
  exact ⟨hc, by rw [hdt, ← show _ = entryOf s _ from he]; exact decOf_getElem? probs syms hc, Nat.sub_le _ _⟩

theorem coupled_of_layout (h1 : 1 ≤ al) (h31 : al ≤ 31) (hlen : probs.length ≤ 256) (hal : dt.accuracyLog = al) :
    Coupled (encOf al probs syms) dt al (usableOf probs) := by
  refine ⟨h1, h31, ?_, hal, fun s hs => ?_, fun s idx hs hidx => ?_⟩
  · show ETable.accLog (encOf al probs syms) = _
    rw [ETable.accLog, encOf, if_neg (Nat.ne_of_gt (Nat.two_pow_pos al)), Nat.log2_two_pow]
  · obtain ⟨st, hst, hhead, _⟩ := start_state h hlen hs
    exact ⟨st, hst, good_of_mem h hdt (List.mem_of_mem_head? hhead)⟩
  · obtain ⟨st, hst, hcont, hmem⟩ := next_state h hlen hs hidx
    have hg := good_of_mem h hdt hmem
    obtain ⟨-, k, c, -, -, rfl, -, -⟩ := mem_encStates h hmem
    have := stateOf_contains_iff.1 hcont
    simp only [interval] at this
    exact ⟨_, hst, this.1, this.2, hg⟩

theorem coupled2_of_layout (h1 : 1 ≤ al) (h31 : al ≤ 31) (hlen : probs.length ≤ 256) (hav : Avoids al probs)
    (hal : dt.accuracyLog = al) : Coupled2 (encOf al probs syms) dt al (usableOf probs) := by
  refine { toCoupled := coupled_of_layout h hdt h1 h31 hlen hal, decSize := by rw [hdt, decOf_size],
           startBits := ?_ }
  intro s st hs hst
  obtain ⟨st', hst', hhead, hbase⟩ := start_state h hlen hs
  rw [hst] at hst'
  cases hst'
  obtain ⟨-, k, c, hk, -, rfl, -, -⟩ := mem_encStates h (List.mem_of_mem_head? hhead)
  refine ⟨rfcEntry_numBits_pos h1 ((nStates_pos_iff h.ge).2 hs) ?_ hk, by rw [hbase]; exact Nat.two_pow_pos al⟩
  -- `nStates probs s ≤ 2^(al-1)`
  have hmem : probs.getD s 0 ∈ probs := by
    have hslt := lt_length_of_getD_ne hs
    rw [List.getD_eq_getElem?_getD, List.getElem?_eq_getElem hslt]
    exact List.getElem_mem hslt
  unfold nStates
  dsimp only
  split
  · exact Nat.one_le_two_pow
  · exact Int.toNat_le.mpr (hav _ hmem)

end

section
variable {al : Nat} {probs : List Int} {maxSymbol : Nat} {et : ETable} {dec : Array DEntry} {ctr : Array Nat}
  {dt : DTable}

theorem coupled_of_buildable (hb : FseEncTable.EncBuildable al probs) (hms : probs.length ≤ maxSymbol + 1)
    (het : buildTableFromProbabilities probs al = .ok et)
    (hdec : buildDecodingTableCore al probs.toArray maxSymbol = .ok (dec, ctr))
    (hdt : dt.decode = dec) (hal : dt.accuracyLog = al) :
    Coupled et dt al (usableOf probs) := by
  obtain ⟨syms, ctr', hL, het', hdec', -⟩ := tables_eq hb hms
  rw [het] at het'
  cases het'
  rw [hdec] at hdec'
  cases hdec'
  have hv := hb.valid
  exact coupled_of_layout hL hdt (by have := hv.al_ge; omega) (by have := hv.al_le; omega) hv.length_le hal

theorem coupled2_of_buildable (hb : FseEncTable.EncBuildable al probs) (hms : probs.length ≤ maxSymbol + 1)
    (hav : Avoids al probs)
    (het : buildTableFromProbabilities probs al = .ok et)
    (hdec : buildDecodingTableCore al probs.toArray maxSymbol = .ok (dec, ctr))
    (hdt : dt.decode = dec) (hal : dt.accuracyLog = al) :
    Coupled2 et dt al (usableOf probs) := by
  obtain ⟨syms, ctr', hL, het', hdec', -⟩ := tables_eq hb hms
  rw [het] at het'
  cases het'
  rw [hdec] at hdec'
  cases hdec'
  have hv := hb.valid
  exact coupled2_of_layout hL hdt (by have := hv.al_ge; omega) (by have := hv.al_le; omega) hv.length_le hav hal

theorem carries_of_built (hb : FseEncTable.EncBuildable al probs) (het : buildTableFromProbabilities probs al = .ok et) :
    FseTableDesc.Carries et al probs := by
  obtain ⟨syms, hL, rfl⟩ := FseEncTable.enc_eq hb het
  refine ⟨rfl, by simp [encOf], fun i _ => ?_⟩
  rw [FseEncTable.encOf_getD syms hb.valid.length_le]
  exact FseEncTable.encStates_probability ..

end

end Zstd.Proofs.FseCoupled
