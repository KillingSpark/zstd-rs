import Zstd.Model.EncCoders
import Zstd.Proofs.SeqTables
/-
The FSE coder of the Huffman weights (`Enc.fseWeights`: `FSEEncoder::new(build_table_from_data(ws, 6, true), w)
.encode_interleaved(ws)`, production parameters): the tables it works with are `SeqTables.FromData ws 6 255`
(max log 6, read back with max symbol 255), and its output is the table's description, the interleaved stream and
the writer dumped.
-/
namespace Zstd.Proofs.Huf
open Zstd Zstd.Model Zstd.Model.BitIO Zstd.Model.Fse Zstd.Proofs.SeqTables

/-- `12` is the value bound handed to `SeqTables.fromData` (any bound `b` with `b + 1 ≤ 2^6` would do); the weights that
reach `Enc.fseWeights` are `≤ 11`, Max_Number_of_Bits -/
theorem fseWeights_setup (ws : List Nat) (hle : ∀ w ∈ ws, w ≤ 12) (hne : ws ≠ []) :
    ∃ et probs al dec ctr, FromData ws 6 255 et probs al dec ctr :=
  fromData ws 6 255 12 (by decide) (by decide) (by decide) (by decide) (by decide) (by decide) hne hle

theorem fseWeights_output {ws : List Nat} {et : ETable} {probs : List Int} {al : Nat} {dec : Array DEntry}
    {ctr : Array Nat} (h : FromData ws 6 255 et probs al dec ctr) {w1 w2 : BitWriter} {out : Array Nat}
    (hwt : et.writeTable BitWriter.new = .ok w1) (henc : Fse.encodeInterleavedStream et w1 ws = .ok w2)
    (hdump : w2.dump = .ok out) : Enc.fseWeights ws = .ok out.toList := by
  unfold Enc.fseWeights
  rw [h.build]
  simp only [Fse.encodeInterleaved, Enc.dumpBytes, hwt, henc, hdump]

end Zstd.Proofs.Huf
