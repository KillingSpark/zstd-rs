import Zstd.Proofs.FrameDecoderTwin
import Zstd.Proofs.FrameDecoderFollows
/-
Multi-frame decoding (C10): a frame decoded from `f ++ rest` is decoded exactly as from `f` alone, leaving `rest`
untouched (an append lemma for every reader and loop); hence `decode_all` over any concatenation of frames and
skippable frames (`Segment`, `Segment.Valid`).  At the end, `reset` on a source cut behind the header.
-/
set_option linter.unusedSectionVars false
namespace Zstd.Model
open Zstd

variable {σ : Type} [BlockDec σ] [BlockContract σ]

theorem readFrameHeader_append (s x : Src) (h : FHeader) (n : Nat) (rest : Src)
    (hr : readFrameHeader s = .ok (h, n, rest)) : readFrameHeader (s ++ x) = .ok (h, n, rest ++ x) := by
  obtain ⟨-, hn, rfl⟩ := readFrameHeader_ok _ _ _ _ hr
  rw [readFrameHeader_congr hr (List.take_append_of_le_length hn), List.drop_append_of_le_length hn]

theorem readExact_append (n : Nat) (s x : Src) (t r : List Nat) (h : readExact n s = some (t, r)) :
    readExact n (s ++ x) = some (t, r ++ x) := by
  obtain ⟨hn, -, rfl⟩ := readExact_eq_some.mp h
  rw [(readExact_agree h (Nat.le_refl n) (List.take_append_of_le_length hn)).1, List.drop_append_of_le_length hn]

theorem decodeOneBlock_append (st st' : FState σ) (s s1 x : Src) (bh : BHeader)
    (h : decodeOneBlock st s = (st', .ok (bh, s1))) :
    decodeOneBlock st (s ++ x) = (st', .ok (bh, s1 ++ x)) := by
  obtain ⟨hlen, rfl, hp, hb, -, -⟩ := decodeOneBlock_ok _ _ _ _ _ h
  have hg : ∀ i, i < 3 → (s ++ x).getD i 0 = s.getD i 0 := by
    intro i hi
    simp only [List.getD_eq_getElem?_getD]
    rw [List.getElem?_append_left (by omega)]
  rw [decodeOneBlock_eq, if_neg (by rw [List.length_append]; omega), hg 0 (by omega), hg 1 (by omega), hg 2 (by omega)]
  simp only [hp]
  rw [if_neg (by rw [List.length_append]; omega)]
  have e1 : ((s ++ x).drop 3).take bh.contentSize = (s.drop 3).take bh.contentSize := by
    rw [List.drop_append_of_le_length (by omega), List.take_append_of_le_length (by rw [List.length_drop]; omega)]
  rw [e1, hb, List.drop_append_of_le_length hlen]
  rfl

theorem decodeBlocksLoop_append (strat : Strategy) (a c fuel fuel' : Nat) (st st' : FState σ) (s rest x : Src)
    (hf : s.length < fuel) (hff : fuel ≤ fuel')
    (h : decodeBlocksLoop strat a c fuel st s = (st', .ok rest)) :
    decodeBlocksLoop strat a c fuel' st (s ++ x) = (st', .ok (rest ++ x)) := by
  induction fuel generalizing fuel' st s with
  | zero => omega
  | succ fuel ih =>
    obtain ⟨fuel', rfl⟩ : ∃ g, fuel' = g + 1 := ⟨fuel' - 1, by omega⟩
    rw [decodeBlocksLoop_succ] at h ⊢
    simp only [finishFrame] at h ⊢
    split at h
    · cases h
    · cases h
    · rename_i st1 bh s1 heq
      rw [decodeOneBlock_append _ _ _ _ x _ heq]
      have hl1 := decodeOneBlock_ok _ _ _ _ _ heq
      have hfits := hl1.fits
      simp only
      by_cases hl : bh.last = true
      · rw [if_pos hl] at h ⊢
        by_cases hflag : st1.header.checksumFlag = true
        · rw [if_pos hflag] at h ⊢
          split at h
          · cases h
          · rename_i cb s2 hr
            rw [readExact_append 4 s1 x _ _ hr]
            simp only [Prod.mk.injEq, Out.ok.injEq] at h ⊢
            exact ⟨h.1, by rw [h.2]⟩
        · rw [if_neg hflag] at h ⊢
          simp only [Prod.mk.injEq, Out.ok.injEq] at h ⊢
          exact ⟨h.1, by rw [h.2]⟩
      · rw [if_neg hl] at h ⊢
        by_cases hs : stratStop strat a c st1 = true
        · rw [if_pos hs] at h ⊢
          simp only [Prod.mk.injEq, Out.ok.injEq] at h ⊢
          exact ⟨h.1, by rw [h.2]⟩
        · rw [if_neg hs] at h ⊢
          refine ih _ _ _ ?_ (by omega) h
          rw [hl1.rest, List.length_drop]; omega

theorem Decoder.decodeBlocks_append (d d' : Decoder σ) (s rest x : Src) (strat : Strategy) (fin : Bool)
    (h : d.decodeBlocks s strat = (d', .ok (rest, fin))) :
    d.decodeBlocks (s ++ x) strat = (d', .ok (rest ++ x, fin)) := by
  obtain ⟨st, st', hst, hl, rfl, rfl⟩ := Decoder.decodeBlocks_ok_loop h
  rw [Decoder.decodeBlocks_some d st (s ++ x) strat hst,
    decodeBlocksLoop_append strat _ _ (s.length + 1) ((s ++ x).length + 1) st st' s rest x (by omega)
      (by rw [List.length_append]; omega) hl]

theorem Decoder.decodeBlocks_isFinished (d d' : Decoder σ) (s rest : Src) (strat : Strategy) (fin : Bool)
    (hnd : d.blocksDone = false) (h : d.decodeBlocks s strat = (d', .ok (rest, fin))) :
    d'.isFinished = d'.blocksDone := by
  obtain ⟨st, st', hst, hl, rfl, rfl⟩ := Decoder.decodeBlocks_ok_loop h
  simp only [Decoder.isFinished, Decoder.blocksDone]
  split
  · rename_i hflag
    cases hf : st'.finished with
    | false => rfl
    | true =>
      -- the frame was marked finished by `finishFrame`, which reads a flagged checksum before it reports `Ok`
      have hran := decodeBlocksLoop_ran strat st.buf.content.size st.blockCounter (s.length + 1) st s
      rw [hl] at hran
      obtain ⟨st1, s1, he⟩ := hran.last (by simpa [Decoder.blocksDone, hst] using hnd) hf
      have := finishFrame_checksum st1 s1
      rw [← he] at this
      simp [this rfl hflag]
  · rfl

theorem applyDrain_isFinished (d : Decoder σ) (op : DrainOp) : (applyDrain d op).1.isFinished = d.isFinished := by
  rcases applyDrain_take d op with ⟨-, he⟩ | ⟨st, k, hs, -, -, he⟩
  · rw [he]
  · rw [he]; simp only [Decoder.isFinished, hs]

theorem Decoder.read_stable (d : Decoder σ) (room extra : Nat) (hfin : d.isFinished = d.blocksDone)
    (hc : (d.read room).1.canCollect = 0) : d.read (room + extra) = d.read room := by
  cases hst : d.state with
  | none => simp [Decoder.read, hst]
  | some st =>
    have hfin' : (if st.header.checksumFlag then st.finished && st.checksum.isSome else st.finished) = st.finished := by
      simpa [Decoder.isFinished, Decoder.blocksDone, hst] using hfin
    simp only [Decoder.read, hst, Decoder.canCollect, Decoder.isFinished, hfin', DBuf.take_content_size,
      DBuf.canDrainToWindow_getD, DBuf.take_window] at hc ⊢
    -- nothing collectable is left, so `room` already covered what was available
    cases hf : st.finished with
    | true =>
      simp only [hf, if_true] at hc ⊢
      rw [show min st.buf.content.size (room + extra) = min st.buf.content.size room by omega]
    | false =>
      simp only [hf, Bool.false_eq_true, if_false] at hc ⊢
      rw [show min (st.buf.content.size - st.buf.window) (room + extra)
        = min (st.buf.content.size - st.buf.window) room by omega]

/-- the run on `s` alone into `room`, started with `out` written, carries over to `s ++ x` into `room + extra`, started
with any `out2`: same frame, `x` untouched behind it, the extra room left over -/
theorem decodeAllFrame_append (fuel fuel' : Nat) (d d' : Decoder σ) (s s' x : Src) (room room' extra : Nat)
    (out out' out2 : Array Nat) (hnd : d.blocksDone = false) (hf : s.length < fuel) (hff : fuel ≤ fuel')
    (h : decodeAllFrame fuel d s room out = (d', .ok (s', room', out'))) :
    ∃ y, out' = out ++ y ∧
      decodeAllFrame fuel' d (s ++ x) (room + extra) out2 = (d', .ok (s' ++ x, room' + extra, out2 ++ y)) := by
  induction fuel generalizing fuel' d s room out out2 with
  | zero => omega
  | succ fuel ih =>
    obtain ⟨fuel', rfl⟩ : ∃ g, fuel' = g + 1 := ⟨fuel' - 1, by omega⟩
    rw [decodeAllFrame] at h ⊢
    split at h
    · cases h
    · cases h
    · rename_i d1 s1 fin heq
      rw [Decoder.decodeBlocks_append _ _ _ _ x _ _ heq]
      have hc := (Decoder.decodeBlocks_ok_consumes _ _ _ _ _ _ heq).1
      have hfi := Decoder.decodeBlocks_isFinished _ _ _ _ _ _ hnd heq
      simp only at h ⊢
      split at h
      · cases h
      · rename_i hcc
        have hcc0 : (d1.read room).1.canCollect = 0 := by simpa using hcc
        have hst := Decoder.read_stable d1 room extra hfi hcc0
        have hsz := Decoder.read_size_le d1 room
        rw [hst, if_neg hcc]
        split at h
        · rename_i hfin
          rw [if_pos hfin]
          simp only [Prod.mk.injEq, Out.ok.injEq] at h
          obtain ⟨rfl, rfl, rfl, rfl⟩ := h
          exact ⟨_, rfl, by rw [show room + extra - (d1.read room).2.size = room - (d1.read room).2.size + extra by omega]⟩
        · rename_i hfin
          rw [if_neg hfin]
          have hnd2 : (d1.read room).1.blocksDone = false := by
            rw [show d1.read room = applyDrain d1 (.read room) from rfl, applyDrain_blocksDone, ← hfi,
              ← applyDrain_isFinished d1 (.read room)]
            simpa [applyDrain] using hfin
          obtain ⟨y, hy1, hy2⟩ := ih (fuel' := fuel') (d1.read room).1 s1 (room - (d1.read room).2.size)
            (out ++ (d1.read room).2) (out2 ++ (d1.read room).2) hnd2 (by omega) (by omega) h
          refine ⟨(d1.read room).2 ++ y, by rw [hy1, Array.append_assoc], ?_⟩
          rw [show room + extra - (d1.read room).2.size = room - (d1.read room).2.size + extra by omega, hy2,
            Array.append_assoc]

theorem resetCore_congr (dicts : List (Dict σ)) (mw : Nat) {f f' : Src} {st : FState σ} {s1 : Src}
    (h : resetCore dicts mw f = .replace st (.ok s1)) (ha : f'.take st.bytesRead = f.take st.bytesRead) :
    resetCore dicts mw f' = .replace st (.ok (f'.drop st.bytesRead)) := by
  obtain ⟨hd, n, rest, w, hr, hw, hl, hc⟩ := resetCore_eq_replace h
  have hbr : st.bytesRead = n := by
    rcases (applyDictChoice_cases hc).1 with rfl | ⟨dict, -, rfl⟩
    · rfl
    · rfl
  rw [hbr] at ha ⊢
  rw [resetCore_of_header (readFrameHeader_congr hr ha) hw hl]
  -- the dictionary choice hands the rest of the source through
  simp only [applyDictChoice] at hc ⊢
  split at hc
  · simp only [ResetResult.replace.injEq, Out.ok.injEq, and_true] at hc ⊢
    exact hc.1
  · split at hc
    · cases hc
    · simp only [ResetResult.replace.injEq, Out.ok.injEq, and_true] at hc ⊢
      exact hc.1

theorem resetCore_append (dicts : List (Dict σ)) (mw : Nat) (f x : Src) (st : FState σ) (s1 : Src)
    (h : resetCore dicts mw f = .replace st (.ok s1)) :
    resetCore dicts mw (f ++ x) = .replace st (.ok (s1 ++ x)) := by
  have hrc := resetCore_replace _ _ _ _ _ h
  rw [resetCore_congr dicts mw h (List.take_append_of_le_length hrc.hdr_le),
    List.drop_append_of_le_length hrc.hdr_le, hrc.rest s1 rfl]

/-- a complete skippable frame: magic in range, declared length = what follows the 8-byte header -/
def IsSkippable (seg : List Nat) : Prop :=
  8 ≤ seg.length ∧ Gen.skipMagicLo ≤ leNat (seg.take 4) ∧ leNat (seg.take 4) ≤ Gen.skipMagicHi ∧
  leNat ((seg.drop 4).take 4) = seg.length - 8

theorem decodeAllLoop_skippable (seg : List Nat) (hs : IsSkippable seg) (f : Nat) (d : Decoder σ)
    (rest : Src) (room : Nat) (out : Array Nat) :
    decodeAllLoop (f + 1) d (seg ++ rest) room out = decodeAllLoop f d rest room out := by
  obtain ⟨h8, hlo, hhi, hlen⟩ := hs
  have e1 : (seg ++ rest).take 4 = seg.take 4 := List.take_append_of_le_length (by omega)
  have e2 : ((seg ++ rest).drop 4).take 4 = (seg.drop 4).take 4 := by
    rw [List.drop_append_of_le_length (by omega), List.take_append_of_le_length (by rw [List.length_drop]; omega)]
  rw [decodeAllLoop_skip _ d _ room out (by rw [List.length_append]; omega) (by rw [e1]; exact ⟨hlo, hhi⟩)
      (by rw [e2, hlen, List.length_append]; omega),
    e2, hlen, show 8 + (seg.length - 8) = seg.length by omega, List.drop_left]

theorem decodeAllLoop_skips (segs : List (List Nat)) (hs : ∀ seg ∈ segs, IsSkippable seg) (f : Nat) (d : Decoder σ)
    (rest : Src) (room : Nat) (out : Array Nat) :
    decodeAllLoop (segs.length + f) d (segs.flatten ++ rest) room out = decodeAllLoop f d rest room out := by
  induction segs with
  | nil => simp
  | cons seg segs ih =>
    rw [show ((seg :: segs).flatten ++ rest) = seg ++ (segs.flatten ++ rest) by simp,
      show (seg :: segs).length + f = (segs.length + f) + 1 by simp; omega,
      decodeAllLoop_skippable seg (hs seg List.mem_cons_self)]
    exact ih (fun s hs' => hs s (List.mem_cons_of_mem _ hs'))

theorem Decoder.decodeAll_skips (segs : List (List Nat)) (hs : ∀ seg ∈ segs, IsSkippable seg) (d : Decoder σ)
    (rest : Src) (room : Nat) : d.decodeAll (segs.flatten ++ rest) room = d.decodeAll rest room := by
  have hlen : segs.length ≤ segs.flatten.length := by
    induction segs with
    | nil => simp
    | cons seg segs ih =>
      have := (hs seg List.mem_cons_self).1
      have := ih (fun s hs' => hs s (List.mem_cons_of_mem _ hs'))
      simp only [List.length_cons, List.flatten_cons, List.length_append]; omega
  simp only [Decoder.decodeAll]
  have e : (segs.flatten ++ rest).length + 1 = segs.length + ((segs.flatten ++ rest).length + 1 - segs.length) := by
    rw [List.length_append]; omega
  rw [e, decodeAllLoop_skips segs hs]
  exact decodeAllLoop_fuel _ _ d rest room #[] (by rw [List.length_append]; omega) (Nat.lt_succ_self _)

/-- one segment of a multi-frame input: a skippable frame, or a frame with the content it decodes to -/
inductive Segment where
  | skip (bytes : List Nat)
  | frame (bytes : List Nat) (content : Array Nat)

def Segment.bytes : Segment → List Nat
  | .skip b => b
  | .frame b _ => b

def Segment.content : Segment → Array Nat
  | .skip _ => #[]
  | .frame _ c => c

/-- a frame segment is valid for a decoder configuration when `decode_all`'s per-frame loop, run on
the segment alone after `init`, consumes all of it, finishes, and delivers `content` into a target
of exactly that size -/
def Segment.Valid (dicts : List (Dict σ)) (mw : Nat) : Segment → Prop
  | .skip b => IsSkippable b
  | .frame b c => ∃ st s1 d2, resetCore dicts mw b = .replace st (.ok s1) ∧
      decodeAllFrame (s1.length + 2) { state := some st, dicts := dicts, maxWindow := mw } s1 c.size #[] = (d2, .ok ([], 0, c))

def totalContent (segs : List Segment) : Array Nat := segs.foldr (fun sg acc => sg.content ++ acc) #[]
def totalBytes (segs : List Segment) : List Nat := (segs.map Segment.bytes).flatten

theorem Segment.Valid.bytes_pos {dicts : List (Dict σ)} {mw : Nat} {sg : Segment} (h : sg.Valid dicts mw) :
    1 ≤ sg.bytes.length := by
  cases sg with
  | skip b => have := h.1; simp only [Segment.bytes]; omega
  | frame b c =>
    obtain ⟨st, s1, d2, hr, -⟩ := h
    have hrc := resetCore_replace _ _ _ _ _ hr
    have := hrc.hdr_ge
    have := hrc.hdr_le
    simp only [Segment.bytes]; omega

theorem decodeAllLoop_concat (dicts : List (Dict σ)) (mw : Nat) (segs : List Segment)
    (hv : ∀ sg ∈ segs, sg.Valid dicts mw) (f : Nat) (d : Decoder σ) (hd : d.dicts = dicts ∧ d.maxWindow = mw)
    (rest : Src) (room : Nat) (out : Array Nat) (hroom : (totalContent segs).size ≤ room) :
    ∃ d', (d'.dicts = dicts ∧ d'.maxWindow = mw) ∧
      decodeAllLoop (segs.length + f) d (totalBytes segs ++ rest) room out =
        decodeAllLoop f d' rest (room - (totalContent segs).size) (out ++ totalContent segs) := by
  induction segs generalizing d room out with
  | nil => exact ⟨d, hd, by simp [totalBytes, totalContent]⟩
  | cons sg segs ih =>
    have hvs : ∀ s ∈ segs, s.Valid dicts mw := fun s hs => hv s (List.mem_cons_of_mem _ hs)
    have hb : totalBytes (sg :: segs) ++ rest = sg.bytes ++ (totalBytes segs ++ rest) := by
      simp [totalBytes]
    have hc : totalContent (sg :: segs) = sg.content ++ totalContent segs := rfl
    rw [hb, hc, show (sg :: segs).length + f = (segs.length + f) + 1 by simp; omega]
    rw [hc, Array.size_append] at hroom
    cases sg with
    | skip b =>
      simp only [Segment.bytes, Segment.content]
      rw [decodeAllLoop_skippable b (hv _ List.mem_cons_self)]
      obtain ⟨d', hd', he⟩ := ih hvs d hd room out (by simp only [Segment.content] at hroom; simpa using hroom)
      exact ⟨d', hd', by rw [he]; simp⟩
    | frame b c =>
      obtain ⟨st, s1, d2, hr, hfr⟩ := hv _ List.mem_cons_self
      simp only [Segment.bytes, Segment.content] at hroom ⊢
      have hrc := resetCore_replace _ _ _ _ _ hr
      have hne : b ++ (totalBytes segs ++ rest) ≠ [] := by
        have hpos := (hv _ List.mem_cons_self).bytes_pos
        intro h
        have := congrArg List.length h
        simp only [Segment.bytes, List.length_append, List.length_nil] at this hpos; omega
      rw [decodeAllLoop_succ _ _ _ _ _ hne]
      have hreset : d.reset (b ++ (totalBytes segs ++ rest)) =
          ({ d with state := some st }, .ok (s1 ++ (totalBytes segs ++ rest))) := by
        simp only [Decoder.reset, hd.1, hd.2, resetCore_append dicts mw b _ st s1 hr]
      rw [hreset]
      simp only
      have hd1 : ({ d with state := some st } : Decoder σ) = { state := some st, dicts := dicts, maxWindow := mw } := by
        obtain ⟨s0, di, m⟩ := d
        simp only at hd
        simp [hd.1, hd.2]
      obtain ⟨y, hy1, hy2⟩ := decodeAllFrame_append (s1.length + 2) ((s1 ++ (totalBytes segs ++ rest)).length + 2)
        { state := some st, dicts := dicts, maxWindow := mw } d2 s1 [] (totalBytes segs ++ rest) c.size 0 (room - c.size)
        #[] c out (by simp [Decoder.blocksDone, hrc.finished]) (by omega) (by rw [List.length_append]; omega) hfr
      have hy : y = c := by simpa using hy1.symm
      subst hy
      rw [hd1, show room = y.size + (room - y.size) by omega, hy2]
      simp only [List.nil_append, Nat.zero_add]
      have hd2 : d2.dicts = dicts ∧ d2.maxWindow = mw := by
        obtain ⟨-, -, -, _, -, -, -, hstep⟩ := decodeAllFrame_ok _ _ _ _ _ _ _ _ _ (by omega) hfr
        exact ⟨hstep.1, hstep.2.1⟩
      obtain ⟨d', hd', he⟩ := ih hvs d2 hd2 (room - y.size) (out ++ y) (by omega)
      refine ⟨d', hd', ?_⟩
      have e : y.size + (room - y.size) - (y ++ totalContent segs).size = room - y.size - (totalContent segs).size := by
        rw [Array.size_append]; omega
      rw [e, he, Array.append_assoc]

theorem Decoder.decodeAll_concat (segs : List Segment) (d : Decoder σ)
    (hv : ∀ sg ∈ segs, sg.Valid d.dicts d.maxWindow) (room : Nat) (hroom : (totalContent segs).size ≤ room) :
    ∃ d', d.decodeAll (totalBytes segs) room = (d', .ok (totalContent segs)) := by
  have hlen : segs.length ≤ (totalBytes segs).length := by
    clear hroom
    induction segs with
    | nil => simp
    | cons sg segs ih =>
      have := (hv sg List.mem_cons_self).bytes_pos
      have := ih (fun s hs => hv s (List.mem_cons_of_mem _ hs))
      simp only [totalBytes, List.map_cons, List.flatten_cons, List.length_append, List.length_cons] at *
      omega
  obtain ⟨d', -, he⟩ := decodeAllLoop_concat d.dicts d.maxWindow segs hv ((totalBytes segs).length + 1 - segs.length) d
    ⟨rfl, rfl⟩ [] room #[] hroom
  refine ⟨d', ?_⟩
  simp only [Decoder.decodeAll]
  rw [List.append_nil, show segs.length + ((totalBytes segs).length + 1 - segs.length) = (totalBytes segs).length + 1 by omega] at he
  rw [he]
  generalize (totalBytes segs).length + 1 - segs.length = f
  cases f with
  | zero => simp [decodeAllLoop]
  | succ f => simp [decodeAllLoop]

/-- `Segment.Valid` as a Boolean, so that the examples of Props/C10 can show it satisfiable by evaluation -/
def Segment.validB (dicts : List (Dict σ)) (mw : Nat) : Segment → Bool
  | .skip b =>
    decide (8 ≤ b.length) && decide (Gen.skipMagicLo ≤ leNat (b.take 4)) && decide (leNat (b.take 4) ≤ Gen.skipMagicHi) &&
      decide (leNat ((b.drop 4).take 4) = b.length - 8)
  | .frame b c =>
    match resetCore dicts mw b with
    | .replace st (.ok s1) =>
      match decodeAllFrame (s1.length + 2) { state := some st, dicts := dicts, maxWindow := mw } s1 c.size #[] with
      | (_, .ok (s', r', out)) => s'.isEmpty && decide (r' = 0) && decide (out = c)
      | _ => false
    | _ => false

theorem Segment.valid_of_validB (dicts : List (Dict σ)) (mw : Nat) (sg : Segment) (h : sg.validB dicts mw = true) :
    sg.Valid dicts mw := by
  cases sg with
  | skip b =>
    simp only [Segment.validB, Bool.and_eq_true, decide_eq_true_eq] at h
    exact ⟨h.1.1.1, h.1.1.2, h.1.2, h.2⟩
  | frame b c =>
    simp only [Segment.validB] at h
    split at h
    · rename_i st s1 hr
      split at h
      · rename_i d2 s' r' out hfr
        simp only [Bool.and_eq_true, decide_eq_true_eq, List.isEmpty_iff] at h
        obtain ⟨⟨rfl, rfl⟩, rfl⟩ := h
        exact ⟨st, s1, d2, hr, hfr⟩
      · cases h
    · cases h

theorem resetCore_take_fits (dicts : List (Dict σ)) (mw : Nat) (f : Src) (st : FState σ) (s1 : Src) (k : Nat)
    (h : resetCore dicts mw f = .replace st (.ok s1)) (hk : st.bytesRead ≤ k) :
    resetCore dicts mw (f.take k) = .replace st (.ok (s1.take (k - st.bytesRead))) := by
  rw [resetCore_congr dicts mw h (by rw [List.take_take, Nat.min_eq_left hk]), List.drop_take,
    (resetCore_replace _ _ _ _ _ h).rest s1 rfl]

theorem Decoder.reset_take_fits (d d0 : Decoder σ) (f rest : Src) (k : Nat) (h : d.reset f = (d0, .ok rest))
    (hk : d0.bytesRead ≤ k) : d.reset (f.take k) = (d0, .ok (rest.take (k - d0.bytesRead))) := by
  obtain ⟨st, rfl, hrc, -⟩ := Decoder.reset_ok d d0 f rest h
  simp only [Decoder.bytesRead] at hk ⊢
  simp only [Decoder.reset, resetCore_take_fits d.dicts d.maxWindow f st rest k hrc hk]

end Zstd.Model
