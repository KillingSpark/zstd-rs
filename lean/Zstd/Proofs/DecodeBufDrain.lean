import Zstd.Proofs.DecodeBufRepeat
/-
`DecodeBuffer::drain_to` with its `DrainGuard`, under every closure that honours the doc comment above `fn drain_to`
("Semantics of write_bytes", `ClosureOk`); `write_all_bytes` under every sink script.
-/
namespace Zstd.Model
open Zstd RingBuffer

theorem sinkWriteAllFrom_spec (script : List SinkAns) (got buf : List Byte) (written : Nat)
    (hw : written ≤ buf.length) :
    written ≤ (sinkWriteAllFrom script got buf written).1 ∧
    (sinkWriteAllFrom script got buf written).1 ≤ buf.length ∧
    (sinkWriteAllFrom script got buf written).2.2.got =
      got ++ (buf.drop written).take ((sinkWriteAllFrom script got buf written).1 - written) := by
  fun_induction sinkWriteAllFrom script got buf written with
  | case1 got buf written h =>
    exact ⟨by omega, Nat.le_refl _, by rw [List.take_of_length_le (by rw [List.length_drop]; omega)]⟩
  | case2 | case3 | case5 | case6 => exact ⟨Nat.le_refl _, hw, by simp⟩
  | case4 rest got buf written hlt k w hw0 ih =>
    -- the sink took `w` bytes and the loop goes on
    obtain ⟨h1, h2, h3⟩ := ih (by omega)
    generalize (sinkWriteAllFrom rest _ buf _).1 = w1 at h1 h2 h3 ⊢
    refine ⟨by omega, h2, ?_⟩
    rw [h3, List.append_assoc, show w1 - written = w + (w1 - (written + w)) by omega, List.take_add, List.drop_drop]

theorem sinkWriteAll_spec (sink : Sink) (buf : List Byte) :
    (sinkWriteAll sink buf).1 ≤ buf.length ∧
    (sinkWriteAll sink buf).2.2.got = sink.got ++ buf.take (sinkWriteAll sink buf).1 := by
  have := sinkWriteAllFrom_spec sink.script sink.got buf 0 (Nat.zero_le _)
  unfold sinkWriteAll
  refine ⟨this.2.1, ?_⟩
  rw [this.2.2]; simp

namespace DecodeBuffer

/-- what `drain_to` assumes of its closure (the doc comment "Semantics of write_bytes" above `fn drain_to`): it
reports at most what it was offered and has taken exactly that prefix; `delivered` reads off the closure's state the
bytes it has taken so far -/
structure ClosureOk {σ : Type} (wb : σ → List Byte → Except Fault (Nat × Option IoErr × σ))
    (delivered : σ → List Byte) : Prop where
  spec : ∀ s buf out, wb s buf = .ok out →
    out.1 ≤ buf.length ∧ delivered out.2.2 = delivered s ++ buf.take out.1

/-- a closure that always takes everything it is offered and never fails (`read`, `read_all`,
`drain_to_window_size`) -/
def AcceptsAll {σ : Type} (wb : σ → List Byte → Except Fault (Nat × Option IoErr × σ)) : Prop :=
  ∀ s buf out, wb s buf = .ok out → out.1 = buf.length ∧ out.2.1 = none

theorem sinkClosure_ok : ClosureOk sinkClosure Sink.got := by
  constructor
  intro s buf out h
  simp only [sinkClosure, pure_eq_ok, Except.ok.injEq] at h
  subst h
  exact sinkWriteAll_spec s buf

theorem vecClosure_ok : ClosureOk vecClosure id := by
  constructor
  intro s buf out h
  simp only [vecClosure, pure_eq_ok, Except.ok.injEq] at h
  subst h
  simp

theorem targetClosure_eq {st : Nat × List Byte} {buf : List Byte} (h : st.2.length + buf.length ≤ st.1) :
    targetClosure st buf = .ok (buf.length, none, (st.1, st.2 ++ buf)) := by
  rw [targetClosure, check_bind h]; rfl

/-- the closure of `read` / `read_all` returns only when the target has room (otherwise the slice index panics), and
then it has taken everything -/
theorem targetClosure_of_ok {st : Nat × List Byte} {buf : List Byte} {out : Nat × Option IoErr × (Nat × List Byte)}
    (h : targetClosure st buf = .ok out) : out = (buf.length, none, (st.1, st.2 ++ buf)) := by
  by_cases hc : st.2.length + buf.length ≤ st.1
  · rw [targetClosure_eq hc] at h; cases h; rfl
  · rw [targetClosure, check_err hc, error_bind] at h; cases h

theorem targetClosure_ok : ClosureOk targetClosure (fun st => st.2) := by
  constructor
  intro s buf out h
  cases targetClosure_of_ok h
  simp

variable {d : DecodeBuffer}

theorem guardDrop_ok {b : RingBuffer} (hI : b.Inv) {k : Nat} (hk : k ≤ b.len) :
    ∃ b', guardDrop b k = .ok b' ∧ b'.Inv ∧ b'.abs = b.abs.drop k ∧ b'.cap = b.cap := by
  unfold guardDrop
  by_cases h0 : k = 0
  · subst h0
    simp only [ne_eq, not_true_eq_false, ↓reduceIte, pure_eq_ok]
    exact ⟨b, rfl, hI, by simp, rfl⟩
  · simp only [ne_eq, h0, not_false_eq_true, ↓reduceIte]
    obtain ⟨b', e, hI', ha, _, hcap⟩ := dropFirstN_ok hI (hI.cap_pos_of_len (by omega)) hk
    exact ⟨b', e, hI', ha, hcap⟩

/-- the first `k` bytes taken out of the buffer and hashed, the allocation kept -/
structure Took (d d' : DecodeBuffer) (k : Nat) : Prop where
  inv : d'.Inv
  abs : d'.abs = d.abs.drop k
  hash : d'.hash = d.hash ++ d.abs.take k
  cap : d'.buffer.cap = d.buffer.cap

/-- what a returning `drain_to` has done: exactly the first `k` bytes were handed over, dropped and
hashed; `Ok(n)` reports `n = k`; the allocation is kept -/
structure Drained {σ : Type} (wb : σ → List Byte → Except Fault (Nat × Option IoErr × σ))
    (delivered : σ → List Byte) (d d' : DecodeBuffer) (amount : Nat) (s s' : σ) (res : Except IoErr Nat)
    (k : Nat) : Prop extends Took d d' k where
  le_amount : k ≤ amount
  le_len : k ≤ d.abs.length
  delivered : delivered s' = delivered s ++ d.abs.take k
  reported : ∀ n, res = .ok n → n = k
  full : AcceptsAll wb → k = min amount d.abs.length ∧ res = .ok k

/-- `drain_to` for every amount, closure and closure state.  If the closure honours the contract, the call either
returns (`Drained`), whatever the sink did — partial acceptance of the first segment (then the second is not
attempted), `Ok(0)`, error after a partial write —, or it panics, and then it is the closure that panicked, on one of
the at most two offers `drain_to` can make: a first one of at most `amount` bytes, or, after that one was taken
completely, a second one such that both together are at most `amount` bytes. -/
theorem drainTo_spec {σ : Type} {wb : σ → List Byte → Except Fault (Nat × Option IoErr × σ)}
    {delivered : σ → List Byte} (hwb : ClosureOk wb delivered) (hI : d.Inv) (amount : Nat) (s : σ) :
    match d.drainTo amount wb s with
    | .ok (d', s', res) => ∃ k, Drained wb delivered d d' amount s s' res k
    | .error f =>
      (∃ buf, buf.length ≤ amount ∧ wb s buf = .error f) ∨
      (∃ buf1 out1 buf2, wb s buf1 = .ok out1 ∧ out1.1 = buf1.length ∧
        buf1.length + buf2.length ≤ amount ∧ wb out1.2.2 buf2 = .error f) := by
  unfold drainTo
  by_cases ha : amount = 0
  · rw [if_pos ha, pure_eq_ok]
    exact ⟨0, ⟨hI, by simp, by simp, rfl⟩, by omega, by omega, by simp,
      (fun n hn => by cases hn; rfl), (fun _ => ⟨by omega, rfl⟩)⟩
  · rw [if_neg ha]
    obtain ⟨a, b, b0, eas, hab, hal, c1, c2, c3, c4⟩ := asSlices_ok hI
    rw [eas, ok_bind]
    simp only []
    obtain ⟨hI0, habs0, hlen0, _⟩ := same_fields hI c1 c2 c3 c4
    have hab : d.abs = a ++ b := hab.symm
    have hlen : d.abs.length = a.length + b.length := by rw [hab, List.length_append]
    -- every return after an offer: the `DrainGuard` drops the `k` bytes handed over, which are hashed
    have fin : ∀ (k : Nat) (s' : σ) (res : Except IoErr Nat), k ≤ amount → k ≤ d.abs.length →
        delivered s' = delivered s ++ d.abs.take k → (∀ n, res = .ok n → n = k) →
        (AcceptsAll wb → k = min amount d.abs.length ∧ res = .ok k) →
        ∃ b', guardDrop b0 k = .ok b' ∧
          Drained wb delivered d { d with buffer := b', hash := d.hash ++ d.abs.take k } amount s s' res k := by
      intro k s' res hka hkl hdel hres hfull
      obtain ⟨b', eg, hI', habs', hcap'⟩ := guardDrop_ok hI0 (k := k) (by rw [hlen0, ← abs_length]; exact hkl)
      exact ⟨b', eg, ⟨hI', by show b'.abs = _; rw [habs', habs0]; rfl, rfl, by rw [hcap', c1]⟩, hka, hkl, hdel,
        hres, hfull⟩
    by_cases hn1 : min a.length amount ≠ 0
    · rw [if_pos hn1]
      cases hw1 : wb s (a.take (min a.length amount)) with
      | error e =>
        rw [error_bind]
        exact .inl ⟨_, by rw [List.length_take]; omega, hw1⟩
      | ok r1 =>
        rw [ok_bind]
        obtain ⟨hle1, hdel1⟩ := hwb.spec _ _ _ hw1
        rw [List.length_take] at hle1
        rw [List.take_take, Nat.min_eq_left (by omega)] at hdel1
        have hle1' : r1.1 ≤ a.length := by omega
        rw [check_bind hle1']
        have htake1 : d.abs.take r1.1 = a.take r1.1 := by rw [hab, List.take_append_of_le_length hle1']
        rw [← htake1] at hdel1 ⊢
        cases hr1 : r1.2.1 with
        | some e =>
          simp only []
          obtain ⟨b1, hg1, hD⟩ := fin r1.1 r1.2.2 (.error e) (by omega) (by omega) hdel1 (fun n hn => by cases hn)
            (fun hf => by have := (hf _ _ _ hw1).2; rw [hr1] at this; cases this)
          rw [hg1, ok_bind, pure_eq_ok]
          exact ⟨_, hD⟩
        | none =>
          simp only []
          by_cases hseg : r1.1 = min a.length amount ∧ min b.length (amount - min a.length amount) ≠ 0
          · rw [if_pos hseg]
            cases hw2 : wb r1.2.2 (b.take (min b.length (amount - min a.length amount))) with
            | error e =>
              rw [error_bind]
              exact .inr ⟨_, r1, _, hw1, by rw [List.length_take]; omega,
                by rw [List.length_take, List.length_take]; omega, hw2⟩
            | ok r2 =>
              rw [ok_bind]
              obtain ⟨hle2, hdel2⟩ := hwb.spec _ _ _ hw2
              rw [List.length_take] at hle2
              rw [List.take_take, Nat.min_eq_left (by omega)] at hdel2
              have hle2' : r2.1 ≤ b.length := by omega
              rw [check_bind hle2']
              -- the first segment was taken completely: both offers together are a prefix of the content
              have htake2 : d.abs.take r1.1 ++ b.take r2.1 = d.abs.take (r1.1 + r2.1) := by
                rw [htake1, hab, show r1.1 = a.length by omega, List.take_length_add_append, List.take_length]
              rw [List.append_assoc, htake2]
              rw [hdel1, List.append_assoc, htake2] at hdel2
              cases hr2 : r2.2.1 with
              | some e =>
                obtain ⟨b', hg, hD⟩ := fin (r1.1 + r2.1) r2.2.2 (.error e) (by omega) (by omega) hdel2
                  (fun n hn => by cases hn)
                  (fun hf => by have := (hf _ _ _ hw2).2; rw [hr2] at this; cases this)
                rw [hg, ok_bind]
                exact ⟨_, hD⟩
              | none =>
                obtain ⟨b', hg, hD⟩ := fin (r1.1 + r2.1) r2.2.2 (.ok (r1.1 + r2.1)) (by omega) (by omega) hdel2
                  (fun n hn => by cases hn; rfl)
                  (fun hf => ⟨by have := (hf _ _ _ hw2).1; rw [List.length_take] at this; omega, rfl⟩)
                rw [hg, ok_bind]
                exact ⟨_, hD⟩
          · -- nothing (more) is offered from the second segment
            obtain ⟨b1, hg1, hD⟩ := fin r1.1 r1.2.2 (.ok r1.1) (by omega) (by omega) hdel1
              (fun n hn => by cases hn; rfl)
              (fun hf => ⟨by have := (hf _ _ _ hw1).1; rw [List.length_take] at this; omega, rfl⟩)
            rw [if_neg hseg, hg1, ok_bind, pure_eq_ok]
            exact ⟨_, hD⟩
    · rw [if_neg hn1, pure_eq_ok]
      have hempty : d.abs.length = 0 := by
        have ha0 : a = [] := List.eq_nil_of_length_eq_zero (by omega)
        rw [hlen, ha0, hal ha0]; rfl
      refine ⟨0, ⟨hI0, ?_, by simp, c1⟩, by omega, by omega, by simp, (fun n hn => by cases hn; rfl),
        (fun _ => ⟨by omega, rfl⟩)⟩
      show b0.abs = _; rw [habs0]; simp; rfl

theorem drainTo_exact {σ : Type} {wb : σ → List Byte → Except Fault (Nat × Option IoErr × σ)}
    {delivered : σ → List Byte} (hwb : ClosureOk wb delivered) (hI : d.Inv) {amount : Nat} {s s' : σ}
    {d' : DecodeBuffer} {res : Except IoErr Nat} (h : d.drainTo amount wb s = .ok (d', s', res)) :
    ∃ k, Drained wb delivered d d' amount s s' res k := by
  have := drainTo_spec hwb hI amount s
  rwa [h] at this

theorem drainTo_noFault {σ : Type} {wb : σ → List Byte → Except Fault (Nat × Option IoErr × σ)}
    {delivered : σ → List Byte} (hwb : ClosureOk wb delivered) (hI : d.Inv) (amount : Nat) (s : σ)
    (h1 : ∀ buf, buf.length ≤ amount → ∃ out, wb s buf = .ok out)
    (h2 : ∀ buf1 out1 buf2, wb s buf1 = .ok out1 → out1.1 = buf1.length →
      buf1.length + buf2.length ≤ amount → ∃ out, wb out1.2.2 buf2 = .ok out) :
    ∃ out, d.drainTo amount wb s = .ok out := by
  have := drainTo_spec hwb hI amount s
  split at this
  · exact ⟨_, by assumption⟩
  · rcases this with ⟨buf, hb, e⟩ | ⟨buf1, out1, buf2, e1, hl, hb, e⟩
    · obtain ⟨o, ho⟩ := h1 buf hb; rw [e] at ho; cases ho
    · obtain ⟨o, ho⟩ := h2 buf1 out1 buf2 e1 hl hb; rw [e] at ho; cases ho

end DecodeBuffer

end Zstd.Model
