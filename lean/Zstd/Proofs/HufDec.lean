import Zstd.Model.Huffman
/-
The decoder's table construction (`build_table_from_weights`) in the coordinates of the weights: the region of
weight `w` starts at `specOff all (w − 1)` (the rank indexes are these prefix sums), the blocks of the symbols are
laid out by weight, then by symbol, without overlap, and after the fill loop symbol `s` of weight `w` owns the
`2^(w−1)` cells from `canonAt all (all.take s) w` on (`FillInv`).  `GoodWeights` is what the function's checks accept.
At the end `read_weights` as equations.
-/
namespace Zstd.Proofs.Huf
open Zstd Zstd.Model.Huf

theorem firstTooBig_none {ws : List Nat} : firstTooBig ws = none ↔ ∀ w ∈ ws, w ≤ Gen.hufMaxNumBits := by
  induction ws with
  | nil => simp [firstTooBig]
  | cons w ws ih =>
    simp only [firstTooBig, Gen.hufWeightTooBig, decide_eq_true_eq, List.mem_cons, forall_eq_or_imp]
    split
    · constructor
      · intro h; cases h
      · intro ⟨h, _⟩; omega
    · rw [ih]; constructor
      · intro h; exact ⟨by omega, h⟩
      · intro ⟨_, h⟩; exact h

theorem firstTooBig_some {ws : List Nat} {w : Nat} (h : firstTooBig ws = some w) :
    w ∈ ws ∧ w > Gen.hufMaxNumBits := by
  induction ws with
  | nil => simp [firstTooBig] at h
  | cons x xs ih =>
    simp only [firstTooBig, Gen.hufWeightTooBig, decide_eq_true_eq] at h
    split at h
    · cases h; exact ⟨List.mem_cons_self, by assumption⟩
    · exact ⟨List.mem_cons_of_mem _ (ih h).1, (ih h).2⟩

theorem weightSum_le {ws : List Nat} {k : Nat} (h : ∀ w ∈ ws, w ≤ k) : weightSum ws ≤ ws.length * 2 ^ k := by
  induction ws with
  | nil => simp [weightSum]
  | cons w ws ih =>
    have h1 : w ≤ k := h w List.mem_cons_self
    have h2 := ih (fun x hx => h x (List.mem_cons_of_mem _ hx))
    simp only [weightSum, List.length_cons]
    have : (if w > 0 then 2 ^ (w - 1) else 0) ≤ 2 ^ k := by
      split
      · exact Nat.pow_le_pow_right (by omega) (by omega)
      · exact Nat.zero_le _
    rw [Nat.add_mul]; omega

/-- the `u32` sum of `build_table_from_weights` cannot overflow on what `read_weights` delivers.  257: the FSE form tests
`weights.len() > 255` once per round of two weights, so up to 257 come out (`Blk.readWeights_ok`). -/
theorem weightSum_lt_u32 {ws : List Nat} (hlen : ws.length ≤ 257) (h : ∀ w ∈ ws, w ≤ Gen.hufMaxNumBits) :
    ¬ weightSum ws ≥ 2 ^ 32 := by
  have h1 : weightSum ws ≤ ws.length * 2 ^ 11 := weightSum_le h
  have h2 : ws.length * 2 ^ 11 ≤ 257 * 2 ^ 11 := Nat.mul_le_mul_right _ hlen
  omega

theorem weightSum_append (a b : List Nat) : weightSum (a ++ b) = weightSum a + weightSum b := by
  induction a with
  | nil => simp [weightSum]
  | cons w ws ih => simp only [List.cons_append, weightSum, ih]; omega

theorem isPow2_iff {n : Nat} : isPow2 n = true ↔ n ≠ 0 ∧ 2 ^ Nat.log2 n = n := by
  simp [isPow2]

theorem countBits_append (b : Nat) (x y : List Nat) : countBits b (x ++ y) = countBits b x + countBits b y := by
  induction x with
  | nil => simp [countBits]
  | cons a x ih => simp only [List.cons_append, countBits, ih]; omega

def bitsOf (m : Nat) (ws : List Nat) : List Nat := ws.map fun w => if w > 0 then m + 1 - w else 0

/-- start of the region of weight `k + 1` in the canonical table -/
def specOff (all : List Nat) : Nat → Nat
  | 0 => 0
  | k + 1 => specOff all k + countBits (k + 1) all * 2 ^ k

theorem specOff_nil (k : Nat) : specOff [] k = 0 := by
  induction k with
  | zero => rfl
  | succ k ih => simp [specOff, ih, countBits]

theorem specOff_cons (x : Nat) (xs : List Nat) : ∀ k,
    specOff (x :: xs) k = specOff xs k + (if 1 ≤ x ∧ x ≤ k then 2 ^ (x - 1) else 0)
  | 0 => by
    have : ¬ (1 ≤ x ∧ x ≤ 0) := by omega
    rw [if_neg this]; rfl
  | k + 1 => by
    have hstep : (if 1 ≤ x ∧ x ≤ k + 1 then 2 ^ (x - 1) else 0)
        = (if 1 ≤ x ∧ x ≤ k then 2 ^ (x - 1) else 0) + (if x = k + 1 then 1 else 0) * 2 ^ k := by
      by_cases hx : x = k + 1
      · subst hx; simp
      · have : (1 ≤ x ∧ x ≤ k + 1) ↔ (1 ≤ x ∧ x ≤ k) := by omega
        simp only [this, if_neg hx, Nat.zero_mul, Nat.add_zero]
    rw [specOff, specOff, specOff_cons x xs k, countBits, Nat.add_mul, hstep]
    omega

theorem specOff_total {m : Nat} : ∀ {ws : List Nat}, (∀ w ∈ ws, w ≤ m) → specOff ws m = weightSum ws
  | [], _ => specOff_nil m
  | x :: xs, h => by
    have hx : x ≤ m := h x List.mem_cons_self
    rw [specOff_cons, specOff_total (fun w hw => h w (List.mem_cons_of_mem _ hw)), weightSum]
    by_cases h0 : x > 0
    · rw [if_pos h0, if_pos ⟨h0, hx⟩, Nat.add_comm]
    · rw [if_neg h0, if_neg (by omega), Nat.add_comm]

theorem specOff_mono (ws : List Nat) {a b : Nat} (h : a ≤ b) : specOff ws a ≤ specOff ws b := by
  induction b with
  | zero => rw [Nat.le_zero.mp h]; exact Nat.le_refl _
  | succ b ih =>
    rcases Nat.eq_or_lt_of_le h with rfl | h'
    · exact Nat.le_refl _
    · exact Nat.le_trans (ih (by omega)) (Nat.le_add_right _ _)

theorem countBits_bitsOf (m : Nat) {ws : List Nat} (h : ∀ w ∈ ws, w ≤ m) {w : Nat} (h1 : 1 ≤ w) (h2 : w ≤ m) :
    countBits (m + 1 - w) (bitsOf m ws) = countBits w ws := by
  induction ws with
  | nil => rfl
  | cons x xs ih =>
    have hx : x ≤ m := h x List.mem_cons_self
    have hiff : ((if x > 0 then m + 1 - x else 0) = m + 1 - w) ↔ x = w := by split <;> omega
    have := ih (fun y hy => h y (List.mem_cons_of_mem _ hy))
    simp only [bitsOf, List.map_cons, countBits, hiff] at this ⊢
    rw [this]

theorem countBits_take_lt {b : Nat} {pre : List Nat} {s : Nat} (hs : s < pre.length) (h : pre[s] = b) :
    countBits b (pre.take s) + 1 ≤ countBits b pre := by
  have h1 : pre = pre.take s ++ pre[s] :: pre.drop (s + 1) := by
    rw [List.getElem_cons_drop, List.take_append_drop]
  have h2 : countBits b pre = countBits b (pre.take s) + countBits b (pre[s] :: pre.drop (s + 1)) := by
    conv => lhs; rw [h1]
    exact countBits_append _ _ _
  rw [h2, countBits, h]; simp

/-- first cell of symbol number `pre.length` of weight `w` when the symbols before it have the weights `pre` -/
def canonAt (all pre : List Nat) (w : Nat) : Nat := specOff all (w - 1) + countBits w pre * 2 ^ (w - 1)

theorem block_le_region {ws : List Nat} {s w k : Nat} (hs : ws[s]? = some w) (hw : 1 ≤ w) (hk : w ≤ k) :
    canonAt ws (ws.take s) w + 2 ^ (w - 1) ≤ specOff ws k := by
  unfold canonAt
  obtain ⟨hlt, hget⟩ := List.getElem?_eq_some_iff.mp hs
  have hc := Nat.mul_le_mul_right (2 ^ (w - 1)) (countBits_take_lt hlt hget)
  have hstep : specOff ws w = specOff ws (w - 1) + countBits w ws * 2 ^ (w - 1) := by
    obtain ⟨k, rfl⟩ : ∃ k, w = k + 1 := ⟨w - 1, by omega⟩
    rfl
  have := specOff_mono ws hk
  rw [Nat.add_mul] at hc
  omega

theorem block_le_block {ws : List Nat} {s s' w w' : Nat} (hs : ws[s]? = some w) (hs' : ws[s']? = some w')
    (hw : 1 ≤ w) (h : w < w' ∨ (w = w' ∧ s < s')) :
    canonAt ws (ws.take s) w + 2 ^ (w - 1) ≤ canonAt ws (ws.take s') w' := by
  rcases h with h | ⟨rfl, h⟩
  · have := block_le_region hs hw (k := w' - 1) (by omega)
    unfold canonAt at this ⊢
    omega
  · unfold canonAt
    obtain ⟨hlt, hget⟩ := List.getElem?_eq_some_iff.mp hs
    obtain ⟨hlt', _⟩ := List.getElem?_eq_some_iff.mp hs'
    have hc := countBits_take_lt (pre := ws.take s') (s := s) (by rw [List.length_take]; omega)
      (by rw [List.getElem_take])
    rw [hget, List.take_take, Nat.min_eq_left (by omega)] at hc
    have := Nat.mul_le_mul_right (2 ^ (w - 1)) hc
    rw [Nat.add_mul] at this
    omega

theorem rankIndexesGo_specOff (m : Nat) {all : List Nat} (hall : ∀ w ∈ all, w ≤ m) : ∀ (b : Nat), b ≤ m →
    rankIndexesGo m (bitsOf m all) b ((List.range' b (m + 1 - b)).map fun i => specOff all (m - i))
      = (List.range' 0 (m + 1)).map fun i => specOff all (m - i) := by
  intro b
  induction b with
  | zero => intro _; simp [rankIndexesGo]
  | succ b ih =>
    intro hb
    have hlen : m + 1 - (b + 1) = (m - (b + 1)) + 1 := by omega
    rw [hlen, List.range'_succ, List.map_cons]
    simp only [rankIndexesGo]
    have hstep : specOff all (m - (b + 1)) + countBits (b + 1) (bitsOf m all) * 2 ^ (m - (b + 1)) = specOff all (m - b) := by
      have e : b + 1 = m + 1 - (m - b) := by omega
      rw [e, countBits_bitsOf m hall (by omega) (by omega)]
      obtain ⟨k, hk⟩ : ∃ k, m - b = k + 1 := ⟨m - b - 1, by omega⟩
      rw [show m - (m + 1 - (m - b)) = k by omega, hk]; rfl
    rw [hstep]
    have := ih (by omega)
    have hlen2 : m + 1 - b = (m - (b + 1) + 1) + 1 := by omega
    rw [hlen2, List.range'_succ, List.map_cons] at this
    rw [← this, List.range'_succ, List.map_cons]

theorem rankIndexes_specOff (m : Nat) {all : List Nat} (hall : ∀ w ∈ all, w ≤ m) :
    rankIndexes m (bitsOf m all) = (List.range' 0 (m + 1)).map fun i => specOff all (m - i) := by
  have := rankIndexesGo_specOff m hall m (Nat.le_refl _)
  have h1 : m + 1 - m = 1 := by omega
  rw [h1] at this
  simp only [List.range'_one, List.map_cons, List.map_nil, Nat.sub_self, specOff] at this
  simpa [rankIndexes] using this

theorem fill_size (a : Array Entry) (base n : Nat) (e : Entry) : (fill a base n e).size = a.size := by
  induction n generalizing a with
  | zero => rfl
  | succ n ih => simp [fill, ih]

theorem fill_get (a : Array Entry) (base n : Nat) (e : Entry) (i : Nat) :
    (fill a base n e)[i]? = if base ≤ i ∧ i < base + n ∧ i < a.size then some e else a[i]? := by
  induction n generalizing a with
  | zero => rw [fill, if_neg (by omega)]
  | succ n ih =>
    rw [fill, ih, Array.size_setIfInBounds, Array.getElem?_setIfInBounds]
    by_cases h1 : base ≤ i ∧ i < base + n ∧ i < a.size
    · rw [if_pos h1, if_pos (by omega)]
    · rw [if_neg h1]
      by_cases h2 : base + n = i
      · rw [if_pos h2]
        by_cases h3 : i < a.size
        · rw [if_pos (by omega), if_pos (by omega)]
        · rw [if_neg (by omega), if_neg (by omega)]
          exact (Array.getElem?_eq_none (by omega)).symm
      · rw [if_neg h2, if_neg (by omega)]

/-- the invariant of the fill loop after the symbols with weights `pre` have been placed -/
structure FillInv (m : Nat) (all pre : List Nat) (ri : List Nat) (dec : Array Entry) : Prop where
  riLen : ri.length = m + 1
  riVal : ∀ w, 1 ≤ w → w ≤ m → ri[m + 1 - w]? = some (canonAt all pre w)
  size : dec.size = 2 ^ m
  cells : ∀ s w, s < pre.length → all[s]? = some w → 1 ≤ w → ∀ j, j < 2 ^ (w - 1) →
    dec[canonAt all (all.take s) w + j]? = some { symbol := s % 256, numBits := m + 1 - w }

theorem canonAt_snoc (all pre : List Nat) (x w : Nat) :
    canonAt all (pre ++ [x]) w = canonAt all pre w + (if x = w then 2 ^ (w - 1) else 0) := by
  simp only [canonAt, countBits_append, countBits]
  by_cases h : x = w <;> simp [h, Nat.add_mul, Nat.add_assoc]

theorem fillLoop_canon (m : Nat) (all : List Nat) (hall : ∀ w ∈ all, w ≤ m) (htotal : specOff all m = 2 ^ m) :
    ∀ (rest pre : List Nat) (ri : List Nat) (dec : Array Entry), all = pre ++ rest →
      FillInv m all pre ri dec →
      ∃ ri' dec', fillLoop m (bitsOf m rest) pre.length ri dec = .ok (ri', dec') ∧ FillInv m all all ri' dec' := by
  intro rest
  induction rest with
  | nil =>
    intro pre ri dec hsplit inv
    simp only [List.append_nil] at hsplit
    subst hsplit
    exact ⟨ri, dec, rfl, inv⟩
  | cons x rest ih =>
    intro pre ri dec hsplit inv
    have hxm : x ≤ m := hall x (by rw [hsplit]; simp)
    have hsplit' : all = (pre ++ [x]) ++ rest := by rw [hsplit]; simp
    have hlen' : (pre ++ [x]).length = pre.length + 1 := by simp
    have hget : all[pre.length]? = some x := by rw [hsplit]; simp
    have htake : all.take pre.length = pre := by rw [hsplit]; simp
    by_cases hx0 : x = 0
    · -- symbol without a code: nothing is written
      subst hx0
      obtain ⟨ri', dec', h1, h2⟩ := ih (pre ++ [0]) ri dec hsplit'
        ⟨inv.riLen, fun w h1 h2 => by rw [inv.riVal w h1 h2, canonAt_snoc, if_neg (by omega), Nat.add_zero],
          inv.size, fun s w hslt hs hw => by
            have hne : s ≠ pre.length := fun h => by
              rw [h, hget, Option.some.injEq] at hs
              omega
            exact inv.cells s w (by rw [hlen'] at hslt; omega) hs hw⟩
      rw [hlen'] at h1
      exact ⟨ri', dec', by simp only [bitsOf, List.map_cons, fillLoop, Nat.lt_irrefl, if_false, if_true]; exact h1, h2⟩
    · have hx1 : 1 ≤ x := by omega
      have e1 : m - (m + 1 - x) = x - 1 := by omega
      have hfit : canonAt all pre x + 2 ^ (x - 1) ≤ dec.size := by
        have h1 := block_le_region hget hx1 hxm
        rw [htake] at h1
        rw [inv.size, ← htotal]; exact h1
      have inv' : FillInv m all (pre ++ [x]) (ri.set (m + 1 - x) (canonAt all pre x + 2 ^ (x - 1)))
          (fill dec (canonAt all pre x) (2 ^ (x - 1)) { symbol := pre.length % 256, numBits := m + 1 - x }) := by
        refine ⟨by simp [inv.riLen], fun w h1 h2 => ?_, by simp [fill_size, inv.size],
          fun s w hslt hs hw j hj => ?_⟩
        · rw [List.getElem?_set, canonAt_snoc]
          by_cases hxw : x = w
          · subst hxw
            rw [if_pos rfl, if_pos (by rw [inv.riLen]; omega), if_pos rfl]
          · rw [if_neg (by omega), if_neg hxw, inv.riVal w h1 h2, Nat.add_zero]
        · rw [hlen'] at hslt
          rw [fill_get]
          by_cases hs' : s = pre.length
          · -- the symbol placed in this step
            subst hs'
            rw [hget, Option.some.injEq] at hs
            subst hs
            rw [htake, if_pos ⟨by omega, by omega, by omega⟩]
          · -- an earlier symbol: its block and the new one do not overlap
            have hdisj : canonAt all pre x + 2 ^ (x - 1) ≤ canonAt all (all.take s) w ∨
                canonAt all (all.take s) w + 2 ^ (w - 1) ≤ canonAt all pre x := by
              by_cases hlt : x < w
              · have := block_le_block hget hs hx1 (Or.inl hlt)
                rw [htake] at this
                exact Or.inl this
              · have := block_le_block hs hget hw (by omega)
                rw [htake] at this
                exact Or.inr this
            rw [if_neg (by omega)]
            exact inv.cells s w (by omega) hs hw j hj
      obtain ⟨ri', dec', h1, h2⟩ := ih (pre ++ [x]) _ _ hsplit' inv'
      rw [hlen'] at h1
      refine ⟨ri', dec', ?_, h2⟩
      simp only [bitsOf, List.map_cons, fillLoop, if_pos (show x > 0 from hx1),
        if_neg (show ¬ m + 1 - x = 0 by omega), inv.riVal x hx1 hxm, e1]
      rw [if_neg (by omega)]
      exact h1

theorem fillLoop_rankIndexes_canon (m : Nat) (all : List Nat) (hall : ∀ w ∈ all, w ≤ m)
    (htotal : specOff all m = 2 ^ m) (dec0 : Array Entry) (hsize : dec0.size = 2 ^ m) :
    ∃ ri dec, fillLoop m (bitsOf m all) 0 (rankIndexes m (bitsOf m all)) dec0 = .ok (ri, dec) ∧
      FillInv m all all ri dec :=
  fillLoop_canon m all hall htotal all [] _ _ rfl
    ⟨by rw [rankIndexes_specOff m hall]; simp, fun w h1 h2 => by
        rw [rankIndexes_specOff m hall, List.getElem?_map, List.getElem?_range' (by omega)]
        simp [canonAt, countBits]; congr 1; omega,
      hsize, fun s w hs => by simp at hs⟩

theorem resizeDecode_size (a : Array Entry) (n : Nat) : (resizeDecode a n).size = n := by
  unfold resizeDecode
  split
  · simp; omega
  · simp; omega

theorem le_weightSum {ws : List Nat} {w : Nat} (hw : w ∈ ws) (h0 : w > 0) : 2 ^ (w - 1) ≤ weightSum ws := by
  induction ws with
  | nil => cases hw
  | cons x xs ih =>
    simp only [weightSum]
    rcases List.mem_cons.mp hw with h | h
    · subst h; simp [h0]
    · have := ih h; omega

/-- what `build_table_from_weights` checks, as a proposition about the transmitted weights -/
structure GoodWeights (ws : List Nat) : Prop where
  le11 : ∀ w ∈ ws, w ≤ Gen.hufMaxNumBits
  pos : weightSum ws ≠ 0
  pow : isPow2 (2 ^ (Nat.log2 (weightSum ws) + 1) - weightSum ws) = true
  maxBits : Nat.log2 (weightSum ws) + 1 ≤ Gen.hufMaxNumBits

def maxBitsOf (ws : List Nat) : Nat := Nat.log2 (weightSum ws) + 1
/-- the weight of the last, not transmitted symbol -/
def lastWeightOf (ws : List Nat) : Nat := Nat.log2 (2 ^ maxBitsOf ws - weightSum ws) + 1
/-- all code lengths, including the inferred last one -/
def allBitsOf (ws : List Nat) : List Nat := bitsOf (maxBitsOf ws) (ws ++ [lastWeightOf ws])

theorem good_facts {ws : List Nat} (g : GoodWeights ws) :
    weightSum ws < 2 ^ maxBitsOf ws ∧ 2 ^ (maxBitsOf ws - 1) ≤ weightSum ws ∧
    1 ≤ lastWeightOf ws ∧ lastWeightOf ws ≤ maxBitsOf ws ∧
    weightSum (ws ++ [lastWeightOf ws]) = 2 ^ maxBitsOf ws ∧
    (∀ w ∈ ws ++ [lastWeightOf ws], w ≤ maxBitsOf ws) := by
  have hlt : weightSum ws < 2 ^ maxBitsOf ws := Nat.lt_log2_self
  have hge : 2 ^ (maxBitsOf ws - 1) ≤ weightSum ws := by
    have := Nat.log2_self_le g.pos
    simpa [maxBitsOf] using this
  have hp : 2 ^ maxBitsOf ws - weightSum ws ≠ 0 ∧
      2 ^ Nat.log2 (2 ^ maxBitsOf ws - weightSum ws) = 2 ^ maxBitsOf ws - weightSum ws := isPow2_iff.mp g.pow
  have hleft_le : 2 ^ maxBitsOf ws - weightSum ws ≤ 2 ^ (maxBitsOf ws - 1) := by
    have := Nat.two_pow_pred_mul_two (w := maxBitsOf ws) (Nat.succ_pos _)
    omega
  have hlw : lastWeightOf ws ≤ maxBitsOf ws := by
    have h1 : Nat.log2 (2 ^ maxBitsOf ws - weightSum ws) < maxBitsOf ws := by
      rw [Nat.log2_lt hp.1]
      omega
    simp only [lastWeightOf]; omega
  have hsum : weightSum (ws ++ [lastWeightOf ws]) = 2 ^ maxBitsOf ws := by
    rw [weightSum_append]
    simp only [weightSum, lastWeightOf, Nat.add_sub_cancel]
    have : Nat.log2 (2 ^ maxBitsOf ws - weightSum ws) + 1 > 0 := by omega
    simp only [this, if_true]
    have := hp.2
    omega
  refine ⟨hlt, hge, by simp [lastWeightOf], hlw, hsum, ?_⟩
  intro w hw
  rcases List.mem_append.mp hw with h | h
  · by_cases h0 : w > 0
    · have h1 := le_weightSum h h0
      have : 2 ^ (w - 1) < 2 ^ maxBitsOf ws := by omega
      have := (Nat.pow_lt_pow_iff_right (by omega : 1 < 2)).mp this
      omega
    · omega
  · simp at h; omega

theorem GoodWeights.total {ws : List Nat} (g : GoodWeights ws) :
    specOff (ws ++ [lastWeightOf ws]) (maxBitsOf ws) = 2 ^ maxBitsOf ws := by
  obtain ⟨_, _, _, _, hsum, hall⟩ := good_facts g
  rw [specOff_total hall, hsum]

theorem allBits_le (ws : List Nat) : ∀ b ∈ allBitsOf ws, b ≤ maxBitsOf ws := by
  intro b hb
  simp only [allBitsOf, bitsOf, List.mem_map] at hb
  obtain ⟨w, _, rfl⟩ := hb
  split <;> omega

theorem buildTable_good (t : DecTable) (hlen : t.weights.length ≤ 257) (g : GoodWeights t.weights) :
    ∃ ri dec, buildTableFromWeights t =
        ({ t with bits := allBitsOf t.weights, maxNumBits := maxBitsOf t.weights, decode := dec }, .ok ()) ∧
      FillInv (maxBitsOf t.weights) (t.weights ++ [lastWeightOf t.weights]) (t.weights ++ [lastWeightOf t.weights])
        ri dec := by
  obtain ⟨hlt, hge, hlw1, hlw, hsum, hall⟩ := good_facts g
  have hsum32 := weightSum_lt_u32 hlen g.le11
  have hbits : (t.weights.map fun w => if w > 0 then maxBitsOf t.weights + 1 - w else 0)
      ++ [maxBitsOf t.weights + 1 - lastWeightOf t.weights] = allBitsOf t.weights := by
    simp only [allBitsOf, bitsOf, List.map_append, List.map_cons, List.map_nil]
    have : lastWeightOf t.weights > 0 := by omega
    simp [this]
  have hany : (allBitsOf t.weights).any (fun x => decide (x > maxBitsOf t.weights)) = false := by
    rw [List.any_eq_false]
    intro b hb
    have := allBits_le t.weights b hb
    simp; omega
  have hmb : Gen.hufMaxBitsTooHigh (maxBitsOf t.weights) Gen.hufMaxNumBits = false := by
    have := g.maxBits
    simp only [Gen.hufMaxBitsTooHigh, maxBitsOf]
    exact decide_eq_false (by omega)
  obtain ⟨ri', dec', hfill, hinv⟩ := fillLoop_rankIndexes_canon _ _ hall g.total
    (resizeDecode t.decode (2 ^ maxBitsOf t.weights)) (resizeDecode_size _ _)
  -- `rank_indexes[0]` is the total, so the `assert!` on it holds
  obtain ⟨tl, hri0⟩ : ∃ tl, rankIndexes (maxBitsOf t.weights) (allBitsOf t.weights) = 2 ^ maxBitsOf t.weights :: tl :=
    ⟨_, by rw [allBitsOf, rankIndexes_specOff _ hall, List.range'_succ, List.map_cons, Nat.sub_zero, g.total]⟩
  refine ⟨ri', dec', ?_, hinv⟩
  unfold buildTableFromWeights
  -- the tests in the order of the source: a weight above 11, the `u32` sum, no weight, leftover not a power of two
  simp only [firstTooBig_none.mpr g.le11]
  rw [if_neg hsum32, if_neg g.pos]
  have hpow : (!isPow2 (2 ^ (Nat.log2 (weightSum t.weights) + 1) - weightSum t.weights)) = false := by
    simp [g.pow]
  simp only [hpow, Bool.false_eq_true, if_false]
  have e1 : Nat.log2 (weightSum t.weights) + 1 = maxBitsOf t.weights := rfl
  have e2 : Nat.log2 (2 ^ maxBitsOf t.weights - weightSum t.weights) + 1 = lastWeightOf t.weights := rfl
  -- more than 11 bits, the index into `bit_ranks`; then the `assert!` on `rank_indexes[0]` and the fill loop
  simp only [e1, e2, hbits, hmb, hany, Bool.false_eq_true, if_false]
  rw [hri0]
  simp only
  rw [if_neg (by rw [resizeDecode_size]; simp), ← hri0,
    show fillLoop _ (allBitsOf t.weights) 0 (rankIndexes _ (allBitsOf t.weights)) _ = _ from hfill]

/-- `hlen` is there for the `u32` sum only (`weightSum_lt_u32`), which would be a panic and not an error -/
theorem buildTable_bad (t : DecTable) (hlen : t.weights.length ≤ 257) (hbad : ¬ GoodWeights t.weights) :
    ∃ e, (buildTableFromWeights t).2 = .error (.err e) ∧
      ((∃ w, e = .weightBiggerThanMaxNumBits w ∧ w ∈ t.weights ∧ w > Gen.hufMaxNumBits) ∨
       (e = .missingWeights ∧ weightSum t.weights = 0) ∨
       (e = .leftoverIsNotAPowerOf2 (2 ^ maxBitsOf t.weights - weightSum t.weights) ∧
          isPow2 (2 ^ maxBitsOf t.weights - weightSum t.weights) = false) ∨
       (e = .maxBitsTooHigh (maxBitsOf t.weights) ∧ maxBitsOf t.weights > Gen.hufMaxNumBits)) := by
  unfold buildTableFromWeights
  cases hft : firstTooBig t.weights with
  | some w =>
    have := firstTooBig_some hft
    simp only [hft]
    exact ⟨_, rfl, Or.inl ⟨w, rfl, this.1, this.2⟩⟩
  | none =>
    have hle := firstTooBig_none.mp hft
    have hsum32 := weightSum_lt_u32 hlen hle
    simp only [hft]
    rw [if_neg hsum32]
    by_cases h0 : weightSum t.weights = 0
    · rw [if_pos h0]
      exact ⟨_, rfl, Or.inr (Or.inl ⟨rfl, h0⟩)⟩
    rw [if_neg h0]
    have e : Nat.log2 (weightSum t.weights) + 1 = maxBitsOf t.weights := rfl
    simp only [e]
    by_cases hp : isPow2 (2 ^ maxBitsOf t.weights - weightSum t.weights) = true
    · rw [if_neg (by rw [hp]; exact Bool.false_ne_true)]
      by_cases hm : maxBitsOf t.weights > Gen.hufMaxNumBits
      · rw [if_pos (show Gen.hufMaxBitsTooHigh _ _ = true from decide_eq_true hm)]
        exact ⟨_, rfl, Or.inr (Or.inr (Or.inr ⟨rfl, hm⟩))⟩
      · exact absurd ⟨hle, h0, hp, Nat.le_of_not_lt hm⟩ hbad
    · have hp := (Bool.not_eq_true _).mp hp
      rw [if_pos (by rw [hp]; rfl)]
      exact ⟨_, rfl, Or.inr (Or.inr (Or.inl ⟨rfl, hp⟩))⟩

theorem buildTable_no_fault (t : DecTable) (hlen : t.weights.length ≤ 257) (f : Fault) :
    (buildTableFromWeights t).2 ≠ .error (.fault f) := by
  by_cases g : GoodWeights t.weights
  · obtain ⟨_, _, h, _⟩ := buildTable_good t hlen g
    rw [h]; exact nofun
  · obtain ⟨e, he, _⟩ := buildTable_bad t hlen g
    rw [he]; exact nofun

theorem nibbles_eq : ∀ (l : List Nat) (n : Nat), (n + 1) / 2 ≤ l.length →
    nibbles n l = .ok ((List.range n).map fun i =>
      let b := l.getD (i / 2) 0
      if i % 2 = 0 then b / 16 else b % 16) := by
  intro l
  induction l with
  | nil =>
    intro n h
    have : n = 0 := by simp at h; omega
    subst this; rfl
  | cons b bs ih =>
    intro n h
    match n with
    | 0 => rfl
    | 1 => rfl
    | n + 2 =>
      simp only [List.length_cons] at h
      rw [nibbles, ih n (by omega)]
      simp only [Gen.hufEvenIdxHigh, if_true]
      rw [List.range_succ_eq_map, List.range_succ_eq_map]
      simp only [List.map_cons, List.map_map]
      have h0 : ∀ i, (i + 1 + 1) / 2 = i / 2 + 1 := fun i => Nat.add_div_right i (by decide : 0 < 2)
      have h1 : ∀ i, (i + 1 + 1) % 2 = i % 2 := fun i => Nat.add_mod_right i 2
      simp only [Function.comp_def, h0, h1, List.getD_cons_succ, List.getD_cons_zero, Nat.zero_div]; rfl

theorem readWeights_direct_eq (t : DecTable) {header : Nat} (rest : List Nat) (hh : 128 ≤ header) :
    readWeights t (header :: rest) =
      if rest.length < (header - 127 + 1) / 2 then
        ({ t with weights := resizeNat t.weights (header - 127) },
          .error (.err (.notEnoughBytesInSource rest.length ((header - 127 + 1) / 2))))
      else
        ({ t with weights := (List.range (header - 127)).map fun i =>
              let b := rest.getD (i / 2) 0
              if i % 2 = 0 then b / 16 else b % 16 },
          .ok (1 + (header - 127 + 1) / 2)) := by
  unfold readWeights
  dsimp only
  rw [if_neg (show ¬ header ≤ Gen.hufFseHeaderMax by simp only [Gen.hufFseHeaderMax]; omega),
    show header - Gen.hufDirectHeaderSubDec = header - 127 from rfl]
  generalize header - 127 = n
  have half : (if n % 2 = 0 then n / 2 else n / 2 + 1) = (n + 1) / 2 := by split <;> omega
  have used : (if (8 + 4 * n) % 8 = 0 then (8 + 4 * n) / 8 else (8 + 4 * n) / 8 + 1) = 1 + (n + 1) / 2 := by
    split <;> omega
  rw [half, used]
  split
  · rfl
  · rw [nibbles_eq rest n (by omega)]

section
open Zstd.Model

theorem fseStreamEnd_iff (br : BitIO.BitReaderRev) : fseStreamEnd br = decide (br.bitsRemaining ≤ -1) := by
  unfold fseStreamEnd Gen.hufFseStreamEnd Gen.hufFseStreamEndK
  by_cases h : br.bitsRemaining ≤ -1
  · rw [decide_eq_true h]; exact decide_eq_true (by omega)
  · rw [decide_eq_false h]; exact decide_eq_false (by omega)

theorem readWeights_fse (t : DecTable) {header : Nat} {rest : List Nat} (hh : header ≤ 127)
    (hlen : header ≤ rest.length) {ft : Fse.DTable} {used : Nat}
    (hbd : (Fse.DTable.new Gen.hufFseMaxSymbol).buildDecoder rest.toArray Gen.hufWeightsMaxLogDec = (ft, .ok used))
    (hused : used ≤ header) {br br1 br2 : BitIO.BitReaderRev} {d1 d2 : Fse.Decoder}
    (hskip : Fse.skipEndMark (BitIO.BitReaderRev.new ((rest.drop used).take (header - used)).toArray) = .ok (some br))
    (hi1 : (Fse.Decoder.new ft).initState ft br = .ok (d1, br1))
    (hi2 : (Fse.Decoder.new ft).initState ft br1 = .ok (d2, br2)) {ws : List Nat}
    (hloop : fseWeightsLoop ft 130 d1 d2 br2 [] = .ok (.ok ws)) :
    readWeights t (header :: rest) = ({ t with weights := ws }, .ok (1 + header)) := by
  unfold readWeights
  simp only
  rw [if_pos (show header ≤ Gen.hufFseHeaderMax from hh), if_neg (by omega), hbd]
  simp only
  rw [if_neg (by omega), if_neg (by rw [List.length_drop]; omega), hskip]
  simp only [hi1, hi2, hloop]

end

end Zstd.Proofs.Huf
