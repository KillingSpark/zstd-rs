import Zstd.Proofs.BlkHufBits
import Zstd.Proofs.BlkSeq
import Zstd.Proofs.HufDec
/-
`read_weights` never panics (and its FSE loop never runs out of fuel); on success it leaves at most
257 weights and reports at most `source.len()` bytes (stated as a `Sound` outcome, Proofs/BlkSeq).
-/
namespace Zstd.Proofs.Blk
open Zstd Zstd.Model Zstd.Model.Huf Zstd.Model.Huf.Bits
open Zstd.Proofs.BitIO (Bytes)

theorem Sound.err {σ ε α : Type} {P : σ → α → Prop} {s : σ} {e : ε} :
    Sound DErr.fault P (s, (.error (.err e) : DRes ε α)) :=
  Sound.error (fun _ => nofun)

theorem fseErr_not_fault {e : Fse.Err} (h : ∀ f, e ≠ .fault f) : ∀ f, fseErr e ≠ .fault f := by
  intro f
  cases e with
  | fault f' => exact absurd rfl (h f')
  | _ => intro h'; cases h'

/-- the fuel 130 is never exhausted: the weight count grows by two per round and the loop stops with
TooManyWeights above 255 -/
theorem fseWeightsLoop_ok {ft : Fse.DTable} (hft : FseBuilt 6 ft) {src : Array Nat} :
    ∀ (fuel : Nat) (d1 d2 : Fse.Decoder) (br : BitIO.BitReaderRev) (acc : List Nat) (k : Nat),
      d1.state ∈ ft.decode.toList → d2.state ∈ ft.decode.toList → RevOK src br →
      acc.length = 2 * k → k ≤ 127 → 128 ≤ k + fuel →
      ∃ r, fseWeightsLoop ft fuel d1 d2 br acc = .ok r ∧ ∀ ws, r = .ok ws → ws.length ≤ 257 := by
  intro fuel
  induction fuel with
  | zero => intro d1 d2 br acc k _ _ _ _ h1 h2; omega
  | succ fuel ih =>
    intro d1 d2 br acc k hd1 hd2 hr hlen hk hfuel
    obtain ⟨d1', br1, hu1, hr1, hd1'⟩ := updateState_built hft (by decide) hr d1 hd1
    obtain ⟨d2', br2, hu2, hr2, hd2'⟩ := updateState_built hft (by decide) hr1 d2 hd2
    unfold fseWeightsLoop
    simp only [hu1]
    split
    · refine ⟨_, rfl, ?_⟩
      intro ws h
      simp only [Except.ok.injEq] at h
      subst h
      simp; omega
    · simp only [hu2]
      split
      · refine ⟨_, rfl, ?_⟩
        intro ws h
        simp only [Except.ok.injEq] at h
        subst h
        simp; omega
      · split
        · refine ⟨_, rfl, ?_⟩
          intro ws h; cases h
        · rename_i hnot
          simp only [Gen.hufTooManyWeights, Gen.hufTooManyWeightsBound, List.length_cons] at hnot
          have hnot' : ¬ (acc.length + 1 + 1 > 255) := by simpa using hnot
          exact ih d1' d2' br2 _ (k + 1) hd1' hd2' hr2 (by simp; omega) (by omega) (by omega)

theorem readWeights_ok (t : DecTable) (src : List Nat) (hb : Bytes src) :
    Sound .fault (fun t' used => t'.weights.length ≤ 257 ∧ used ≤ src.length ∧ t'.maxNumBits = t.maxNumBits ∧
      t'.decode = t.decode) (readWeights t src) := by
  cases src with
  | nil => exact Sound.err
  | cons header rest =>
    have hbr : Bytes rest := (Zstd.Proofs.BitIO.Bytes_cons.1 hb).2
    by_cases hh : 128 ≤ header
    · rw [Zstd.Proofs.Huf.readWeights_direct_eq t rest hh]
      have h256 : header < 256 := hb header List.mem_cons_self
      split
      · exact Sound.err
      · exact Sound.ok ⟨by simp only [List.length_map, List.length_range]; omega,
          by simp only [List.length_cons]; omega, rfl, rfl⟩
    · unfold readWeights
      dsimp only
      rw [if_pos (by simp only [Gen.hufFseHeaderMax]; omega)]
      split
      · exact Sound.err
      · have hbra : Bytes rest.toArray.toList := hbr
        have ha := buildDecoder_agree (Fse.DTable.new Gen.hufFseMaxSymbol) rest.toArray Gen.hufWeightsMaxLogDec hbra
          (by decide) (by decide)
        generalize (Fse.DTable.new Gen.hufFseMaxSymbol).buildDecoder rest.toArray Gen.hufWeightsMaxLogDec = pT at ha ⊢
        obtain ⟨ft, e | used⟩ := pT
        · exact Sound.error (fseErr_not_fault ha.1)
        obtain ⟨hft, _, hused, _⟩ := ha
        -- the statements have the literals 6 and 255; `Gen.hufWeightsMaxLogDec`, `Gen.hufFseMaxSymbol` meet them here by `rfl`
        have hft6 : FseBuilt 6 ft := hft
        dsimp only
        split
        · exact Sound.err
        split
        · exact Sound.err
        have hbs : Bytes ((rest.drop used).take (header - used)).toArray.toList :=
          Zstd.Proofs.BitIO.Bytes_take (Zstd.Proofs.BitIO.Bytes_drop hbr _) _
        rcases skipPadding_ok 9 0 _ (RevOK_new hbs) with e | ⟨br0, e, hr0⟩
        · rw [Fse.skipEndMark, e]
          exact Sound.err
        rw [Fse.skipEndMark, e]
        dsimp only
        obtain ⟨d1, br1, e1, hr1, hd1⟩ := initState_built hft6 (by decide) hr0 (Fse.Decoder.new ft)
        rw [e1]
        dsimp only
        obtain ⟨d2, br2, e2, hr2, hd2⟩ := initState_built hft6 (by decide) hr1 (Fse.Decoder.new ft)
        rw [e2]
        dsimp only
        obtain ⟨r, hloop, hlen⟩ := fseWeightsLoop_ok hft6 130 d1 d2 br2 [] 0 hd1 hd2 hr2 rfl (by omega) (by omega)
        rw [hloop]
        cases r with
        | error ws => exact Sound.err
        | ok ws => exact Sound.ok ⟨hlen ws rfl, by simp only [List.length_cons]; omega, rfl, rfl⟩

end Zstd.Proofs.Blk
