import Zstd.Proofs.SeqCoupled
import Zstd.Model.EncCoders
import Zstd.Proofs.Spec.Block
import Zstd.Proofs.BitIO
import Zstd.Proofs.FseStream
/-
The three-state sequence bitstream of `encode_sequences` (`Model.Enc.encodeSequences`) is decoded by the
strict RFC decoder `Spec.decodeSeqLoop`, for ANY three pairs of coupled tables (`SeqCoupled.SCoupled`),
ALL sequences, and the backward stream is consumed exactly.

Everything happens on bit lists: the writer holds the bit list `W` (`WInv`), the Spec reads `W.reverse`
minus padding and marker.
-/
-- `SeqSection.CodedFacts` is declared ahead of its module because `SeqStream.CodedOk` extends it.
namespace Zstd.Proofs.SeqSection

/-- what the C14 theorems give for a sequence with in-range values: `c` is the triple of
`(code, extra value, extra bits)` results and `s` the Spec sequence it stands for -/
structure CodedFacts (c : Model.Enc.CodedSeq) (s : Spec.Seq) : Prop where
  llRow : ∃ base, Spec.llCodeTable[c.ll.1]? = some (base, c.ll.2.2) ∧ s.ll = base + c.ll.2.1
  mlRow : ∃ base, Spec.mlCodeTable[c.ml.1]? = some (base, c.ml.2.2) ∧ s.ml = base + c.ml.2.1
  ofRow : c.of.2.2 = c.of.1 ∧ c.of.1 ≤ 31 ∧ s.ov = Spec.offsetValue c.of.1 c.of.2.1
  llFit : c.ll.2.1 < 2 ^ c.ll.2.2 ∧ c.ll.2.2 ≤ 16
  mlFit : c.ml.2.1 < 2 ^ c.ml.2.2 ∧ c.ml.2.2 ≤ 16
  ofFit : c.of.2.1 < 2 ^ c.of.2.2

end Zstd.Proofs.SeqSection

namespace Zstd.Proofs.SeqStream
open Zstd Zstd.Spec Zstd.Model.Fse Zstd.Model.BitIO Zstd.Proofs.BitIO Zstd.Proofs.SeqCoupled

theorem symbolOf_good {T : Spec.Fse.Table} {al s : Nat} {st : EState} (hg : SGood T al s st) :
    Spec.Fse.symbolOf T st.index = some s := by
  simp [Spec.Fse.symbolOf, hg.2.1, sEntryOf]

theorem enc_step {et : ETable} {T : Spec.Fse.Table} {al : Nat} {u : Nat → Prop} (h : SCoupled et T al u)
    {s : Nat} (hs : u s) {c : Nat} {st : EState} (hg : SGood T al c st)
    {w : BitWriter} {L : List Bool} (hw : WInv w L) :
    ∃ w' st' F, encStep et w st s = .ok (w', st') ∧ WInv w' (L ++ F) ∧ SGood T al s st' ∧
      ∀ rest, Spec.Fse.updateState T st'.index (F.reverse ++ rest) = some (st.index, rest) := by
  obtain ⟨nx, hnx, h1, h2, hgn⟩ := h.next s st.index hs hg.1
  have hv : st.index - nx.baseline < 2 ^ nx.numBits := by omega
  obtain ⟨w', hw', i'⟩ := FseStream.encStep_ok hw hnx h1 h2 (by have := hgn.2.2; have := h.al_le; omega)
  refine ⟨w', nx, _, hw', i', hgn, fun rest => ?_⟩
  have hidx : nx.baseline + (st.index - nx.baseline) = st.index := by omega
  simp only [Spec.Fse.updateState, hgn.2.1, sEntryOf, readBE_field hv, hidx]

theorem spec_init_reads {T : Spec.Fse.Table} {al idx : Nat} (hal : T.accLog = al) (h : idx < 2 ^ al)
    (rest : List Bool) :
    Spec.Fse.initState T ((bitsOfLE al idx).reverse ++ rest) = some (idx, rest) := by
  rw [Spec.Fse.initState, hal, readBE_field h]

/-- the extra bits of one sequence as `encode_sequences` writes them: literal length, match length, offset -/
def extras (x : Model.Enc.CodedSeq) : List Bool :=
  bitsOfLE x.ll.2.2 x.ll.2.1 ++ (bitsOfLE x.ml.2.2 x.ml.2.1 ++ bitsOfLE x.of.2.2 x.of.2.1)

theorem write_extras {x : Model.Enc.CodedSeq} {s : Spec.Seq} (hx : SeqSection.CodedFacts x s)
    {w : BitWriter} {L : List Bool} (hw : WInv w L) :
    ∃ w1 w2 w3, w.writeBits x.ll.2.1 x.ll.2.2 = .ok w1 ∧ w1.writeBits x.ml.2.1 x.ml.2.2 = .ok w2 ∧
      w2.writeBits x.of.2.1 x.of.2.2 = .ok w3 ∧ WInv w3 (L ++ extras x) := by
  obtain ⟨w1, h1, i1⟩ := bitWriter_refines hw hx.llFit.1 (by have := hx.llFit.2; omega)
  obtain ⟨w2, h2, i2⟩ := bitWriter_refines i1 hx.mlFit.1 (by have := hx.mlFit.2; omega)
  obtain ⟨w3, h3, i3⟩ := bitWriter_refines i2 hx.ofFit (by have := hx.ofRow; omega)
  exact ⟨w1, w2, w3, h1, h2, h3, by simpa [extras, List.append_assoc] using i3⟩

variable {LL ML OF : Spec.Fse.Table} {alL alM alO : Nat}

theorem dec_iter {x : Model.Enc.CodedSeq} {s : Spec.Seq} (hx : SeqSection.CodedFacts x s)
    {a b c : EState} (ha : SGood LL alL x.ll.1 a) (hb : SGood ML alM x.ml.1 b) (hc : SGood OF alO x.of.1 c)
    (n : Nat) (rest : List Bool) (acc : List Spec.Seq) :
    Spec.decodeSeqLoop LL OF ML (n + 1) a.index c.index b.index ((extras x).reverse ++ rest) acc =
      if n = 0 then some ((s :: acc).reverse, rest)
      else
        match Spec.Fse.updateState LL a.index rest with
        | none => none
        | some (sLL', b4) =>
          match Spec.Fse.updateState ML b.index b4 with
          | none => none
          | some (sML', b5) =>
            match Spec.Fse.updateState OF c.index b5 with
            | none => none
            | some (sOF', b6) => Spec.decodeSeqLoop LL OF ML n sLL' sOF' sML' b6 (s :: acc) := by
  obtain ⟨bl, hbl, hsl⟩ := hx.llRow
  obtain ⟨bm, hbm, hsm⟩ := hx.mlRow
  obtain ⟨ho1, ho2, hso⟩ := hx.ofRow
  have hs : s = ⟨bl + x.ll.2.1, bm + x.ml.2.1, Spec.offsetValue x.of.1 x.of.2.1⟩ := by
    cases s; simp_all
  have hofit : x.of.2.1 < 2 ^ x.of.1 := by have := hx.ofFit; rwa [ho1] at this
  have hbits : (extras x).reverse ++ rest =
      (bitsOfLE x.of.1 x.of.2.1).reverse ++ ((bitsOfLE x.ml.2.2 x.ml.2.1).reverse ++
        ((bitsOfLE x.ll.2.2 x.ll.2.1).reverse ++ rest)) := by
    simp only [extras, ho1, List.reverse_append, List.append_assoc]
  rw [Spec.decodeSeqLoop, hbits]
  simp only [symbolOf_good ha, symbolOf_good hb, symbolOf_good hc, hbl, hbm,
    if_neg (show ¬ x.of.1 > 31 by omega), readBE_field hofit, readBE_field hx.mlFit.1,
    readBE_field hx.llFit.1, ← hs]
  rfl

/-- `CodedFacts`, and the three codes are symbols the three tables can code (`uL`, `uM`, `uO`: the `usable`
of the couplings) -/
structure CodedOk (uL uM uO : Nat → Prop) (c : Model.Enc.CodedSeq) (s : Spec.Seq) : Prop
    extends SeqSection.CodedFacts c s where
  ul : uL c.ll.1
  um : uM c.ml.1
  uo : uO c.of.1

variable {llT mlT ofT : ETable} {uL uM uO : Nat → Prop}

theorem seq_step (hL : SCoupled llT LL alL uL) (hM : SCoupled mlT ML alM uM) (hO : SCoupled ofT OF alO uO)
    {x : Model.Enc.CodedSeq} {s : Spec.Seq} (hx : CodedOk uL uM uO x s)
    {cl cm co : Nat} {a b c : EState} {w : BitWriter} {L : List Bool} (hw : WInv w L)
    (ha : SGood LL alL cl a) (hb : SGood ML alM cm b) (hc : SGood OF alO co c) :
    ∃ w' a' b' c' F, Model.Enc.seqStep llT mlT ofT w a b c x = .ok (w', a', b', c') ∧ WInv w' (L ++ F) ∧
      SGood LL alL x.ll.1 a' ∧ SGood ML alM x.ml.1 b' ∧ SGood OF alO x.of.1 c' ∧
      ∀ (rest : List Bool) (m : Nat) (acc : List Spec.Seq), m ≠ 0 →
        Spec.decodeSeqLoop LL OF ML (m + 1) a'.index c'.index b'.index (F.reverse ++ rest) acc
          = Spec.decodeSeqLoop LL OF ML m a.index c.index b.index rest (s :: acc) := by
  obtain ⟨w1, c', Fc, e1, i1, hgc, rc⟩ := enc_step hO hx.uo hc hw
  obtain ⟨w2, b', Fb, e2, i2, hgb, rb⟩ := enc_step hM hx.um hb i1
  obtain ⟨w3, a', Fa, e3, i3, hga, ra⟩ := enc_step hL hx.ul ha i2
  obtain ⟨w4, w5, w6, hw4, hw5, hw6, i6⟩ := write_extras hx.toCodedFacts i3
  refine ⟨w6, a', b', c', Fc ++ (Fb ++ (Fa ++ extras x)), ?_, by simpa only [List.append_assoc] using i6,
    hga, hgb, hgc, ?_⟩
  · simp only [Model.Enc.seqStep, e1, e2, e3, hw4, hw5, hw6]
  · intro rest m acc hm
    have hbits : (Fc ++ (Fb ++ (Fa ++ extras x))).reverse ++ rest =
        (extras x).reverse ++ (Fa.reverse ++ (Fb.reverse ++ (Fc.reverse ++ rest))) := by
      simp only [List.reverse_append, List.append_assoc]
    rw [hbits, dec_iter hx.toCodedFacts hga hgb hgc, if_neg hm, ra]
    simp only [rb, rc]

/-- continuation style: for every rest of the stream and every number `m ≥ 1` of sequences still to come -/
theorem seq_loop (hL : SCoupled llT LL alL uL) (hM : SCoupled mlT ML alM uM) (hO : SCoupled ofT OF alO uO) :
    ∀ (ps : List (Model.Enc.CodedSeq × Spec.Seq)), (∀ p ∈ ps, CodedOk uL uM uO p.1 p.2) →
    ∀ (cl cm co : Nat) (a b c : EState) (w : BitWriter) (L : List Bool), WInv w L →
      SGood LL alL cl a → SGood ML alM cm b → SGood OF alO co c →
      ∃ w' a' b' c' F, Model.Enc.seqLoop llT mlT ofT (ps.map (·.1)) w a b c = .ok (w', a', b', c') ∧
        WInv w' (L ++ F) ∧ a'.index < 2 ^ alL ∧ b'.index < 2 ^ alM ∧ c'.index < 2 ^ alO ∧
        ∀ (rest : List Bool) (m : Nat) (acc : List Spec.Seq), 1 ≤ m →
          Spec.decodeSeqLoop LL OF ML (ps.length + m) a'.index c'.index b'.index (F.reverse ++ rest) acc
            = Spec.decodeSeqLoop LL OF ML m a.index c.index b.index rest (ps.map (·.2) ++ acc) := by
  intro ps
  induction ps with
  | nil =>
    intro _ cl cm co a b c w L hw ha hb hc
    refine ⟨w, a, b, c, [], rfl, by simpa using hw, ha.1, hb.1, hc.1, ?_⟩
    intro rest m acc _
    simp
  | cons p ps ih =>
    intro hps cl cm co a b c w L hw ha hb hc
    obtain ⟨w1, a1, b1, c1, F1, hstep, i1, hga, hgb, hgc, hdec1⟩ :=
      seq_step hL hM hO (hps p (List.mem_cons_self ..)) hw ha hb hc
    obtain ⟨w', a', b', c', F', hloop, i', hla, hlb, hlc, hdec'⟩ :=
      ih (fun q hq => hps q (List.mem_cons_of_mem _ hq)) _ _ _ a1 b1 c1 w1 _ i1 hga hgb hgc
    refine ⟨w', a', b', c', F1 ++ F', ?_, by simpa only [List.append_assoc] using i', hla, hlb, hlc, ?_⟩
    · simp only [List.map_cons, Model.Enc.seqLoop, hstep, hloop]
    · intro rest m acc hm
      have hlen : (p :: ps).length + m = ps.length + (m + 1) := by simp only [List.length_cons]; omega
      rw [hlen, List.reverse_append, List.append_assoc, hdec' _ (m + 1) acc (by omega),
        hdec1 rest m _ (by omega)]
      simp

/-- `S` is taken as a byte string of its own: the writer is byte aligned before it in `compress_block`. -/
theorem seq_stream_decodes (hL : SCoupled llT LL alL uL) (hM : SCoupled mlT ML alM uM)
    (hO : SCoupled ofT OF alO uO)
    (ps : List (Model.Enc.CodedSeq × Spec.Seq)) (hne : ps ≠ [])
    (hrel : ∀ p ∈ ps, CodedOk uL uM uO p.1 p.2)
    {w : BitWriter} {L : List Bool} (hw : WInv w L) :
    ∃ w' S, Model.Enc.encodeSequences llT mlT ofT w (ps.map (·.1)) = .ok w' ∧ WInv w' (L ++ S) ∧
      (L.length + S.length) % 8 = 0 ∧
      ∀ (bytes : List Nat), Spec.bitsLE bytes = S →
        Spec.decodeSeqBits LL OF ML ps.length bytes = some (ps.map (·.2)) := by
  obtain ⟨ini, pl, rfl⟩ : ∃ ini pl, ps = ini ++ [pl] :=
    ⟨ps.dropLast, ps.getLast hne, (List.dropLast_concat_getLast hne).symm⟩
  have hxl : CodedOk uL uM uO pl.1 pl.2 := hrel pl (by simp)
  obtain ⟨a0, ha0, hga0⟩ := hL.start pl.1.ll.1 hxl.ul
  obtain ⟨b0, hb0, hgb0⟩ := hM.start pl.1.ml.1 hxl.um
  obtain ⟨c0, hc0, hgc0⟩ := hO.start pl.1.of.1 hxl.uo
  obtain ⟨w1, w2, w3, hw1, hw2, hw3, i3⟩ := write_extras hxl.toCodedFacts hw
  obtain ⟨w4, a', b', c', F, hloop, i4, hla, hlb, hlc, hdec⟩ :=
    seq_loop hL hM hO ini.reverse (fun q hq => hrel q (by simp at hq ⊢; exact Or.inl hq))
      _ _ _ a0 b0 c0 w3 _ i3 hga0 hgb0 hgc0
  obtain ⟨w5, hw5, i5⟩ := bitWriter_refines (v := b'.index) (n := alM) i4 hlb (by have := hM.al_le; omega)
  obtain ⟨w6, hw6, i6⟩ := bitWriter_refines (v := c'.index) (n := alO) i5 hlc (by have := hO.al_le; omega)
  obtain ⟨w7, hw7, i7⟩ := bitWriter_refines (v := a'.index) (n := alL) i6 hla (by have := hL.al_le; omega)
  obtain ⟨w8, m, hw8, hm1, hm8, i8, hal8⟩ := FseStream.writeEndMark_ok i7
  refine ⟨w8, (extras pl.1 ++ (F ++ (bitsOfLE alM b'.index ++ (bitsOfLE alO c'.index ++ bitsOfLE alL a'.index)))) ++
    bitsOfLE m 1, ?_, by simpa only [List.append_assoc] using i8, ?_, ?_⟩
  · rw [List.map_reverse] at hloop
    simp only [Model.Enc.encodeSequences, List.map_append, List.map_cons, List.map_nil,
      List.getLast?_append, List.getLast?_singleton, Option.some_or, ha0, hb0, hc0, hw1, hw2, hw3,
      List.dropLast_concat, hloop, hM.encLog, hO.encLog, hL.encLog, hw5, hw6, hw7, hw8]
  · simp only [List.length_append, length_bitsOfLE] at hal8 ⊢; omega
  · intro bytes hbits
    have hbs := FseStream.backwardStream_of_mark hm1 hm8 hbits
    have hrevbits : (extras pl.1 ++ (F ++ (bitsOfLE alM b'.index ++ (bitsOfLE alO c'.index ++
        bitsOfLE alL a'.index)))).reverse =
        (bitsOfLE alL a'.index).reverse ++ ((bitsOfLE alO c'.index).reverse ++
          ((bitsOfLE alM b'.index).reverse ++ (F.reverse ++ ((extras pl.1).reverse ++ [])))) := by
      simp only [List.reverse_append, List.append_assoc, List.append_nil]
    rw [hrevbits] at hbs
    refine Spec.decodeSeqBits_eq_some.mpr ⟨_, a'.index, _, c'.index, _, b'.index, _, [], hbs,
      spec_init_reads hL.specLog hla _, spec_init_reads hO.specLog hlc _, spec_init_reads hM.specLog hlb _, ?_, rfl⟩
    have hlen : (ini ++ [pl]).length = ini.reverse.length + 1 := by simp
    rw [hlen, hdec _ 1 [] (by omega), dec_iter hxl.toCodedFacts hga0 hgb0 hgc0 0, if_pos rfl]
    simp

end Zstd.Proofs.SeqStream
