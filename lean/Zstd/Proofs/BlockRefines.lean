import Zstd.Proofs.BlkLitRefines
import Zstd.Proofs.BlkSeqTables
import Zstd.Proofs.BlkSeqStream
import Zstd.Proofs.DictCopy
import Zstd.Proofs.FrameDecoderRefineBlocks
import Zstd.Proofs.Spec.Block
import Zstd.Proofs.BlockNoFault
/-
C01 at block level: `Blk.decompressBlock` (the faithful mirror of `decompress_block`) refines
`Spec.decodeCompressedBlock` (RFC 8878 §3.1.1.3).
`stage_of_spec` is the composition up to the buffer: what the buffer-free part `Blk.stage` of the block decoder ends
in when the Spec decodes the two sections; the block theorem and the ghost offsets of instance B are read off it.
The literals stage enters the composition as the predicate `LitStage`; it is proved here for Raw and
RLE sections and in `Proofs/BlkLitFull` for Compressed/Treeless sections (`decodeLiterals_refines_full_holds`,
`decompressBlock_refines_full_holds`).
-/
namespace Zstd.Proofs.Blk
open Zstd Zstd.Model Zstd.Model.Blk Zstd.Proofs.BitIO Zstd.Proofs.DictCopy

/-- The Spec's function starts at the sequence count; the code parses the header (`parseSeqHeader`) in
`decompress_block` and hands the rest to `decode_sequences`. -/
theorem decodeSequences_refines {bytes : List Nat} (hb : Bytes bytes) {e e' : Spec.Entropy} {s : FseScratch}
    {seqs : List Spec.Seq} (hc : FseCoupled e s)
    (hs : Spec.decodeSequences bytes e = some (seqs, e')) :
    ∃ n modes shLen, parseSeqHeader bytes = .ok (n, modes, shLen) ∧
      (n = 0 → seqs = [] ∧ e' = e ∧ (bytes.drop shLen).isEmpty = true) ∧
      (n ≠ 0 → ∃ s', Blk.decodeSequences n modes (bytes.drop shLen) s = (s', .ok seqs) ∧ FseCoupled e' s' ∧
        e'.huf = e.huf ∧ e'.hist = e.hist) := by
  have hhdr := Zstd.Proofs.SeqCodes.parseSeqHeader_eq_rfc bytes
  cases Spec.decodeSequences_eq_some.mp hs with
  | empty used hcnt hlen =>
    rw [hcnt] at hhdr
    exact ⟨0, none, used, hhdr,
      fun _ => ⟨rfl, rfl, by simp [List.drop_eq_nil_iff.mpr (Nat.le_of_eq hlen)]⟩, fun h => absurd rfl h⟩
  | coded n used m rest llT ofT mlT u1 u2 u3 _ hcnt hn hdrop _ h1 h2 h3 hbits =>
    have hm : bytes[used]? = some m := by
      have := congrArg (fun l => l[0]?) hdrop
      simpa using this
    rw [hcnt] at hhdr
    simp only [if_neg hn, hm] at hhdr
    have hrest : bytes.drop (used + 1) = rest := by
      rw [← List.drop_drop, hdrop]; rfl
    have hbm : Bytes (m :: rest) := by rw [← hdrop]; exact Bytes_drop hb _
    have hbr : Bytes rest := (Bytes_cons.1 hbm).2
    refine ⟨n, some m, used + 1, hhdr, fun h => absurd h hn, fun _ => ?_⟩
    rw [hrest]
    obtain ⟨s', hU, cll, cof, cml, _, hule, hwf, _⟩ := maybeUpdateFseTables_refines
      (hbm m List.mem_cons_self) hbr (.of_coupled hc.ll _) (.of_coupled hc.of _) (.of_coupled hc.ml _) h1 h2 h3
    have hstream := decodeSeqStream_refines (s := s') cll cof cml
      (src := (rest.drop (u1 + u2 + u3)).toArray)
      (by simpa using Bytes_drop hbr (u1 + u2 + u3)) hbits
    have hwf' := hwf ⟨hc.ll.1, hc.of.1, hc.ml.1⟩
    refine ⟨s', ?_, ⟨⟨hwf'.ll, fun T' hT => ?_⟩, ⟨hwf'.of, fun T' hT => ?_⟩, ⟨hwf'.ml, fun T' hT => ?_⟩⟩, rfl, rfl⟩
    · unfold Blk.decodeSequences
      simp only [hU]
      rw [if_neg (by simp; omega), toArray_extract_drop rest _, hstream]
    · cases hT; exact cll
    · cases hT; exact cof
    · cases hT; exact cml

/-- Huffman part of the entropy state: the model's table is well formed, and if the Spec has a table
in force the model's is built and has the same cells -/
def HufCoupled (T : Option Spec.Huffman.Table) (t : Huf.DecTable) : Prop :=
  HufWF t ∧ ∀ T', T = some T' → HufBuilt t ∧ t.maxNumBits = T'.maxBits ∧
    t.decode.toList.map (fun e => (e.symbol, e.numBits)) = T'.entries.toList.map (fun e => (e.symbol, e.nbBits))

/-- the refinement invariant of the block decoder: the model's scratch holds the Spec's entropy state (Huffman table,
the three FSE tables, the offset history).  Not the `Coupled` of the FSE encoder/decoder tables (`Proofs/FseCoupled`) -/
structure Coupled (e : Spec.Entropy) (s : Scratch) : Prop where
  huf : HufCoupled e.huf s.huf
  fse : FseCoupled e s.fse
  hist : s.hist = (e.hist.r1, e.hist.r2, e.hist.r3)

theorem coupled_fresh : Coupled {} {} :=
  ⟨⟨Or.inl rfl, fun _ h => by cases h⟩, fseCoupled_fresh, rfl⟩

/-- what the body of `decompress_block` needs from the literals stage when the Spec decodes the
literals section of `bytes` to `lits` (consuming `used` bytes, Huffman table `huf'` in force afterwards) -/
def LitStage (bytes : List Nat) (t : Huf.DecTable) (lits : List Nat) (used : Nat)
    (huf' : Option Spec.Huffman.Table) : Prop :=
  ∃ sec hdrLen upper t', Hdr.parseLitHeader Hdr.LitSection.new bytes = .ok (sec, hdrLen) ∧
    sec.regen = lits.length ∧ upperLimit sec = .ok upper ∧ upper ≤ (bytes.drop hdrLen).length ∧
    used = hdrLen + upper ∧
    Huf.decodeLiterals { lsType := litTypeOf sec.ty, regeneratedSize := sec.regen, compressedSize := sec.comp,
                         numStreams := sec.streams } t ((bytes.drop hdrLen).take upper) [] = (t', .ok (lits, upper)) ∧
    HufCoupled huf' t'

theorem decodeLiterals_refines_raw_rle {bytes : List Nat} (hb : Bytes bytes) {prev huf' : Option Spec.Huffman.Table}
    {lits : List Nat} {used : Nat} {t : Huf.DecTable} (hc : HufCoupled prev t)
    (hs : Spec.decodeLiterals bytes prev = some (lits, used, huf'))
    (hty : ∀ H, Spec.parseLitHeader bytes = some H → H.ltype < 2) :
    LitStage bytes t lits used huf' := by
  cases Spec.decodeLiterals_eq_some.mp hs with
  | raw H hH h0 hlen =>
    obtain ⟨sec, hp, hsty, hsreg, hcomp, _⟩ := parseLitHeader_refines hb hH
    have hcn := hcomp (hty H hH)
    have hl : ((bytes.drop H.hdrLen).take H.regen).length = H.regen := by rw [List.length_take]; omega
    refine ⟨sec, H.hdrLen, H.regen, t, hp, by rw [hsreg, hl], ?_, by omega, rfl, ?_, hc⟩
    · simp [upperLimit, hcn, hsty, h0, hsreg]
    · have : litTypeOf sec.ty = .raw := by simp [litTypeOf, hsty, h0]
      simp only [Huf.decodeLiterals, this, hsreg, hl, Nat.lt_irrefl, if_false, List.nil_append, List.take_take, Nat.min_self]
  | rle H b tl hH h1 hbody =>
    obtain ⟨sec, hp, hsty, hsreg, hcomp, _⟩ := parseLitHeader_refines hb hH
    have hcn := hcomp (hty H hH)
    refine ⟨sec, H.hdrLen, 1, t, hp, by rw [hsreg]; simp, ?_, by rw [hbody]; simp, rfl, ?_, hc⟩
    · simp [upperLimit, hcn, hsty, h1]
    · have : litTypeOf sec.ty = .rle := by simp [litTypeOf, hsty, h1]
      rw [hbody]
      simp only [Huf.decodeLiterals, this, hsreg, List.take_succ_cons, List.take_zero, List.nil_append]
  | huf H _ _ _ hH ht => exact absurd (hty H hH) (by omega)

/-- the full literals refinement (all four section types); proved for Raw/RLE above and for
Compressed/Treeless in `Proofs/BlkLitFull` (`decodeLiterals_refines_full_holds`) -/
def decodeLiterals_refines_full : Prop :=
  ∀ (bytes : List Nat) (prev huf' : Option Spec.Huffman.Table) (lits : List Nat) (used : Nat) (t : Huf.DecTable),
    Bytes bytes → HufCoupled prev t → Spec.decodeLiterals bytes prev = some (lits, used, huf') →
    LitStage bytes t lits used huf'

/-- first disjunct: `LiteralsSizeTooLarge` has no counterpart in the two sections of the Spec; the caller refutes it
with the Spec's block-size check -/
theorem stage_of_spec {bytes : List Nat} {e e1 : Spec.Entropy} {s : Scratch} {lits : List Nat} {used : Nat}
    {huf' : Option Spec.Huffman.Table} {seqs : List Spec.Seq} (hb : Bytes bytes) (hc : Coupled e s)
    (hL : LitStage bytes s.huf lits used huf')
    (hS : Spec.decodeSequences (bytes.drop used) { e with huf := huf' } = some (seqs, e1)) :
    (Gen.maxBlockSize < lits.length ∧ ∃ o, stage bytes s = .stop s [] o) ∨
    ∃ s', Coupled e1 s' ∧ ((seqs = [] ∧ stage bytes s = .push s' lits) ∨ stage bytes s = .exec s' lits seqs) := by
  obtain ⟨sec, hdrLen, upper, t', hp, hreg, hup, hule, hused, hdl, hhc⟩ := hL
  unfold stage
  rw [hp]
  dsimp only
  by_cases hbig : sec.regen > Gen.maxBlockSize
  · rw [if_pos hbig]
    exact .inl ⟨by omega, _, rfl⟩
  · have hfc : FseCoupled { e with huf := huf' } s.fse := ⟨hc.fse.ll, hc.fse.of, hc.fse.ml⟩
    obtain ⟨n, modes, shLen, hsh, hn0, hn1⟩ := decodeSequences_refines (Bytes_drop hb used) hfc hS
    have hdrop : (bytes.drop hdrLen).drop upper = bytes.drop used := by rw [List.drop_drop, hused]
    rw [if_neg hbig, hup]
    dsimp only
    unfold stageBody
    rw [if_neg (by omega)]
    simp only [hdl]
    rw [if_neg (by omega), if_neg (by omega), hdrop, hsh]
    dsimp only
    refine .inr ?_
    by_cases hn : n = 0
    · obtain ⟨hse, hee, hemp⟩ := hn0 hn
      rw [if_neg (by omega)]
      simp only [hemp, Bool.not_true, Bool.false_eq_true, if_false]
      exact ⟨_, by rw [hee]; exact ⟨hhc, ⟨hfc.ll, hfc.of, hfc.ml⟩, hc.hist⟩, .inl ⟨hse, rfl⟩⟩
    · obtain ⟨fse', hds, hfc', hhuf, hhist⟩ := hn1 hn
      rw [if_pos hn]
      simp only [hds]
      exact ⟨_, ⟨by rw [hhuf]; exact hhc, ⟨hfc'.ll, hfc'.of, hfc'.ml⟩, by rw [hhist]; exact hc.hist⟩, .inr rfl⟩

theorem decompressBlock_refines_of_litStage {window : Nat} {dict : Array Nat} {bytes : List Nat}
    {e e' : Spec.Entropy} {out out' : Array Nat} {s : Scratch} {b : DBuf}
    (hb : Bytes bytes) (hc : Coupled e s)
    (hd : b.dict = dict) (hw : b.window = window) (hout : b.hashed ++ b.content = out)
    (hco : CounterOk b) (hre : Retained b)
    (hs : Spec.decodeCompressedBlock window dict bytes e out = some (out', e'))
    (hlit : ∀ lits used huf', Spec.decodeLiterals bytes e.huf = some (lits, used, huf') →
      LitStage bytes s.huf lits used huf') :
    ∃ s' b' lits seqs, Blk.decompressBlock bytes s b = ((s', b', lits, seqs), .ok) ∧ Coupled e' s' ∧
      b'.hashed = b.hashed ∧ b.hashed ++ b'.content = out' ∧ b'.dict = dict ∧ b'.window = window ∧
      CounterOk b' ∧ Retained b' := by
  obtain ⟨lits, used, huf', seqs, e1, h2, hL, hS, hX, hgrow, rfl⟩ := Spec.decodeCompressedBlock_eq_some.mp hs
  -- every literal is copied to the output
  have hsz : out.size + lits.length ≤ out'.size := by
    rw [execSequences_size _ _ _ _ _ _ _ _ hX]
    exact Nat.add_le_add_left (execSequences_lits_le _ _ _ _ _ _ _ _ hX) _
  have hbm : Spec.blockMaxSize = Gen.maxBlockSize := rfl
  have hgrow' : out'.size - out.size ≤ Gen.maxBlockSize := by
    have : min window Spec.blockMaxSize ≤ Spec.blockMaxSize := Nat.min_le_right _ _
    omega
  rw [decompressBlock_eq_stage]
  rcases stage_of_spec hb hc (hlit lits used huf' hL) hS with ⟨hbig, -⟩ | ⟨s', hc', ⟨rfl, hst⟩ | hst⟩
  · omega
  · simp only [Spec.execSequences, Option.some.injEq, Prod.mk.injEq] at hX
    obtain ⟨hX1, hX2⟩ := hX
    rw [hst]
    refine ⟨_, _, _, _, rfl, ⟨hc'.huf, ⟨hc'.fse.ll, hc'.fse.of, hc'.fse.ml⟩, by rw [← hX2]; exact hc'.hist⟩, rfl, ?_, hd, hw, counterOk_push _ _ hco,
      (grows_push b _).retained hre⟩
    rw [← hX1, ← hout]; simp [DBuf.push]
  · obtain ⟨b', hex, hh1, hh2, hh3, hh4, hh5, hh6⟩ :=
      executeSequences_refines window dict seqs lits e1.hist out out' h2 0 b hX (Spec.decodeSequences_ov _ _ _ _ hS)
        hd hw hout hco hre (by omega)
    rw [hst]
    simp only [Stage.apply, hc'.hist, hex]
    exact ⟨_, b', _, _, rfl, ⟨hc'.huf, ⟨hc'.fse.ll, hc'.fse.of, hc'.fse.ml⟩, rfl⟩, hh1, hh2, hh3, hh4, hh5, hh6⟩

/-- the full block theorem: no hypothesis on the literals stage -/
def decompressBlock_refines_full : Prop :=
  ∀ (window : Nat) (dict : Array Nat) (bytes : List Nat) (e e' : Spec.Entropy) (out out' : Array Nat)
    (s : Scratch) (b : DBuf),
    Bytes bytes → Coupled e s → b.dict = dict → b.window = window → b.hashed ++ b.content = out →
    CounterOk b → Retained b →
    Spec.decodeCompressedBlock window dict bytes e out = some (out', e') →
    ∃ s' b' lits seqs, Blk.decompressBlock bytes s b = ((s', b', lits, seqs), .ok) ∧ Coupled e' s' ∧
      b'.hashed = b.hashed ∧ b.hashed ++ b'.content = out' ∧ b'.dict = dict ∧ b'.window = window ∧
      CounterOk b' ∧ Retained b'

theorem decompressBlock_refines_full_of_literals (h : decodeLiterals_refines_full) : decompressBlock_refines_full := by
  intro window dict bytes e e' out out' s b hb hc hd hw hout hco hre hs
  exact decompressBlock_refines_of_litStage hb hc hd hw hout hco hre hs
    (fun lits used huf' hL => h bytes e.huf huf' lits used s.huf hb hc.huf hL)

theorem decompressBlock_refines_raw_rle {window : Nat} {dict : Array Nat} {bytes : List Nat}
    {e e' : Spec.Entropy} {out out' : Array Nat} {s : Scratch} {b : DBuf}
    (hb : Bytes bytes) (hc : Coupled e s)
    (hd : b.dict = dict) (hw : b.window = window) (hout : b.hashed ++ b.content = out)
    (hco : CounterOk b) (hre : Retained b)
    (hs : Spec.decodeCompressedBlock window dict bytes e out = some (out', e'))
    (hty : ∀ H, Spec.parseLitHeader bytes = some H → H.ltype < 2) :
    ∃ s' b' lits seqs, Blk.decompressBlock bytes s b = ((s', b', lits, seqs), .ok) ∧ Coupled e' s' ∧
      b'.hashed = b.hashed ∧ b.hashed ++ b'.content = out' ∧ b'.dict = dict ∧ b'.window = window ∧
      CounterOk b' ∧ Retained b' :=
  decompressBlock_refines_of_litStage hb hc hd hw hout hco hre hs
    (fun _ _ _ hL => decodeLiterals_refines_raw_rle hb hc.huf hL hty)

end Zstd.Proofs.Blk
