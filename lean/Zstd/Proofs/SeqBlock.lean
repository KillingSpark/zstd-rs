import Zstd.Proofs.SeqSection
import Zstd.Proofs.SeqExec
import Zstd.Proofs.EncContracts
import Zstd.Proofs.Spec.Block
/-
The block-encoder contract `BlockEncCorrect` (Proofs/EncContracts.lean) for `compress_block` over
ANY literal coder that satisfies `LitCoderCorrect` and the REAL sequence coder
(`encodeSeqSectionReal`): the sequences half of the contract is discharged here, by
`SeqSection.encode_decode_sequences_all` (count, modes, three FSE table descriptions, interleaved
bitstream → strict `Spec.decodeSequences`) and `SeqExec.execParse_refines` (the matcher's parse =
`Spec.execSequences` of the sequences sent).  The literal coder's contract for the real Huffman coder
and the totality of the real coders are in `Proofs/LitCoder*.lean`.
-/
namespace Zstd.Proofs.SeqBlock
open Zstd Zstd.Spec Zstd.Model Zstd.Model.Enc Zstd.Proofs.Enc Zstd.Proofs.BitIO
open Zstd.Proofs.SeqSection Zstd.Proofs.SeqExec

/-- the statement of `Props.C16.sequence_codes_in_range`, needed below `Props/C16.lean` in the import order.
`hu32`: either bound keeps `(offset + 3) as u32` exact, a valid offset being at most `w` and at most the bytes before it. -/
theorem codes_in_range (w : Nat) (pre blk : List Byte) (p : Parse)
    (hv : validParse w pre blk p = true) (hblk : blk.length ≤ 131072)
    (hu32 : w + 3 < 2 ^ 32 ∨ (pre ++ blk).length + 3 < 2 ^ 32) :
    p.seqs.length ≤ 43690 ∧
    ∀ s ∈ p.seqs,
      toRSeq s = .ok ⟨s.lits.length, s.matchLen, s.offset + 3⟩ ∧
      (∃ c x b : Nat, encodeLL s.lits.length = .ok (c, x, b) ∧ c ≤ 35 ∧ x < 2 ^ b) ∧
      (∃ c x b : Nat, encodeML s.matchLen = .ok (c, x, b) ∧ c ≤ 52 ∧ x < 2 ^ b) ∧
      (∃ c x : Nat, encodeOffset (s.offset + 3) = .ok (c, x, c) ∧ c ≤ 31 ∧ x < 2 ^ c ∧ 2 ^ c + x = s.offset + 3) := by
  obtain ⟨seqs, tail⟩ := p
  obtain ⟨_, hall, hcount, _⟩ := validParse_bounds w pre blk seqs tail hv
  refine ⟨by simp only; omega, ?_⟩
  intro s hs
  obtain ⟨h3, ho1, how, hop, hlm⟩ := hall s hs
  have hoff : s.offset + 3 < 2 ^ 32 := by omega
  have hll : s.lits.length < 131072 := by omega
  have hml : s.matchLen < 131075 := by omega
  refine ⟨?_, ?_, ?_, ?_⟩
  · have n64 : ¬ s.offset + 3 ≥ 2 ^ 64 := by omega
    simp only [toRSeq, offsetAdd_eq, n64, ↓reduceIte]
    rw [Nat.mod_eq_of_lt (by omega : s.lits.length < 2 ^ 32), Nat.mod_eq_of_lt (by omega : s.matchLen < 2 ^ 32),
      Nat.mod_eq_of_lt hoff]
  · obtain ⟨c, x, b, h, hc, hx, _⟩ := encodeLL_ok _ hll
    exact ⟨c, x, b, h, hc, hx⟩
  · obtain ⟨c, x, b, h, hc, hx, _⟩ := encodeML_ok _ h3 hml
    exact ⟨c, x, b, h, hc, hx⟩
  · exact encodeOffset_ok (s.offset + 3) (by omega) hoff

theorem litHuffGuard_eq (a b : Nat) : Gen.litHuffGuard a b = decide (a > b) := rfl
theorem litHuffThreshold_eq : Gen.litHuffThreshold = 1024 := rfl

theorem mapMExcept_eq_map {α β : Type} (f : α → Except Fault β) (g : α → β) :
    ∀ (l : List α), (∀ a ∈ l, f a = .ok (g a)) → mapMExcept f l = .ok (l.map g) := by
  intro l
  induction l with
  | nil => intro _; rfl
  | cons a as ih =>
    intro h
    simp only [mapMExcept, h a (List.mem_cons_self ..), ih (fun x hx => h x (List.mem_cons_of_mem _ hx)), List.map_cons]

/-- what `toRSeq` returns when no cast loses anything -/
def rOfM (s : MSeq) : RSeq := ⟨s.lits.length, s.matchLen, s.offset + 3⟩

theorem specSeq_rOfM (s : MSeq) : specSeq (rOfM s) = specOfM s := rfl

theorem decodeLiterals_used_pos {bytes : List Nat} {prev : Option Huffman.Table} {l : List Nat} {used : Nat}
    {t : Option Huffman.Table} (h : Spec.decodeLiterals bytes prev = some (l, used, t)) : 1 ≤ used := by
  obtain ⟨H, hp, hu, _⟩ := (Spec.decodeLiterals_eq_some.mp h).used_eq
  have := (Headers.specLitHeader_inv hp).1
  omega

/-- `litStep` with the threshold in place and the two returning arms of the literal coder as one: a
table it returns replaces the remembered one (`last_huff_table.replace(table)`) -/
theorem litStep_eq {H : Type} (cd : Coders H) (lits : List Byte) (st : EncState H) :
    litStep cd lits st =
      if lits.length > 1024 then
        match cd.compressLiterals lits st.lastHuff with
        | .error f => .error f
        | .ok (bytes, t) => .ok (bytes, { st with lastHuff := t <|> st.lastHuff })
      else
        match rawLiterals lits with
        | .error f => .error f
        | .ok bytes => .ok (bytes, st) := by
  simp only [litStep, litHuffGuard_eq, litHuffThreshold_eq, decide_eq_true_eq]
  split
  · rcases cd.compressLiterals lits st.lastHuff with f | ⟨bytes, _ | t⟩ <;> rfl
  · rfl

theorem litStep_decodes {H : Type} (R : H → Spec.Huffman.Table → Prop) (cd : Coders H)
    (hcd : LitCoderCorrect R cd) (lits : List Byte) (st st' : EncState H) (litBytes : List Byte)
    (e : Spec.Entropy) (hlen : lits.length < 2 ^ 20) (htr : Tracks R st e)
    (h : litStep cd lits st = .ok (litBytes, st')) (rest : List Byte) :
    ∃ d', Spec.decodeLiterals (litBytes ++ rest) e.huf = some (lits, litBytes.length, d') ∧
      Tracks R st' { e with huf := d' } := by
  rw [litStep_eq] at h
  split at h
  · split at h
    · cases h
    · rename_i hc
      cases h
      exact hcd _ _ _ _ e.huf rest hlen htr hc
  · obtain ⟨hdr, hraw, hl3, hdec⟩ := rawLiterals_decodes lits rest e.huf hlen
    rw [hraw] at h
    cases h
    refine ⟨e.huf, ?_, htr⟩
    rw [List.length_append, hl3]; exact hdec

/-- `compress_block` over the real sequence coder on a valid parse, in closed form: the literals step,
then a sequences section that depends on the parse only and that the strict Spec reads back, whatever
the entropy state, as the sequences sent (Huffman table untouched) -/
theorem compressBlock_valid {H : Type} (cd : Coders H) (hseq : cd.encodeSeqSection = encodeSeqSectionReal)
    (w : Nat) (hw32 : w + 3 < 2 ^ 32) (pre blk : List Byte) (p : Parse)
    (hv : validParse w pre blk p = true) (hblk : blk.length ≤ 131072) :
    ∃ sec : List Byte, 1 ≤ sec.length ∧
      (∀ st, compressBlock cd p st =
        match litStep cd (parseLiterals p) st with
        | .error f => .error f
        | .ok (litBytes, st') => .ok (litBytes ++ sec, st')) ∧
      ∀ e, ∃ e', Spec.decodeSequences sec e = some (p.seqs.map specOfM, e') ∧ e'.huf = e.huf := by
  obtain ⟨hcount, hall⟩ := codes_in_range w pre blk p hv hblk (Or.inl hw32)
  obtain ⟨seqs, tail⟩ := p
  obtain ⟨_, hbounds, _, _⟩ := validParse_bounds w pre blk seqs tail hv
  have hr : mapMExcept toRSeq seqs = .ok (seqs.map rOfM) :=
    mapMExcept_eq_map toRSeq rOfM seqs (fun s hs => (hall s hs).1)
  cases hs : seqs with
  | nil =>
    subst hs
    refine ⟨[0], Nat.le_refl 1, fun st => ?_, fun e => ⟨e, by simp [Spec.decodeSequences, Spec.parseSeqCount], rfl⟩⟩
    simp only [compressBlock, mapMExcept, List.isEmpty_nil, if_true]
    rfl
  | cons s0 rest =>
    rw [← hs]
    have hne : seqs.map rOfM ≠ [] := by rw [hs]; simp
    have hlen : (seqs.map rOfM).length ≤ 0xFFFF + 0x7F00 := by rw [List.length_map]; omega
    have hin : ∀ r ∈ seqs.map rOfM, InRange r := by
      intro r hrm
      obtain ⟨s, hs, rfl⟩ := List.mem_map.mp hrm
      obtain ⟨h3, ho1, how, _, hlm⟩ := hbounds s hs
      simp only [InRange, rOfM]
      omega
    -- the three code lists, count bytes, section body, three tables; then the three `mapMExcept` equations, the count
    -- equation, the section equation, `Bytes`, and what the Spec decodes from every entropy state
    obtain ⟨lls, mls, ofs, cnt, body, LL, OF, ML, h1, h2, h3, hc, hbody, _, hdec⟩ :=
      encode_decode_sequences_all (seqs.map rOfM) hne hlen hin
    obtain ⟨_, hc', hcnt1, _⟩ := encodeSeqnum_ok (seqs.map rOfM).length
      (List.length_pos_iff.mpr hne) (by rw [List.length_map]; omega)
    rw [hc] at hc'; cases hc'
    refine ⟨cnt ++ body, by rw [List.length_append]; omega, fun st => ?_,
      fun e => ⟨{ e with ll := some LL, of := some OF, ml := some ML }, by rw [hdec, List.map_map]; rfl, rfl⟩⟩
    have hemp : (seqs.map rOfM).isEmpty = false := by rw [hs]; rfl
    simp only [compressBlock, hr, hemp, hc, h1, h2, h3, hseq, hbody, List.append_assoc]
    rfl

theorem litStep_returnsOr {H : Type} (cd : Coders H) (I : EncState H → Prop) (A : Fault → Prop)
    (lits : List Byte) (st : EncState H) (hlen : lits.length < 2 ^ 20) (hst : I st)
    (hlit : 1024 < lits.length →
      ReturnsOr (fun r => I { st with lastHuff := r.2 <|> st.lastHuff }) A (cd.compressLiterals lits st.lastHuff)) :
    ReturnsOr (fun r => I r.2) A (litStep cd lits st) := by
  rw [litStep_eq]
  split
  · rename_i h1024
    cases hc : cd.compressLiterals lits st.lastHuff with
    | error f => exact .intro_error rfl ((hlit h1024).of_error hc)
    | ok r => exact .intro_ok rfl ((hlit h1024).of_ok hc :)
  · obtain ⟨hdr, hraw, _⟩ := rawLiterals_decodes lits [] none hlen
    rw [hraw]
    exact .intro_ok rfl hst

theorem compressBlock_returnsOr {H : Type} (cd : Coders H) (hseq : cd.encodeSeqSection = encodeSeqSectionReal)
    (w : Nat) (hw32 : w + 3 < 2 ^ 32) (pre blk : List Byte) (p : Parse)
    (hv : validParse w pre blk p = true) (hblk : blk.length ≤ 131072)
    (I : EncState H → Prop) (A : Fault → Prop) (st : EncState H)
    (hlit : ReturnsOr (fun r => I r.2) A (litStep cd (parseLiterals p) st)) :
    ReturnsOr (fun r => I r.2) A (compressBlock cd p st) := by
  obtain ⟨sec, _, heq, _⟩ := compressBlock_valid cd hseq w hw32 pre blk p hv hblk
  rw [heq]
  cases hl : litStep cd (parseLiterals p) st with
  | error f => exact .intro_error rfl (hlit.of_error hl)
  | ok r => exact .intro_ok rfl (hlit.of_ok hl :)

/-- `hw32`: the matcher's offsets survive the `(offset + 3) as u32` cast -/
theorem blockEncCorrect_of_litCoder {H : Type} (R : H → Spec.Huffman.Table → Prop) (cd : Coders H)
    (hcd : LitCoderCorrect R cd) (hseq : cd.encodeSeqSection = encodeSeqSectionReal)
    (w window : Nat) (hww : w ≤ window) (hw32 : w + 3 < 2 ^ 32) :
    BlockEncCorrect R w window (compressBlock cd) := by
  intro p st st' bytes e pre blk hv hblk htr henc hle
  have hblk' : blk.length ≤ 131072 := Nat.le_trans hblk (Nat.min_le_right _ _)
  obtain ⟨sec, hsec1, heq, hdecS⟩ := compressBlock_valid cd hseq w hw32 pre blk p hv hblk'
  obtain ⟨seqs, tail⟩ := p
  obtain ⟨_, _, _, hlits⟩ := validParse_bounds w pre blk seqs tail hv
  rw [heq] at henc
  split at henc
  · cases henc
  · rename_i litBytes st1 hlit
    cases henc
    obtain ⟨d', hdec, htr'⟩ := litStep_decodes R cd hcd _ st st' litBytes e (by omega) htr hlit sec
    have hused := decodeLiterals_used_pos hdec
    obtain ⟨e', hdS, hhuf⟩ := hdecS { e with huf := d' }
    obtain ⟨h', hex⟩ := execParse_refines w window hww seqs tail pre.toArray _ e'.hist (validParse_exec hv)
    have hsizeok : ¬ ((pre ++ blk).toArray.size - pre.toArray.size > min window Spec.blockMaxSize) := by
      have hblk2 : blk.length ≤ min window 131072 := hblk
      rw [specBlockMax_eq]
      simp only [List.size_toArray, List.length_append]
      omega
    refine ⟨by rw [List.length_append]; omega, { e' with hist := h' }, ?_, fun t ht => ?_⟩
    · simp only [Spec.decodeCompressedBlock, hdec, List.drop_left, hdS]
      rw [show parseLiterals ⟨seqs, tail⟩ = seqs.flatMap (·.lits) ++ tail from rfl, hex]
      simp only [hsizeok, if_false]
    · obtain ⟨d, hd, hR⟩ := htr' t ht
      exact ⟨d, by rw [← hd]; exact hhuf, hR⟩

end Zstd.Proofs.SeqBlock
