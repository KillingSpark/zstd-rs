import Zstd.Model.SeqCodes
import Zstd.Model.Headers
import Zstd.Spec.Tables
import Zstd.Spec.Headers
import Zstd.Proofs.SeqCodes
import Zstd.Proofs.Headers
/-
C14 — Sequence codes, repeat-offset rules and section headers match the specification.

Every table row, range arm, shift/mask expression, threshold and guard operator on the model
side comes from `Zstd.Gen.*`, i.e. from the current source text of /repo, so these theorems are checked by the kernel
against that text; three functions of Model/SeqCodes.lean have no `Gen` input and are written out by hand: the decoder's
count parser `parseSeqHeader`, `doOffsetHistory` and `encodeOffset`.  All statements are for the WHOLE range of the
quantifier (no bound, no sampling): finite tables are checked by `decide` on the table rows and lifted by induction.
-/
namespace Zstd.Props.C14
open Zstd Zstd.Model Zstd.Model.Hdr Zstd.Proofs.SeqCodes

/-- the literal-length decode table of the code is the RFC's table, for every code -/
theorem ll_dec_eq_rfc : ∀ c, c < 36 → lookupLL c = .ok (Spec.llCodeTable.getD c (0, 0)) :=
  lookupLL_eq_rfc

/-- the match-length decode table of the code is the RFC's table, for every code -/
theorem ml_dec_eq_rfc : ∀ c, c < 53 → lookupML c = .ok (Spec.mlCodeTable.getD c (0, 0)) :=
  lookupML_eq_rfc

/-- codes beyond the tables hit the `unreachable!` arm (the callers bound the code first) -/
theorem ll_dec_out_of_range : ∀ c, c > Gen.maxLiteralLengthCode → ∃ f, lookupLL c = .error f := by
  intro c hc
  have hrows : ∀ r ∈ Gen.llDecRows, r.1 ≤ Gen.maxLiteralLengthCode := by decide
  have h1 : ¬ (c ≤ Gen.llDecIdentHi) := by simp only [Gen.llDecIdentHi, Gen.maxLiteralLengthCode] at *; omega
  simp only [lookupLL, h1, if_false, lookupRow_none Gen.llDecRows c (fun r hr => Nat.lt_of_le_of_lt (hrows r hr) hc)]
  exact ⟨_, rfl⟩

theorem ml_dec_out_of_range : ∀ c, c > Gen.maxMatchLengthCode → ∃ f, lookupML c = .error f := by
  intro c hc
  have hrows : ∀ r ∈ Gen.mlDecRows, r.1 ≤ Gen.maxMatchLengthCode := by decide
  have h1 : ¬ (c ≤ Gen.mlDecIdentHi) := by simp only [Gen.mlDecIdentHi, Gen.maxMatchLengthCode] at *; omega
  simp only [lookupML, h1, if_false, lookupRow_none Gen.mlDecRows c (fun r hr => Nat.lt_of_le_of_lt (hrows r hr) hc)]
  exact ⟨_, rfl⟩

/-! ## Literal lengths: encoder and decoder are mutual inverses on 0..=131071 -/

/-- the finite check on the extracted rows (20 rows): contiguous, `base = lo`, width `2^bits`,
codes consecutive, and the DECODER's row for the code is `(lo, bits)` -/
theorem ll_rows_ok : rowsOk lookupLL Gen.llEncRows (Gen.llEncIdentHi + 1) (Gen.llDecIdentHi + 1) = true := llRows_ok
theorem ll_rows_end : rowsEnd Gen.llEncRows (Gen.llEncIdentHi + 1) = Gen.llEncUpper := llRows_end

/-- every literal length 0..=131071 is encoded (no `unreachable!`, no underflow) to a code ≤ 35
whose decoder row gives the value back; the extra value fits the row's bit count -/
theorem ll_roundtrip : ∀ v, v ≤ 131071 →
    ∃ c e b base, encodeLL v = .ok (c, e, b) ∧ c ≤ 35 ∧ lookupLL c = .ok (base, b) ∧ base + e = v ∧ e < 2 ^ b :=
  encodeLL_roundtrip

example : encodeLL 131071 = .ok (35, 65535, 16) := by decide

/-- conversely: every code ≤ 35 with every in-range extra value is produced by the encoder from
the decoded value, with exactly that code, extra value and bit count -/
theorem ll_enc_dec : ∀ c base bits e, c ≤ 35 → lookupLL c = .ok (base, bits) → e < 2 ^ bits →
    encodeLL (base + e) = .ok (c, e, bits) :=
  fun c base bits e hc => encodeWith_enc_dec lookupLL _ _ _ _ _ _ _ _ llRows_ok llRows_end rfl (by decide) llIdent
    c base bits e (Nat.lt_succ_of_le hc)

example : lookupLL 25 = .ok (64, 6) ∧ (63 : Nat) < 2 ^ 6 := by decide

/-- values outside the range reach the `unreachable!` arm: a `Fault`, never a wrong code -/
theorem ll_out_of_range : ∀ v, v > 131071 → ∃ f, encodeLL v = .error f :=
  fun v hv => encodeWith_out_of_range _ _ _ _ _ _ _ v
    (Or.inr ⟨Nat.lt_of_lt_of_le (by decide : Gen.llEncIdentHi < 131072) hv, hv⟩)

/-! ## Match lengths: mutual inverses on 3..=131074 -/

theorem ml_rows_ok : rowsOk lookupML Gen.mlEncRows (Gen.mlEncIdentHi + 1) (Gen.mlDecIdentHi + 1) = true := mlRows_ok
theorem ml_rows_end : rowsEnd Gen.mlEncRows (Gen.mlEncIdentHi + 1) = Gen.mlEncUpper := mlRows_end

theorem ml_roundtrip : ∀ v, 3 ≤ v → v ≤ 131074 →
    ∃ c e b base, encodeML v = .ok (c, e, b) ∧ c ≤ 52 ∧ lookupML c = .ok (base, b) ∧ base + e = v ∧ e < 2 ^ b :=
  encodeML_roundtrip

example : encodeML 131074 = .ok (52, 65535, 16) := by decide

theorem ml_enc_dec : ∀ c base bits e, c ≤ 52 → lookupML c = .ok (base, bits) → e < 2 ^ bits →
    encodeML (base + e) = .ok (c, e, bits) :=
  fun c base bits e hc => encodeWith_enc_dec lookupML _ _ _ _ _ _ _ _ mlRows_ok mlRows_end rfl (by decide) mlIdent
    c base bits e (Nat.lt_succ_of_le hc)

example : lookupML 43 = .ok (131, 7) ∧ (127 : Nat) < 2 ^ 7 := by decide

theorem ml_out_of_range : ∀ v, v < 3 ∨ v > 131074 → ∃ f, encodeML v = .error f :=
  fun v hv => encodeWith_out_of_range _ _ _ _ _ _ _ v
    (hv.imp id fun h => ⟨Nat.lt_of_lt_of_le (by decide : Gen.mlEncIdentHi < 131075) h, h⟩)

/-! ## Offsets: all codes 0..=31, every offset value 1 .. 2^32-1 -/

/-- `encode_offset` yields the RFC's (code, extra bits) split of the offset value, and the
decoder's `(1 << code) + extra` gives the value back -/
theorem of_roundtrip : ∀ v c e b, 1 ≤ v → v < 2 ^ 32 → encodeOffset v = .ok (c, e, b) →
    c ≤ 31 ∧ 2 ^ c + e = v ∧ e < 2 ^ c ∧ b = c ∧ decodeOffsetValue c e = some v ∧
      Spec.offsetValue c e = v :=
  encodeOffset_roundtrip

example : encodeOffset 4294967295 = .ok (31, 2147483647, 31) := by decide

/-- `encode_offset` never faults on a non-zero value (so `of_roundtrip` is not vacuous) -/
theorem of_total : ∀ v, 1 ≤ v → ∃ c e b, encodeOffset v = .ok (c, e, b) := by
  intro v h
  have hv : v ≠ 0 := by omega
  simp only [encodeOffset, hv, if_false]
  exact ⟨_, _, _, rfl⟩

/-- conversely, every code ≤ 31 and extra value below `2^code` is what the encoder produces -/
theorem of_enc_dec : ∀ c e, c ≤ 31 → e < 2 ^ c → encodeOffset (2 ^ c + e) = .ok (c, e, c) := by
  intro c e _ he
  have hp : 0 < 2 ^ c := Nat.two_pow_pos c
  have hv : 2 ^ c + e ≠ 0 := by omega
  have hl : Nat.log2 (2 ^ c + e) = c := by
    rw [Nat.log2_eq_iff hv, Nat.pow_succ]; omega
  simp only [encodeOffset, hv, if_false, hl, Nat.and_two_pow_sub_one_eq_mod]
  have : (2 ^ c + e) % 2 ^ c = e := by
    rw [Nat.add_mod_left, Nat.mod_eq_of_lt he]
  rw [this]

/-- the decoder's offset value is never 0 (offset value 0 would underflow in the history step) -/
theorem decodeOffsetValue_pos : ∀ c e v, decodeOffsetValue c e = some v → 1 ≤ v := by
  intro c e v h
  simp only [decodeOffsetValue] at h
  split at h
  · cases h
  · injection h with h
    have : 0 < 1 <<< c := by rw [Nat.shiftLeft_eq, Nat.one_mul]; exact Nat.two_pow_pos c
    omega

theorem decodeOffsetValue_limit : ∀ c e, c > 31 → decodeOffsetValue c e = none := by
  intro c e h
  have : c > Gen.maxOffsetCode := by simp only [Gen.maxOffsetCode]; omega
  simp only [decodeOffsetValue, this, if_true]

/-- `do_offset_history` = RFC 8878 §3.1.1.5 for EVERY offset value ≥ 1, both literal-length
cases and every history (zeros from a hostile dictionary included) -/
theorem offsetHistory_eq_rfc : ∀ ov ll (h : Spec.OffHist), 1 ≤ ov →
    doOffsetHistory ov ll (h.r1, h.r2, h.r3) =
      .ok ((Spec.repeatOffsets ov (ll == 0) h).1,
           ((Spec.repeatOffsets ov (ll == 0) h).2.r1, (Spec.repeatOffsets ov (ll == 0) h).2.r2,
            (Spec.repeatOffsets ov (ll == 0) h).2.r3)) :=
  doOffsetHistory_eq_rfc

/-- offset value 0 (which the decoder can never produce, `decodeOffsetValue_pos`) would be an
arithmetic underflow -/
theorem offsetHistory_zero_faults : ∀ ll s, ∃ f, doOffsetHistory 0 ll s = .error f := by
  intro ll s
  obtain ⟨a, b, c⟩ := s
  simp only [doOffsetHistory, if_true]
  exact ⟨_, rfl⟩

/-- the decoder's count parser agrees with RFC 8878 §3.1.1.3.2.1 on EVERY byte sequence:
where the RFC defines a count the parser returns it (consuming the count bytes, plus the modes
byte when the count is non-zero), and it fails exactly when bytes are missing -/
theorem seqnum_parse_eq_rfc : ∀ bs : List Nat,
    match Spec.parseSeqCount bs with
    | none => ∃ need got, parseSeqHeader bs = .error (.notEnoughBytes need got)
    | some (n, k) =>
      if n = 0 then parseSeqHeader bs = .ok (0, none, k)
      else match bs[k]? with
        | some m => parseSeqHeader bs = .ok (n, some m, k + 1)
        | none => ∃ need got, parseSeqHeader bs = .error (.notEnoughBytes need got) :=
  parseSeqHeader_eq_rfc

/-- every count the compressor may be asked to write (1 ..= 0xFFFF + 0x7F00) is written as bytes
that the decoder reads back to the same count, consuming exactly those bytes plus the modes byte -/
theorem seqnum_roundtrip : ∀ n m, 1 ≤ n → n ≤ 0xFFFF + 0x7F00 →
    ∃ bs, encodeSeqnum n = .ok bs ∧ (∀ b ∈ bs, b < 256) ∧
      parseSeqHeader (bs ++ [m]) = .ok (n, some m, bs.length + 1) ∧
      Spec.parseSeqCount (bs ++ [m]) = some (n, bs.length) :=
  encodeSeqnum_roundtrip

example : encodeSeqnum 0x7F00 = .ok [255, 0, 0] ∧ encodeSeqnum 98047 = .ok [255, 255, 255] := by decide

/-- counts the format cannot express (0 is written elsewhere as a single zero byte; above
0xFFFF + 0x7F00 there is no encoding) fault instead of producing a wrong header -/
theorem seqnum_out_of_range : ∀ n, n = 0 ∨ n > 0xFFFF + 0x7F00 → ∃ f, encodeSeqnum n = .error f := by
  intro n h
  have : ¬ (1 ≤ n ∧ n ≤ 127) := by omega
  have : ¬ (128 ≤ n ∧ n ≤ 32511) := by omega
  have : ¬ (32512 ≤ n ∧ n ≤ 98047) := by omega
  simp only [encodeSeqnum, Gen.seqnumArms, *, if_false]
  exact ⟨_, rfl⟩

open Zstd.Proofs.Headers in
/-- every three-byte pattern is parsed to exactly the RFC's fields (Last_Block bit 0, Block_Type
bits 1-2, Block_Size bits 3-23); the reserved type and sizes above 128 KiB are refused; the
derived sizes are those of the block type -/
theorem blockHeader_parse_eq_rfc : ∀ b0 b1 b2 rest, b0 < 256 → b1 < 256 → b2 < 256 →
    readBlockHeader (b0 :: b1 :: b2 :: rest) =
      (let h := Spec.parseBlockHeader b0 b1 b2
       if h.btype = 3 then .error .reserved
       else if h.size > Spec.blockMaxSize then .error (.tooLarge h.size)
       else .ok ({ last := h.last, btype := h.btype,
                   decompressedSize := if h.btype = 2 then 0 else h.size,
                   contentSize := if h.btype = 1 then 1 else h.size }, 3)) :=
  readBlockHeader_eq_rfc

/-- fewer than three bytes: a read error, never a header -/
theorem blockHeader_short : ∀ src : List Nat, src.length < 3 → readBlockHeader src = .error (.readError src.length) := by
  intro src h
  match src with
  | [] => rfl
  | [_] => rfl
  | [_, _] => rfl
  | _ :: _ :: _ :: _ => simp at h; omega

/-- sizes the format forbids are refused: Block_Size > 128 KiB or the reserved type ⇒ error
(guard operator from the source: `Gen.blockSizeTooLarge`) -/
theorem block_limits : ∀ b0 b1 b2 rest, b0 < 256 → b1 < 256 → b2 < 256 →
    ((Spec.parseBlockHeader b0 b1 b2).size > 131072 ∨ (Spec.parseBlockHeader b0 b1 b2).btype = 3 ↔
      ∃ e, readBlockHeader (b0 :: b1 :: b2 :: rest) = .error e) := by
  intro b0 b1 b2 rest h0 h1 h2
  rw [blockHeader_parse_eq_rfc b0 b1 b2 rest h0 h1 h2]
  simp only [Spec.blockMaxSize]
  by_cases h3 : (Spec.parseBlockHeader b0 b1 b2).btype = 3
  · simp [h3]
  · by_cases hs : (Spec.parseBlockHeader b0 b1 b2).size > 131072
    · simp [h3, hs]
    · simp [h3, hs]

example : (Spec.parseBlockHeader 0x08 0x00 0x10).size = 131073 := by decide

open Zstd.Proofs.Headers in
/-- every header the encoder can be asked to write (any last flag, Raw/RLE/Compressed, any size the
21-bit field can hold) is read back to the same values — or refused when the size exceeds
128 KiB, never silently altered -/
theorem blockHeader_roundtrip : ∀ (last : Bool) t size rest, t ≤ 2 → size < 2 ^ 21 →
    ∃ bs, serializeBlockHeader last t size = .ok bs ∧ bs.length = 3 ∧ (∀ b ∈ bs, b < 256) ∧
      readBlockHeader (bs ++ rest) =
        if size > 131072 then .error (.tooLarge size)
        else .ok ({ last := last, btype := t, decompressedSize := if t = 2 then 0 else size,
                    contentSize := if t = 1 then 1 else size }, 3) :=
  serializeBlockHeader_roundtrip

/-- the reserved type cannot be written: the encoder panics (a `Fault`) instead -/
theorem blockHeader_reserved_faults : ∀ (last : Bool) size, ∃ f, serializeBlockHeader last 3 size = .error f := by
  intro last size
  exact ⟨_, rfl⟩

open Zstd.Proofs.Headers in
/-- every byte pattern (all 4 types × all size formats, any number of bytes) is parsed to exactly
the RFC's fields; too few bytes give `NotEnoughBytes {have, need}` with the RFC's header size;
`num_streams` is left as it was for Raw/RLE sections (the code does not reset it) -/
theorem literalsHeader_parse_eq_rfc : ∀ (self : LitSection) (raw : List Nat), (∀ b ∈ raw, b < 256) →
    parseLitHeader self raw =
      match raw with
      | [] => .error (.getBits 2 0)
      | r0 :: _ =>
        match Spec.Hdr.parseLitHeader raw with
        | none => .error (.notEnoughBytes raw.length (Spec.Hdr.litHeaderSize r0))
        | some h => .ok ({ ty := h.ltype, regen := h.regen, comp := h.comp,
                           streams := if h.ltype < 2 then self.streams else h.streams }, h.size) :=
  parseLitHeader_eq_rfc

/-- the parser never panics (no index out of range, no `panic!` arm) on any byte sequence -/
theorem literalsHeader_no_fault : ∀ (self : LitSection) (raw : List Nat) f, (∀ b ∈ raw, b < 256) →
    parseLitHeader self raw ≠ .error (.fault f) :=
  Zstd.Proofs.Headers.parseLitHeader_no_fault

open Zstd.Proofs.Headers in
/-- raw literals: every count below 2^20 (the compressor writes at most 128 KiB) is written as a
3-byte header that reads back as (Raw, count) -/
theorem literalsHeader_roundtrip_raw : ∀ n (self : LitSection) rest, n < 2 ^ 20 → (∀ b ∈ rest, b < 256) →
    ∃ bs, rawLiteralsHeader n = .ok bs ∧
      parseLitHeader self (bs ++ rest) = .ok ({ ty := 0, regen := n, comp := none, streams := self.streams }, 3) ∧
      Spec.Hdr.parseLitHeader (bs ++ rest) = some ⟨0, n, none, none, 3⟩ :=
  rawLiteralsHeader_roundtrip

open Zstd.Proofs.Headers in
/-- Huffman-compressed and treeless literals: for every literal count the compressor accepts
(< 262144; the size format is the one the source's thresholds select) and every compressed size
that fits the format's field, the header reads back to the same (type, regenerated size,
compressed size) with the stream count the format implies -/
theorem literalsHeader_roundtrip : ∀ (newTable : Bool) regen comp sf sb (self : LitSection) rest,
    litSizeFormat Gen.litSizeFormatArms regen = some (sf, sb) → comp < 2 ^ sb → (∀ b ∈ rest, b < 256) →
    ∃ bs, compressedLiteralsHeader newTable regen comp = .ok bs ∧ bs.length = (4 + 2 * sb) / 8 ∧
      parseLitHeader self (bs ++ rest) =
        .ok ({ ty := if newTable then 2 else 3, regen := regen, comp := some comp,
               streams := some (if regen < 6 then 1 else 4) }, bs.length) :=
  compressedLiteralsHeader_roundtrip

/-- any header that survives `compress_literals`' own fallback (`total_len >= literals.len()` ⇒ raw)
has a compressed size below the literal count, which always fits the field -/
theorem literalsHeader_kept_fits : ∀ regen comp sf sb,
    litSizeFormat Gen.litSizeFormatArms regen = some (sf, sb) → comp < regen → comp < 2 ^ sb := by
  intro regen comp sf sb h hc
  have := (Zstd.Proofs.Headers.size_arms_cases regen sf sb h).1
  omega

/-- the size-format thresholds of the source are those at which the RFC's fields run out
(10-bit sizes below 1024, 14-bit below 16384, 18-bit below 262144; single stream below 6) -/
theorem literals_thresholds : ∀ regen, regen < 262144 →
    litSizeFormat Gen.litSizeFormatArms regen =
      some (if regen < 6 then (0, 10) else if regen < 1024 then (1, 10) else if regen < 16384 then (2, 14) else (3, 18)) :=
  Zstd.Proofs.Headers.size_arms

/-- 262144 literals or more: `unimplemented!` (a `Fault`), not a wrong header -/
theorem literals_too_many : ∀ (newTable : Bool) regen comp, 262144 ≤ regen →
    ∃ f, compressedLiteralsHeader newTable regen comp = .error f := by
  intro newTable regen comp h
  simp only [compressedLiteralsHeader, Zstd.Proofs.Headers.size_arms_none regen h]
  exact ⟨_, rfl⟩

open Zstd.Proofs.Headers in
/-- after the magic number, every descriptor byte and every following byte sequence is parsed to
exactly the RFC's fields: Window_Descriptor present iff not single-segment, Dictionary_ID field
of 0/1/2/4 bytes, Frame_Content_Size field of 0/1/2/4/8 bytes with the +256 rule for the 2-byte
form; a dictionary id of 0 is reported as "none"; the window the decoder will require is the RFC's
(Window_Size, or Frame_Content_Size for single-segment frames); missing bytes give a read error -/
theorem frameHeader_parse_eq_rfc : ∀ d rest, d < 256 → (∀ b ∈ rest, b < 256) →
    match Spec.Hdr.parseFrameHeader (d :: rest) with
    | none => ∃ e, (e = .windowRead ∨ e = .dictIdRead ∨ e = .fcsRead) ∧
        readFrameHeader (leBytes 4 Gen.magicNum ++ d :: rest) = .error e
    | some h => ∃ hd, readFrameHeader (leBytes 4 Gen.magicNum ++ d :: rest) = .ok (hd, 4 + h.size, rest.drop (h.size - 1)) ∧
        hd.desc = d ∧ Gen.fdChecksum d = h.desc.checksum ∧ Gen.fdSingleSegment d = h.desc.singleSegment ∧
        hd.dictId = (match h.dictId with | some 0 => none | x => x) ∧
        hd.fcs = h.fcs.getD 0 ∧
        hd.windowSize = .ok h.requiredWindow :=
  readFrameHeader_eq_rfc

example : Spec.Hdr.parseFrameHeader [0x20, 5] = some ⟨⟨0, true, false, 0⟩, none, none, some 5, 2⟩ := by decide

/-- other magic numbers: the skippable range is reported as a skip frame with its length, anything
else as a bad magic number -/
theorem frameHeader_magic : ∀ (m : Nat) rest, m < 2 ^ 32 → m ≠ Gen.magicNum →
    readFrameHeader (leBytes 4 m ++ rest) =
      if 0x184D2A50 ≤ m ∧ m ≤ 0x184D2A5F then
        (if rest.length < 4 then .error .descRead else .error (.skipFrame m (leNat (rest.take 4))))
      else .error (.badMagic m) :=
  Zstd.Proofs.Headers.readFrameHeader_other_magic

open Zstd.Proofs.Headers in
/-- all 256 window descriptors: `FrameHeader::window_size` = RFC `windowBase + windowAdd` -/
theorem window_of_descriptor : ∀ wd (h : DecFrameHeader), wd < 256 → Gen.fdSingleSegment h.desc = false →
    h.windowDescriptor = wd → h.windowSize = .ok (Spec.windowSize wd) := by
  intro wd h hwd hs he
  simp only [DecFrameHeader.windowSize, hs, Bool.false_eq_true, if_false, he]
  exact window_check wd hwd

/-- single-segment frames: the window is the frame content size, whatever its value (the code
applies NO minimum or maximum here; content sizes below 1 KiB, including 0, are accepted) -/
theorem window_single_segment : ∀ (h : DecFrameHeader), Gen.fdSingleSegment h.desc = true → h.windowSize = .ok h.fcs := by
  intro h hs
  simp only [DecFrameHeader.windowSize, hs, if_true]

/-- the legal range: every descriptor-encoded window lies in [1 KiB, (1<<41) + 7·(1<<38)], the
extracted limits are the RFC's, and the range check (operators from the source text) accepts
exactly that range for EVERY value -/
theorem window_legal_range :
    (∀ wd, wd < 256 → Spec.windowMin ≤ Spec.windowSize wd ∧ Spec.windowSize wd ≤ Spec.windowMax) ∧
    Gen.minWindowSize = Spec.windowMin ∧ Gen.maxWindowSize = Spec.windowMax ∧
    (∀ w, checkWindowRange w =
      if w < Spec.windowMin then .error (.tooSmall w) else if w > Spec.windowMax then .error (.tooBig w) else .ok w) := by
  exact ⟨Zstd.Proofs.Headers.window_range, by decide, by decide, Zstd.Proofs.Headers.checkWindowRange_eq⟩

example : Spec.windowSize 0xFF = Spec.windowMax ∧ Spec.windowSize 0 = Spec.windowMin := by decide

open Zstd.Proofs.Headers in
/-- every header `FrameCompressor::compress` can write (no content size, no dictionary, checksum
flag = the `hash` feature, window from `Matcher::window_size()`, at least `MAX_BLOCK_SIZE`) for every requested
window up to 2^41: six bytes, read back with the same flags, and the DECLARED window is legal, at least the
requested one, and less than twice it (above the 2 KiB floor) -/
theorem frameHeader_roundtrip : ∀ (hash : Bool) w rest, w ≤ 2 ^ 41 →
    ∃ bs hd W, (compressFrameHeader hash w).serialize = .ok bs ∧ bs.length = 6 ∧
      readFrameHeader (bs ++ rest) = .ok (hd, 6, rest) ∧
      hd.dictId = none ∧ hd.fcs = 0 ∧ Gen.fdChecksum hd.desc = hash ∧ Gen.fdSingleSegment hd.desc = false ∧
      Gen.fdFcsFlag hd.desc = 0 ∧ Gen.fdDictIdFlag hd.desc = 0 ∧
      hd.windowSize = .ok W ∧ w ≤ W ∧ Spec.windowMin ≤ W ∧ W ≤ Spec.windowMax ∧ (2048 < w → W < 2 * w) :=
  compressFrameHeader_roundtrip

example : (compressFrameHeader true 131072).serialize = .ok [40, 181, 47, 253, 4, 56] := by decide

/-- observation (not reachable with the built-in matcher, whose window is 128 KiB): a user
`Matcher` reporting a window above 2^41 gets a header that DECLARES LESS than requested — the
exponent is shifted out of the byte (`exponent << 3` on a `u8`): 2^41+1 is declared as 1 KiB -/
theorem frameHeader_window_above_2p41_wraps :
    encWindowDescriptor (2 ^ 41 + 1) = .ok 0 ∧ Spec.windowSize 0 = 1024 := by decide

/-- observation: an 8-byte frame content size cannot be written — `descriptor` has the arm
`3 => 8` where `8 => 3` is meant, so a size ≥ 2^32 panics (the struct is crate-private and
`compress` never sets a content size) -/
theorem frameHeader_fcs8_faults :
    (EncFrameHeader.serialize ⟨some (2 ^ 32), true, false, none, none⟩).toOption = none ∧
    (EncFrameHeader.serialize ⟨some (2 ^ 32 - 1), true, false, none, none⟩).toOption =
      some [40, 181, 47, 253, 0xA0, 255, 255, 255, 255] := by decide

/-- observation: with `single_segment = false` a content size below 256 is written as one byte
although the descriptor then announces no Frame_Content_Size field: the decoder reads content
size 0 (same unreachable struct) -/
theorem frameHeader_fcs1_not_announced :
    EncFrameHeader.serialize { fcs := some 7, singleSegment := false, checksum := false, dictId := none, windowSize := some 1024 }
      = .ok [40, 181, 47, 253, 0, 8, 7] ∧
    (readFrameHeader [40, 181, 47, 253, 0, 8, 7]).toOption.map (fun r => (r.1.fcs, r.2.1)) = some (0, 6) := by decide

end Zstd.Props.C14
