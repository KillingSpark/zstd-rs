import Zstd.Proofs.FrameDecoderStandIn
import Zstd.Proofs.DictParse
import Zstd.Proofs.FrameFaithful
import Zstd.Props.C15
import Zstd.Props.C06
/-
C08 — Content checksums are computed over exactly the delivered bytes (the decoder; the compressor,
whose checksum is over exactly its input, is the section "Compressor side").

The model's hasher state is "the bytes fed so far" (`DBuf.hashed`); `Decoder.calculatedChecksum` is
`Spec.Xxh64.checksum32` of it.  `applyDrain d op` runs a drain operation (collect | read n |
collect_to_writer with ANY sink script and ANY ring split) and returns the bytes handed to the caller;
`applyOp`/`runOps` run arbitrary interleavings of drain operations, `decode_blocks`, `decode_from_to`
and `StreamingDecoder::read`, each with an arbitrary source argument.
-/
namespace Zstd.Props.C08
open Zstd Zstd.Model

variable {σ : Type} [BlockDec σ] [BlockContract σ]

/-- every drain path feeds the hasher exactly the bytes it hands out — for every state, every
operation, every sink behaviour and every ring split (`hash skipped on the second ring segment` or
`hash of bytes the sink did not accept` would break this) -/
theorem drain_hashes_delivered (d : Decoder σ) (op : DrainOp) :
    (applyDrain d op).1.hashed = d.hashed ++ (applyDrain d op).2 :=
  (applyDrain_dstep d op).hashed

/-- the bytes a drain hands out are the front of the buffer, the rest stays: nothing lost, nothing
duplicated -/
theorem drain_delivers_front (d : Decoder σ) (op : DrainOp) :
    (applyDrain d op).2 ++ (applyDrain d op).1.content = d.content :=
  C06.drain_delivers_front d op

/-- decoding one block never touches the hasher (on any path, errors included) -/
theorem block_does_not_hash (st : FState σ) (s : Src) : (decodeOneBlock st s).1.buf.hashed = st.buf.hashed := by
  obtain ⟨x, hx, -⟩ := (decodeOneBlock_step st s).appends
  exact hx.hashed

/-- `decode_blocks` never touches the hasher, for every strategy and source -/
theorem blocks_do_not_hash (d : Decoder σ) (s : Src) (strat : Strategy) :
    (d.decodeBlocks s strat).1.hashed = d.hashed := by
  simpa using (Decoder.decodeBlocks_dstep d s strat).hashed

theorem reset_clears_hash (d : Decoder σ) (s : Src) :
    (∃ e, d.reset s = (d, .err e)) ∨ (d.reset s).1.hashed = #[] := by
  rcases Decoder.reset_cases d s with h | ⟨st, o, h, hr⟩
  · exact Or.inl h
  · right; rw [h]; exact (resetCore_replace _ _ _ _ _ hr).hashed

theorem reset_ok_clears_hash (d d' : Decoder σ) (s rest : Src) (h : d.reset s = (d', .ok rest)) :
    d'.hashed = #[] := by
  rcases reset_clears_hash d s with ⟨e, he⟩ | h2
  · rw [he] at h; cases h
  · rw [h] at h2; exact h2

/-- `decode_from_to` (incl. its implicit `init` on a fresh decoder and the deferred-checksum call):
hasher advanced by exactly the bytes written to the target -/
theorem decode_from_to_hashes_delivered (d : Decoder σ) (s : Src) (n : Nat) :
    (d.decodeFromTo s n).1.hashed = d.hashed ++ (d.decodeFromTo s n).2.delivered (·.2) :=
  Decoder.decodeFromTo_hashed d s n

/-- `StreamingDecoder::read`: hasher advanced by exactly the bytes returned -/
theorem streaming_read_hashes_delivered (d : Decoder σ) (s : Src) (n : Nat) :
    (streamingRead d s n).1.hashed = d.hashed ++ (streamingRead d s n).2.delivered (·.2) :=
  (streamingRead_dstep d s n).hashed

/-- any interleaving of operations: the hasher has seen exactly the concatenation of everything
delivered, in order -/
theorem hashed_eq_delivered (d : Decoder σ) (ops : List Op) :
    (runOps d ops).1.hashed = d.hashed ++ (runOps d ops).2 :=
  runOps_hashed d ops

theorem hashed_eq_delivered_since_reset (d d0 : Decoder σ) (s rest : Src) (ops : List Op)
    (h : d.reset s = (d0, .ok rest)) : (runOps d0 ops).1.hashed = (runOps d0 ops).2 := by
  rw [runOps_hashed, reset_ok_clears_hash d d0 s rest h]; simp

/-- `get_calculated_checksum()` = low 32 bits of XXH64(seed 0) of exactly the bytes handed out since
the reset, in order, for every driver program -/
theorem checksum_is_hash_of_delivered (d d0 : Decoder σ) (s rest : Src) (ops : List Op)
    (h : d.reset s = (d0, .ok rest)) :
    (runOps d0 ops).1.calculatedChecksum = some (Spec.Xxh64.checksum32 (runOps d0 ops).2.toList) ∨
    (runOps d0 ops).1.state = none := by
  cases hs : (runOps d0 ops).1.state with
  | none => exact Or.inr rfl
  | some st =>
    left
    have := hashed_eq_delivered_since_reset d d0 s rest ops h
    simp only [Decoder.hashed, hs] at this
    simp [Decoder.calculatedChecksum, hs, this]

/-- "once all output has been taken": whatever the schedule, delivered ++ still-buffered is the byte
stream the decode operations produced; with an empty buffer the hasher has seen all of it.  Stated for ONE operation,
`decode_from_to` excepted (`hfresh`). -/
theorem delivered_and_buffered_is_stream (d : Decoder σ) (op : Op) (st st' : FState σ)
    (h : d.state = some st) (h' : (applyOp d op).1.state = some st') (hfresh : ∀ s n, op ≠ .fromTo s n) :
    ∃ x, st'.buf.hashed ++ st'.buf.content = st.buf.hashed ++ st.buf.content ++ x := by
  have key : ∀ d' dl, DStep d d' dl → d'.state = some st' →
      ∃ x, st'.buf.hashed ++ st'.buf.content = st.buf.hashed ++ st.buf.content ++ x := by
    intro d' dl hd hs'
    rcases hd.2.2 with ⟨hn, -, -⟩ | ⟨a, b, ha, hb, hs⟩
    · rw [h] at hn; cases hn
    · rw [h] at ha; cases ha; rw [hs'] at hb; cases hb
      obtain ⟨x, hx⟩ := hs.stream
      exact ⟨x, by rw [hs.hashed, Array.append_assoc, hx, Array.append_assoc]⟩
  cases op with
  | drain o => exact key _ _ (applyDrain_dstep d o) h'
  | blocks s strat => exact key _ _ (Decoder.decodeBlocks_dstep d s strat) h'
  | fromTo s n => exact absurd rfl (hfresh s n)
  | sread s n => exact key _ _ (streamingRead_dstep d s n) h'
  | setMax w =>
    simp only [applyOp, Decoder.setMaxWindowSize] at h'
    rw [h] at h'; cases h'; exact ⟨#[], by simp⟩

/-- "For every valid frame that carries a checksum this equals the checksum stored in the frame": for
every frame the Spec accepts and every documented driver program that finishes the frame and takes all
output, `get_calculated_checksum()` = `low32(XXH64(content))` = `get_checksum_from_data()` (when the
frame carries one) — whatever the drain schedule.  (For every block decoder satisfying the
contracts, as in C01.) -/
theorem valid_frame_checksums_agree [RefinesSpec σ] (d : Decoder σ) (sdicts : List Spec.Dict)
    (hdc : DictsCoupled d.dicts sdicts) (f : List Nat) (hb : ∀ x ∈ f, x < 256) (r : Spec.FrameResult)
    (hs : Spec.decodeFrame f sdicts = some r) (hlim : r.header.window ≤ d.maxWindow)
    (ops : List SOp) :
    ∃ d0 rest, d.reset f = (d0, .ok rest) ∧ (DocOk d0 rest ops →
      ∀ st, (runSched d0 rest ops).1.state = some st → st.finished = true → st.buf.content = #[] →
        (runSched d0 rest ops).1.calculatedChecksum = some (Spec.Xxh64.checksum32 r.content) ∧
        (st.checksum = none ∨ st.checksum = (runSched d0 rest ops).1.calculatedChecksum)) := by
  obtain ⟨d0, rest, hres, h⟩ := Model.valid_frame_any_schedule d sdicts hdc f hb r hs hlim ops
  refine ⟨d0, rest, hres, fun hdoc st hst hfin hempty => ?_⟩
  obtain ⟨-, st', tail, hst', hh, hc, hf⟩ := h hdoc
  rw [hst] at hst'; cases hst'
  obtain ⟨ht, -, -, -, hck⟩ := hf hfin
  have hcontent : r.content = st.buf.hashed.toList := by rw [hc, ht, hempty]; simp
  have hcalc : (runSched d0 rest ops).1.calculatedChecksum = some (Spec.Xxh64.checksum32 r.content) := by
    simp [Decoder.calculatedChecksum, hst, hcontent]
  refine ⟨hcalc, ?_⟩
  rcases Spec.decodeFrame_checksum f _ r hs with h0 | h1
  · left; rw [hck, h0]
  · right; rw [hck, h1, hcalc]

/-! ### `H`-abstractness: only the streaming law of the hash is used -/

/-- a streaming hash: feeding `a` then `b` is feeding `a ++ b` -/
structure StreamHash (τ : Type) where
  init : τ
  update : τ → Array Nat → τ
  update_empty : ∀ s, update s #[] = s
  law : ∀ s a b, update (update s a) b = update s (a ++ b)

/-- for ANY streaming hash `H`: feeding it the delivered chunks one drain at a time (as the code
does, per ring segment and per call) gives the state of feeding it the whole delivered stream once -/
theorem streaming_law_chunks {τ} (H : StreamHash τ) (s : τ) (chunks : List (Array Nat)) :
    chunks.foldl H.update s = H.update s (chunks.foldl (· ++ ·) #[]) := by
  have gen : ∀ (acc : Array Nat) (s : τ), chunks.foldl H.update (H.update s acc)
      = H.update s (chunks.foldl (· ++ ·) acc) := by
    induction chunks with
    | nil => intro acc s; rfl
    | cons c cs ih => intro acc s; simp only [List.foldl_cons]; rw [H.law]; exact ih _ _
  have := gen #[] s
  rwa [H.update_empty] at this

/-- every drain operation, seen through ANY streaming hash: new state = old state updated with the
delivered bytes (`H (hash s) delivered`) -/
theorem drain_hash_abstract {τ} (H : StreamHash τ) (d : Decoder σ) (op : DrainOp) :
    H.update H.init (applyDrain d op).1.hashed = H.update (H.update H.init d.hashed) (applyDrain d op).2 := by
  rw [drain_hashes_delivered, H.law]

/-- the model's accumulator is the free streaming hash -/
def bytesSoFar : StreamHash (Array Nat) :=
  { init := #[], update := (· ++ ·), update_empty := fun s => by simp, law := fun s a b => by simp [Array.append_assoc] }

/-- XXH64 is applied to the concatenation: the checksum after feeding chunks `a`, `b` to the model's
accumulator is the one-shot checksum of `a ++ b` -/
theorem xxh64_of_concatenation (a b : Array Nat) :
    Spec.Xxh64.checksum32 (bytesSoFar.update (bytesSoFar.update bytesSoFar.init a) b).toList
      = Spec.Xxh64.checksum32 (a.toList ++ b.toList) := by
  simp [bytesSoFar]

/-- a checksummed single-segment frame holding the raw block "abc" followed by 4 checksum bytes -/
def demoFrame : List Nat := [0x28, 0xB5, 0x2F, 0xFD, 0x24, 3, 0x19, 0, 0, 97, 98, 99, 1, 2, 3, 4]

/-- the hypothesis `d.reset s = (d0, .ok rest)` is satisfiable -/
example : ∃ d0 rest, ({} : DecA).reset demoFrame = (d0, .ok rest) := ⟨_, _, rfl⟩

/-- programs do deliver bytes (block, then a partial read, then collect) -/
example : (runOps (({} : DecA).reset demoFrame).1
    [.blocks (demoFrame.drop 6) .all, .drain (.read 2), .drain .collect]).2 = #[97, 98, 99] := by
  decide +kernel

/-- a sink that takes one byte and then fails: exactly that byte is delivered (and hashed) -/
example : (applyDrain (runOps (({} : DecA).reset demoFrame).1 [.blocks (demoFrame.drop 6) .all]).1
    (.toWriter 2 [.accept 1, .fail])).2 = #[97] := by decide +kernel

example : (applyDrain (runOps (({} : DecA).reset demoFrame).1 [.blocks (demoFrame.drop 6) .all]).1
    (.toWriter 2 [.accept 1, .fail])).1.hashed = #[97] := by decide +kernel

/-! ## Compressor side

"every frame written by the compressor (hashing enabled) ends with the correct checksum of its input, also when the
compressor is reused": the compressor state `c` below is ARBITRARY — any level, any remembered Huffman table, any
hasher state left by earlier frames (`c.hasher`), any matcher position — so the statement covers every reuse history.
It rests on the two source facts `Gen.frameReseedsHasher` (`compress()` re-seeds the hasher before it reads) and
`Gen.hashesInputBlock` (what is hashed is exactly each block read), both extracted from `frame_compressor.rs` on
every run; moving the re-seed elsewhere or hashing another slice makes `Gen` change and this proof fail. -/

open Zstd.Model.Enc Zstd.Proofs.Enc in
/-- the four bytes after the last block are the little-endian low 32 bits of XXH64 (seed 0) of exactly the input, for
every input, fragmentation of the source, block encoder, matcher and compressor state (fresh or reused) -/
theorem compressor_checksum_of_input {H : Type} (enc : BlockEnc H) (c : Compressor H) (w : Nat)
    (script : Nat → MBlock) (data : List Byte) (frags : List Nat) (hm : Props.C15.SaneMatcher w script)
    (frame : List Byte) (c' : Compressor H)
    (hrun : compressFrame true enc c w script data frags = .ok (frame, c')) :
    ∃ recs, walkBlocks frame.length (frame.drop 6) = some (recs, leBytes 4 (Spec.Xxh64.checksum32 data)) := by
  simpa using Props.C15.nothing_after_last_but_checksum true enc c w script data frags hm frame c' hrun

open Zstd.Model.Enc Zstd.Proofs.Enc in
/-- the header announces the checksum exactly when hashing is enabled (Content_Checksum_flag = bit 2 of the descriptor) -/
theorem compressor_checksum_flag (hash : Bool) : (frameDescriptor hash / 4) % 2 = (if hash then 1 else 0) := by
  cases hash <;> decide


/-! ### instance B: the decoder the drivers run (faithful block decoder, Model/FrameFaithful.lean) -/

theorem checksum_is_hash_of_delivered_faithful (d d0 : DecB) (s rest : Src) (ops : List Op)
    (h : d.reset s = (d0, .ok rest)) :
    (runOps d0 ops).1.calculatedChecksum = some (Spec.Xxh64.checksum32 (runOps d0 ops).2.toList) ∨
    (runOps d0 ops).1.state = none :=
  checksum_is_hash_of_delivered d d0 s rest ops h

/-- `valid_frame_checksums_agree` for the faithful decoder (no hypotheses: `instRefinesSpecFaithful`) -/
theorem valid_frame_checksums_agree_faithful (d : DecB) (sdicts : List Spec.Dict)
    (hdc : DictsCoupled d.dicts sdicts) (f : List Nat) (hb : ∀ x ∈ f, x < 256) (r : Spec.FrameResult)
    (hs : Spec.decodeFrame f sdicts = some r) (hlim : r.header.window ≤ d.maxWindow)
    (ops : List SOp) :
    ∃ d0 rest, d.reset f = (d0, .ok rest) ∧ (DocOk d0 rest ops →
      ∀ st, (runSched d0 rest ops).1.state = some st → st.finished = true → st.buf.content = #[] →
        (runSched d0 rest ops).1.calculatedChecksum = some (Spec.Xxh64.checksum32 r.content) ∧
        (st.checksum = none ∨ st.checksum = (runSched d0 rest ops).1.calculatedChecksum)) :=
  valid_frame_checksums_agree d sdicts hdc f hb r hs hlim ops


/-- `valid_frame_checksums_agree` for decoders whose dictionaries were registered through `add_dict` of
parsed bytes: no coupling hypothesis (`C09.parsed_dicts_fresh`) -/
theorem valid_frame_checksums_agree_parsed_dicts (raws : List (List Nat))
    (hraws : ∀ raw ∈ raws, (∀ x ∈ raw, x < 256) ∧ (Spec.parseDict raw).isSome = true)
    (f : List Nat) (hb : ∀ x ∈ f, x < 256) (r : Spec.FrameResult)
    (hs : Spec.decodeFrame f (specRegisterDicts [] raws) = some r) (hlim : r.header.window ≤ ({} : DecB).maxWindow)
    (ops : List SOp) :
    ∃ d0 rest, (registerDicts {} raws).reset f = (d0, .ok rest) ∧ (DocOk d0 rest ops →
      ∀ st, (runSched d0 rest ops).1.state = some st → st.finished = true → st.buf.content = #[] →
        (runSched d0 rest ops).1.calculatedChecksum = some (Spec.Xxh64.checksum32 r.content) ∧
        (st.checksum = none ∨ st.checksum = (runSched d0 rest ops).1.calculatedChecksum)) := by
  obtain ⟨hdc, hmw⟩ := C09.parsed_dicts_fresh raws hraws
  exact valid_frame_checksums_agree _ _ hdc f hb r hs (by rw [hmw]; exact hlim) ops

end Zstd.Props.C08
