import Zstd.Model.Window
import Zstd.Spec.Tables
import Zstd.Spec.Headers
import Zstd.Proofs.Window
/-
C11 — Frames declaring a window above the configured limit are rejected up front.

The model (`Zstd/Model/Window.lean`) takes the comparison operator of
`check_window_size`, the order "read header → window_size()? → check → (re)allocate scratch", the
clamp in the setter, the default limit, which limit each path passes, and what the error reports
from `Zstd.Gen.Guards` / `Zstd.Gen.Consts`, i.e. from the current source text: changing `>` to
`>=`, dropping the check on one path, moving the allocation before the check or removing the clamp
changes a `Gen` constant and these theorems are re-checked against it.

All theorems are for EVERY decoder value `d` — any history of earlier frames, any set of
dictionaries, any limit — both for the first-use path (`d.state = none`, `FrameDecoderState::new`)
and the reuse path (`d.state = some _`, `FrameDecoderState::reset`).
-/
namespace Zstd.Props.C11
open Zstd Zstd.Model Zstd.Model.Hdr Zstd.Proofs.Window

/-- RFC 8878: the window a frame header asks for, when the format allows it.  Single-segment
frames: Frame_Content_Size (no range restriction).  Otherwise Window_Size from the
Window_Descriptor, which must lie in [1 KiB, (1<<41) + 7·(1<<38)]. -/
def legalWindow (h : DecFrameHeader) : Option Nat :=
  if (Spec.parseFrameDesc h.desc).singleSegment then some h.fcs
  else
    let w := Spec.windowSize h.windowDescriptor
    if Spec.windowMin ≤ w ∧ w ≤ Spec.windowMax then some w else none

/-- "`reset`/`init` got past the window check": it succeeded, or it failed only afterwards because
the frame's dictionary was not registered -/
def PastWindowCheck (r : Except FrameDecErr Unit) : Prop :=
  r = .ok () ∨ ∃ id, r = .error (.dictNotProvided id)

/-- header fields that came out of `read_frame_header` on a byte source -/
def ByteHeader (h : DecFrameHeader) : Prop := h.desc < 256 ∧ h.windowDescriptor < 256

theorem readFrameHeader_byteHeader (src : List Nat) (h : DecFrameHeader) (n : Nat) (rest : List Nat)
    (hb : ∀ b ∈ src, b < 256) (hsrc : readFrameHeader src = .ok (h, n, rest)) : ByteHeader h :=
  Zstd.Proofs.Headers.readFrameHeader_bytes src h n rest hb hsrc

/-- what the code computes as the window is the RFC's legal window, for every byte header -/
theorem windowSize_legal (h : DecFrameHeader) (hb : ByteHeader h) :
    ∃ w, h.windowSize = .ok w ∧ legalWindow h = some w := by
  obtain ⟨hd, hwd⟩ := hb
  have hs := Zstd.Proofs.Headers.fd_single h.desc hd
  cases hss : (Spec.parseFrameDesc h.desc).singleSegment
  · refine ⟨Spec.windowSize h.windowDescriptor, ?_, ?_⟩
    · simp only [DecFrameHeader.windowSize, hs, hss, Bool.false_eq_true, if_false]
      exact Zstd.Proofs.Headers.window_check _ hwd
    · have := Zstd.Proofs.Headers.window_range _ hwd
      simp only [legalWindow, hss, Bool.false_eq_true, if_false, this, and_self, if_true]
  · exact ⟨h.fcs, by simp only [DecFrameHeader.windowSize, hs, hss, if_true], by simp only [legalWindow, hss, if_true]⟩

theorem default_limit : FrameDecoder.new.maxWindow = 128 * 1024 * 1024 := by decide

/-- the setter stores `min(requested, format maximum)`, for every requested value and decoder -/
theorem setter_clamps : ∀ (d : FrameDecoder) m, (d.setMaxWindowSize m).maxWindow = min m Spec.windowMax ∧
    (d.setMaxWindowSize m).maxWindow ≤ Spec.windowMax ∧
    (d.setMaxWindowSize m).state = d.state ∧ (d.setMaxWindowSize m).log = d.log := by
  intro d m
  have e : Gen.maxWindowSize = Spec.windowMax := by decide
  have h1 : (d.setMaxWindowSize m).maxWindow = min m Spec.windowMax := by
    simp only [FrameDecoder.setMaxWindowSize, Gen.setMaxWindowClamps, if_true, e]
  exact ⟨h1, by rw [h1]; exact Nat.min_le_right _ _, rfl, rfl⟩

theorem reset_keeps_limit : ∀ (d : FrameDecoder) src, (d.reset src).1.maxWindow = d.maxWindow ∧ (d.reset src).1.dicts = d.dicts := by
  intro d src
  -- every branch of `reset_def` returns `d` itself or `d` with a new state and log
  rw [reset_def]
  repeat' split
  all_goals exact ⟨rfl, rfl⟩

/-- decoders that the public API can produce: the limit is always at or below the format maximum.  `addDict` stands for
`FrameDecoder::add_dict` (frame_decoder.rs:224), for which Model/Window.lean has no function: only the ids matter here. -/
inductive Reachable : FrameDecoder → Prop where
  | new : Reachable FrameDecoder.new
  | set (d m) : Reachable d → Reachable (d.setMaxWindowSize m)
  | reset (d src) : Reachable d → Reachable (d.reset src).1
  | addDict (d : FrameDecoder) (id : Nat) : Reachable d → Reachable { d with dicts := id :: d.dicts }

theorem limit_le_format_max : ∀ d, Reachable d → d.maxWindow ≤ Spec.windowMax := by
  intro d hd
  induction hd with
  | new => decide
  | set d m _ _ => exact (setter_clamps d m).2.1
  | reset d src _ ih => rw [(reset_keeps_limit d src).1]; exact ih
  | addDict d id _ ih => exact ih

/-- with a readable header and a window the format allows, one comparison decides -/
theorem pastWindowCheck_iff (d : FrameDecoder) (src : List Nat) (h : DecFrameHeader) (n : Nat) (rest : List Nat) (w : Nat)
    (hsrc : readFrameHeader src = .ok (h, n, rest)) (hw : h.windowSize = .ok w) :
    PastWindowCheck (d.reset src).2 ↔ w ≤ d.maxWindow := by
  rw [reset_eq d src h n rest w hsrc hw]
  by_cases hgt : w > d.maxWindow
  · simp only [hgt, if_true, PastWindowCheck]
    constructor
    · intro hp
      rcases hp with hp | ⟨id, hp⟩ <;> cases hp
    · intro hle; omega
  · simp only [hgt, if_false]
    refine ⟨fun _ => by omega, fun _ => ?_⟩
    cases h.dictId with
    | none => exact Or.inl rfl
    | some id =>
      by_cases hid : id ∈ d.dicts
      · simp only [hid, if_true]; exact Or.inl rfl
      · simp only [hid, if_false]; exact Or.inr ⟨id, rfl⟩

/-- Both paths at once: for every decoder (fresh or reused, any history) and every
source whose header can be read, `reset` gets past the window check IFF the header's window is
legal and at or below the decoder's limit -/
theorem accept_iff : ∀ (d : FrameDecoder) src h n rest, (∀ b ∈ src, b < 256) → readFrameHeader src = .ok (h, n, rest) →
    (PastWindowCheck (d.reset src).2 ↔ ∃ w, legalWindow h = some w ∧ w ≤ d.maxWindow) := by
  intro d src h n rest hb hsrc
  obtain ⟨w, hw, hl⟩ := windowSize_legal h (readFrameHeader_byteHeader src h n rest hb hsrc)
  rw [pastWindowCheck_iff d src h n rest w hsrc hw, hl]
  exact ⟨fun hle => ⟨w, rfl, hle⟩, fun ⟨w', h1, h2⟩ => by injection h1 with h1; omega⟩

/-- first-use path (`FrameDecoderState::new`) -/
theorem accept_iff_first : ∀ (d : FrameDecoder) src h n rest, d.state = none → (∀ b ∈ src, b < 256) →
    readFrameHeader src = .ok (h, n, rest) →
    (PastWindowCheck (d.reset src).2 ↔ ∃ w, legalWindow h = some w ∧ w ≤ d.maxWindow) :=
  fun d src h n rest _ hb hsrc => accept_iff d src h n rest hb hsrc

/-- reuse path (`FrameDecoderState::reset`), after any earlier frame -/
theorem accept_iff_reuse : ∀ (d : FrameDecoder) s src h n rest, d.state = some s → (∀ b ∈ src, b < 256) →
    readFrameHeader src = .ok (h, n, rest) →
    (PastWindowCheck (d.reset src).2 ↔ ∃ w, legalWindow h = some w ∧ w ≤ d.maxWindow) :=
  fun d _ src h n rest _ hb hsrc => accept_iff d src h n rest hb hsrc

/-- with a caller-supplied limit: accept ⇔ legal ∧ window ≤ min(limit, format maximum) -/
theorem accept_iff_limit : ∀ (d : FrameDecoder) limit src h n rest, (∀ b ∈ src, b < 256) →
    readFrameHeader src = .ok (h, n, rest) →
    (PastWindowCheck ((d.setMaxWindowSize limit).reset src).2 ↔
      ∃ w, legalWindow h = some w ∧ w ≤ min limit Spec.windowMax) := by
  intro d limit src h n rest hb hsrc
  rw [accept_iff _ src h n rest hb hsrc, (setter_clamps d limit).1]

/-- with the default limit: accept ⇔ legal ∧ window ≤ 128 MiB -/
theorem accept_iff_default : ∀ src h n rest, (∀ b ∈ src, b < 256) → readFrameHeader src = .ok (h, n, rest) →
    (PastWindowCheck (FrameDecoder.new.reset src).2 ↔ ∃ w, legalWindow h = some w ∧ w ≤ 128 * 1024 * 1024) := by
  intro src h n rest hb hsrc
  rw [accept_iff _ src h n rest hb hsrc, default_limit]

/-- single-segment frames: the window is the content size; there is NO lower bound — content
sizes below 1 KiB (0 included) are accepted by every limit at or above them -/
theorem accept_iff_single_segment : ∀ (d : FrameDecoder) src h n rest, (∀ b ∈ src, b < 256) →
    readFrameHeader src = .ok (h, n, rest) → (Spec.parseFrameDesc h.desc).singleSegment = true →
    (PastWindowCheck (d.reset src).2 ↔ h.fcs ≤ d.maxWindow) := by
  intro d src h n rest hb hsrc hss
  rw [accept_iff d src h n rest hb hsrc]
  simp only [legalWindow, hss, if_true, Option.some.injEq]
  constructor
  · intro ⟨w, h1, h2⟩; omega
  · intro h1; exact ⟨h.fcs, rfl, h1⟩

-- the theorems are not vacuous: a descriptor-0x88 frame (128 MiB) is accepted by default, 0x89 is not
example : (FrameDecoder.new.reset [0x28, 0xB5, 0x2F, 0xFD, 0x00, 0x88]).2 = .ok () := by decide
example : (FrameDecoder.new.reset [0x28, 0xB5, 0x2F, 0xFD, 0x00, 0x89]).2 =
    .error (.windowSizeTooBig 150994944 134217728) := by decide
example : ((FrameDecoder.new.setMaxWindowSize (2 ^ 64 - 1)).reset [0x28, 0xB5, 0x2F, 0xFD, 0x00, 0xFF]).2 = .ok () := by decide

/-! ## rejection happens before any allocation, and says why -/

/-- if `reset` does not get past the window check — unreadable header, illegal window, window
above the limit — the allocation log, the state and the limit are exactly as before: nothing was
allocated, reset or overwritten.  Both paths, every decoder, EVERY source (no hypothesis). -/
theorem reject_before_alloc : ∀ (d : FrameDecoder) src, ¬ PastWindowCheck (d.reset src).2 → (d.reset src).1 = d := by
  intro d src hnp
  cases hsrc : readFrameHeader src with
  | error e => rw [reset_header_error d src e hsrc]
  | ok r =>
    obtain ⟨h, n, rest⟩ := r
    cases hw : h.windowSize with
    | error e => rw [reset_window_error d src h n rest e hsrc hw]
    | ok w =>
      have hgt : w > d.maxWindow := by rw [pastWindowCheck_iff d src h n rest w hsrc hw] at hnp; omega
      rw [reset_eq d src h n rest w hsrc hw, if_pos hgt]

/-- in particular the allocation log is unchanged at the point of rejection -/
theorem reject_log_empty : ∀ (d : FrameDecoder) src, ¬ PastWindowCheck (d.reset src).2 → (d.reset src).1.log = d.log := by
  intro d src h; rw [reject_before_alloc d src h]

/-- an accepted frame logs exactly one scratch event carrying the accepted window: `scratchNew w`
on the first-use path (the ring buffer stays unallocated), `scratchReset w` plus at most one ring
allocation on the reuse path -/
theorem accept_allocates_window : ∀ (d : FrameDecoder) src h n rest w, readFrameHeader src = .ok (h, n, rest) →
    h.windowSize = .ok w → w ≤ d.maxWindow →
    (d.reset src).1.log = d.log ++ (match d.state with
      | none => [.scratchNew w]
      | some s => .scratchReset w :: (ringReserve s.ringCap w).2) := by
  intro d src h n rest w hsrc hw hle
  rw [reset_eq d src h n rest w hsrc hw]
  have hgt : ¬ w > d.maxWindow := by omega
  simp only [hgt, if_false]
  have hacc : (acceptedState d h n w).2 = (match d.state with
      | none => [.scratchNew w]
      | some s => .scratchReset w :: (ringReserve s.ringCap w).2) := by
    unfold acceptedState; cases d.state <;> rfl
  cases h.dictId with
  | none => simp only [hacc]
  | some id => by_cases hid : id ∈ d.dicts <;> simp only [hid, if_true, if_false, hacc]

/-- the error of an over-limit frame reports the requested window and the EFFECTIVE limit -/
theorem reject_reports : ∀ (d : FrameDecoder) src h n rest w, (∀ b ∈ src, b < 256) →
    readFrameHeader src = .ok (h, n, rest) → legalWindow h = some w → w > d.maxWindow →
    (d.reset src).2 = .error (.windowSizeTooBig w d.maxWindow) := by
  intro d src h n rest w hb hsrc hl hgt
  obtain ⟨w', hw, hl'⟩ := windowSize_legal h (readFrameHeader_byteHeader src h n rest hb hsrc)
  rw [hl] at hl'; injection hl' with hl'; subst hl'
  rw [reset_eq d src h n rest w hsrc hw]
  simp only [hgt, if_true]

/-- after `set_max_window_size(limit)` the limit reported is `min(limit, format maximum)`, not the raw request -/
theorem reject_reports_effective_limit : ∀ (d : FrameDecoder) limit src h n rest w, (∀ b ∈ src, b < 256) →
    readFrameHeader src = .ok (h, n, rest) → legalWindow h = some w → w > min limit Spec.windowMax →
    ((d.setMaxWindowSize limit).reset src).2 = .error (.windowSizeTooBig w (min limit Spec.windowMax)) := by
  intro d limit src h n rest w hb hsrc hl hgt
  have := reject_reports (d.setMaxWindowSize limit) src h n rest w hb hsrc hl (by rw [(setter_clamps d limit).1]; exact hgt)
  rw [(setter_clamps d limit).1] at this
  exact this

/-- windows the format does not allow are refused by the header's own range check, whatever the limit -/
theorem illegal_window_refused : ∀ (d : FrameDecoder) src h n rest e, readFrameHeader src = .ok (h, n, rest) →
    h.windowSize = .error e → d.reset src = (d, .error (.headerErr e)) :=
  fun d src h n rest e hsrc hw => reset_window_error d src h n rest e hsrc hw

/-- `StreamingDecoder::new_with_max_window_size(source, limit)` applies the limit BEFORE `init` -/
theorem streaming_accept_iff : ∀ limit src h n rest, (∀ b ∈ src, b < 256) → readFrameHeader src = .ok (h, n, rest) →
    (PastWindowCheck (streamingNewWithMax src limit).2 ↔ ∃ w, legalWindow h = some w ∧ w ≤ min limit Spec.windowMax) := by
  intro limit src h n rest hb hsrc
  simp only [streamingNewWithMax, Gen.streamingSetsLimitBeforeInit, if_true]
  exact accept_iff_limit FrameDecoder.new limit src h n rest hb hsrc

/-- `StreamingDecoder::new(source)`: the default limit -/
theorem streaming_default_accept_iff : ∀ src h n rest, (∀ b ∈ src, b < 256) → readFrameHeader src = .ok (h, n, rest) →
    (PastWindowCheck (streamingNew src).2 ↔ ∃ w, legalWindow h = some w ∧ w ≤ 128 * 1024 * 1024) :=
  fun src h n rest hb hsrc => accept_iff_default src h n rest hb hsrc

/-- `StreamingDecoder::new_with_decoder(source, decoder)` is `decoder.init(source)`: a reused decoder
keeps its limit and takes the reuse path -/
theorem streaming_with_decoder : ∀ (d : FrameDecoder) src, streamingNewWithDecoder d src = d.reset src := fun _ _ => rfl

/-- `decode_all`: EVERY frame of a multi-frame input goes through `init` on the same decoder — a
frame that is rejected ends the call with that error and the decoder as `init` left it (untouched,
by `reject_before_alloc`) -/
theorem decodeAll_frame_rejected : ∀ (d d' : FrameDecoder) input fuel k e, input ≠ [] → d.reset input = (d', .error e) →
    (∀ m l, e ≠ .readHeader (.skipFrame m l)) →
    d.decodeAllMin input (fuel + 1) k = (d', .error e) := by
  intro d d' input fuel k e hne hr hskip
  have : input.isEmpty = false := by cases input <;> simp_all
  simp only [FrameDecoder.decodeAllMin, this, Bool.false_eq_true, if_false, hr]

/-- `decode_all`: a frame that is accepted (empty body) hands the SAME decoder, now on the reuse path, to the
next frame -/
theorem decodeAll_frame_accepted : ∀ (d d' : FrameDecoder) (s : FDState) input tail fuel k, input ≠ [] →
    d.reset input = (d', .ok ()) → d'.state = some s →
    input.drop s.bytesRead = 1 :: 0 :: 0 :: tail → Gen.fdChecksum s.header.desc = false →
    d.decodeAllMin input (fuel + 1) k = d'.decodeAllMin tail fuel (k + 1) := by
  intro d d' s input tail fuel k hne hr hs hbody hck
  have : input.isEmpty = false := by cases input <;> simp_all
  simp only [FrameDecoder.decodeAllMin, this, Bool.false_eq_true, if_false, hr, hs, hbody, hck, Nat.not_lt_zero,
    List.drop_zero]

/-- skippable frames never reach the window check and never touch the decoder -/
theorem decodeAll_skips : ∀ (d : FrameDecoder) input m l fuel k, input ≠ [] →
    readFrameHeader input = .error (.skipFrame m l) → ¬ ((input.drop 8).length < l) →
    d.decodeAllMin input (fuel + 1) k = d.decodeAllMin ((input.drop 8).drop l) fuel k := by
  intro d input m l fuel k hne hsrc hlen
  have : input.isEmpty = false := by cases input <;> simp_all
  simp only [FrameDecoder.decodeAllMin, this, Bool.false_eq_true, if_false, reset_header_error d input _ hsrc, hlen]

end Zstd.Props.C11
