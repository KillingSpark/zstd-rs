import Zstd.Proofs.EncContracts
import Zstd.Model.EncCoders
import Zstd.Proofs.MatchValid
import Zstd.Proofs.LitCoderFrame
import Zstd.Props.C16
import Zstd.Props.C17
/-
C02 — compress then decompress returns the input, and the frame is valid Zstandard.

"Valid Zstandard / decodes to the input" is `Spec.decodeFrame frame = some ⟨data, frame.length, …⟩`
(the strict RFC 8878 transcription, validated against libzstd on every run): the whole frame is
consumed, the content is the input, the checksum verifies.

Quantifiers: `data` any byte string, `frags` any read-fragmentation script, `c` ANY state of the
compressor object (so: any history of frames pushed through it, including frames that panicked),
`hash` both settings of the cargo feature, `enc` any block encoder (it is not called at the
Uncompressed level), and — for the general statements — any matcher script.
-/
namespace Zstd.Props.C02
open Zstd Zstd.Model Zstd.Model.Enc Zstd.Proofs.Enc

/-- the spaces the matcher hands out are non-empty and at most 128 KiB (the trait's documented
maximum).  The declared window is at least 128 KiB whatever `window_size()` says (`headerWindow`; finding F13),
so nothing relates the spaces to the window. -/
def GoodSpaces (script : Nat → MBlock) : Prop :=
  ∀ i, 0 < (script i).space ∧ (script i).space ≤ Gen.maxBlockSize

theorem builtin_window_le : builtinWindow ≤ 2 ^ 41 := by decide
theorem builtin_declared : declaredWindow builtinWindow = 131072 := by decide +kernel
theorem builtin_good_spaces (parse : Nat → Parse) : GoodSpaces (builtinScript parse) := by
  intro i
  refine ⟨?_, ?_⟩
  · show 0 < Gen.prodSliceSize
    decide
  · show Gen.prodSliceSize ≤ Gen.maxBlockSize
    decide

/-- **C02, Uncompressed level, built-in matcher** (`compress`, `compress_to_vec`,
`FrameCompressor::new`): for every input, fragmentation and prior state of the compressor,
compression completes and the frame is valid Zstandard that decodes to the input. -/
theorem compress_uncompressed_roundtrip {H : Type} (hash : Bool) (enc : BlockEnc H) (parse : Nat → Parse)
    (c : Compressor H) (hc : c.level = .uncompressed) (data : List Byte) (frags : List Nat) :
    ∃ frame c', compressFrame hash enc c builtinWindow (builtinScript parse) data frags = .ok (frame, c') ∧
      Spec.decodeFrame frame = some (specResult hash builtinWindow data frame) :=
  C16.compress_with_matcher_uncompressed hash enc c hc builtinWindow (builtinScript parse) data frags
    builtin_window_le (builtin_good_spaces parse)

/-- **A reused compressor emits the same bytes as a fresh one, given the same matcher behaviour**
(`last_huff_table := None`, hasher re-seeded, matcher asked from its first space again): for EVERY
state `c` of the object, every level and block encoder.  The matcher's behaviour after `reset()` is
the parameter `script`.  For the BUILT-IN matcher that behaviour is NOT history independent at the
byte level: `MatchGeneratorDriver::reset` recycles suffix stores, a recycled store can be larger than
a fresh one, hash collisions differ, and so do the parses.  Correctness
is not affected — the round-trip theorems hold for every valid script — and the correspondence run
threads the matcher model (`builtinFrame`) through the frames of a history. -/
theorem compress_reuse_independent {H : Type} (hash : Bool) (enc : BlockEnc H) (c : Compressor H)
    (w : Nat) (script : Nat → MBlock) (data : List Byte) (frags : List Nat) :
    (compressFrame hash enc c w script data frags).map (·.1) = compress hash enc c.level w script data frags := by
  unfold compress compressFrame Compressor.fresh
  simp only [frameResetsMatcher_eq, frameResetsHuff_eq, frameReseedsHasher_eq, ↓reduceIte]

/-- the same, spelled with an explicit history of frames (of any levels, some of which may have
panicked and left the object in any state `after _`) -/
theorem compress_reuse_independent_history {H : Type} (hash : Bool) (enc : BlockEnc H)
    (after : Compressor H → Compressor H) (history : List Job) (c0 : Compressor H) (lvl : Level)
    (w : Nat) (script : Nat → MBlock) (data : List Byte) (frags : List Nat) :
    (compressFrame hash enc ((runHistory hash enc after history c0).setLevel lvl) w script data frags).map (·.1)
      = compress hash enc lvl w script data frags :=
  compress_reuse_independent hash enc _ w script data frags

/-- **Fastest level, partial**: for every block encoder that satisfies the contract `BlockEncCorrect`
(what C16 proves of `compress_block` over the entropy coders) and does not panic on this matcher's parses,
and every matcher whose spaces are good and whose parses are valid (C17 for the built-in one):
compression completes and the frame decodes to the input.  RLE blocks, raw-fallback blocks, the
`last_huff_table` bookkeeping around the fallback (F5) and all frame plumbing are what the proof consists of
(`Proofs.Enc.compressFrame_fastest_sim`);
the hypothesis is used only for blocks KEPT as compressed blocks. -/
theorem compress_fastest_roundtrip_partial {H : Type} (R : H → Spec.Huffman.Table → Prop) (hash : Bool)
    (enc : BlockEnc H) (c : Compressor H) (hc : c.level = .fastest) (w : Nat) (script : Nat → MBlock)
    (data : List Byte) (frags : List Nat) (hm : ValidMatcher w script data)
    (henc : BlockEncCorrect R w (declaredWindow w) enc)
    (htotal : ∀ i st, ∃ r, enc (script i).parse st = .ok r) :
    ∃ frame c', compressFrame hash enc c w script data frags = .ok (frame, c') ∧
      Spec.decodeFrame frame = some (specResult hash w data frame) :=
  C16.compress_with_matcher_correct_partial R hash enc c hc w script data frags hm henc htotal

/-- C02 at full strength for `Fastest` as a CLOSED statement: the real block encoder
(`compressBlockReal` = `compressBlock` over the FSE / Huffman models of C12 / C13) and the real built-in
matcher in any state `d` (`builtinFrame`, the matcher model of C17 driven as `compress_fastest` drives
it).  The correspondence run executes the matcher model `builtinFrame` and the block loop under this statement
(`compressLoop` over `compressBlockReal`, `Driver/Enc.lean`), each frame from the empty encoder state; the per-frame
resets of `compressFrame` are tied to the source by the extracted `Gen.frameResetsMatcher`, `frameResetsHuff`,
`frameReseedsHasher`.
AS WORDED IT IS FALSE (`compress_fastest_roundtrip_full_false`: `d` ranges over every value of
`MG.Driver`); it would follow from (1) `BlockEncCorrect` for `compressBlockReal`, (2) `ValidMatcher` for
the script `builtinFrame` computes, (3) no fault of the coders on those parses
(`compress_fastest_roundtrip_full_of`).  The theorem over the states a compressor can be in, for byte
strings, is `compress_fastest_roundtrip_builtin`. -/
def compress_fastest_roundtrip_full : Prop :=
  ∀ (hash : Bool) (d : MG.Driver) (c : Compressor Huf.EncTable), c.level = .fastest →
    ∀ (data : List Byte) (frags : List Nat),
    ∃ d' arr frame c', builtinFrame .fastest d data = .ok (d', arr) ∧
      compressFrame hash compressBlockReal c builtinWindow (scriptOfArray arr Gen.prodSliceSize) data frags
        = .ok (frame, c') ∧
      Spec.decodeFrame frame = some (specResult hash builtinWindow data frame)

/-- the closed statement follows from the three named obligations (nothing else is missing) -/
theorem compress_fastest_roundtrip_full_of (R : Huf.EncTable → Spec.Huffman.Table → Prop)
    (henc : BlockEncCorrect R builtinWindow (declaredWindow builtinWindow) compressBlockReal)
    (hmatcher : ∀ (d : MG.Driver) (data : List Byte), ∃ d' arr, builtinFrame .fastest d data = .ok (d', arr) ∧
      ValidMatcher builtinWindow (scriptOfArray arr Gen.prodSliceSize) data ∧
      ∀ i st, ∃ r, compressBlockReal (scriptOfArray arr Gen.prodSliceSize i).parse st = .ok r) :
    compress_fastest_roundtrip_full := by
  intro hash d c hc data frags
  obtain ⟨d', arr, hf, hv, ht⟩ := hmatcher d data
  obtain ⟨frame, c', h1, h2⟩ := compress_fastest_roundtrip_partial R hash compressBlockReal c hc builtinWindow _ data frags hv henc ht
  exact ⟨d', arr, frame, c', hf, h1, h2⟩

/-! ### the states of the built-in matcher (C17)

`hmatcher` above quantifies over EVERY value of the type `MG.Driver`.  That is more than a compressor
can ever hold and it is not satisfiable (`hmatcher_unsatisfiable`: a driver with `slice_size = 0`
hands out empty spaces), and for the same reason `compress_fastest_roundtrip_full` as worded is too
strong.  The matcher of a real compressor is always in a `BuiltinState`: created by
`MatchGeneratorDriver::new(128 KiB, 1)` and driven only through the calls `compress` makes (C17:
`builtin_state_fresh`, `builtin_no_fault`, `builtin_state_history`).  For those states C17 proves the
matcher part — `builtinFrame` does not fault and its script is a `ValidMatcher` — for every input;
read fragmentation does not reach the matcher, and the history of the compressor only enters through
the state (recycled suffix stores change the PARSE, hence the bytes, never its validity). -/

/-- the states the built-in matcher of a compressor can be in (production constants) -/
abbrev BuiltinState (d : MG.Driver) : Prop := Zstd.Proofs.MG.BuiltinState Gen.prodSliceSize Gen.prodMaxSlices d

theorem builtinFrame_zero_slice :
    builtinFrame .fastest (MG.Driver.new 0 0) [1] = .ok (MG.Driver.new 0 0, #[⟨0, {}⟩]) := by rfl

/-- the matcher half of `hmatcher` cannot hold for all values of `MG.Driver` -/
theorem hmatcher_unsatisfiable :
    ¬ (∀ (d : MG.Driver) (data : List Byte), ∃ d' arr, builtinFrame .fastest d data = .ok (d', arr) ∧
        ValidMatcher builtinWindow (scriptOfArray arr Gen.prodSliceSize) data) := by
  intro h
  obtain ⟨d', arr, hrun, hv⟩ := h (MG.Driver.new 0 0) [1]
  rw [builtinFrame_zero_slice] at hrun
  simp only [Except.ok.injEq, Prod.mk.injEq] at hrun
  obtain ⟨_, rfl⟩ := hrun
  have := hv.space_pos 0
  simp [scriptOfArray] at this

/-- `compress_fastest_roundtrip_full` as worded (every value of `MG.Driver`) is FALSE — not
because of the code but because of the quantifier: a driver value with `slice_size = 0` (which no
compressor can hold) hands out an empty space, `compress` then frames the empty string, and the frame
does not decode to the input `[1]`.  `compress_fastest_roundtrip_builtin` below is the statement
over the states a compressor can be in. -/
theorem compress_fastest_roundtrip_full_false : ¬ compress_fastest_roundtrip_full := by
  intro h
  obtain ⟨d', arr, frame, c', h1, h2, h3⟩ := h false (MG.Driver.new 0 0) (Compressor.fresh .fastest) rfl [1] []
  rw [builtinFrame_zero_slice] at h1
  simp only [Except.ok.injEq, Prod.mk.injEq] at h1
  obtain ⟨_, rfl⟩ := h1
  have hf : (compressFrame false compressBlockReal (Compressor.fresh .fastest) builtinWindow
      (scriptOfArray #[⟨0, {}⟩] Gen.prodSliceSize) [1] []).map (·.1) = .ok [40, 181, 47, 253, 0, 56, 1, 0, 0] := by
    decide +kernel
  rw [h2] at hf
  simp only [Except.map, Except.ok.injEq] at hf
  subst hf
  have hd : (Spec.decodeFrame [40, 181, 47, 253, 0, 56, 1, 0, 0]).map (·.content) = some [] := by decide +kernel
  rw [h3] at hd
  simp [specResult] at hd

/-- **the built-in matcher satisfies `ValidMatcher`** for every input and every state the compressor's
protocol can produce; the state afterwards is such a state again -/
theorem builtin_matcher_valid (d : MG.Driver) (hd : BuiltinState d) (data : List Byte) :
    ∃ d' arr, builtinFrame .fastest d data = .ok (d', arr) ∧ BuiltinState d' ∧
      ValidMatcher builtinWindow (scriptOfArray arr Gen.prodSliceSize) data :=
  C17.builtin_valid_matcher d hd data

/-- C02 for `Fastest` over the states a compressor can be in, worded for ALL lists (the conclusion of
`compress_fastest_roundtrip_builtin_of`): `data : List Byte` ranges over all lists of `Nat` (`Byte` is an
abbreviation of `Nat`).  For a list with an element `≥ 256` and more than 1024 literals in a block the
literal coder has no code for that element and panics (`Props.C16.compress_with_matcher_correct_full_false`
refutes the analogous wording for user matchers), so this wording is too strong; the theorem
`compress_fastest_roundtrip_builtin` below is the statement for byte strings. -/
def compress_fastest_roundtrip_builtin_full : Prop :=
  ∀ (hash : Bool) (d : MG.Driver) (c : Compressor Huf.EncTable), BuiltinState d → c.level = .fastest →
    ∀ (data : List Byte) (frags : List Nat),
    ∃ d' arr frame c', builtinFrame .fastest d data = .ok (d', arr) ∧ BuiltinState d' ∧
      compressFrame hash compressBlockReal c builtinWindow (scriptOfArray arr Gen.prodSliceSize) data frags
        = .ok (frame, c') ∧
      Spec.decodeFrame frame = some (specResult hash builtinWindow data frame)

/-- `compress_fastest_roundtrip_builtin_full` follows from two obligations: the block-encoder contract (C16 over
C12/C13) and "the real coders do not fault on the parses of the built-in matcher"; the matcher's part is
`builtin_matcher_valid`. -/
theorem compress_fastest_roundtrip_builtin_of (R : Huf.EncTable → Spec.Huffman.Table → Prop)
    (henc : BlockEncCorrect R builtinWindow (declaredWindow builtinWindow) compressBlockReal)
    (hcoders : ∀ (d : MG.Driver) (data : List Byte) d' arr, BuiltinState d →
      builtinFrame .fastest d data = .ok (d', arr) →
      ∀ i st, ∃ r, compressBlockReal (scriptOfArray arr Gen.prodSliceSize i).parse st = .ok r) :
    compress_fastest_roundtrip_builtin_full := by
  intro hash d c hd hc data frags
  obtain ⟨d', arr, hf, hd', hv⟩ := builtin_matcher_valid d hd data
  obtain ⟨frame, c', h1, h2⟩ := compress_fastest_roundtrip_partial R hash compressBlockReal c hc builtinWindow _ data
    frags hv henc (hcoders d data d' arr hd hf)
  exact ⟨d', arr, frame, c', hf, hd', h1, h2⟩

theorem builtin_state_of_history (jobs : List (Level × List Byte)) :
    BuiltinState (Zstd.Proofs.MG.builtinHistory jobs (MG.Driver.new Gen.prodSliceSize Gen.prodMaxSlices)) :=
  C17.builtin_state_history _ _ (by decide) (by decide) jobs

/-! ### the real coders

The statements below are about the real `compress_block` and have no hypothesis about the coders
(`Proofs.LitCoder.compress_real_correct` and its forms, as C16's for user matchers); the one candidate panic, `assert!(encoded_len < 128)` of `write_table`, is
excluded by `Proofs.LitCoder.fseWeightsLt128_holds`, C13's `fse_weights_lt_128`. -/

open Zstd.Proofs.LitCoder

theorem builtin_window_u32 : builtinWindow + 3 < 2 ^ 32 := by decide

/-- **C02, `Fastest`, built-in matcher, without the finite evaluation behind `fse_weights_lt_128`**: for every
byte string, every fragmentation, every state of the compressor object and of its matcher that a history of
frames can produce, both settings of `hash`: the matcher does not panic, and `compress` either completes with
a frame that the strict Spec decodes to exactly the input (whole frame consumed, checksum verified), or panics
at `assert!(encoded_len < 128)` in `HuffmanEncoder::write_table`.  No other panic site is reachable. -/
theorem compress_fastest_roundtrip_builtin_or_assert (hash : Bool) (d : MG.Driver) (c : Compressor Huf.EncTable)
    (hd : BuiltinState d) (hc : c.level = .fastest) (data : List Byte) (frags : List Nat)
    (hbytes : ∀ b ∈ data, b < 256) :
    ∃ d' arr, builtinFrame .fastest d data = .ok (d', arr) ∧ BuiltinState d' ∧
      ((∃ frame c', compressFrame hash compressBlockReal c builtinWindow (scriptOfArray arr Gen.prodSliceSize) data frags
            = .ok (frame, c') ∧
          Spec.decodeFrame frame = some (specResult hash builtinWindow data frame)) ∨
        (∃ f, compressFrame hash compressBlockReal c builtinWindow (scriptOfArray arr Gen.prodSliceSize) data frags
            = .error f ∧ WriteTableAssert f)) := by
  obtain ⟨d', arr, hf, hd', hv⟩ := builtin_matcher_valid d hd data
  exact ⟨d', arr, hf, hd', compress_real_correct_or_assert hash c hc builtinWindow _ data frags hv builtin_window_u32 hbytes⟩

/-- **C02, `Fastest`, built-in matcher, partial correctness** (no hypothesis on the coders, none on the
bytes): whenever `compress` returns, the frame decodes to exactly the input -/
theorem compress_fastest_roundtrip_builtin_decodes (hash : Bool) (d : MG.Driver) (c : Compressor Huf.EncTable)
    (hd : BuiltinState d) (hc : c.level = .fastest) (data : List Byte) (frags : List Nat) :
    ∃ d' arr, builtinFrame .fastest d data = .ok (d', arr) ∧ BuiltinState d' ∧
      ∀ frame c', compressFrame hash compressBlockReal c builtinWindow (scriptOfArray arr Gen.prodSliceSize) data frags
          = .ok (frame, c') →
        Spec.decodeFrame frame = some (specResult hash builtinWindow data frame) := by
  obtain ⟨d', arr, hf, hd', hv⟩ := builtin_matcher_valid d hd data
  exact ⟨d', arr, hf, hd', fun frame c' hrun =>
    compress_real_decodes hash c hc builtinWindow _ data frags hv builtin_window_u32 frame c' hrun⟩

/-- **C02 at full strength for `Fastest`** (byte strings): for every
input, fragmentation, reuse history (any state of the compressor object; any matcher state the protocol can
produce) and both settings of `hash`, compression with the built-in matcher and the real coders completes —
neither the matcher nor a coder panics — and the frame is valid Zstandard that decodes to the input (strict
Spec: whole frame consumed, content equal, checksum verified); the matcher is again in a protocol state. -/
theorem compress_fastest_roundtrip_builtin (hash : Bool) (d : MG.Driver)
    (c : Compressor Huf.EncTable) (hd : BuiltinState d) (hc : c.level = .fastest) (data : List Byte)
    (frags : List Nat) (hbytes : ∀ b ∈ data, b < 256) :
    ∃ d' arr frame c', builtinFrame .fastest d data = .ok (d', arr) ∧ BuiltinState d' ∧
      compressFrame hash compressBlockReal c builtinWindow (scriptOfArray arr Gen.prodSliceSize) data frags
        = .ok (frame, c') ∧
      Spec.decodeFrame frame = some (specResult hash builtinWindow data frame) := by
  obtain ⟨d', arr, hf, hd', hv⟩ := builtin_matcher_valid d hd data
  obtain ⟨frame, c', h1, h2⟩ :=
    compress_real_correct fseWeightsLt128_holds hash c hc builtinWindow _ data frags hv builtin_window_u32 hbytes
  exact ⟨d', arr, frame, c', hf, hd', h1, h2⟩

theorem compress_fastest_roundtrip_builtin_history (hash : Bool)
    (jobs : List (Level × List Byte)) (c : Compressor Huf.EncTable) (hc : c.level = .fastest) (data : List Byte)
    (frags : List Nat) (hbytes : ∀ b ∈ data, b < 256) :
    ∃ d' arr frame c',
      builtinFrame .fastest (Zstd.Proofs.MG.builtinHistory jobs (MG.Driver.new Gen.prodSliceSize Gen.prodMaxSlices)) data
        = .ok (d', arr) ∧ BuiltinState d' ∧
      compressFrame hash compressBlockReal c builtinWindow (scriptOfArray arr Gen.prodSliceSize) data frags
        = .ok (frame, c') ∧
      Spec.decodeFrame frame = some (specResult hash builtinWindow data frame) :=
  compress_fastest_roundtrip_builtin hash _ c (builtin_state_of_history jobs) hc data frags hbytes

/-- a fresh compressor (`FrameCompressor::new(Fastest)`, `compress_to_vec`) on any byte string -/
theorem compress_fastest_roundtrip_fresh (hash : Bool) (data : List Byte) (frags : List Nat)
    (hbytes : ∀ b ∈ data, b < 256) :
    ∃ d' arr frame c',
      builtinFrame .fastest (MG.Driver.new Gen.prodSliceSize Gen.prodMaxSlices) data = .ok (d', arr) ∧
      compressFrame hash compressBlockReal (Compressor.fresh .fastest) builtinWindow
        (scriptOfArray arr Gen.prodSliceSize) data frags = .ok (frame, c') ∧
      Spec.decodeFrame frame = some (specResult hash builtinWindow data frame) := by
  obtain ⟨d', arr, frame, c', h1, _, h2, h3⟩ :=
    compress_fastest_roundtrip_builtin_history hash [] (Compressor.fresh .fastest) rfl data frags hbytes
  exact ⟨d', arr, frame, c', h1, h2, h3⟩

/-- unimplemented levels: an empty input is framed before the level is looked at (no panic, valid
frame of the empty string) -/
theorem unimplemented_level_empty_input {H : Type} (hash : Bool) (enc : BlockEnc H) (c : Compressor H)
    (w : Nat) (script : Nat → MBlock) (hw : w ≤ 2 ^ 41) (hsp : GoodSpaces script) (frags : List Nat) :
    ∃ frame c', compressFrame hash enc c w script [] frags = .ok (frame, c') ∧
      Spec.decodeFrame frame = some (specResult hash w [] frame) :=
  -- no block is ever emitted: the contract of the emitter is asked for nothing
  let ⟨⟨frame, c'⟩, hrun, _, hdec⟩ := (compressFrame_sim hash enc c w script [] frags (fun _ _ => True)
    (fun _ _ _ => False) (fun _ => False) hw (fun i => (hsp i).1) (fun _ _ _ _ _ _ _ hF _ => hF.elim) (fun _ => trivial)
    fun i hne => absurd (by simp [blockAt]) hne).returns
  ⟨frame, c', hrun, hdec⟩

/-- unimplemented levels: a non-empty input panics with `unimplemented!()` -/
theorem unimplemented_level_panics {H : Type} (hash : Bool) (enc : BlockEnc H) (c : Compressor H)
    (hc : c.level ≠ .uncompressed ∧ c.level ≠ .fastest)
    (w : Nat) (script : Nat → MBlock) (hw : w ≤ 2 ^ 41) (hsp : GoodSpaces script)
    (data : List Byte) (hd : data ≠ []) (frags : List Nat) :
    compressFrame hash enc c w script data frags = .error (.unimplemented "frame_compressor.rs:compress:level") := by
  have hspace : ∀ i, 0 < (script i).space := fun i => (hsp i).1
  have hemit : ∀ last blk p st, emitBlock c.level enc last blk p st = .error (.unimplemented "frame_compressor.rs:compress:level") := by
    intro last blk p st
    cases hl : c.level with
    | uncompressed => exact absurd hl hc.1
    | fastest => exact absurd hl hc.2
    | _ => rfl
  obtain ⟨wd, _, heq⟩ := compressFrame_eq hash enc c w script data frags hw
  -- the loop fails at the first block it has to emit, and there is one
  have hloop : compressLoop (emitBlock c.level enc) script (data.length + 1) 0 { c.st with lastHuff := none } [] data frags
      = .error (.unimplemented "frame_compressor.rs:compress:level") :=
    compressLoop_induct (emitBlock c.level enc) script hspace data
      (fun idx _ _ res => blockStart script idx < data.length →
        res = .error (.unimplemented "frame_compressor.rs:compress:level"))
      (fun idx _ _ h1 h2 => absurd h1 (by omega))
      (fun idx st _ last f _ hem _ => by rw [hemit] at hem; cases hem; rfl)
      (fun idx st _ bytes st' _ _ hem => by rw [hemit] at hem; cases hem)
      (fun idx st _ bytes st' res _ _ hem => by rw [hemit] at hem; cases hem)
      (data.length + 1) 0 _ [] frags (Nat.lt_succ_of_le (Nat.sub_le _ _)) (List.length_pos_iff.mpr hd)
  rw [heq, hloop]

/-- non-vacuity: a concrete two-block frame (space 4, data of 6 bytes read in fragments of 1 and 3) at
the Uncompressed level, decoded by the strict Spec -/
example :
    (compress (H := Unit) true (fun _ st => .ok ([], st)) .uncompressed 4096 (fun _ => ⟨4, {}⟩) [1, 2, 3, 4, 5, 6] [1, 3]).toOption
      = some [40, 181, 47, 253, 4, 56, 32, 0, 0, 1, 2, 3, 4, 17, 0, 0, 5, 6, 156, 208, 232, 69] := by
  decide +kernel

end Zstd.Props.C02
