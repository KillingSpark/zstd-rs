import Zstd.Proofs.RingDead
/-
C04 — The unsafe output window behaves as a byte queue and never leaves its allocation.

Definitions: `Zstd/Model/{RingBuffer,DecodeBuffer}.lean` (the mirror of the Rust
code), `Zstd/Proofs/RingSpec.lean` (`Inv`, `abs`, `Queue`, `overlapCopy`, operation sequences),
`CboPre`/`Copied` in `Zstd/Proofs/RingCbo.lean`, `Mem.eraseOutside` in `Zstd/Proofs/RingExtra.lean`,
`DecodeBuffer.Inv`/`DecodeBuffer.abs` in `Zstd/Proofs/DecodeBufRepeat.lean`, `ClosureOk`/`AcceptsAll` in
`Zstd/Proofs/DecodeBufDrain.lean`; helper lemmas in `Zstd/Proofs/{Ring*,OverlapCopy,DecodeBuf*}.lean`.

How to read `= .ok r'`: the model touches memory only through `Mem.rd` / `Mem.wr`, which return
`Fault.oob` outside the current allocation and `Fault.uninit` on a cell never written since that
allocation; every `debug_assert!`, unguarded `usize` subtraction and `% cap` is a `Fault` too.  So
"the operation returns `.ok`" IS the memory-safety claim, the over-copy of
`copy_bytes_overshooting` included.  `Inv` is literally invariants 1–4 of `ringbuffer.rs:5-21`
(`alloc`: the memory is an allocation of exactly `cap` cells — there are no cells outside it to write;
`init`: the occupied region is initialised; `bounds`: `head`, `tail < cap`, plus the `cap = 0` state of
`new()` which the documented invariant 3 forgets).  Everything is for every capacity, head, tail,
memory content, operand and chunk size `C > 0` (16 on this target) — no bound anywhere.
-/
namespace Zstd.Props.C04
open Zstd Zstd.Model Zstd.Model.RingBuffer

/-! ## Ring buffer: the invariant holds initially; each operation refines the queue -/

theorem inv_new : RingBuffer.new.Inv ∧ RingBuffer.new.abs = [] :=
  ⟨RingBuffer.inv_new, RingBuffer.abs_new⟩

/-- `len()` and `free()` as executed (with their `usize` subtractions) never fault under the invariant
and are the queue's length and `cap - 1 - len`: one cell always stays free -/
theorem len_free_refine (r : RingBuffer) (hI : r.Inv) :
    r.lenC = .ok r.abs.length ∧ r.freeC = .ok r.free ∧ (0 < r.cap → r.abs.length + r.free + 1 = r.cap) := by
  refine ⟨by rw [hI.lenC_eq, abs_length], hI.freeC_eq, fun hc => ?_⟩
  rw [abs_length]; exact hI.len_free hc

/-- `reserve`: content unchanged, enough room afterwards, capacity never shrinks -/
theorem reserve_refines (r : RingBuffer) (n : Nat) (hI : r.Inv) :
    ∃ r', r.reserve n = .ok r' ∧ r'.Inv ∧ r'.abs = r.abs ∧ n ≤ r'.free ∧ r.cap ≤ r'.cap := by
  obtain ⟨r', h, hR⟩ := reserve_ok hI n
  exact ⟨r', h, hR.inv, hR.abs, hR.free, hR.capStep.mono⟩

/-- `reserve(n)` either allocates nothing or the new capacity is at most `2·(len + n) + 2`
(C05 bounds `len()`; this is the step from there to the allocation, no theorem joins the two) -/
theorem cap_bound (r r' : RingBuffer) (n : Nat) (hI : r.Inv) (h : r.reserve n = .ok r') :
    r'.cap = r.cap ∨ r'.cap ≤ 2 * (r.len + n) + 2 :=
  (of_ok h (reserve_ok hI n)).capStep.bound

theorem extend_refines (r : RingBuffer) (data : List Byte) (hI : r.Inv) :
    ∃ r', r.extend data = .ok r' ∧ r'.Inv ∧ r'.abs = Queue.append r.abs data := by
  obtain ⟨r', h, hG⟩ := extend_ok hI data
  exact ⟨r', h, hG.inv, hG.abs⟩

theorem pushBack_refines (r : RingBuffer) (b : Byte) (hI : r.Inv) :
    ∃ r', r.pushBack b = .ok r' ∧ r'.Inv ∧ r'.abs = Queue.append r.abs [b] := by
  obtain ⟨r', h, hG⟩ := pushBack_ok hI b
  exact ⟨r', h, hG.inv, hG.abs⟩

theorem extendAndFill_refines (r : RingBuffer) (b : Byte) (n : Nat) (hI : r.Inv) :
    ∃ r', r.extendAndFill b n = .ok r' ∧ r'.Inv ∧ r'.abs = Queue.fill r.abs b n := by
  obtain ⟨r', h, hG⟩ := extendAndFill_ok hI b n
  exact ⟨r', h, hG.inv, hG.abs⟩

/-- `extend_from_reader(reader, n)` for every reader content: on success the `n` bytes are appended; on a
short reader (`Err`) the content is unchanged — the zero-filled / partially filled cells stay in the
free region because `tail` is not advanced — and the invariant holds either way -/
theorem extendFromReader_refines (r : RingBuffer) (avail : List Byte) (n : Nat) (hI : r.Inv) :
    ∃ r' ok rest, r.extendFromReader avail n = .ok (r', ok, rest) ∧ r'.Inv ∧
      (n ≤ avail.length → ok = true ∧ r'.abs = Queue.append r.abs (avail.take n) ∧ rest = avail.drop n) ∧
      (avail.length < n → ok = false ∧ r'.abs = r.abs) := by
  obtain ⟨r', ok, rest, e, hI', h1, h2, _⟩ := extendFromReader_ok hI avail n
  exact ⟨r', ok, rest, e, hI', h1, h2⟩

theorem clear_refines (r : RingBuffer) (hI : r.Inv) : r.clear.Inv ∧ r.clear.abs = Queue.clear r.abs :=
  ⟨(clear_ok hI).1, (clear_ok hI).2.1⟩

/-- `drop_first_n(amount)` with `amount ≤ len()` on an allocated buffer -/
theorem dropFirstN_refines (r : RingBuffer) (n : Nat) (hI : r.Inv) (hc : 0 < r.cap) (hn : n ≤ r.len) :
    ∃ r', r.dropFirstN n = .ok r' ∧ r'.Inv ∧ r'.abs = Queue.dropFront r.abs n := by
  obtain ⟨r', h, hI', ha, _⟩ := dropFirstN_ok hI hc hn
  exact ⟨r', h, hI', ha⟩

/-- `get(idx)` is the queue's indexing (memory is only read) -/
theorem get_refines (r : RingBuffer) (idx : Nat) (hI : r.Inv) :
    ∃ r', r.get idx = .ok (r.abs[idx]?, r') ∧ r'.mem = r.mem ∧ r'.cap = r.cap ∧ r'.head = r.head ∧
      r'.tail = r.tail := by
  obtain ⟨r', h, h1, h2, h3, h4⟩ := get_ok hI idx
  exact ⟨r', h, h4, h1, h2, h3⟩

/-- `as_slices()` are two initialised regions whose concatenation is the queue content -/
theorem asSlices_refines (r : RingBuffer) (hI : r.Inv) :
    ∃ a b r', r.asSlices = .ok ((a, b), r') ∧ a ++ b = r.abs ∧ r'.mem = r.mem ∧ r'.cap = r.cap ∧
      r'.head = r.head ∧ r'.tail = r.tail := by
  obtain ⟨a, b, r', h, hab, _, h1, h2, h3, h4⟩ := asSlices_ok hI
  exact ⟨a, b, r', h, hab, h4, h1, h2, h3⟩

/-! ## Copy-from-within (where the soundness bug of versions 0.7.0–0.7.2 was: `Changelog.md`, "After 0.7.2") -/

/-- `copy_bytes_overshooting` under the contract its callers owe it (`CboPre`: `src` initialised on
its first `min srcLen dstLen` bytes — nothing else is assumed of the memory, in particular every other
cell may be uninitialised —, `dst` inside the allocation, `src`/`dst` disjoint, `n ≤ srcLen, dstLen`):
it does not fault on any of its three paths, hence reads only initialised bytes of the source region
and writes only inside the destination region; it moves `k` bytes with `n ≤ k ≤ min srcLen dstLen`;
every cell outside `[dstOff, dstOff + k)` is unchanged; the trailing `debug_assert_eq!` holds. -/
theorem overshoot_confined (C : Nat) (hC : 0 < C) (m : Mem) (c : CboCall) (h : CboPre m c) :
    ∃ m' k, cbo C m c = .ok m' ∧ c.n ≤ k ∧ k ≤ min c.srcLen c.dstLen ∧ m'.size = m.size ∧
      (∀ j, ¬ (c.dstOff ≤ j ∧ j < c.dstOff + k) → m'.cell j = m.cell j) ∧
      (∀ i, i < k → m'.cell (c.dstOff + i) = m.cell (c.srcOff + i)) := by
  obtain ⟨m', k, h1, hk1, hk2, hk3, hcp⟩ := cbo_ok hC h
  refine ⟨m', k, h1, hk1, by omega, hcp.1, fun j hj => hcp.outside hj, ?_⟩
  intro i hi
  rw [hcp.inside (by omega)]
  congr 1; omega

/-- the read side made explicit: make every cell uninitialised except the first `min srcLen dstLen`
bytes of the source region — the routine still succeeds, on all three paths.  A raw read of any other
cell would have been `Fault.uninit`, so it reads nothing outside the source region handed to it. -/
theorem overshoot_reads_confined (C : Nat) (hC : 0 < C) (m : Mem) (c : CboCall) (h : CboPre m c) :
    ∃ m', cbo C (m.eraseOutside c.srcOff (min c.srcLen c.dstLen)) c = .ok m' :=
  cbo_reads_confined hC h

/-- `extend_from_within_unchecked(start, len)` under exactly the two requirements of its `SAFETY`
comment — `start + len ≤ len()` and `len ≤ free()` — on an allocated buffer, in all three geometric
cases: no fault (all five `copy_bytes_overshooting` call sites satisfy `CboPre`), the invariant is
kept, and the abstract content is the old content followed by the copied range (so the over-copy is
invisible: `abs` outside the appended range is unchanged). -/
theorem extendFromWithinUnchecked_refines (C : Nat) (hC : 0 < C) (r : RingBuffer) (start len : Nat)
    (hI : r.Inv) (hc : 0 < r.cap) (h1 : start + len ≤ r.len) (h2 : len ≤ r.free) :
    ∃ r', r.extendFromWithinUnchecked C start len = .ok r' ∧ r'.Inv ∧
      r'.abs = Queue.copyWithin r.abs start len := by
  obtain ⟨r', h, hI', ha, _⟩ := efwu_ok hC hI hc h1 h2
  exact ⟨r', h, hI', ha⟩

/-- the five call sites, explicitly.  Under the `SAFETY` requirements the `copy_bytes_overshooting` calls
the model executes (its ghost trace) are exactly `efwuCalls r start len` — the (src offset, src len, dst
offset, dst len, copy_at_least) tuples the Rust code computes in its three geometric cases. -/
theorem call_sites_are_efwuCalls (C : Nat) (hC : 0 < C) (r : RingBuffer) (start len : Nat)
    (hI : r.Inv) (hc : 0 < r.cap) (h1 : start + len ≤ r.len) (h2 : len ≤ r.free) :
    ∃ r', r.extendFromWithinUnchecked C start len = .ok r' ∧
      r'.log = ((efwuCalls r start len).flatMap (cboEvents C)).reverse ++ r.log := by
  obtain ⟨r', h, _, _, _, _, hl⟩ := efwu_ok hC hI hc h1 h2
  exact ⟨r', h, hl⟩

/-- Every one of the calls `efwuCalls` hands over regions with the right geometry (`CallGeom`): each source byte the
routine may read is an occupied (initialised) cell, the WHOLE destination region — not just the part
that is meant to be filled — consists of free cells inside the allocation (hence source and
destination are disjoint and the over-copy can only hit free cells), and the requested length fits
both.  A miscalculated region length, the bug of 0.7.0–0.7.2, is a violation of exactly this. -/
theorem call_sites_geometry (r : RingBuffer) (start len : Nat) (hI : r.Inv) (hc : 0 < r.cap)
    (h1 : start + len ≤ r.len) (h2 : len ≤ r.free) :
    ∀ c, c ∈ efwuCalls r start len → CallGeom r c :=
  (efwuCalls_runs hI hc h1 h2).geom hI

/-- conversely, the model (debug assertions on) faults when a `SAFETY` requirement is violated, so
`.ok` at a call site means the caller established the requirements -/
theorem extendFromWithinUnchecked_pre_of_ok (C : Nat) (r r' : RingBuffer) (start len : Nat) (hI : r.Inv)
    (h : r.extendFromWithinUnchecked C start len = .ok r') : start + len ≤ r.len ∧ len ≤ r.free :=
  ⟨(efwu_pre_of_ok hI h).1, (efwu_pre_of_ok hI h).2.1⟩

/-- the checked `extend_from_within` checks `start + len ≤ len()` itself and establishes the other requirement by
`reserve`. -/
theorem extendFromWithin_refines (C : Nat) (hC : 0 < C) (r : RingBuffer) (start len : Nat)
    (hI : r.Inv) (h1 : start + len ≤ r.len) (hne : 0 < r.len) :
    ∃ r', r.extendFromWithin C start len = .ok r' ∧ r'.Inv ∧ r'.abs = Queue.copyWithin r.abs start len := by
  obtain ⟨r', h, hG⟩ := extendFromWithin_ok hC hI h1 hne
  exact ⟨r', h, hG.inv, hG.abs⟩

/-- the checked `extend_from_within` panics (as documented) when the range is not inside the buffer -/
theorem extendFromWithin_panics (C : Nat) (r : RingBuffer) (start len : Nat) (hI : r.Inv)
    (h1 : ¬ start + len ≤ r.len) : ∃ f, r.extendFromWithin C start len = .error f :=
  RingBuffer.extendFromWithin_panics hI h1

/-- whatever the operations and operands (inside or outside their contracts): a sequence that does not
panic ends in a state satisfying the invariant -/
theorem reachable_inv (C : Nat) (hC : 0 < C) (ops : List RingOp) (r : RingBuffer)
    (h : runRing C ops RingBuffer.new = .ok r) : r.Inv := by
  have hs := runRing_sound hC ops RingBuffer.inv_new
  rw [h] at hs
  exact hs.1

/-- every sequence of operations inside their contracts (`runQueue … = some q`: ranges inside the
content, `drop_first_n`/copy-from-within only on a buffer that holds data — see `RingOp.applyQ`) runs
without fault on the ring buffer and leaves exactly the content of the byte queue; the allocation
never exceeds `2·peak + 2` cells, `peak` = the largest `len + requested` seen along the way -/
theorem reachable_refines (C : Nat) (hC : 0 < C) (ops : List RingOp) (q : List Byte)
    (h : runQueue ops [] = some q) :
    ∃ r, runRing C ops RingBuffer.new = .ok r ∧ r.Inv ∧ r.abs = q ∧ r.cap ≤ 2 * peakQueue ops [] + 2 := by
  have hs := runRing_sound hC ops RingBuffer.inv_new
  rw [RingBuffer.abs_new] at hs
  cases e : runRing C ops RingBuffer.new with
  | error f => rw [e, h] at hs; cases hs
  | ok r =>
    rw [e] at hs
    obtain ⟨ha, hc⟩ := hs.2 q h
    have : RingBuffer.new.cap = 0 := rfl
    exact ⟨r, rfl, hs.1, ha, by omega⟩

/-! ## DecodeBuffer: callers establish the preconditions -/

/-- `repeat` for every `offset > 0` (what `execute_sequences` guarantees; any `match_length`, content,
dictionary, window size, counter): never a `Fault`.  Since the model's unchecked copy faults exactly when
a `SAFETY` requirement is violated (`extendFromWithinUnchecked_pre_of_ok`), every call `repeat`,
`repeat_in_chunks` and `repeat_from_dict` (incl. its recursive continuation) make satisfies them. -/
theorem decodeBuffer_pre_established (C : Nat) (hC : 0 < C) (d : DecodeBuffer) (offset ml : Nat)
    (hI : d.Inv) (ho : 0 < offset) :
    ∃ d' res, d.repeat C offset ml = .ok (d', res) ∧ d'.Inv ∧ (res ≠ .ok () → d' = d) := by
  obtain ⟨d', res, e, hI', h, _⟩ := DecodeBuffer.repeat_returns hC hI ho ml
  exact ⟨d', res, e, hI', h⟩

/-- any sequence of `DecodeBuffer` calls (`reset`, dictionary assignment, `push`, `repeat` with
`offset > 0`, `extend_and_fill`, `extend_from_reader`, all six draining functions under every sink
script / target size) starting from `DecodeBuffer::new(ws)`: no `Fault`, invariant kept, and the
allocation never exceeds `2·peak + 2` cells, `peak` = the largest `len + requested` seen -/
theorem decodeBuffer_noFault (C : Nat) (hC : 0 < C) (ws : Nat) (ops : List DbOp)
    (hops : ∀ op, op ∈ ops → op.fromDecoder) :
    ∃ d, runDb C ops (DecodeBuffer.new ws) = .ok d ∧ d.Inv ∧
      d.buffer.cap ≤ 2 * peakDb C ops (DecodeBuffer.new ws) + 2 := by
  obtain ⟨d, e, hI, hc⟩ := runDb_ok hC ops (DecodeBuffer.inv_new ws).1 hops
  have : (DecodeBuffer.new ws).buffer.cap = 0 := rfl
  exact ⟨d, e, hI, by omega⟩

/-- one step of that bound: a call that asks for `n` more bytes either keeps the allocation or the new
one has at most `2·(len + n) + 2` cells, and it never shrinks (`CapStep`) -/
theorem decodeBuffer_cap_step (C : Nat) (hC : 0 < C) (d : DecodeBuffer) (op : DbOp) (hI : d.Inv)
    (hop : op.fromDecoder) :
    ∃ d', op.apply C d = .ok d' ∧ d'.Inv ∧ d.buffer.cap ≤ d'.buffer.cap ∧
      (d'.buffer.cap = d.buffer.cap ∨ d'.buffer.cap ≤ 2 * (d.abs.length + op.request) + 2) := by
  obtain ⟨d', e, hI', hcs⟩ := op.apply_ok hC hI hop
  have : d.abs.length = d.buffer.len := abs_length
  exact ⟨d', e, hI', hcs.mono, by rw [this]; exact hcs.bound⟩

theorem push_refines (d : DecodeBuffer) (data : List Byte) (hI : d.Inv) :
    ∃ d', d.push data = .ok d' ∧ d'.Inv ∧ d'.abs = d.abs ++ data ∧ d'.total = d.total + data.length :=  by
  obtain ⟨d', e, hP⟩ := DecodeBuffer.push_ok hI data
  exact ⟨d', e, hP.inv, hP.abs, hP.total⟩

theorem reset_refines (d : DecodeBuffer) (ws : Nat) (hI : d.Inv) :
    ∃ d', d.reset ws = .ok d' ∧ d'.Inv ∧ d'.abs = [] ∧ d'.dict = [] ∧ d'.windowSize = ws ∧
      d'.total = 0 ∧ d'.hash = [] ∧ ws ≤ d'.buffer.free := by
  obtain ⟨d', e, h1, h2, h3, h4, h5, h6, h7, _⟩ := DecodeBuffer.reset_ok hI ws
  exact ⟨d', e, h1, h2, h3, h4, h5, h6, h7⟩

/-- `repeat(offset, n)` with `0 < offset ≤ len` appends the byte-by-byte overlapping copy, whether it
goes through one unchecked copy (`n ≤ offset`) or through `repeat_in_chunks` -/
theorem repeat_eq_overlapCopy (C : Nat) (hC : 0 < C) (d : DecodeBuffer) (offset n : Nat) (hI : d.Inv)
    (ho : 0 < offset) (hol : offset ≤ d.abs.length) :
    ∃ d', d.repeat C offset n = .ok (d', .ok ()) ∧ d'.Inv ∧ d'.abs = overlapCopy d.abs offset n ∧
      d'.total = d.total + n ∧ d'.hash = d.hash := by
  obtain ⟨d', e, hP⟩ := DecodeBuffer.repeat_ok hC hI ho
    (by rw [← abs_length (r := d.buffer)]; exact hol) (ml := n)
  exact ⟨d', e, hP.inv, hP.abs, hP.total, hP.hash⟩

/-- the dictionary variant (`offset > len`, counter within the window, enough dictionary): the same copy
over `dict ++ content`; the counter is advanced only when the match continues into the buffer —
exactly as written in `repeat_from_dict` -/
theorem repeat_dict_eq_overlapCopy (C : Nat) (hC : 0 < C) (d : DecodeBuffer) (offset n : Nat)
    (hI : d.Inv) (hol : offset > d.abs.length) (ht : d.total ≤ d.windowSize)
    (hb : offset - d.abs.length ≤ d.dict.length) :
    ∃ d', d.repeat C offset n = .ok (d', .ok ()) ∧ d'.Inv ∧
      d'.abs = (overlapCopy (d.dict ++ d.abs) offset n).drop d.dict.length ∧
      d'.total = (if offset - d.abs.length < n then d.total + n else d.total) := by
  have hl : d.abs.length = d.buffer.len := abs_length
  obtain ⟨d', e, hP⟩ := DecodeBuffer.repeat_dict_ok hC hI (offset := offset) (ml := n)
    (by omega) ht (by omega)
  exact ⟨d', e, hP.inv, hP.abs, by rw [hP.total, hl]⟩

/-- the two error arms: `OffsetTooBig` when the counter is beyond the window, `NotEnoughBytesInDictionary`
otherwise; the buffer is untouched -/
theorem repeat_errors (C : Nat) (d : DecodeBuffer) (offset n : Nat) (hI : d.Inv)
    (hol : offset > d.abs.length) :
    (d.total > d.windowSize →
      d.repeat C offset n = .ok (d, .error (.offsetTooBig offset d.abs.length))) ∧
    (d.total ≤ d.windowSize → offset - d.abs.length > d.dict.length →
      d.repeat C offset n =
        .ok (d, .error (.notEnoughBytesInDictionary d.dict.length (offset - d.abs.length)))) := by
  have hl : d.abs.length = d.buffer.len := abs_length
  rw [hl]
  exact DecodeBuffer.repeat_dict_err hI (by omega)

/-- a prefix the offset cannot reach does not matter: the window suffices (C06 uses it as
`overlapCopy_append_left`, in `FrameDecoderBuf.copyWithin_drop`) -/
theorem overlapCopy_window_suffices (dropped kept : List Byte) (offset n : Nat) (h : offset ≤ kept.length) :
    overlapCopy (dropped ++ kept) offset n = dropped ++ overlapCopy kept offset n :=
  overlapCopy_append_left dropped kept offset h n

/-! ## Draining: delivered = dropped = hashed, for every sink -/

/-- `drain_to(amount, write_bytes)` with its `DrainGuard`, for every amount and every closure that honours
the doc comment above `fn drain_to` ("Semantics of write_bytes", `ClosureOk`): whatever the closure does — partial
acceptance of the first ring segment (then the second is not attempted), `Ok(0)`, an error after a partial write —
exactly the first `k ≤ amount` bytes were handed over, dropped from the buffer and fed to the hasher, in order; `Ok(n)`
reports `n = k`; a closure that takes everything drains exactly `min amount len`. -/
theorem drain_exact {σ : Type} (wb : σ → List Byte → Except Fault (Nat × Option IoErr × σ))
    (delivered : σ → List Byte) (hwb : DecodeBuffer.ClosureOk wb delivered) (d d' : DecodeBuffer)
    (amount : Nat) (s s' : σ) (res : Except IoErr Nat) (hI : d.Inv)
    (h : d.drainTo amount wb s = .ok (d', s', res)) :
    ∃ k, k ≤ amount ∧ k ≤ d.abs.length ∧ delivered s' = delivered s ++ d.abs.take k ∧
      d'.abs = d.abs.drop k ∧ d'.hash = d.hash ++ d.abs.take k ∧ d'.Inv ∧
      (∀ n, res = .ok n → n = k) ∧
      (DecodeBuffer.AcceptsAll wb → k = min amount d.abs.length ∧ res = .ok k) := by
  obtain ⟨k, hD⟩ := DecodeBuffer.drainTo_exact hwb hI h
  exact ⟨k, hD.le_amount, hD.le_len, hD.delivered, hD.abs, hD.hash, hD.inv, hD.reported, hD.full⟩

/-- `write_all_bytes` for every sink script: at most what was offered, and the sink got that prefix -/
theorem sinkWriteAll_exact (sink : Sink) (buf : List Byte) :
    (sinkWriteAll sink buf).1 ≤ buf.length ∧
    (sinkWriteAll sink buf).2.2.got = sink.got ++ buf.take (sinkWriteAll sink buf).1 :=
  sinkWriteAll_spec sink buf

/-- `drain_to_writer(sink)` never panics and is exact for every sink script -/
theorem drainToWriter_exact (d : DecodeBuffer) (sink : Sink) (hI : d.Inv) :
    ∃ d' sink' res k, d.drainToWriter sink = .ok (d', sink', res) ∧ k ≤ d.abs.length ∧
      sink'.got = sink.got ++ d.abs.take k ∧ d'.abs = d.abs.drop k ∧
      d'.hash = d.hash ++ d.abs.take k ∧ d'.Inv ∧ (∀ n, res = .ok n → n = k) ∧
      d'.buffer.cap = d.buffer.cap :=
  DecodeBuffer.drainToWriter_ok hI sink

/-- `drain_to_window_size_writer(sink)`: same, and never more than `len - window_size` -/
theorem drainToWindowSizeWriter_exact (d : DecodeBuffer) (sink : Sink) (hI : d.Inv) :
    ∃ d' sink' res k, d.drainToWindowSizeWriter sink = .ok (d', sink', res) ∧
      k ≤ d.abs.length - d.windowSize ∧
      sink'.got = sink.got ++ d.abs.take k ∧ d'.abs = d.abs.drop k ∧
      d'.hash = d.hash ++ d.abs.take k ∧ d'.Inv ∧ (∀ n, res = .ok n → n = k) ∧
      d'.buffer.cap = d.buffer.cap :=
  DecodeBuffer.drainToWindowSizeWriter_ok hI sink

/-- `read(target)`: exactly `min (len - window_size) target.len()` bytes, the window is retained -/
theorem read_exact (d : DecodeBuffer) (targetLen : Nat) (hI : d.Inv) :
    ∃ d', d.read targetLen = .ok (d', d.abs.take (min (d.abs.length - d.windowSize) targetLen),
        .ok (min (d.abs.length - d.windowSize) targetLen)) ∧ d'.Inv ∧
      d'.abs = d.abs.drop (min (d.abs.length - d.windowSize) targetLen) ∧
      d'.hash = d.hash ++ d.abs.take (min (d.abs.length - d.windowSize) targetLen) := by
  obtain ⟨d', e, hT⟩ := DecodeBuffer.read_ok hI targetLen
  exact ⟨d', e, hT.inv, hT.abs, hT.hash⟩

/-- `read_all(target)`: exactly `min len target.len()` bytes -/
theorem readAll_exact (d : DecodeBuffer) (targetLen : Nat) (hI : d.Inv) :
    ∃ d', d.readAll targetLen = .ok (d', d.abs.take (min d.abs.length targetLen),
        .ok (min d.abs.length targetLen)) ∧ d'.Inv ∧
      d'.abs = d.abs.drop (min d.abs.length targetLen) ∧
      d'.hash = d.hash ++ d.abs.take (min d.abs.length targetLen) := by
  obtain ⟨d', e, hT⟩ := DecodeBuffer.readAll_ok hI targetLen
  exact ⟨d', e, hT.inv, hT.abs, hT.hash⟩

/-- `drain()`: everything, hashed, buffer empty afterwards -/
theorem drain_all (d : DecodeBuffer) (hI : d.Inv) :
    ∃ d', d.drain = .ok (d', d.abs) ∧ d'.Inv ∧ d'.abs = [] ∧ d'.hash = d.hash ++ d.abs := by
  obtain ⟨d', e, hI', ha, hh, _⟩ := DecodeBuffer.drain_ok hI
  exact ⟨d', e, hI', ha, hh⟩

/-- `drain_to_window_size()`: `None` when nothing exceeds the window, else exactly the excess -/
theorem drainToWindowSize_exact (d : DecodeBuffer) (hI : d.Inv) :
    (d.abs.length ≤ d.windowSize → d.drainToWindowSize = .ok (d, none)) ∧
    (d.abs.length > d.windowSize → ∃ d', d.drainToWindowSize =
        .ok (d', some (d.abs.take (d.abs.length - d.windowSize))) ∧ d'.Inv ∧
      d'.abs = d.abs.drop (d.abs.length - d.windowSize) ∧
      d'.hash = d.hash ++ d.abs.take (d.abs.length - d.windowSize) ∧
      d'.buffer.cap = d.buffer.cap) :=
  DecodeBuffer.drainToWindowSize_ok hI

/-! ## Outside the decoder's contract (kept visible; none is reachable from `execute_sequences`)

`drop_first_n` and `extend_from_within_unchecked` end in `% self.cap` and reserve nothing; the checked
`extend_from_within` and `DecodeBuffer::repeat` call `reserve(len)` first, which allocates nothing for `len = 0`.
On a never-allocated buffer (`cap = 0`) they divide by zero; `repeat` with `offset = 0` and a non-zero length never
terminates.  The decoder cannot reach them (`ZeroOffset` is rejected before `repeat`; `DrainGuard` only drops when
`amount ≠ 0`), which is exactly why the theorems above carry `0 < offset` / `0 < r.len` / `0 < r.cap`. -/

/-- `drop_first_n(n)` on a never-allocated buffer panics for every `n` -/
theorem dropFirstN_unallocated_panics (r : RingBuffer) (n : Nat) (hI : r.Inv) (hc : r.cap = 0) :
    ∃ f, r.dropFirstN n = .error f :=
  RingBuffer.dropFirstN_unallocated hI hc n

/-- so does the unchecked copy (hence `extend_from_within(0, 0)` and `repeat(0, 0)` on a fresh buffer) -/
theorem extendFromWithinUnchecked_unallocated_panics (C : Nat) (r : RingBuffer) (start len : Nat)
    (hI : r.Inv) (hc : r.cap = 0) : ∃ f, r.extendFromWithinUnchecked C start len = .error f :=
  efwu_faults hI fun h => by omega

theorem new_extendFromWithin_zero_divZero :
    (RingBuffer.new.extendFromWithin 16 0 0 >>= fun r => pure r.cap) =
      .error (.divZero "ringbuffer.rs:extend_from_within_unchecked:%cap") := by decide +kernel

theorem new_repeat_zero_zero_divZero :
    ((DecodeBuffer.new 8).repeat 16 0 0 >>= fun r => pure r.1.abs) =
      .error (.divZero "ringbuffer.rs:extend_from_within_unchecked:%cap") := by decide +kernel

/-- `repeat(0, n)` with `n > 0` spins forever in `repeat_in_chunks` (chunk size 0, every zero-length copy
succeeds); the model reports it as `hang site` (`Fault.unreachable` with the site prefixed `hang:`,
Model/DecodeBuffer.lean) after `n` iterations without progress — for every buffer state.  This is why the `ZeroOffset`
rejection in `execute_sequences` is load-bearing. -/
theorem repeat_offset_zero_hangs (C : Nat) (hC : 0 < C) (d : DecodeBuffer) (n : Nat) (hI : d.Inv)
    (hn : 0 < n) : d.repeat C 0 n = .error (hang "decode_buffer.rs:repeat_in_chunks") :=
  DecodeBuffer.repeat_offset_zero_hangs hC hI hn

/-! ## Dead code (`#[allow(dead_code)]`, referenced by nothing): complete characterisation

`extend_from_within_unchecked_branchless` + `copy_with_checks`, under the same `SAFETY` requirements. -/

/-- when the copy stays strictly before the end of the allocation's first free section the branchless variant is
memory-safe and refines the queue like the live variant. -/
theorem branchless_refines (r : RingBuffer) (start len : Nat) (hI : r.Inv) (hc : 0 < r.cap)
    (h1 : start + len ≤ r.len) (h2 : len ≤ r.free)
    (hend : ¬ (r.head ≤ r.tail ∧ r.cap - r.tail ≤ len)) :
    ∃ r', r.extendFromWithinUncheckedBranchless start len = .ok r' ∧ r'.Inv ∧
      r'.abs = Queue.copyWithin r.abs start len :=
  RingBuffer.efwub_ok hI hc h1 h2 hend

/-- In exactly the remaining case the branchless variant trips its own over-strict `debug_assert!` (`>` where `>=` is
meant): with debug assertions on, the code that writes into the second free section can never run.
A defect of dead code only; the live `extend_from_within_unchecked` has no such assertion. -/
theorem branchless_overstrict_assert (r : RingBuffer) (start len : Nat) (hI : r.Inv) (hc : 0 < r.cap)
    (h1 : start + len ≤ r.len) (h2 : len ≤ r.free) (hend : r.head ≤ r.tail ∧ r.cap - r.tail ≤ len) :
    ∃ s, r.extendFromWithinUncheckedBranchless start len = .error (.assert s) :=
  ⟨_, RingBuffer.efwub_overstrict_assert hI hc h1 h2 hend⟩

/-! ## Non-vacuity: concrete states, `C = 16`.  A (`head < tail`) and B (wrapped) have `cap = 33`; the copies of
the three geometric cases fill them completely or up to 2 cells.  C (`cap = 17`) is for the dead code. -/

private def exBytes (n k : Nat) : List Nat := (List.range n).map (fun i => (i * 7 + k) % 256)

private def obs (r : Except Fault RingBuffer) : Except Fault (Nat × Nat × Nat × Nat × List Byte) :=
  r >>= fun r => pure (r.cap, r.head, r.tail, r.free, r.abs)

/-- state A: `cap 33, head 10, tail 30` (`head < tail`), 12 cells free -/
private def exA : List RingOp := [.reserve 32, .extend (exBytes 30 1), .dropFirstN 10]
/-- state B: `cap 33, head 20, tail 9` (wrapped), 10 cells free -/
private def exB : List RingOp := [.reserve 32, .extend (exBytes 32 1), .dropFirstN 20, .extend (exBytes 10 3)]

example : obs (runRing 16 exA .new) = .ok (33, 10, 30, 12, (exBytes 30 1).drop 10) := by decide +kernel
example : obs (runRing 16 exB .new) = .ok (33, 20, 9, 10, (exBytes 32 1).drop 20 ++ exBytes 10 3) := by
  decide +kernel

/-- case 1 (`head < tail`), destination wraps (3 cells after `tail`, 9 at the front), exact fill:
the buffer is full afterwards (`free = 0`) and `tail` has wrapped to 9 -/
example : obs (runRing 16 (exA ++ [.reserveThenUnchecked 0 12]) .new) =
    .ok (33, 10, 9, 0, (exBytes 30 1).drop 10 ++ ((exBytes 30 1).drop 10).take 12) := by decide +kernel

/-- case 2 (`tail ≤ head`, `head + start > cap`): source and destination both below `head` -/
example : obs (runRing 16 (exB ++ [.reserveThenUnchecked 14 8]) .new) =
    .ok (33, 20, 17, 2, ((exBytes 32 1).drop 20 ++ exBytes 10 3) ++
      (((exBytes 32 1).drop 20 ++ exBytes 10 3).drop 14).take 8) := by decide +kernel

/-- case 3 (`tail ≤ head`, `head + start ≤ cap`), source wraps (8 bytes before the end, 2 at the
front), exact fill: full afterwards -/
example : obs (runRing 16 (exB ++ [.reserveThenUnchecked 5 10]) .new) =
    .ok (33, 20, 19, 0, ((exBytes 32 1).drop 20 ++ exBytes 10 3) ++
      (((exBytes 32 1).drop 20 ++ exBytes 10 3).drop 5).take 10) := by decide +kernel

/-- the calls of the case-1 example above: 3 bytes to the end of the allocation, 9 at the front -/
example : efwuCalls { cap := 33, head := 10, tail := 30 } 0 12 =
    [⟨10, 20, 30, 3, 3⟩, ⟨13, 17, 0, 10, 9⟩] := by decide

/-- the one-chunk fast path overshoots: 3 bytes requested, 16 moved, still inside the free region -/
example : cboPath 16 ⟨0, 20, 20, 20, 3⟩ = (1, 16) := by decide

/-- `repeat` with overlap (offset 2, length 5) and from the dictionary -/
example : (((DecodeBuffer.new 8).push [1, 2, 3]) >>= fun d => d.repeat 16 2 5 >>= fun r => pure r.1.abs) =
    .ok [1, 2, 3, 2, 3, 2, 3, 2] := by decide +kernel
example : overlapCopy [1, 2, 3] 2 5 = [1, 2, 3, 2, 3, 2, 3, 2] := by decide
example : ((pure { DecodeBuffer.new 8 with dict := [7, 8, 9] } : Except Fault DecodeBuffer) >>= fun d =>
    d.push [1] >>= fun d => d.repeat 16 3 6 >>= fun r => pure (r.1.abs, r.2)) =
    .ok ([1, 8, 9, 1, 8, 9, 1], .ok ()) := by decide +kernel

/-- a sink that takes 2 bytes, then fails: 2 bytes delivered, dropped and hashed, `Err` returned -/
example : ((DecodeBuffer.new 0).push [1, 2, 3, 4] >>= fun d =>
    d.drainToWriter { script := [.accept 2, .err 5] } >>= fun r =>
    pure (r.1.abs, r.1.hash, r.2.1.got, r.2.2)) = .ok ([3, 4], [1, 2], [1, 2], .error 5) := by
  decide +kernel

/-- the hypotheses of `drain_exact` are satisfiable: the three closures the code uses honour the contract -/
example : DecodeBuffer.ClosureOk DecodeBuffer.sinkClosure Sink.got := DecodeBuffer.sinkClosure_ok
example : DecodeBuffer.ClosureOk DecodeBuffer.vecClosure id := DecodeBuffer.vecClosure_ok
example : DecodeBuffer.ClosureOk DecodeBuffer.targetClosure (fun st => st.2) := DecodeBuffer.targetClosure_ok

/-- dead code: the same geometry (`cap 17, head 2, tail 12`), a copy that ends one cell before the end of
the allocation succeeds, one that ends exactly there trips the over-strict assertion -/
private def exC : List RingOp := [.reserve 16, .extend (exBytes 12 1), .dropFirstN 2]
example : obs (runRing 16 exC .new >>= fun r => r.extendFromWithinUncheckedBranchless 0 4) =
    .ok (17, 2, 16, 2, (exBytes 12 1).drop 2 ++ ((exBytes 12 1).drop 2).take 4) := by decide +kernel
example : obs (runRing 16 exC .new >>= fun r => r.extendFromWithinUncheckedBranchless 0 5) =
    .error (.assert "ringbuffer.rs:extend_from_within_unchecked_branchless:debug_assert(buf+cap>f1_ptr+..)") := by
  decide +kernel

end Zstd.Props.C04
