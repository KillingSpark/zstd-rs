import Zstd.Model.Cli
/-
C19 — Command-line compress then decompress restores the file byte for byte; failures are
reported through the exit status, not by a panic that leaves an empty output behind.

The decision table is read off `cli/src/main.rs` and `frame_compressor.rs` on every run
(`Zstd.Gen.Cli` → `Model.Cli.srcCfg`).  Each property is first proved for EVERY table that passes a
decidable well-formedness test (`tableOk`), then instantiated with today's source by evaluating the
test — so a source change that re-introduces finding F6 (default level not implemented, an
unimplemented level reaching the library, a panicking arm, the output created before the level is
checked) makes `src_table_ok`, and with it the instantiated theorems, fail.
-/
namespace Zstd.Props.C19
open Zstd Zstd.Model.Cli
open Zstd.Gen.Cli (Arm)

/-- an arm is harmless: it maps to a level the library runs to completion on every input, or it is an error return -/
def armOk (c : Cfg) : Arm → Bool
  | .lib l => c.libImplemented.contains l || !c.libFallbackPanics
  | .error => true
  | .panic => false

/-- the test on a decision table: every level the option can carry selects a harmless arm; the default level fits the
option and selects an implemented library level; `fn compress` does match, open, create, library call in this order
and returns a failing open or create.  Under it a run can neither panic nor leave an output behind on failure
(`cli_failure_is_clean_of`, which does not use the two conjuncts about the default level: they make `src_table_ok`
fail when the default stops being an implemented level, F6). -/
def tableOk (c : Cfg) : Bool :=
  (List.range (2 ^ c.levelBits)).all (fun n => armOk c (c.arm n)) &&
  (match c.arm c.defaultLevel with | .lib l => c.libImplemented.contains l | _ => false) &&
  decide (c.defaultLevel < 2 ^ c.levelBits) &&
  decide (c.compressOrder = ["match", "open", "create", "lib"]) &&
  c.openFailureReturned && c.createFailureReturned

/-- a run that did not succeed neither panicked nor left an output file -/
def Clean (o : Outcome) : Prop := o.exit ≠ .ok → o.exit ≠ .panic ∧ o.outputExists = false

theorem tableOk_spec (c : Cfg) (h : tableOk c = true) :
    (∀ n, n < 2 ^ c.levelBits → armOk c (c.arm n) = true) ∧
    c.compressOrder = ["match", "open", "create", "lib"] ∧
    c.openFailureReturned = true ∧ c.createFailureReturned = true := by
  simp only [tableOk, Bool.and_eq_true, List.all_eq_true, List.mem_range, decide_eq_true_eq] at h
  exact ⟨h.1.1.1.1.1, h.1.1.2, h.1.2, h.2⟩

theorem libCompletes_of_armOk (c : Cfg) (l : String) (h : armOk c (.lib l) = true) (empty : Bool) :
    c.libCompletes l empty = true := by
  simp only [armOk, Bool.or_eq_true] at h
  simp only [Cfg.libCompletes, Bool.or_eq_true]
  exact h.imp_left Or.inr

/-- `fn compress` with its effects in the order of the source, as a function of the arm the level
selects: the level map decides first; with a library level, the first failing effect among open,
create and the library call ends the run -/
theorem runCompress_std (c : Cfg) (hord : c.compressOrder = ["match", "open", "create", "lib"])
    (level : Option Nat) (env : CompressEnv) (hlt : level.getD c.defaultLevel < 2 ^ c.levelBits) :
    runCompress c level env =
      match c.arm (level.getD c.defaultLevel) with
      | .lib l =>
        if env.inputExists then
          if env.outputCreatable then
            if c.libCompletes l env.inputEmpty then ⟨.ok, true, true, some l⟩ else ⟨.panic, true, false, some l⟩
          else ⟨if c.createFailureReturned then .error else .panic, false, false, some l⟩
        else ⟨if c.openFailureReturned then .error else .panic, false, false, some l⟩
      | .error => ⟨.error, false, false, none⟩
      | .panic => ⟨.panic, false, false, none⟩ := by
  unfold runCompress
  rw [if_neg (by omega), hord]
  simp [compressSteps]
  rfl

theorem runCompress_usage (c : Cfg) (level : Option Nat) (env : CompressEnv)
    (h : 2 ^ c.levelBits ≤ level.getD c.defaultLevel) : runCompress c level env = ⟨.usage, false, false, none⟩ :=
  if_pos h

/-- for EVERY well-formed table: whatever the level option, whether or not the input exists and the
output can be created — a run that does not succeed neither panics nor leaves an output file -/
theorem cli_failure_is_clean_of (c : Cfg) (h : tableOk c = true) (level : Option Nat) (env : CompressEnv) :
    Clean (runCompress c level env) := by
  obtain ⟨harm, hord, hopen, hcreate⟩ := tableOk_spec c h
  by_cases hlt : level.getD c.defaultLevel < 2 ^ c.levelBits
  · have ha := harm _ hlt
    rw [runCompress_std c hord level env hlt]
    cases harm' : c.arm (level.getD c.defaultLevel) with
    | panic => rw [harm'] at ha; cases ha
    | error => simp [Clean]
    | lib l =>
      rw [harm'] at ha
      simp only [libCompletes_of_armOk c l ha, hopen, hcreate, if_true]
      cases env.inputExists <;> cases env.outputCreatable <;> simp [Clean]
  · rw [runCompress_usage c level env (Nat.le_of_not_lt hlt)]; simp [Clean]

/-- today's source passes the test (FALSE before the repair of F6: see `f6_before_repair`) -/
theorem src_table_ok : tableOk srcCfg = true := by decide +kernel

/-- the property, for the command-line tool as it is in the source today -/
theorem cli_failure_is_clean (level : Option Nat) (env : CompressEnv) : Clean (runCompress srcCfg level env) :=
  cli_failure_is_clean_of srcCfg src_table_ok level env

/-- in the task's wording: a level that is not implemented ⇒ exit ≠ 0, no panic, no output file -/
theorem cli_unimplemented_level_is_refused (level : Option Nat) (env : CompressEnv)
    (h : ∀ l, srcCfg.arm (level.getD srcCfg.defaultLevel) = .lib l → srcCfg.libImplemented.contains l = false) :
    (runCompress srcCfg level env).exit ≠ .ok ∧ (runCompress srcCfg level env).exit ≠ .panic ∧
    (runCompress srcCfg level env).outputExists = false := by
  have hne : (runCompress srcCfg level env).exit ≠ .ok := by
    intro hok
    by_cases hlt : level.getD srcCfg.defaultLevel < 2 ^ srcCfg.levelBits
    · obtain ⟨harm, hord, _⟩ := tableOk_spec srcCfg src_table_ok
      have ha := harm _ hlt
      rw [runCompress_std srcCfg hord level env hlt] at hok
      cases harm' : srcCfg.arm (level.getD srcCfg.defaultLevel) with
      | panic => rw [harm'] at hok; cases hok
      | error => rw [harm'] at hok; cases hok
      | lib l =>
        -- the library panics on what it does not implement, so a harmless `lib` arm is an implemented one
        rw [harm', armOk, h l harm'] at ha
        exact absurd ha (by decide)
    · rw [runCompress_usage _ _ _ (Nat.le_of_not_lt hlt)] at hok; cases hok
  exact ⟨hne, cli_failure_is_clean level env hne⟩

example : (runCompress srcCfg (some 2) ⟨true, false, true⟩).exit = .error := by decide
example : (runCompress srcCfg (some 9) ⟨true, false, true⟩) = ⟨.error, false, false, none⟩ := by decide

/-- exit class and files of an outcome (the library level is left out: which implemented level a
number maps to does not matter for the property) -/
def observable (o : Outcome) : Exit × Bool × Bool := (o.exit, o.outputExists, o.outputComplete)

/-- level number `n` selects a library level that the library implements -/
def implementedAt (c : Cfg) (n : Nat) : Bool :=
  match c.arm n with
  | .lib l => c.libImplemented.contains l
  | _ => false

theorem implementedAt_spec (c : Cfg) (n : Nat) (h : implementedAt c n = true) :
    ∃ l, c.arm n = .lib l ∧ l ∈ c.libImplemented := by
  unfold implementedAt at h
  split at h
  · rename_i l hl; exact ⟨l, hl, by simpa using h⟩
  · simp at h

/-- what the tool does today, row by row (level option × input present): exit class, output present, output complete -/
theorem cli_decision_table :
    (∀ lvl, lvl = none ∨ lvl = some 0 ∨ lvl = some 1 →
        observable (runCompress srcCfg lvl ⟨true, false, true⟩) = (Exit.ok, true, true) ∧
        (∃ l, (runCompress srcCfg lvl ⟨true, false, true⟩).libLevel = some l ∧ l ∈ srcCfg.libImplemented)) ∧
    (∀ n, 2 ≤ n → n < 256 → ∀ env, runCompress srcCfg (some n) env = ⟨.error, false, false, none⟩) ∧
    (∀ n, 256 ≤ n → ∀ env, runCompress srcCfg (some n) env = ⟨.usage, false, false, none⟩) ∧
    (∀ lvl, lvl = none ∨ lvl = some 0 ∨ lvl = some 1 → ∀ e o, (runCompress srcCfg lvl ⟨false, e, o⟩).exit = .error ∧
        (runCompress srcCfg lvl ⟨false, e, o⟩).outputExists = false) := by
  refine ⟨?_, ?_, ?_, ?_⟩
  · intro lvl h
    rcases h with h | h | h <;> subst h <;> exact ⟨by decide, by decide⟩
  · intro n h2 h256 env
    have harm : ∀ n, n < 256 → 2 ≤ n → srcCfg.arm n = .error := by decide +kernel
    rw [runCompress_std srcCfg (by decide) (some n) env h256, Option.getD_some, harm n h256 h2]
  · intro n h env
    exact runCompress_usage srcCfg (some n) env h
  · intro lvl h e o
    rcases h with h | h | h <;> subst h <;> cases e <;> cases o <;> decide

/-- the table as it was before the repair (finding F6), kept as a regression witness -/
def beforeF6 : Cfg :=
  { defaultLevel := 2, levelBits := 8,
    levelArms := [(0, 0, .lib "Uncompressed"), (1, 1, .lib "Fastest"), (2, 2, .lib "Default"), (3, 3, .lib "Better"), (4, 4, .lib "Best")],
    levelFallback := .panic, compressOrder := ["match", "open", "create", "lib"],
    openFailureReturned := true, createFailureReturned := true,
    libImplemented := ["Uncompressed", "Fastest"], libFallbackPanics := true, libEmptyShortcut := true,
    noSubcommandPanics := true, decompressOpenBeforeCreate := true, decompressCreateBeforeDecode := true,
    decompressRefusesSamePath := false, progressPassThrough := true }

/-- F6: with that table, no `--level` ⇒ panic with an empty output file left behind; `--level 9` ⇒ panic -/
theorem f6_before_repair :
    tableOk beforeF6 = false ∧
    runCompress beforeF6 none ⟨true, false, true⟩ = ⟨.panic, true, false, some "Default"⟩ ∧
    (runCompress beforeF6 (some 9) ⟨true, false, true⟩).exit = .panic ∧
    -- an EMPTY input at the unimplemented default level succeeded (the library's empty-input shortcut)
    (runCompress beforeF6 none ⟨true, true, true⟩).exit = .ok := by decide

/-- for EVERY well-formed table and every level option that resolves to an implemented level:
compress succeeds with a complete output (the library's frame of the content at that level),
decompress of that file succeeds, and — given that the library round-trips (C02) — restores the
content -/
theorem cli_roundtrip_of (c : Cfg) (h : tableOk c = true) (level : Option Nat) (l : String)
    (hlt : level.getD c.defaultLevel < 2 ^ c.levelBits)
    (harm : c.arm (level.getD c.defaultLevel) = .lib l)
    (enc : String → List Byte → List Byte) (dec : List Byte → Option (List Byte)) (content : List Byte)
    (hC02 : dec (enc l content) = some content) :
    runCompress c level ⟨true, content.isEmpty, true⟩ = ⟨.ok, true, true, some l⟩ ∧
    compressedFile c enc level content = some (enc l content) ∧
    (compressedFile c enc level content).bind dec = some content ∧
    (c.decompressOpenBeforeCreate = true → c.decompressCreateBeforeDecode = true →
      runDecompress c ⟨true, true, true, false⟩ = ⟨.ok, true, true, false⟩) := by
  obtain ⟨hok, hord, _⟩ := tableOk_spec c h
  have hl := libCompletes_of_armOk c l (harm ▸ hok _ hlt) content.isEmpty
  have hrun : runCompress c level ⟨true, content.isEmpty, true⟩ = ⟨.ok, true, true, some l⟩ := by
    rw [runCompress_std c hord level _ hlt, harm]
    simp only [hl, if_true]
  refine ⟨hrun, ?_, ?_, ?_⟩
  · simp [compressedFile, hrun]
  · simp [compressedFile, hrun, hC02]
  · intro h1 h2; simp [runDecompress, h1, h2]

/-- today's tool: no `--level`, `--level 0` and `--level 1` round-trip every content (given C02 for the level used) -/
theorem cli_roundtrip (level : Option Nat) (hlevel : level = none ∨ level = some 0 ∨ level = some 1)
    (enc : String → List Byte → List Byte) (dec : List Byte → Option (List Byte)) (content : List Byte)
    (hC02 : ∀ l, l ∈ srcCfg.libImplemented → dec (enc l content) = some content) :
    (runCompress srcCfg level ⟨true, content.isEmpty, true⟩).exit = .ok ∧
    (compressedFile srcCfg enc level content).bind dec = some content ∧
    runDecompress srcCfg ⟨true, true, true, false⟩ = ⟨.ok, true, true, false⟩ := by
  have hi : implementedAt srcCfg (level.getD srcCfg.defaultLevel) = true ∧
      level.getD srcCfg.defaultLevel < 2 ^ srcCfg.levelBits := by
    rcases hlevel with rfl | rfl | rfl <;> decide
  obtain ⟨l, harm, hmem⟩ := implementedAt_spec srcCfg _ hi.1
  have := cli_roundtrip_of srcCfg src_table_ok level l hi.2 harm enc dec content (hC02 l hmem)
  exact ⟨by rw [this.1], this.2.2.1, this.2.2.2 (by decide) (by decide)⟩

example : compressedFile srcCfg (fun _ c => 0 :: c) none [1, 2] = some [0, 1, 2] := by decide

/-- `ProgressMonitor::read` hands the inner reader's answer through unchanged, for every reader
script and every request, and counts exactly the bytes delivered -/
theorem progress_passthrough (r : Model.Io.Reader) (count req : Nat) :
    (progressRead srcCfg r count req).1 = r.read req ∧
    (progressRead srcCfg r count req).2 = count + (match (r.read req).1 with | Except.ok bs => bs.length | Except.error _ => 0) := by
  unfold progressRead
  rcases r.read req with ⟨_ | bs, r'⟩ <;> exact ⟨rfl, rfl⟩

/-- `fn decompress`, for every table with the order of effects the model describes: no panic, a success is
complete, and the input is destroyed exactly when an existing input is decompressed onto itself unrefused -/
theorem decompress_of (c : Cfg) (h1 : c.decompressOpenBeforeCreate = true) (h2 : c.decompressCreateBeforeDecode = true)
    (env : DecompressEnv) :
    (runDecompress c env).exit ≠ .panic ∧
    ((runDecompress c env).exit = .ok → (runDecompress c env).outputComplete = true) ∧
    ((runDecompress c env).inputDestroyed = true ↔
      c.decompressRefusesSamePath = false ∧ env.inputExists = true ∧ env.outputCreatable = true ∧ env.samePath = true) := by
  obtain ⟨i, f, o, s⟩ := env
  unfold runDecompress
  simp only [h1, h2, Bool.and_self, Bool.not_true, Bool.false_eq_true, if_false]
  cases c.decompressRefusesSamePath <;> cases i <;> cases f <;> cases o <;> cases s <;> decide

/-- `decompress` never panics on a missing, invalid or unwritable file -/
theorem decompress_reports_failure (env : DecompressEnv) :
    (runDecompress srcCfg env).exit ≠ .panic ∧
    ((runDecompress srcCfg env).exit = .ok → (runDecompress srcCfg env).outputComplete = true) :=
  have h := decompress_of srcCfg (by decide) (by decide) env
  ⟨h.1, h.2.1⟩

/-- full strength of "a failing run leaves nothing that looks like a result and destroys nothing" -/
def decompress_never_destroys_input_full : Prop := ∀ env, (runDecompress srcCfg env).inputDestroyed = false

/-- `decompress_never_destroys_input_full` holds exactly when `decompress` refuses an output path equal to its input path
before creating it — which the source does (`Gen.Cli.decompressRefusesSamePath = true`), so it holds.  Before the repair
of finding F12 it did not (`ruzstd-cli decompress ARCHIVE` with an
ARCHIVE that has no extension derived the output name `ARCHIVE` and truncated the archive). -/
theorem decompress_keeps_input_iff :
    decompress_never_destroys_input_full ↔ srcCfg.decompressRefusesSamePath = true := by
  have key := fun env => (decompress_of srcCfg (by decide) (by decide) env).2.2
  constructor
  · intro h
    cases hr : srcCfg.decompressRefusesSamePath
    · exact absurd ((key ⟨true, true, true, true⟩).2 ⟨hr, rfl, rfl, rfl⟩) (by rw [h]; decide)
    · rfl
  · intro hr env
    cases hd : (runDecompress srcCfg env).inputDestroyed
    · rfl
    · exact absurd ((key env).1 hd).1 (by rw [hr]; decide)

/-- `decompress`'s default output name undoes `compress`'s default output name (up to the directory:
`file_stem` drops it, the file is recreated in the current directory) -/
theorem default_names_roundtrip (name : List Char) (h : name ≠ []) :
    fileStem (addExtension Gen.Cli.compressSuffix name) = name := by
  have hs : Gen.Cli.compressSuffix.toList = ['.', 'z', 's', 't'] := by decide
  have hne : name.reverse.isEmpty = false := by simpa using h
  -- reversed, the file name is `tsz.` followed by `name.reverse`: `span` stops at that dot
  simp [fileStem, addExtension, hs, List.span, List.span.loop, hne]

end Zstd.Props.C19
