import Zstd.Proofs.MatchValid
/-
C17 — The built-in match finder reports only true, in-window matches that tile the block.

The model is `Zstd/Model/MatchGenerator.lean`; constants and comparison operators come from `Zstd.Gen.*`, i.e.
from the current source text.

Quantification.  Every theorem holds
* for EVERY hash function `key` (the soundness theorems need no assumption on it at all: a hash
  that leaves the slot array makes the code panic = the model return a `Fault`, and the theorems
  speak about calls that return; the no-panic theorems assume `KeyOk key`, which `realKey` — the
  hash of the code — satisfies: `realKey_in_range`);
* for EVERY history: `Reachable key sliceSize maxSlices d` means that `d` is the state of a driver
  created by `MatchGeneratorDriver::new(sliceSize, maxSlices)` after ANY finite sequence of calls of
  `reset / get_next_space / commit_space (any vector) / start_matching / skip_matching` none of which
  panicked.  This covers eviction, skipped blocks, reset and reuse with recycled buffers and stores,
  and also call orders that `FrameCompressor` never uses.

Vocabulary (definitions in the model file): `d.windowBytes` = the bytes the matcher retains, oldest
first (the debug build's `concat_window`); `d.block` = the last committed block (`get_last_space`);
`d.retainedBefore` = number of retained bytes in front of it; `d.windowSize` = the advertised
`max_window_size` (`Matcher::window_size`), not the current `d.mg.windowSize`; `startOf seqs i` = position in the block
where sequence `i` starts; `p0 = d.mg.suffixIdx` = position in the block where reporting starts
(`0` right after `commit_space`: theorem `commit_fresh`).
-/
namespace Zstd.Props.C17
open Zstd Zstd.Model Zstd.Model.MG Zstd.Proofs.MG

variable (key : KeyFn) (sl n : Nat) (d d' : Driver) (seqs : List Seq)

/-- the literal runs and matches account for exactly the bytes of the block -/
theorem tiling_lengths (hr : Reachable key sl n d) (h : d.startMatching key = .ok (d', seqs)) :
    d.mg.suffixIdx + (seqs.map Seq.span).sum = d.block.length := by
  obtain ⟨last, hl, hp⟩ := start_core key d d' seqs (reachable_spec key sl n d hr).1 h
  rw [block_eq d last hl]
  simpa using (parse_index _ _ seqs _ hp).1

/-- every literal run is the run of block bytes at its place, and the sequence stays inside the block -/
theorem tiling_literals (hr : Reachable key sl n d) (h : d.startMatching key = .ok (d', seqs))
    (i : Nat) (sq : Seq) (hi : seqs[i]? = some sq) :
    sq.lits = (d.block.drop (d.mg.suffixIdx + startOf seqs i)).take sq.lits.length ∧
    d.mg.suffixIdx + startOf seqs i + sq.span ≤ d.block.length :=
  startMatching_literals key sl n d d' seqs hr h i sq hi

/-- a `Literals` sequence is the last one reported and is never empty -/
theorem literals_only_last (hr : Reachable key sl n d) (h : d.startMatching key = .ok (d', seqs))
    (i : Nat) (l : List Byte) (hi : seqs[i]? = some (.literals l)) : i + 1 = seqs.length ∧ l ≠ [] := by
  obtain ⟨last, _, hp⟩ := start_core key d d' seqs (reachable_spec key sl n d hr).1 h
  exact ((parse_index _ _ seqs _ hp).2 i _ hi).2.2.2 l rfl

theorem match_facts (hr : Reachable key sl n d) (h : d.startMatching key = .ok (d', seqs))
    (i : Nat) (l : List Byte) (off ml : Nat) (hi : seqs[i]? = some (.triple l off ml)) :
    let p := d.retainedBefore + (d.mg.suffixIdx + startOf seqs i + l.length)
    minMatchLen ≤ ml ∧ ml ≤ off ∧ off ≤ p ∧ p + ml ≤ d.windowBytes.length ∧ off ≤ d.windowSize ∧
    ∀ k, k < ml → d.windowBytes[p + k - off]? = d.windowBytes[p + k]? :=
  startMatching_match_facts key sl n d d' seqs hr h i l off ml hi

/-- the `match_len` bytes at distance `offset` before the match position in the
retained window are the matched bytes (this is the `debug_assert_eq!` of `next_sequence`) -/
theorem true_match (hr : Reachable key sl n d) (h : d.startMatching key = .ok (d', seqs))
    (i : Nat) (l : List Byte) (off ml : Nat) (hi : seqs[i]? = some (.triple l off ml)) :
    let p := d.retainedBefore + (d.mg.suffixIdx + startOf seqs i + l.length)
    d.windowBytes.extract (p - off) (p - off + ml) = d.windowBytes.extract p (p + ml) ∧
    (d.windowBytes.extract p (p + ml)).length = ml :=
  startMatching_true_match key sl n d d' seqs hr h i l off ml hi

/-- the distance never exceeds the window size the matcher advertises
(`Matcher::window_size`) -/
theorem offset_le_window (hr : Reachable key sl n d) (h : d.startMatching key = .ok (d', seqs))
    (i : Nat) (l : List Byte) (off ml : Nat) (hi : seqs[i]? = some (.triple l off ml)) :
    off ≤ d.windowSize :=
  (match_facts key sl n d d' seqs hr h i l off ml hi).2.2.2.2.1

/-- the distance never exceeds the number of bytes still retained in front
of the match position -/
theorem offset_le_retained (hr : Reachable key sl n d) (h : d.startMatching key = .ok (d', seqs))
    (i : Nat) (l : List Byte) (off ml : Nat) (hi : seqs[i]? = some (.triple l off ml)) :
    off ≤ d.retainedBefore + (d.mg.suffixIdx + startOf seqs i + l.length) :=
  (match_facts key sl n d d' seqs hr h i l off ml hi).2.2.1

/-- `match_len ≥ MIN_MATCH_LEN` (= 5 in the current source: the second conjunct states the extracted constant
as a literal and stops holding when the source changes it) -/
theorem match_len_ge_min (hr : Reachable key sl n d) (h : d.startMatching key = .ok (d', seqs))
    (i : Nat) (l : List Byte) (off ml : Nat) (hi : seqs[i]? = some (.triple l off ml)) :
    Zstd.Gen.minMatchLen ≤ ml ∧ 5 ≤ ml := by
  have := (match_facts key sl n d d' seqs hr h i l off ml hi).1
  exact ⟨this, this⟩

/-- the source of a match never overlaps the match itself -/
theorem match_len_le_offset (hr : Reachable key sl n d) (h : d.startMatching key = .ok (d', seqs))
    (i : Nat) (l : List Byte) (off ml : Nat) (hi : seqs[i]? = some (.triple l off ml)) : ml ≤ off :=
  (match_facts key sl n d d' seqs hr h i l off ml hi).2.1

/-- the distance is at least 1 (in fact at least `MIN_MATCH_LEN`) -/
theorem offset_pos (hr : Reachable key sl n d) (h : d.startMatching key = .ok (d', seqs))
    (i : Nat) (l : List Byte) (off ml : Nat) (hi : seqs[i]? = some (.triple l off ml)) : 1 ≤ off ∧ 5 ≤ off := by
  have h1 := (match_len_ge_min key sl n d d' seqs hr h i l off ml hi).2
  have h2 := match_len_le_offset key sl n d d' seqs hr h i l off ml hi
  omega

/-- The decoder's view, all of the above in one statement: executing the reported sequences the way
a decoder does (`execSeqs`: append literals, copy `match_len` bytes from `offset` back) on top of the
retained bytes and the part of the block that precedes the reporting position yields exactly the
retained bytes followed by the block. -/
theorem replay_reconstructs_block (hr : Reachable key sl n d) (h : d.startMatching key = .ok (d', seqs)) :
    execSeqs (d.windowBytes.take (d.retainedBefore + d.mg.suffixIdx)) seqs = some d.windowBytes ∧
    d.windowBytes = d.windowBytes.take d.retainedBefore ++ d.block := by
  obtain ⟨hinv, _⟩ := reachable_spec key sl n d hr
  have hwf := hinv.wf
  obtain ⟨last, hl, hp⟩ := start_core key d d' seqs hinv h
  refine ⟨?_, (windowBytes_split d last hl).1⟩
  rw [windowBytes_eq, retainedBefore_eq]
  exact parse_exec [] _ last.data last.baseOffset hwf.base (shape_getLast? _ _ hl) seqs _ hp

/-- matching changes neither the retained bytes nor the block; afterwards the block counts as processed -/
theorem matching_keeps_window (hr : Reachable key sl n d) (h : d.startMatching key = .ok (d', seqs)) :
    d'.windowBytes = d.windowBytes ∧ d'.block = d.block ∧ d'.mg.processed = true :=
  matching_keeps_window_core key d d' seqs (reachable_spec key sl n d hr).1 h

/-- `commit_space` drops whole blocks from the front of the window (eviction), appends the new block,
keeps at most the advertised window size, and reporting for the new block starts at position 0 -/
theorem commit_fresh (hr : Reachable key sl n d) (space : Array Byte) (cap : Nat)
    (h : d.commitSpace space cap = .ok d') :
    d'.mg.suffixIdx = 0 ∧ d'.block = space.toList ∧
    (∃ k, d'.windowBytes = d.windowBytes.drop k ++ space.toList) ∧
    d'.windowBytes.length ≤ d'.windowSize ∧ d'.windowSize = d.windowSize :=
  commit_fresh_core d d' (reachable_spec key sl n d hr).1 space cap h

/-- a skipped block stays in the window (later blocks may match into it) and counts as processed -/
theorem skip_keeps_window (hr : Reachable key sl n d) (h : d.skipMatching key = .ok d') :
    d'.windowBytes = d.windowBytes ∧ d'.mg.processed = true :=
  skip_keeps_window_core key d d' h

/-- after `reset` nothing is retained -/
theorem reset_empties_window : d.reset.windowBytes = [] ∧ d.reset.mg.processed = true :=
  reset_empties_window_core d

/-- base offsets, window-size accounting and indices, in every reachable state, for every hash:
`base_offset` of an entry = number of bytes from its start to the start of the last entry;
`window_size = Σ|entry| ≤ max_window_size = maxSlices * sliceSize`;
`last_idx_in_sequence = suffix_idx ≤ |last entry|` between calls -/
theorem invariant_wf (hr : Reachable key sl n d) :
    BaseOk (shape d.mg.window) ∧ d.mg.windowSize = d.windowBytes.length ∧ d.mg.windowSize ≤ d.windowSize ∧
    d.windowSize = n * sl ∧ d.mg.lastIdxInSequence = d.mg.suffixIdx ∧
    (d.mg.window ≠ [] → d.mg.suffixIdx ≤ d.block.length) := by
  obtain ⟨⟨hwf, _, _⟩, hm, _⟩ := reachable_spec key sl n d hr
  refine ⟨hwf.base, by rw [windowBytes_eq, flat_length]; exact hwf.size, hwf.le_max, hm, hwf.idx_eq, ?_⟩
  intro hne
  obtain ⟨last, hl⟩ := Option.isSome_iff_exists.mp (List.getLast?_isSome.mpr hne)
  rw [block_eq d last hl]
  simpa using hwf.idx_le last hl

/-- the content of the suffix stores, in every reachable state, for every hash that stays inside the
slot array: every stored index `idx` of an entry satisfies `idx + MIN_MATCH_LEN ≤ |entry.data|`
(and `idx < |entry.data|`), in the entry being matched additionally `idx < suffix_idx`; every store
has `len_log > 0` and at least one slot; older entries have `base_offset ≥ |data|`; every pooled
(recycled) store is empty.  (`hk` is not used: `Proofs.MG.reachable_spec` holds for every hash.) -/
theorem invariant_stores (hk : KeyOk key) (hr : Reachable key sl n d) :
    (∀ e ∈ d.mg.window.dropLast, StoreOk e.suffixes ∧ IdxOk e.suffixes e.data.size e.data.size ∧
      e.data.size ≤ e.baseOffset) ∧
    (∀ last, d.mg.window.getLast? = some last →
      StoreOk last.suffixes ∧ IdxOk last.suffixes d.mg.suffixIdx last.data.size) ∧
    (∀ st ∈ d.suffixPool, StoreOk st ∧ StoreEmpty st) := by
  have := reachable_inv key hk sl n d hr
  exact ⟨this.sok.older, this.sok.last, this.pool⟩

/-- the hash of the code stays inside the slot array (so every `KeyOk` theorem applies to it) -/
theorem realKey_in_range : KeyOk realKey := realKey_ok

/-- `start_matching` on a non-empty window never panics and terminates (the fuel of the model never
runs out), whatever happened before -/
theorem start_matching_no_fault (hk : KeyOk key) (hr : Reachable key sl n d) (hne : d.mg.window ≠ []) :
    ∃ d' seqs, d.startMatching key = .ok (d', seqs) := by
  have hinv := reachable_inv key hk sl n d hr
  obtain ⟨⟨g', seqs⟩, e, _⟩ := (startMatching_sat key d.mg hinv.wf hinv.sok).returns ⟨hk, hne⟩
  exact ⟨{ d with mg := g' }, seqs, by simp [Driver.startMatching, e]⟩

/-- `skip_matching` on a non-empty window never panics -/
theorem skip_matching_no_fault (hk : KeyOk key) (hr : Reachable key sl n d) (hne : d.mg.window ≠ []) :
    ∃ d', d.skipMatching key = .ok d' := by
  have hinv := reachable_inv key hk sl n d hr
  obtain ⟨g', e, _⟩ := (skipMatching_sat key d.mg hinv.wf hinv.sok).returns ⟨hk, hne⟩
  exact ⟨{ d with mg := g' }, by simp [Driver.skipMatching, e]⟩

/-- `commit_space` never panics (neither the `assert!` of `add_data`, nor the
one of `reserve`, nor `window.remove(0)` on an empty window, nor the `window_size` subtraction) when
the previous block was matched or skipped (or there is none) and the space is not larger than the
advertised window.  By `matching_keeps_window`, `skip_keeps_window`, `reset_empties_window` the first
condition holds under the call order of `FrameCompressor::compress`. -/
theorem add_data_assert_holds (hk : KeyOk key) (hr : Reachable key sl n d) (space : Array Byte) (cap : Nat)
    (hp : d.mg.processed = true) (hsz : space.size ≤ d.windowSize) :
    ∃ d', d.commitSpace space cap = .ok d' := by
  obtain ⟨d', e, _⟩ := (commitSpace_sat d space cap (reachable_inv key hk sl n d hr)).returns ⟨hp, hsz⟩
  exact ⟨d', e⟩

/-- conversely, a `commit_space` that does not panic was called in a processed state with a space
that fits the window: the two assertions are exactly the documented protocol -/
theorem commit_requires_protocol (space : Array Byte) (cap : Nat) (h : d.commitSpace space cap = .ok d') :
    d.mg.processed = true ∧ space.size ≤ d.windowSize :=
  by
  obtain ⟨g, ev, hadd, _⟩ := Driver.commitSpace_eq_ok.mp h
  obtain ⟨hp, hd, _⟩ := addData_eq_ok.mp hadd
  exact ⟨hp, hd⟩

/-! ### the documented call order (`FrameCompressor::compress`): spaces come from `get_next_space` -/

theorem slice_size_const (hr : Reachable key sl n d) : d.sliceSize = sl :=
  (reachable_spec key sl n d hr).2.2

/-- As long as every committed vector has capacity `slice_size` (true when only spaces obtained from
`get_next_space` are committed, truncated but never reallocated), every vector the driver owns has
that capacity (`CapsOk`), through eviction, reset and recycling. -/
theorem protocol_caps_preserved (hc : CapsOk d) (op : Op) (h : d.step key op = .ok d')
    (hop : ∀ space cap, op = .commitSpace space cap → space.size ≤ cap ∧ cap = d.sliceSize) :
    CapsOk d' ∧ d'.sliceSize = d.sliceSize :=
  protocol_caps_preserved_core key d d' hc op h hop

theorem protocol_next_space (hc : CapsOk d) : d.getNextSpace.2.size = d.sliceSize :=
  protocol_next_space_core d hc

/-- `add_data_assert_holds` under the driver protocol: with at least one slice, after `new`, `reset`,
`start_matching` or `skip_matching` (`processed`), committing any data that fits the space handed out
by `get_next_space` never panics -/
theorem protocol_commit_no_fault (hk : KeyOk key) (hr : Reachable key sl n d) (hn : 1 ≤ n) (hc : CapsOk d)
    (hp : d.mg.processed = true) (data : Array Byte) (hfit : data.size ≤ d.getNextSpace.2.size) :
    ∃ d', d.getNextSpace.1.commitSpace data d.sliceSize = .ok d' := by
  have hr1 : Reachable key sl n d.getNextSpace.1 := .step .getNextSpace hr rfl
  have hsz := protocol_next_space d hc
  have hsl := slice_size_const key sl n d hr
  have hws := (invariant_wf key sl n _ hr1).2.2.2.1
  apply add_data_assert_holds key sl n _ hk hr1 data d.sliceSize (by rw [getNextSpace_mg]; exact hp)
  rw [hws]
  have : sl ≤ n * sl := Nat.le_mul_of_pos_left sl hn
  omega

example : CapsOk (Driver.new 1000 1) := ⟨by simp [Driver.new], by simp [Driver.new, MatchGenerator.new, caps]⟩

/-! ### production constants (`MatchGeneratorDriver::new(128 KiB, 1)` in `FrameCompressor::new`) -/

/-- with the production constants every reported offset is at most 131072 (so `of = offset + 3`
fits the window descriptor the frame header announces) -/
theorem prod_offset_le (hr : Reachable key Zstd.Gen.prodSliceSize Zstd.Gen.prodMaxSlices d)
    (h : d.startMatching key = .ok (d', seqs))
    (i : Nat) (l : List Byte) (off ml : Nat) (hi : seqs[i]? = some (.triple l off ml)) : off ≤ 131072 := by
  have h1 := offset_le_window key _ _ d d' seqs hr h i l off ml hi
  have h2 := (invariant_wf key _ _ d hr).2.2.2.1
  have : Zstd.Gen.prodMaxSlices * Zstd.Gen.prodSliceSize = 131072 := by decide
  omega

/-- If nothing is retained in front of the block (always the case at production size under the call
order of `FrameCompressor::compress`: `prod_window_is_current_block`), no match reaches into a
previous block: its source lies inside the current block, and the first sequence of the block
carries at least 5 literals. -/
theorem single_entry_matches_in_block (hr : Reachable key sl n d) (h : d.startMatching key = .ok (d', seqs))
    (hsingle : d.retainedBefore = 0)
    (i : Nat) (l : List Byte) (off ml : Nat) (hi : seqs[i]? = some (.triple l off ml)) :
    off ≤ d.mg.suffixIdx + startOf seqs i + l.length ∧ (d.mg.suffixIdx = 0 → i = 0 → 5 ≤ l.length) := by
  have h1 := offset_le_retained key sl n d d' seqs hr h i l off ml hi
  have h2 := (offset_pos key sl n d d' seqs hr h i l off ml hi).2
  rw [hsingle] at h1
  refine ⟨by omega, ?_⟩
  intro h0 hi0
  subst hi0
  rw [h0, startOf_zero] at h1
  omega

/-- At production size (one slice) a non-empty block committed after a FULL block (or into an empty
window) evicts everything: the window is the current block only.  `FrameCompressor::compress` fills
every block but the last of a frame completely and resets the matcher between frames, so there the
hypothesis always holds. -/
theorem prod_window_is_current_block (hr : Reachable key sl 1 d) (space : Array Byte) (cap : Nat)
    (h : d.commitSpace space cap = .ok d') (hne : 0 < space.size)
    (hfull : d.mg.window = [] ∨ d.block.length = sl) :
    d'.retainedBefore = 0 ∧ d'.windowBytes = space.toList :=
  commitSpace_one_slice key sl d d' hr space cap h hne hfull

/-- `common_prefix_len(xs, ys) = mismatch_chunks::<8>(xs, ys)` with `xs = a[i..ihi]`, `ys = b[j..jhi]`
(8-byte chunks first, then single bytes from where the chunk phase stopped) is exactly the length
of the MAXIMAL common prefix: all bytes before it agree, and it stops only at the end of one of the
slices or at a differing byte; it equals the plain byte-by-byte count.  Holds for every chunk size. -/
theorem common_prefix_len_maximal (a : Array Byte) (i ihi : Nat) (b : Array Byte) (j jhi : Nat)
    (ha : ihi ≤ a.size) (hb : jhi ≤ b.size) (hi : i ≤ ihi) (hj : j ≤ jhi) :
    IsMaxCommonPrefix a i ihi b j jhi (mismatchChunks 8 a i ihi b j jhi) ∧
    mismatchChunks 8 a i ihi b j jhi = commonPrefixLen a i ihi b j jhi :=
  ⟨mismatchChunks_isMax 8 a i ihi b j jhi ha hb hi hj, mismatchChunks_eq_commonPrefixLen 8 a i ihi b j jhi ha hb hi hj⟩

example : mismatchChunks 8 #[1,2,3,4,5,6,7,8,9,10,11,0] 0 12 #[1,2,3,4,5,6,7,8,9,10,12] 0 11 = 10 := by decide

/-! ### the compressor's call protocol (`FrameCompressor::compress` / `compress_fastest`):
the built-in matcher is a VALID MATCHER in the sense of the encoder model (C16 / C02) and never panics

`Enc.builtinFrame lvl d data` (Model/EncCoders.lean) drives this model the way `compress` does:
`reset`, then per block `get_next_space`, `commit_space` of the block read into that space,
`skip_matching` when the block is constant (RLE) and `start_matching` otherwise, stopping after the
first block that is not full (or the extra empty block).  `BuiltinState sl n d` = `d` is reachable from
`MatchGeneratorDriver::new(sl, n)` with the code's hash and every vector it owns has capacity `sl`
(only spaces from `get_next_space` were committed).  It holds for a new compressor
(`builtin_state_fresh`), is re-established by every frame at every level (`builtin_no_fault`), hence
holds after ANY history of frames (`builtin_state_history`), including frames that panicked outside the
matcher (the matcher is then simply in a reachable state, and the next frame starts with `reset`).
Read fragmentation does not reach the matcher: `compress` fills every space completely before it
commits it.

`Enc.ValidMatcher W script data`: every space has 1..=128 KiB, `W ≤ 2^41`, and for every block that
is not constant the reported sequences, executed on top of the WHOLE frame before the block
(`3 ≤ match_len`, `1 ≤ offset ≤ min W (bytes before the match position in the frame)`), regenerate
exactly the block.  What the matcher retains is a suffix of the frame so far whatever was evicted
(`commit_fresh`), so a true match at distance `offset` in the retained window (`true_match`,
`offset_le_retained`, `offset_le_window`) is one in the frame.  With the production constants
(one slice of 128 KiB) that suffix is the current block (`prod_window_is_current_block`). -/

theorem builtin_state_fresh : BuiltinState sl n (Driver.new sl n) := builtinState_new sl n

/-- for every level, input and state the protocol can produce, no call the
compressor makes on the built-in matcher panics (asserts of `add_data`/`reserve`, slices, `unwrap`s,
slot indexing with the code's hash; the model's fuel does not run out), and the state stays in the
protocol -/
theorem builtin_no_fault (hsl : 0 < sl) (hn : 1 ≤ n) (lvl : Enc.Level) (hbs : BuiltinState sl n d) (data : List Byte) :
    ∃ d' arr, Enc.builtinFrame lvl d data = .ok (d', arr) ∧ BuiltinState sl n d' :=
  builtinFrame_no_fault sl n hsl hn lvl d hbs data

theorem builtin_state_history (hsl : 0 < sl) (hn : 1 ≤ n) (jobs : List (Enc.Level × List Byte)) :
    BuiltinState sl n (builtinHistory jobs (Driver.new sl n)) :=
  builtinHistory_state sl n hsl hn jobs _ (builtinState_new sl n)

/-- `builtin_valid_matcher`, any slice size / slice count: the script of a Fastest frame is a
`ValidMatcher` for the advertised window `n * sl` -/
theorem builtin_valid_matcher_general (hsl : 0 < sl) (hn : 1 ≤ n) (hmax : sl ≤ Zstd.Gen.maxBlockSize)
    (hw : n * sl ≤ 2 ^ 41) (hbs : BuiltinState sl n d) (data : List Byte) :
    ∃ d' arr, Enc.builtinFrame .fastest d data = .ok (d', arr) ∧ BuiltinState sl n d' ∧
      Enc.ValidMatcher (n * sl) (Enc.scriptOfArray arr sl) data :=
  builtinFrame_fastest_valid sl n hsl hn hmax hw d hbs data

/-- **`builtin_valid_matcher`** with the production constants (`FrameCompressor::new`:
`MatchGeneratorDriver::new(128 KiB, 1)`), in the form C02 needs it: for every input and every state
of the matcher the compressor's protocol can produce -/
theorem builtin_valid_matcher (hbs : BuiltinState Zstd.Gen.prodSliceSize Zstd.Gen.prodMaxSlices d) (data : List Byte) :
    ∃ d' arr, Enc.builtinFrame .fastest d data = .ok (d', arr) ∧
      BuiltinState Zstd.Gen.prodSliceSize Zstd.Gen.prodMaxSlices d' ∧
      Enc.ValidMatcher Enc.builtinWindow (Enc.scriptOfArray arr Zstd.Gen.prodSliceSize) data :=
  builtinFrame_fastest_valid Zstd.Gen.prodSliceSize Zstd.Gen.prodMaxSlices (by decide) (by decide) (by decide)
    (by decide) d hbs data

/-- `builtin_valid_matcher` for every input, after every history of frames through the same compressor -/
theorem builtin_valid_matcher_history (jobs : List (Enc.Level × List Byte)) (data : List Byte) :
    ∃ d' arr, Enc.builtinFrame .fastest
        (builtinHistory jobs (Driver.new Zstd.Gen.prodSliceSize Zstd.Gen.prodMaxSlices)) data = .ok (d', arr) ∧
      Enc.ValidMatcher Enc.builtinWindow (Enc.scriptOfArray arr Zstd.Gen.prodSliceSize) data := by
  obtain ⟨d', arr, h1, _, h3⟩ := builtin_valid_matcher _
    (builtin_state_history Zstd.Gen.prodSliceSize Zstd.Gen.prodMaxSlices (by decide) (by decide) jobs) data
  exact ⟨d', arr, h1, h3⟩

/-- one block, the statement the loop is built from: what `start_matching` reports right after
`commit_space` is a valid parse of the block on top of ANYTHING that ends with the retained bytes -/
theorem start_matching_valid_parse (hr : Reachable key sl n d) (h : d.startMatching key = .ok (d', seqs))
    (h0 : d.mg.suffixIdx = 0) (X : List Byte) :
    Enc.validParse d.windowSize (X ++ d.windowBytes.take d.retainedBefore) d.block (Enc.parseOfSeqs seqs [] []) = true :=
  start_validParse key d d' seqs (reachable_spec key sl n d hr).1 h h0 X

/-- the trace of the crate's unit test, first block: `[0; 10]` yields literals `[0; 5]` and the
match (offset 5, length 5) -/
example : (do
    let d ← (Driver.new 1000 1).commitSpace (Array.replicate 10 0) 1000
    let (_, s) ← d.startMatching realKey
    pure s) = Except.ok [.triple [0, 0, 0, 0, 0] 5 5] := by decide +kernel

/-- a match into an older window entry (second block repeats the first; window of two slices) -/
example : (do
    let d ← (Driver.new 8 2).commitSpace #[1, 2, 3, 4, 5, 6, 7, 8] 8
    let (d, _) ← d.startMatching realKey
    let d ← d.commitSpace #[1, 2, 3, 4, 5, 6, 7, 9] 8
    let (_, s) ← d.startMatching realKey
    pure s) = Except.ok [.triple [] 8 7, .literals [9]] := by decide +kernel

/-- input of the example below: 16 distinct bytes, 16 equal bytes, a block repeating parts of both, a short constant block -/
def exampleFrameData : List Byte :=
  [1,2,3,4,5,6,7,8,9,10,11,12,13,14,15,16, 7,7,7,7,7,7,7,7,7,7,7,7,7,7,7,7] ++
  [30,31,5,6,7,8,9,10,11,40,7,7,7,7,7,7, 9,9]

theorem map_ok_of_map_ok {ε α β γ : Type} {x : Except ε α} {f : α → β} {v : β} (h : x.map f = .ok v)
    (g : β → γ) : x.map (fun a => g (f a)) = .ok (g v) := by
  cases x with
  | error e => cases h
  | ok a => cases h; rfl

/-- the script of the built-in matcher for `exampleFrameData`, evaluated once for the two examples below
(`MBlock` has no `DecidableEq`: as pairs) -/
theorem exampleFrame_script :
    (Enc.builtinFrame .fastest (Driver.new 16 3) exampleFrameData).map
        (fun r => r.2.toList.map fun b => (b.space, b.parse)) =
      .ok [(16, { tail := [1, 2, 3, 4, 5, 6, 7, 8, 9, 10, 11, 12, 13, 14, 15, 16] }), (16, {}),
        (16, { seqs := [⟨[30, 31], 30, 7⟩, ⟨[40], 26, 6⟩] }), (16, {})] := by
  decide +kernel

theorem scriptOfArray_eq (arr : Array Enc.MBlock) (dflt : Nat) :
    Enc.scriptOfArray arr dflt = fun i =>
      match (arr.toList.map fun b => (b.space, b.parse))[i]? with
      | some p => ⟨p.1, p.2⟩
      | none => ⟨dflt, {}⟩ := by
  funext i
  simp only [Enc.scriptOfArray, List.getElem?_map, Array.getElem?_toList]
  cases arr[i]? <;> rfl

/-- non-vacuity of `builtin_valid_matcher_general`: a four-block frame through a fresh 16 × 3 driver;
the third block is reported as a match into the first block (offset 30, length 7) and one into the
SKIPPED constant second block (offset 26, length 6); the encoder model's executable `ValidMatcher`
check accepts the script -/
example :
    (Enc.builtinFrame .fastest (Driver.new 16 3) exampleFrameData).map (fun r =>
      Enc.validMatcherB 48 (Enc.scriptOfArray r.2 16) exampleFrameData 10 0) = .ok true := by
  simp only [scriptOfArray_eq]
  refine (map_ok_of_map_ok exampleFrame_script fun l => Enc.validMatcherB 48
    (fun i => match l[i]? with | some p => ⟨p.1, p.2⟩ | none => ⟨16, {}⟩) exampleFrameData 10 0).trans (congrArg _ ?_)
  decide +kernel

/-- the (literal count, offset, match length) triples per block of the script for `exampleFrameData` -/
example :
    (Enc.builtinFrame .fastest (Driver.new 16 3) exampleFrameData).map (fun r =>
      r.2.toList.map (fun b => b.parse.seqs.map (fun s => [s.lits.length, s.offset, s.matchLen])))
    = .ok [[], [], [[2, 30, 7], [1, 26, 6]], []] := by
  have := map_ok_of_map_ok exampleFrame_script fun l =>
    l.map fun p => p.2.seqs.map (fun s => [s.lits.length, s.offset, s.matchLen])
  simp only [List.map_map, Function.comp_def] at this
  exact this

example : BuiltinState Zstd.Gen.prodSliceSize Zstd.Gen.prodMaxSlices
    (builtinHistory [(.fastest, [1, 2, 3]), (.uncompressed, [4]), (.best, [5])]
      (Driver.new Zstd.Gen.prodSliceSize Zstd.Gen.prodMaxSlices)) :=
  builtin_state_history _ _ (by decide) (by decide) _

example : Reachable realKey 1000 1 (Driver.new 1000 1) := .init

end Zstd.Props.C17
