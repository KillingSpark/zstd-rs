import Zstd.Proofs.Io
/-
C18 — Behaviour is the same with and without the std I/O layer and the hash feature.

What a theorem can say here: (1) the hand-written `no_std` helpers (`io_nostd.rs`) meet the
`std::io` contract for EVERY reader/writer script, so code written against `crate::io` sees the
same results in both builds; (2) the `hash` feature's footprint is exactly: one descriptor bit,
four trailer bytes, one hasher field.  That the four real builds behave alike is observed by the
`io` engine (harness built four times), not proved.

`srcCfg`/`srcHashCfg` are read off the source text on every run (`Zstd.Gen.Io`).
-/
namespace Zstd.Props.C18
open Zstd Zstd.Model.Io

/-- every arm of `read_exact`, `Take::read`, `write_all`, and the slice/vec impls in `io_nostd.rs`
is, today, the arm the std contract needs, and `read_to_end` is as `Cfg.std` lists it: it returns `Interrupted`
where std retries (a changed arm makes this — and everything below — fail) -/
theorem src_arms_are_std : srcCfg = Cfg.std := by decide

/-- `read_exact` of the no_std layer = the std contract, for every script, stream and buffer size -/
theorem nostd_read_exact (script : List Resp) (src : List Byte) (need : Nat) :
    readExact srcCfg script src need = Spec.Io.readExact script src need := by
  rw [src_arms_are_std]; exact Proofs.Io.readExact_std script src need

/-- … in words: success ⇒ the buffer holds exactly the next `need` bytes and the reader advanced by
exactly `need`; it never hangs and never reports `Interrupted` -/
theorem nostd_read_exact_fills (script : List Resp) (src : List Byte) (need : Nat) :
    (∀ bs r, readExact srcCfg script src need = (.ok bs, r) →
        bs = src.take need ∧ bs.length = need ∧ r.src = src.drop need) ∧
    (Resp.error .interrupted ∉ script →
        (readExact srcCfg script src need).1 ≠ .hang ∧ (readExact srcCfg script src need).1 ≠ .err .interrupted) := by
  rw [nostd_read_exact]
  exact ⟨Proofs.Io.spec_readExact_ok script src need, Proofs.Io.spec_readExact_no_hang script src need⟩

example : readExact srcCfg [.interrupted, .data 2, .eof] [1, 2, 3] 3 = (.err .unexpectedEof, ⟨[3], []⟩) := by decide
example : readExact srcCfg [.data 2, .interrupted, .data 5] [1, 2, 3, 4] 3 = (.ok [1, 2, 3], ⟨[4], []⟩) := by decide

/-- `read_to_end` of the no_std layer = the std contract on every script WITHOUT `Interrupted` -/
theorem nostd_read_to_end_partial (script : List Resp) (src : List Byte) (h : Resp.interrupted ∉ script) :
    readToEnd srcCfg script src = Spec.Io.readToEnd 16384 script src := by
  rw [src_arms_are_std]; exact Proofs.Io.readToEnd_std script src h

/-- full strength would be: for every script.  It is FALSE: std retries `Interrupted`, the no_std
helper returns it (`let bytes = self.read(&mut buf)?`).  No codec path calls `read_to_end` on a
user-supplied reader in a no_std build (`grep`: only `dictionary/`, which needs `std`), and
`StreamingDecoder::read` never returns `Interrupted`, so no frame or decoded byte depends on it. -/
def nostd_read_to_end_full : Prop :=
  ∀ script src, readToEnd srcCfg script src = Spec.Io.readToEnd 16384 script src

theorem nostd_read_to_end_interrupted_differs : ¬ nostd_read_to_end_full :=
  fun h => absurd (h [.interrupted, .data 3] [7, 8, 9]) (by decide)

/-- `Take::read` on a 64-bit target = the std contract (inner results passed through, request
clamped to the limit, inner reader untouched once the limit is 0), and no arithmetic fault -/
theorem nostd_take (t : Take) (req : Nat) (hl : t.limit < 2 ^ 64) :
    Take.read srcCfg 64 t req = .ok (Spec.Io.takeRead t req) := by
  rw [src_arms_are_std]; exact Proofs.Io.take_std 64 t req hl

/-- `Take` never yields more than the limit -/
theorem nostd_take_le_limit (t : Take) (req : Nat) (hl : t.limit < 2 ^ 64) (bs : List Byte) (t' : Take)
    (h : Take.read srcCfg 64 t req = .ok (.ok bs, t')) :
    bs.length ≤ t.limit ∧ bs.length ≤ req ∧ t'.limit = t.limit - bs.length := by
  rw [nostd_take t req hl] at h
  exact Proofs.Io.spec_take_le t req bs t' (by injection h)

example : Take.read srcCfg 64 ⟨⟨[1, 2, 3, 4], [.data 9]⟩, 3⟩ 10 = .ok (.ok [1, 2, 3], ⟨⟨[4], []⟩, 0⟩) := by decide

/-- on a 32-bit target `(self.limit as usize)` truncates: with `limit = 2^32` the request is
clamped to 0 bytes and the caller sees `Ok(0)` = end of input although data is there (std computes
the minimum in `u64`).  Outside the trusted base's "usize = u64"; recorded, not a C18 violation. -/
theorem nostd_take_32bit_differs :
    ∃ t req, t.limit < 2 ^ 64 ∧ Take.read srcCfg 32 t req ≠ .ok (Spec.Io.takeRead t req) :=
  ⟨⟨⟨[1, 2, 3], [.data 3]⟩, 2 ^ 32⟩, 3, by decide, by decide⟩

/-- `write_all` of the no_std layer = the std contract, for every script -/
theorem nostd_write_all (script : List Resp) (sink buf : List Byte) :
    writeAll srcCfg script sink buf = Spec.Io.writeAll script sink buf := by
  rw [src_arms_are_std]; exact Proofs.Io.writeAll_std script sink buf

/-- … in words: the sink has received a prefix of the buffer, all of it on success; it never hangs -/
theorem nostd_write_all_prefix (script : List Resp) (sink buf : List Byte) :
    (∃ n, (writeAll srcCfg script sink buf).2.sink = sink ++ buf.take n) ∧
    ((writeAll srcCfg script sink buf).1 = .ok () → (writeAll srcCfg script sink buf).2.sink = sink ++ buf) ∧
    (writeAll srcCfg script sink buf).1 ≠ .hang := by
  rw [nostd_write_all]; exact Proofs.Io.spec_writeAll_prefix script sink buf

example : writeAll srcCfg [.data 1, .interrupted, .eof] [] [5, 6] = (.err .writeZero, ⟨[5], []⟩) := by decide

theorem slice_read (slice : List Byte) (req : Nat) : sliceRead srcCfg slice req = Spec.Io.sliceRead slice req := by
  rw [src_arms_are_std]; simp [sliceRead, Spec.Io.sliceRead, Nat.min_comm]

theorem slice_write (room : Nat) (data : List Byte) : sliceWrite srcCfg room data = Spec.Io.sliceWrite room data := by
  rw [src_arms_are_std]; simp [sliceWrite, Spec.Io.sliceWrite, Nat.min_comm]

theorem vec_write (v data : List Byte) : vecWrite srcCfg v data = Spec.Io.vecWrite v data := by
  rw [src_arms_are_std]; simp [vecWrite, Spec.Io.vecWrite]

/-- the feature's footprint in the source is the expected one (flag from `cfg!`, trailer last,
encoder and decoder agree on the bit, decoder items only concern the hasher) -/
theorem src_hash_footprint : srcHashCfg = HashCfg.good := by decide

/-- frame without the feature = frame with the feature, minus the descriptor bit, minus the last
four bytes — for every input and every (feature-independent) block encoder -/
theorem hash_off_frame (magic : List Byte) (desc0 : Nat) (wd : List Byte) (enc : List Byte → List Byte)
    (digest : List Byte → Nat) (d : List Byte) (hm : magic.length = 4) (hd : desc0 / 4 % 2 = 0) :
    frame srcHashCfg false magic desc0 wd enc digest d =
      clearBitAt 4 2 (dropLast 4 (frame srcHashCfg true magic desc0 wd enc digest d)) := by
  rw [src_hash_footprint, Proofs.Io.frame_good, Proofs.Io.frame_good, if_pos rfl, if_pos rfl,
    Proofs.Io.dropLast_append _ _ _ (leBytes_length _ _)]
  simp only [List.append_assoc, List.cons_append]
  rw [Proofs.Io.clearBitAt_append_cons _ _ _ _ _ hm, if_pos (show (desc0 + 4) / 2 ^ 2 % 2 = 1 by omega)]
  simp

/-- the decoded bytes, the stored checksum and the consumed input do not depend on the feature —
for every frame (valid or not) and every block decoder -/
theorem hash_off_decode (hdrLen : Nat) (dec : List Byte → Option (List Byte × List Byte))
    (digest : List Byte → Nat) (fr : List Byte) :
    (decodeFrame srcHashCfg true hdrLen dec digest fr).map (fun o => (o.out, o.checksumFromData, o.rest)) =
    (decodeFrame srcHashCfg false hdrLen dec digest fr).map (fun o => (o.out, o.checksumFromData, o.rest)) := by
  rw [src_hash_footprint]
  unfold decodeFrame
  rcases fr.drop 4 with _ | ⟨desc, _⟩
  · rfl
  · rcases dec (fr.drop hdrLen) with _ | ⟨out, rest⟩
    · rfl
    · -- with `HashCfg.good` the output is kept and the trailer is read iff the flag is set, in both builds
      simp only [HashCfg.good, Bool.true_or, Bool.and_true, if_true]
      split
      · split <;> rfl
      · rfl

/-- all four (compressor build × decoder build) combinations round-trip and consume the whole frame:
what a hash build writes, a no-hash build decodes to the same bytes, and vice versa -/
theorem hash_roundtrip (hashEnc hashDec : Bool) (magic : List Byte) (desc0 : Nat) (wd : List Byte)
    (enc : List Byte → List Byte) (dec : List Byte → Option (List Byte × List Byte))
    (digest : List Byte → Nat) (d : List Byte)
    (hm : magic.length = 4) (hd : desc0 / 4 % 2 = 0)
    (hinv : ∀ rest, dec (enc d ++ rest) = some (d, rest)) :
    decodeFrame srcHashCfg hashDec (5 + wd.length) dec digest (frame srcHashCfg hashEnc magic desc0 wd enc digest d) =
      some { out := d,
             checksumFromData := if hashEnc then some (digest d % 2 ^ 32) else none,
             calculated := if hashDec then some (digest d % 2 ^ 32) else none,
             rest := [] } := by
  rw [src_hash_footprint, Proofs.Io.frame_good, Proofs.Io.decodeFrame_good hashDec magic wd (enc d) _ _ dec digest d hm hinv]
  cases hashEnc
  · simp [hd]
  · have hle : leNat (leBytes 4 (digest d % 2 ^ 32)) = digest d % 2 ^ 32 := by
      rw [leNat_leBytes]; omega
    rw [if_pos rfl, if_pos rfl, if_pos (by omega), if_neg (by simp), List.take_of_length_le (by simp),
      List.drop_of_length_le (by simp), hle]
    rfl

end Zstd.Props.C18
