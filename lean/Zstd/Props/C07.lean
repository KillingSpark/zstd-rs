import Zstd.Gen.Reset
import Zstd.Model.FrameDecoder
import Zstd.Proofs.FrameDecoderStandIn
import Zstd.Proofs.FrameFaithful
/-
C07 — a reused decoder behaves exactly like a fresh one.

Two layers:
* `reset_covers_*`: the field lists of every struct that carries decoder state and the set of
  fields each `reset` touches are EXTRACTED from the source text (`Zstd.Gen.Reset`); the theorems
  say no field is left out (the only exemptions are construction-time constants, named below).
  Dropping `self.fse.ll_rle = None` from `DecoderScratch::reset`, or adding a field nobody resets,
  changes `Gen` and breaks these theorems.
* model level: `Decoder.reset` leaves a state that does not depend on the previous state, and every
  operation is a function of (state, dictionaries, limit) — hence any history followed by a
  successful reset is indistinguishable from a fresh decoder with the same dictionaries
  (`reuse_eq_fresh`), for every history and every later driver program.
That each Rust statement really clears what the model says it clears is tied by the harness
(engines `reuse`, `hostile`: hook state dump after reset on reused vs fresh decoders, and full
transcripts of probe frames that need a clean state).
-/
set_option linter.unusedSectionVars false
namespace Zstd.Props.C07
open Zstd Zstd.Model

variable {σ : Type} [BlockDec σ] [BlockContract σ]

/-- every field of a struct (`fields`, as declared in the source) is assigned by its `reset` or is one of the
named exemptions; the lists are field names extracted from the source text -/
def covers (fields reset exempt : List String) : Bool :=
  fields.all fun f => reset.contains f || exempt.contains f

theorem reset_covers_frameState : covers Gen.frameStateFields Gen.frameStateReset [] = true := by decide +kernel
theorem reset_covers_scratch : covers Gen.scratchFields Gen.scratchReset [] = true := by decide +kernel
theorem reset_covers_fseScratch : covers Gen.fseScratchFields Gen.fseScratchReset [] = true := by decide +kernel
theorem reset_covers_hufScratch : covers Gen.hufScratchFields Gen.hufScratchReset [] = true := by decide +kernel
theorem reset_covers_decodeBuffer : covers Gen.decodeBufferFields Gen.decodeBufferReset [] = true := by decide +kernel
/-- `max_symbol` is set at construction (35 / 52 / 31 / 255) and never changes: fresh = reused -/
theorem reset_covers_fseTable : covers Gen.fseTableFields Gen.fseTableReset ["max_symbol"] = true := by decide +kernel
theorem reset_covers_hufTable : covers Gen.hufTableFields Gen.hufTableReset [] = true := by decide +kernel
/-- `buf`/`cap` (the allocation) survive `clear`; they are unobservable through the queue (C04) -/
theorem clear_covers_ring : covers Gen.ringFields Gen.ringClear ["buf", "cap"] = true := by decide +kernel
/-- `new` and `reset` install the same initial repeat offsets, the RFC's (1, 4, 8) -/
theorem offset_hist_init : Gen.offsetHistNew = [1, 4, 8] ∧ Gen.offsetHistReset = [1, 4, 8] := by decide +kernel
/-- a dictionary seeds exactly: the three FSE tables (+ RLE symbols), the Huffman table, the repeat
offsets, the dictionary content -/
theorem dict_seeds : Gen.dictSeeds = ["fse", "huf.table", "offset_hist", "buffer.dict_content"] := by decide +kernel

/-- `reset` reads nothing of the decoder but its dictionaries and its limit: two decoders that agree on
those get the same outcome, and the same decoder whenever the state is replaced at all (success, or a
missing dictionary) — the new state is the value `resetCore` computes from source, dictionaries and limit -/
theorem reset_of_config (d d' : Decoder σ) (hd : d'.dicts = d.dicts) (hm : d'.maxWindow = d.maxWindow) (s : Src) :
    (d'.reset s).2 = (d.reset s).2 ∧
    (∀ st' o, resetCore d.dicts d.maxWindow s = .replace st' o → (d'.reset s).1 = (d.reset s).1) := by
  unfold Decoder.reset
  rw [hd, hm]
  cases resetCore d.dicts d.maxWindow s with
  | keep e => exact ⟨rfl, fun _ _ h => nomatch h⟩
  | replace st o => exact ⟨rfl, fun _ _ _ => rfl⟩

theorem reset_independent_of_state (d : Decoder σ) (st : Option (FState σ)) (s : Src) :
    ({ d with state := st }.reset s).2 = (d.reset s).2 ∧
    (∀ st' o, resetCore d.dicts d.maxWindow s = .replace st' o →
      ({ d with state := st }.reset s).1 = (d.reset s).1) :=
  reset_of_config d { d with state := st } rfl rfl s

theorem reset_ok_replaces (d : Decoder σ) (s rest : Src) (h : (d.reset s).2 = .ok rest) :
    ∃ st', resetCore d.dicts d.maxWindow s = .replace st' (.ok rest) := by
  rcases Decoder.reset_cases d s with ⟨e, he⟩ | ⟨st, o, he, hr⟩
  · rw [he] at h; cases h
  · rw [he] at h; exact ⟨st, h ▸ hr⟩

/-- history operations (what a caller may have done to the decoder before) -/
inductive HistOp where
  | reset (s : Src)
  | blocks (s : Src) (strat : Strategy)
  | collect
  | read (n : Nat)

def applyHist (d : Decoder σ) : HistOp → Decoder σ
  | .reset s => (d.reset s).1
  | .blocks s strat => (d.decodeBlocks s strat).1
  | .collect => d.collect.1
  | .read n => (d.read n).1

theorem dstep_config {d d' : Decoder σ} {dl : Array Nat} (h : DStep d d' dl) :
    d'.dicts = d.dicts ∧ d'.maxWindow = d.maxWindow :=
  ⟨h.1, h.2.1⟩

/-- operations never change the registered dictionaries or the limit (so "the same dictionaries
registered" is a property of the decoder object, not of its history) -/
theorem applyHist_keeps_config (d : Decoder σ) (op : HistOp) :
    (applyHist d op).dicts = d.dicts ∧ (applyHist d op).maxWindow = d.maxWindow := by
  cases op with
  | reset s => rcases Decoder.reset_cases d s with ⟨e, he⟩ | ⟨st, o, he, -⟩ <;> simp [applyHist, he]
  | blocks s strat => exact dstep_config (Decoder.decodeBlocks_dstep d s strat)
  | collect => exact dstep_config (applyDrain_dstep d .collect)
  | read n => exact dstep_config (Decoder.read_dstep d n)

theorem history_keeps_config (d : Decoder σ) (h : List HistOp) :
    (h.foldl applyHist d).dicts = d.dicts ∧ (h.foldl applyHist d).maxWindow = d.maxWindow := by
  induction h generalizing d with
  | nil => exact ⟨rfl, rfl⟩
  | cons op ops ih =>
    have h1 := ih (applyHist d op)
    have h2 := applyHist_keeps_config d op
    exact ⟨h1.1.trans h2.1, h1.2.trans h2.2⟩

/-- **C07**: after ANY history — frames completed, abandoned midway, failed at any point, with or
without dictionaries, larger or smaller windows — a successful `reset` on the next frame yields
exactly the decoder a fresh object with the same dictionaries and limit would be in; since every
later operation is a function of the decoder value, everything observable afterwards (bytes,
checksums, consumed count, success or error) is identical. -/
theorem reuse_eq_fresh (d0 : Decoder σ) (hist : List HistOp) (probe rest : Src)
    (h : ((hist.foldl applyHist d0).reset probe).2 = .ok rest) :
    ((hist.foldl applyHist d0).reset probe).1 =
      (({ dicts := d0.dicts, maxWindow := d0.maxWindow } : Decoder σ).reset probe).1 ∧
    (({ dicts := d0.dicts, maxWindow := d0.maxWindow } : Decoder σ).reset probe).2 = .ok rest := by
  have cfg := history_keeps_config d0 hist
  obtain ⟨st', hc⟩ := reset_ok_replaces _ probe rest h
  have hr := reset_of_config (hist.foldl applyHist d0) { dicts := d0.dicts, maxWindow := d0.maxWindow }
    cfg.1.symm cfg.2.symm probe
  exact ⟨(hr.2 st' _ hc).symm, hr.1.trans h⟩

/-- a frame that names a dictionary the decoder was not given: the error, and the (dictionary-less)
state left behind, are again independent of the history -/
theorem missing_dict_independent_of_history (d0 : Decoder σ) (hist : List HistOp) (probe : Src) (id : Nat)
    (h : ((hist.foldl applyHist d0).reset probe).2 = .err (.dictNotProvided id)) :
    (({ dicts := d0.dicts, maxWindow := d0.maxWindow } : Decoder σ).reset probe).2 = .err (.dictNotProvided id) :=
  have cfg := history_keeps_config d0 hist
  (reset_of_config (hist.foldl applyHist d0) { dicts := d0.dicts, maxWindow := d0.maxWindow }
    cfg.1.symm cfg.2.symm probe).1.trans h

/-- non-vacuity: a real 13-byte frame (raw block "abcd") resets successfully on a fresh decoder -/
example : (({} : DecA).reset [0x28, 0xB5, 0x2F, 0xFD, 0x00, 0x00, 0x21, 0, 0, 97, 98, 99, 100]).2.isOk = true := by decide +kernel


/-! ### instance B: the decoder the drivers run (faithful block decoder, Model/FrameFaithful.lean)

The frame-level model starts every frame from `BlockDec.fresh` (= `DecoderScratch::new`, `{}` for
instance B); the code calls `DecoderScratch::reset` on the scratch it has (`Blk.Scratch.reset`).  The
two agree on every scratch whose three FSE tables still have the alphabets `FSETable::new` gave them —
`max_symbol` is the one field `FSETable::reset` keeps (`reset_covers_fseTable` above) and no decoding
step writes it (`Blk.decompressBlock_alphabets`, Proofs/BlockNoFault.lean). -/

theorem faithful_reset_eq_fresh (s : Blk.Scratch)
    (h1 : s.fse.offsets.maxSymbol = Gen.maxOffsetCode)
    (h2 : s.fse.literalLengths.maxSymbol = Gen.maxLiteralLengthCode)
    (h3 : s.fse.matchLengths.maxSymbol = Gen.maxMatchLengthCode) :
    s.reset = (BlockDec.fresh : Blk.Scratch) := by
  simp only [Blk.Scratch.reset, Fse.DTable.reset, h1, h2, h3]
  rfl

theorem reuse_eq_fresh_faithful (d0 : DecB) (hist : List HistOp) (probe rest : Src)
    (h : ((hist.foldl applyHist d0).reset probe).2 = .ok rest) :
    ((hist.foldl applyHist d0).reset probe).1 =
      (({ dicts := d0.dicts, maxWindow := d0.maxWindow } : DecB).reset probe).1 ∧
    (({ dicts := d0.dicts, maxWindow := d0.maxWindow } : DecB).reset probe).2 = .ok rest :=
  reuse_eq_fresh d0 hist probe rest h

end Zstd.Props.C07
