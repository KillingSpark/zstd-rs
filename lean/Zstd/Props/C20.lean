import Zstd.Proofs.DictBuilder
/-
C20 — The dictionary builder terminates without panicking and writes no more than the requested size.

Model: `Zstd.Model.DictBuilder.run` (lengths only; scoring, heap order and `fastrand` are arbitrary
parameters; the source is any byte count with any script of short reads).  The constants (16, 2048,
256, 128 000, 100, K = 16, 10 000) and the presence of each guard are extracted from the source on
every run; `src_constants_sane` / `src_is_repaired` evaluate on them, so removing a guard (F7: pool
trimming + truncating write-out + `take(dict_size)`; F9: early return on an empty sample; F11: the
`u32` truncation of the size estimate) makes the theorems below fail — except the pool trimming alone
(`poolTrimmed`): the truncating write-out keeps the bound without it, and no theorem here depends on it.
-/
namespace Zstd.Props.C20
open Zstd Zstd.Model.DictBuilder Zstd.Proofs.DictBuilder

/-- the constants of today's source satisfy what the arithmetic needs (segment size ≥ 2 and not
truncated, K ≥ 1, K ≤ the small-source limit, reservoir minimum ≤ sample minimum, …) -/
theorem src_constants_sane : sane srcCfg := by decide

/-- today's source has the guards of the repairs of F7 and F9 (FALSE on the unrepaired tree) -/
theorem src_is_repaired : repaired srcCfg := by decide

/-- every division of the parameter derivation (`mod.rs:147-180`, `cover.rs:123-130`) has a non-zero
divisor, for every size estimate that takes the sampled path and every dictionary size; the segment
size is non-zero (so `chunks(segment_size)` does not panic) and the reservoir's size assertion holds -/
theorem divisors_nonzero (est dict : Nat) (h : srcCfg.smallLimit ≤ est) :
    ∃ p, params srcCfg est dict = .ok p ∧ p.seg ≠ 0 ∧ srcCfg.reservoirMin ≤ p.sampleSize :=
  params_ok srcCfg src_constants_sane est dict h

example : params srcCfg 20000 64 = .ok ⟨2048, 9, 78, 1250⟩ := by decide

/-- the builder terminates: the fuel `2·|source| + 4` is never exhausted by any of its loops, for
every source length, every pattern of short reads, every estimate, dictionary size, RNG script,
scoring function and heap order -/
theorem builder_terminates (src : Src) (est dict : Nat) (rng : List (Nat × Nat)) (pick : Nat → Nat) (heap : List Nat) (l : String) :
    run srcCfg (fuelFor src) src est dict rng pick heap ≠ .error (.outOfFuel l) := by
  obtain ⟨r, h, _⟩ := run_ok srcCfg src_constants_sane src_is_repaired src est dict rng pick heap
  rw [h]; exact nofun

/-- … without reaching any panic site of the model (division by zero, `fastrand::usize(0..0)`,
`expect("at least one segment")`, `chunks(0)`, the `Reservoir::new` assertion, the epoch assertion,
`pool_size - lowest_len` underflow) -/
theorem builder_noFault (src : Src) (est dict : Nat) (rng : List (Nat × Nat)) (pick : Nat → Nat) (heap : List Nat) (f : Fault) :
    run srcCfg (fuelFor src) src est dict rng pick heap ≠ .error (.fault f) := by
  obtain ⟨r, h, _⟩ := run_ok srcCfg src_constants_sane src_is_repaired src est dict rng pick heap
  rw [h]; exact nofun

/-- … and writes at most `dict_size` bytes -/
theorem size_bound (src : Src) (est dict : Nat) (rng : List (Nat × Nat)) (pick : Nat → Nat) (heap : List Nat) :
    ∃ r, run srcCfg (fuelFor src) src est dict rng pick heap = .ok r ∧ r.written ≤ dict := by
  obtain ⟨r, h, hw⟩ := run_ok srcCfg src_constants_sane src_is_repaired src est dict rng pick heap
  exact ⟨r, h, by rw [hw]; split <;> exact Nat.min_le_right _ _⟩

/-- the length written, exactly: the small path copies `min(|source|, dict_size)` bytes; the sampled
path writes `min(bytes in the pool, dict_size)` -/
theorem output_len_eq (src : Src) (est dict : Nat) (rng : List (Nat × Nat)) (pick : Nat → Nat) (heap : List Nat) :
    ∃ r, run srcCfg (fuelFor src) src est dict rng pick heap = .ok r ∧
      (est < srcCfg.smallLimit → r.written = min src.remaining dict) ∧
      (srcCfg.smallLimit ≤ est → r.written = min r.poolBytes dict) := by
  obtain ⟨r, h, hw⟩ := run_ok srcCfg src_constants_sane src_is_repaired src est dict rng pick heap
  exact ⟨r, h, fun hlt => by rw [hw, if_pos hlt], fun hge => by rw [hw, if_neg (Nat.not_lt.mpr hge)]⟩

example : run srcCfg (fuelFor ⟨3000, []⟩) ⟨3000, []⟩ 3000 40 [] (fun _ => 0) [] = .ok ⟨40, 16, 3, 48⟩ := by decide +kernel
/-- a reader that returns 7 bytes twice makes `Reservoir::fill` overshoot its 16-byte lake (7 + 7 + … ≠ 16):
it then consumes the whole source as "sample" and the dictionary is empty — within the bound, but useless -/
example : run srcCfg (fuelFor ⟨3000, [7, 7]⟩) ⟨3000, [7, 7]⟩ 3000 64 [] (fun _ => 0) [] = .ok ⟨0, 3000, 0, 0⟩ := by decide +kernel

/-! ### the code before the repairs, as regression witnesses (they compile on every tree) -/

def beforeRepair : Cfg :=
  { smallLimit := 16, smallPathTakesDictSize := false, smallPathTruncates := false, bufCap := 128000,
    maxSegment := 2048, segmentTruncatesU32 := true, minSample := 16, sampleDivCap := 256, epochBuf := 100,
    emptySampleReturns := false, poolTrimmed := false, writeSkipsExcess := false, kmer := 16,
    minEpochSize := 10000, emptyLakeReturns := false, reservoirMin := 16 }

/-- F9: an empty source with an estimate ≥ 16 reached `fastrand::usize(0..0)` -/
theorem f9_before_repair :
    run beforeRepair (fuelFor ⟨0, []⟩) ⟨0, []⟩ 100 64 [] (fun _ => 0) [] =
      .error (.fault (.assert "fastrand::usize(0..0):reservoir.rs:lake_chunks[..]")) := by decide +kernel

/-- F7: a 20 000-byte source with `dict_size = 64` wrote 15 600 bytes (200 reads × a 78-byte sample);
the small path wrote the whole source -/
theorem f7_before_repair :
    (run beforeRepair (fuelFor ⟨20000, []⟩) ⟨20000, []⟩ 20000 64 [] (fun _ => 0) []).map (·.written) = .ok 15600 ∧
    (run beforeRepair (fuelFor ⟨10, []⟩) ⟨10, []⟩ 10 4 [] (fun _ => 0) []).map (·.written) = .ok 10 := by
  constructor <;> decide +kernel

/-- F11: an estimate that is a multiple of 2³² was truncated to a segment size of 0 -/
theorem f11_before_repair :
    run beforeRepair (fuelFor ⟨1000, []⟩) ⟨1000, []⟩ (2 ^ 32) 64 [] (fun _ => 0) [] =
      .error (.fault (.divZero "dictionary/mod.rs:num_segments")) ∧
    run beforeRepair (fuelFor ⟨1000, []⟩) ⟨1000, []⟩ (2 ^ 32 + 1) 64 [] (fun _ => 0) [] =
      .error (.fault (.divZero "dictionary/mod.rs:sample_size:outer")) := by
  constructor <;> decide +kernel

end Zstd.Props.C20
