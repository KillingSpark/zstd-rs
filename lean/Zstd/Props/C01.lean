import Zstd.Model.FrameDecoder
import Zstd.Proofs.FrameDecoderStandIn
import Zstd.Proofs.FrameFaithful
import Zstd.Proofs.FrameDecoderFull
import Zstd.Proofs.DictParse
import Zstd.Proofs.BlockRefines
import Zstd.Proofs.BlkLitFull
import Zstd.Props.C09
/-
C01 — the decoder reproduces the original data for every valid frame.

`Spec.decodeFrame f = some r` IS "f is a conforming encoding of r.content" (RFC 8878 transcription,
validated against libzstd).  The property is the refinement `Spec ok ⇒ Model delivers the same
bytes and metadata`, proved component by component: headers, offset history and sequence execution,
then the block level on the faithful block decoder, then the frame level for every block decoder
satisfying the contracts; the entropy stages are C12 (FSE) and C13 (Huffman).  The composed statement
is `C01_full`, proved at the end of the file (`decoder_reproduces_content`).
-/
namespace Zstd.Props.C01
open Zstd Zstd.Model

/-- **the full statement, over the EXECUTABLE model** (`DecB`: the frame-level model with the faithful
block decoder `Blk.decompressBlock`, the one engines `dec` / `hostile` compare with the real code line by
line): for every byte string `f` that is exactly one frame the Spec accepts (`Spec.decodeFrame f [] =
some r` with `r.consumed = f.length` — trailing bytes are ignored by `Spec.decodeFrame` but, rightly,
rejected by `decode_all`: see the example below), whose window is within the decoder's limit (a larger
one is refused on purpose: C11),
* `decode_all` into any target of at least the content's size returns exactly the content, and
* `reset` + `decode_blocks(All)` + `collect()` report the frame finished and hand out exactly the content.
Proved: `decoder_reproduces_content`.  Dictionaries:
`C01_full_dicts` / `decoder_reproduces_content_dicts`; every drain schedule: C06. -/
def C01_full : Prop :=
  ∀ (f : List Nat) (r : Spec.FrameResult), (∀ x ∈ f, x < 256) → Spec.decodeFrame f [] = some r →
    r.consumed = f.length → r.header.window ≤ ({} : DecB).maxWindow →
    (∀ room, r.content.length ≤ room → ∃ d', ({} : DecB).decodeAll f room = (d', .ok r.content.toArray)) ∧
    (∃ d0 rest d1, ({} : DecB).reset f = (d0, .ok rest) ∧ d0.decodeBlocks rest .all = (d1, .ok ([], true)) ∧
      d1.isFinished = true ∧ (d1.collect).2 = some r.content.toArray ∧ (d1.collect).1.canCollect = 0)

/-- `C01_full` with dictionaries: the decoder's dictionaries registered through `add_dict` of the parsed bytes
`raws` (`registerDicts`), each of which the Spec parses; the frame valid w.r.t. the Spec's parse of the
same bytes (`specRegisterDicts`) -/
def C01_full_dicts : Prop :=
  ∀ (raws : List (List Nat)) (f : List Nat) (r : Spec.FrameResult),
    (∀ raw ∈ raws, (∀ x ∈ raw, x < 256) ∧ (Spec.parseDict raw).isSome = true) → (∀ x ∈ f, x < 256) →
    Spec.decodeFrame f (specRegisterDicts [] raws) = some r →
    r.consumed = f.length → r.header.window ≤ ({} : DecB).maxWindow →
    (∀ room, r.content.length ≤ room →
      ∃ d', (registerDicts {} raws).decodeAll f room = (d', .ok r.content.toArray)) ∧
    (∃ d0 rest d1, (registerDicts {} raws).reset f = (d0, .ok rest) ∧ d0.decodeBlocks rest .all = (d1, .ok ([], true)) ∧
      d1.isFinished = true ∧ (d1.collect).2 = some r.content.toArray ∧ (d1.collect).1.canCollect = 0)

/-- block headers: on every 3-byte pattern the model (table and guard from the source) agrees with
the RFC bit-fields, and accepts exactly the legal ones (type ≠ reserved, size ≤ 128 KiB) -/
theorem blockHeader_refines (b0 b1 b2 : Nat) (h0 : b0 < 256) (h1 : b1 < 256) (h2 : b2 < 256) :
    let s := Spec.parseBlockHeader b0 b1 b2
    (s.btype ≠ 3 ∧ s.size ≤ Spec.blockMaxSize →
      Model.parseBlockHeader b0 b1 b2 = .ok
        { last := s.last, btype := s.btype,
          decompressedSize := if s.btype = 2 then 0 else s.size,
          contentSize := if s.btype = 1 then 1 else s.size }) ∧
    (s.btype = 3 → Model.parseBlockHeader b0 b1 b2 = .error .reservedBlock) ∧
    (s.btype ≠ 3 ∧ s.size > Spec.blockMaxSize →
      Model.parseBlockHeader b0 b1 b2 = .error (.blockSizeTooLarge s.size)) :=
  Model.parseBlockHeader_refines b0 b1 b2

/-- window descriptor: for every descriptor byte the model's window equals the RFC formula, and it
is accepted exactly when the RFC's legal range contains it -/
theorem window_refines (desc : Nat) (hd : desc < 256) (dsc fcs : Nat) (did : Option Nat)
    (hs : dsc / 32 % 2 = 0) :
    let h : FHeader := ⟨dsc, desc, did, fcs⟩
    let w := Spec.windowSize desc
    (Spec.windowMin ≤ w ∧ w ≤ Spec.windowMax → h.windowSize = .ok w) ∧
    (w < Spec.windowMin → h.windowSize = .error (.windowTooSmall w)) ∧
    (w > Spec.windowMax → h.windowSize = .error (.windowTooBig w)) := by
  have hs' : (decide (dsc / 32 % 2 = 1)) = false := by simp [hs]
  simp only [FHeader.windowSize, FHeader.singleSegment, hs', Spec.windowSize, Spec.windowMin, Spec.windowMax,
    Gen.windowMinOk, Gen.windowMaxOk, Gen.minWindowSize, Gen.maxWindowSize]
  generalize 2 ^ (10 + desc / 8) + 2 ^ (10 + desc / 8) / 8 * (desc % 8) = w
  refine ⟨?_, ?_, ?_⟩
  · intro h
    have a : w ≥ 1024 := by omega
    have b : w ≤ 4123168604160 := by omega
    simp [a, b]
  · intro h
    have a : ¬ w ≥ 1024 := by omega
    simp [a]
  · intro h
    have a : w ≥ 1024 := by omega
    have b : ¬ w ≤ 4123168604160 := by omega
    simp [a, b]

/-- offset values are `2^code + extra`: never 0 (so `do_offset_history` cannot underflow: C03) -/
theorem offsetValue_pos (c e : Nat) : Spec.offsetValue c e ≥ 1 := by
  unfold Spec.offsetValue
  have := Nat.two_pow_pos c
  omega

/-- the offset-history step of the code is the RFC's rule (model side proved equal to
`Spec.repeatOffsets` for every offset value, both literal-length cases, every history) -/
theorem offsetHistory_refines (ov ll : Nat) (h : Spec.OffHist) (hov : ov ≥ 1) :
    doOffsetHistory ov ll (h.r1, h.r2, h.r3) =
      .ok ((Spec.repeatOffsets ov (ll = 0) h).1,
           ((Spec.repeatOffsets ov (ll = 0) h).2.r1, (Spec.repeatOffsets ov (ll = 0) h).2.r2,
            (Spec.repeatOffsets ov (ll = 0) h).2.r3)) :=
  Zstd.Proofs.DictCopy.offsetHistory_refines ov ll h hov

/-- `DecodeBuffer::repeat` on the abstract content `DBuf` (on the ring buffer: C04 `repeat_eq_overlapCopy`) —
in-buffer copy, chunked overlapping copy, `repeat_from_dict` entirely in the dictionary, straddling the
boundary — computes the Spec's
byte-by-byte match copy, whenever the Spec's reach-back rule admits the offset (dictionary only while
the whole output lies within the window) and `total_output_counter` does not over-count -/
theorem repeat_refines (b : DBuf) (off ml : Nat) (out2 : Array Nat) (h0 : 0 < off)
    (htot : b.totalOut ≤ b.content.size)
    (hreach : off > b.content.size → b.content.size ≤ b.window ∧ off - b.content.size ≤ b.dict.size)
    (hm : Spec.matchCopy b.dict ml off b.content = some out2) :
    ∃ b2, b.repeat off ml = .ok b2 ∧ b2.content = out2 ∧ b2.dict = b.dict ∧ b2.window = b.window ∧
      b2.hashed = b.hashed ∧ b2.totalOut ≤ b2.content.size :=
  Model.repeat_refines b off ml out2 h0 htot hreach hm

/-- whenever the RFC executor accepts a block's sequences on the output
produced so far (`b.content`, nothing drained — C06 lifts this to every drain schedule) and the block
regenerates at most `Block_Maximum_Size` bytes (the Spec checks that in `decodeCompressedBlock`), the
model's `execute_sequences` returns `Ok`, leaves exactly the Spec's output in the buffer and the
Spec's offset history in the scratch; dictionary, window and hasher are untouched and the counter
still does not over-count (so the next block can be chained).  `hov` holds for every sequence the
sequence decoder produces (`C03.decodeSeqLoop_ov_pos`). -/
theorem executeSequences_refines (seqs : List Spec.Seq) (lits : List Nat) (h h' : Spec.OffHist)
    (b : DBuf) (out' : Array Nat)
    (hov : ∀ s ∈ seqs, s.ov ≥ 1) (htot : b.totalOut ≤ b.content.size)
    (hspec : Spec.execSequences b.window b.dict seqs lits h b.content = some (out', h'))
    (hsize : out'.size - b.content.size ≤ Spec.blockMaxSize) :
    ∃ b', executeSequences seqs lits (h.r1, h.r2, h.r3) 0 b = ((b', (h'.r1, h'.r2, h'.r3)), .ok ()) ∧
      b'.content = out' ∧ b'.dict = b.dict ∧ b'.window = b.window ∧ b'.hashed = b.hashed ∧
      b'.totalOut ≤ b'.content.size := by
  have hsz := execSequences_size _ _ _ _ _ _ _ _ hspec
  have e1 : Spec.blockMaxSize = 131072 := by decide
  have e2 : Gen.maxBlockSize = 131072 := by decide
  obtain ⟨b', he, hr⟩ := executeSequences_refines_aux seqs lits h h' 0 b out' hov htot hspec (by omega)
  exact ⟨b', he, hr.content, hr.dict, hr.window, hr.hashed, hr.totalOut⟩

/-- a Compressed_Block body the Spec accepts (`decodeCompressedBlock`, incl. its
`Block_Maximum_Size` check) is decoded by the block step of the Spec stand-in (`Model.decompressBlock`, on
`Spec.Entropy`; the faithful `Blk.decompressBlock` is the block-level section below) to the same output with the
same entropy state afterwards (Huffman table, FSE tables, offset history) -/
theorem decompressBlock_refines (bytes : List Nat) (e e' : Spec.Entropy) (b : DBuf) (out' : Array Nat)
    (htot : b.totalOut ≤ b.content.size)
    (hs : Spec.decodeCompressedBlock b.window b.dict bytes e b.content = some (out', e')) :
    ∃ b', decompressBlock bytes e b = ((b', e'), .ok ()) ∧ b'.content = out' ∧ b'.dict = b.dict ∧
      b'.window = b.window ∧ b'.hashed = b.hashed ∧ b'.totalOut ≤ b'.content.size := by
  obtain ⟨b', h1, h2⟩ := Model.decompressBlock_refines bytes e e' b out' htot hs
  exact ⟨b', h1, h2.content, h2.dict, h2.window, h2.hashed, h2.totalOut⟩

/-- whenever the Spec parses a frame header the model's `read_frame_header` reads
the same fields from the same number of bytes, and `window_size()` returns the Spec's window -/
theorem frameHeader_refines (bytes : List Nat) (hb : ∀ x ∈ bytes, x < 256) (h : Spec.FrameHeader)
    (hs : Spec.parseFrameHeader bytes = some h) :
    ∃ fh, readFrameHeader bytes = .ok (fh, h.hdrLen, bytes.drop h.hdrLen) ∧
      fh.windowSize = .ok h.window ∧ fh.dictId = h.dictId ∧ fh.checksumFlag = h.desc.checksum := by
  obtain ⟨fh, h1, h2, h3, h4, -, -⟩ := readFrameHeader_refines bytes hb h hs
  exact ⟨fh, h1, h2, h3, h4⟩

/-- the block loop (`decode_blocks(All)`) follows the Spec's `decodeBlocks`
block by block — raw, RLE and compressed blocks, any number — ending in the code's last-block handling
(`finishFrame`: checksum read when flagged) with the Spec's output in the buffer and exactly the Spec's
byte count consumed -/
theorem decodeBlocks_refines {σ : Type} [BlockDec σ] [BlockContract σ] [RefinesSpec σ]
    (fuelS a c fuel : Nat) (bytes : List Nat) (hb : ∀ x ∈ bytes, x < 256)
    (e : Spec.Entropy) (st : FState σ) (out' : Array Nat) (consumed consumed' : Nat)
    (hf : bytes.length < fuel) (hent : RefinesSpec.coupled st.entropy e) (htot : st.buf.totalOut ≤ st.buf.content.size)
    (hs : Spec.decodeBlocks st.buf.window st.buf.dict fuelS bytes e st.buf.content consumed = some (out', consumed')) :
    ∃ st' n, consumed' = consumed + n ∧ n ≤ bytes.length ∧
      decodeBlocksLoop .all a c fuel st bytes = finishFrame st' (bytes.drop n) ∧
      st'.buf.content = out' ∧ st'.bytesRead = st.bytesRead + n := by
  -- the simulation with nothing in front of the buffer; `All` never stops before the last block
  rcases decodeBlocksLoop_sim #[] .all a c fuelS fuel bytes hb e st _ out' consumed consumed' hf
      (SpecState.sim ⟨rfl, hent, htot⟩) hs with ⟨_, _, _, _, _, _, _, _, _, _, _, hstop⟩ | ⟨st', n, h1, h2, h3, h4, h5⟩
  · cases hstop
  · exact ⟨st', n, h1, h2, h3, by rwa [Array.empty_append] at h4, h5.bytesRead⟩

/-- C01 at the frame level, for EVERY block decoder with `BlockContract` and `RefinesSpec` (the block
decoder is the parameter the `_partial` of the name refers to; both instances, `DecA` and `DecB`, satisfy the
contracts): every frame the Spec accepts — with dictionaries coupled to the decoder's (`DictsCoupled`; for the stand-in
`dictsCoupled_standIn`), window within the decoder's limit — is
decoded by `reset` + `decode_blocks(All)`: `Ok(true)`, the buffer holds exactly the Spec's content,
`is_finished()`, `bytes_read_from_source()` = the Spec's frame length, the source left is the input
minus exactly that, the stored checksum is the frame's (which the Spec has verified to be
`low32(XXH64(content))`), nothing hashed yet.  `collect()` then hands out the content (C06/C08).
`C01_full` is this theorem at the executable instance, through `decode_all` as well
(`decoder_reproduces_content` at the end of this file). -/
theorem decodeFrame_refines_partial {σ : Type} [BlockDec σ] [BlockContract σ] [RefinesSpec σ]
    (d : Decoder σ) (sdicts : List Spec.Dict) (hdc : DictsCoupled d.dicts sdicts)
    (f : List Nat) (hb : ∀ x ∈ f, x < 256) (r : Spec.FrameResult)
    (hs : Spec.decodeFrame f sdicts = some r) (hlim : r.header.window ≤ d.maxWindow) :
    ∃ d0 d1 rest st1, d.reset f = (d0, .ok rest) ∧
      d0.decodeBlocks rest .all = (d1, .ok (f.drop r.consumed, true)) ∧ d1.state = some st1 ∧
      st1.buf.content.toList = r.content ∧ d1.isFinished = true ∧ st1.bytesRead = r.consumed ∧
      st1.checksum = r.checksum ∧ st1.buf.hashed = #[] ∧ r.consumed ≤ f.length :=
  decodeFrame_refines d sdicts hdc f hb r hs hlim

/-- C01 + C06 composed — for every frame the Spec
accepts and every documented driver program (any decode strategies / budgets, any interleaving of
collect / read / collect_to_writer with any sink), the bytes delivered are a prefix of the original
content, and all of it once the frame is finished and drained.  For every block decoder satisfying
the contracts, as `decodeFrame_refines_partial`. -/
theorem decoder_reproduces_content_any_schedule_partial {σ : Type} [BlockDec σ] [BlockContract σ] [RefinesSpec σ]
    (d : Decoder σ) (sdicts : List Spec.Dict) (hdc : DictsCoupled d.dicts sdicts) (f : List Nat) (hb : ∀ x ∈ f, x < 256)
    (r : Spec.FrameResult) (hs : Spec.decodeFrame f sdicts = some r)
    (hlim : r.header.window ≤ d.maxWindow) (ops : List SOp) :
    ∃ d0 rest, d.reset f = (d0, .ok rest) ∧ (DocOk d0 rest ops →
      (runSched d0 rest ops).2.2.2 = none ∧
      ∃ st tail, (runSched d0 rest ops).1.state = some st ∧
        r.content = ((runSched d0 rest ops).2.2.1 ++ st.buf.content ++ tail).toList ∧
        (st.finished = true → st.buf.content = #[] → (runSched d0 rest ops).2.2.1.toList = r.content)) := by
  obtain ⟨d0, rest, hres, h⟩ := Model.valid_frame_any_schedule d sdicts hdc f hb r hs hlim ops
  refine ⟨d0, rest, hres, fun hdoc => ?_⟩
  obtain ⟨h1, st, tail, hst, hh, hc, hfin⟩ := h hdoc
  refine ⟨h1, st, tail, hst, by rw [← hh]; exact hc, ?_⟩
  intro hf hempty
  obtain ⟨ht, -⟩ := hfin hf
  rw [hc, ht, hempty, hh]; simp

/-- non-vacuity: the Spec accepts this frame (single segment, raw block "abc", no checksum) -/
example : (Spec.decodeFrame [0x28, 0xB5, 0x2F, 0xFD, 0x20, 3, 0x19, 0, 0, 97, 98, 99] []).map (·.content) = some [97, 98, 99] := by
  decide +kernel

/-- why `C01_full` asks for `r.consumed = f.length`: trailing bytes after a valid frame are ignored by
`Spec.decodeFrame` but rejected by `decode_all` -/
example : (Spec.decodeFrame [0x28, 0xB5, 0x2F, 0xFD, 0x20, 3, 0x19, 0, 0, 97, 98, 99, 0] []).map (·.content) = some [97, 98, 99] ∧
    ((({} : DecA).decodeAll [0x28, 0xB5, 0x2F, 0xFD, 0x20, 3, 0x19, 0, 0, 97, 98, 99, 0] 3).2.isOk) = false := by
  decide +kernel

/-- non-vacuity of `executeSequences_refines`: literals "ab", then a match of length 4 at offset 2 -/
example : Spec.execSequences 1024 #[] [⟨2, 4, 5⟩] [97, 98, 99] ⟨1, 4, 8⟩ #[] = some (#[97, 98, 97, 98, 97, 98, 99], ⟨2, 1, 4⟩) := by
  decide +kernel

/-- non-vacuity: a raw last block header of size 4 -/
example : Model.parseBlockHeader 0x21 0 0 = .ok ⟨true, 0, 4, 4⟩ := by decide


/-! ## block level: the faithful model `Blk.decompressBlock` refines `Spec.decodeCompressedBlock`

The model side is `Zstd/Model/BlockDecode.lean` (statement-by-statement mirror of `decompress_block`,
`decode_literals`, `decode_sequences`, `maybe_update_fse_tables`, both sequence loops; engine `blk`
compares it with the real code block by block).  The entropy states are related by
`Proofs.Blk.Coupled` (Huffman table: same cells; each FSE channel: the Spec's table in force is the
model's built table, or the one-state table of the model's RLE symbol; same offset history). -/

open Zstd.Proofs.Blk Zstd.Proofs.BitIO in
/-- **sequences section** — all four modes per table (Predefined, RLE, FSE_Compressed, Repeat), every
sequence-count encoding, the interleaved three-state bitstream with up to 31 + 16 + 16 extra bits per
sequence: what `Spec.decodeSequences` yields, `parse_from_header` + `decode_sequences` yield, and the
tables left in the scratch are again coupled with the Spec's tables in force -/
theorem decodeSequences_refines {bytes : List Nat} (hb : Bytes bytes) {e e' : Spec.Entropy}
    {s : Blk.FseScratch} {seqs : List Spec.Seq} (hc : FseCoupled e s)
    (hs : Spec.decodeSequences bytes e = some (seqs, e')) :
    ∃ n modes shLen, parseSeqHeader bytes = .ok (n, modes, shLen) ∧
      (n = 0 → seqs = [] ∧ e' = e ∧ (bytes.drop shLen).isEmpty = true) ∧
      (n ≠ 0 → ∃ s', Blk.decodeSequences n modes (bytes.drop shLen) s = (s', .ok seqs) ∧ FseCoupled e' s' ∧
        e'.huf = e.huf ∧ e'.hist = e.hist) :=
  Zstd.Proofs.Blk.decodeSequences_refines hb hc hs

open Zstd.Proofs.Blk Zstd.Proofs.BitIO in
/-- **literals header**: the code's `parse_from_header` returns the RFC's fields (for the transcription
`Spec.parseLitHeader` that `Spec.decodeLiterals` uses; the two transcriptions of §3.1.1.3.1.1 agree:
`Proofs.Headers.specLitHeader_agree`) -/
theorem literalsHeader_refines {bs : List Nat} (hb : Bytes bs) {H : Spec.LitHeader}
    (h : Spec.parseLitHeader bs = some H) :
    ∃ sec, Hdr.parseLitHeader Hdr.LitSection.new bs = .ok (sec, H.hdrLen) ∧ sec.ty = H.ltype ∧ sec.regen = H.regen ∧
      (H.ltype < 2 → sec.comp = none) ∧
      (¬ H.ltype < 2 → sec.comp = some H.comp ∧ sec.streams = some H.streams) :=
  parseLitHeader_refines hb h

open Zstd.Proofs.Blk Zstd.Proofs.BitIO in
/-- **Raw and RLE literals** (all size formats): header, `upper_limit_for_literals`, the length check
and `decode_literals` deliver exactly the Spec's literals, the byte count, and leave the Huffman table
alone -/
theorem decodeLiterals_refines_raw_rle {bytes : List Nat} (hb : Bytes bytes)
    {prev huf' : Option Spec.Huffman.Table} {lits : List Nat} {used : Nat} {t : Huf.DecTable}
    (hc : HufCoupled prev t) (hs : Spec.decodeLiterals bytes prev = some (lits, used, huf'))
    (hty : ∀ H, Spec.parseLitHeader bytes = some H → H.ltype < 2) :
    LitStage bytes t lits used huf' :=
  Zstd.Proofs.Blk.decodeLiterals_refines_raw_rle hb hc hs hty

/-- the literals stage for all four section types (a theorem: `blk_decodeLiterals_refines` below) -/
def decodeLiterals_refines_full : Prop := Zstd.Proofs.Blk.decodeLiterals_refines_full

open Zstd.Proofs.Blk in
/-- **Huffman-coded literals, the table part** (hence `_partial`): for every weight list the Spec accepts, the
table `build_table_from_weights` builds is coupled with the Spec's (`huf_table_eq_canonical`: same
`Max_Number_of_Bits`, same cells) and well formed for the stream decoder (`HufBuilt`: every cell
consumes 1..max bits, `2^max` cells).  (The rest of the Huffman literals stage — `read_weights` =
`Spec.Huffman.readWeights` in both forms, the one- and four-stream loops against
`Spec.Huffman.decodeStream` — is `decodeLiterals_refines_huffman` below.) -/
theorem decodeLiterals_refines_huffman_table_partial (t : Huf.DecTable) (T : Spec.Huffman.Table)
    (hspec : Spec.Huffman.tableOfWeights t.weights = some T) :
    ∃ t', Huf.buildTableFromWeights t = (t', .ok ()) ∧ HufCoupled (some T) t' :=
  buildTable_coupled t T hspec

open Zstd.Proofs.Blk Zstd.Proofs.BitIO Zstd.Proofs.DictCopy in
/-- **the block, given the literals stage** (hypothesis `hlit`, hence `_partial`; `hlit` holds for Raw/RLE
literals by `decodeLiterals_refines_raw_rle` and for every literals type by `blk_decodeLiterals_refines`, and
`blk_decompressBlock_refines` is the statement without it): whenever the RFC semantics decodes the
compressed block `bytes` in entropy state `e` on top of the output `out` (window and dictionary rules included), the code, in a
coupled state with a buffer holding that output's tail, returns `Ok`, has appended the same bytes, and
leaves the same offset history and coupled tables for the next block -/
theorem decompressBlock_refines_partial {window : Nat} {dict : Array Nat} {bytes : List Nat}
    {e e' : Spec.Entropy} {out out' : Array Nat} {s : Blk.Scratch} {b : DBuf}
    (hb : Bytes bytes) (hc : Coupled e s)
    (hd : b.dict = dict) (hw : b.window = window) (hout : b.hashed ++ b.content = out)
    (hco : CounterOk b) (hre : Retained b)
    (hs : Spec.decodeCompressedBlock window dict bytes e out = some (out', e'))
    (hlit : ∀ lits used huf', Spec.decodeLiterals bytes e.huf = some (lits, used, huf') →
      LitStage bytes s.huf lits used huf') :
    ∃ s' b' lits seqs, Blk.decompressBlock bytes s b = ((s', b', lits, seqs), .ok) ∧ Coupled e' s' ∧
      b'.hashed = b.hashed ∧ b.hashed ++ b'.content = out' ∧ b'.dict = dict ∧ b'.window = window ∧
      CounterOk b' ∧ Retained b' :=
  decompressBlock_refines_of_litStage hb hc hd hw hout hco hre hs hlit

open Zstd.Proofs.Blk Zstd.Proofs.BitIO Zstd.Proofs.DictCopy in
/-- **blocks whose literals are Raw or RLE** refine the Spec -/
theorem decompressBlock_refines_raw_rle {window : Nat} {dict : Array Nat} {bytes : List Nat}
    {e e' : Spec.Entropy} {out out' : Array Nat} {s : Blk.Scratch} {b : DBuf}
    (hb : Bytes bytes) (hc : Coupled e s)
    (hd : b.dict = dict) (hw : b.window = window) (hout : b.hashed ++ b.content = out)
    (hco : CounterOk b) (hre : Retained b)
    (hs : Spec.decodeCompressedBlock window dict bytes e out = some (out', e'))
    (hty : ∀ H, Spec.parseLitHeader bytes = some H → H.ltype < 2) :
    ∃ s' b' lits seqs, Blk.decompressBlock bytes s b = ((s', b', lits, seqs), .ok) ∧ Coupled e' s' ∧
      b'.hashed = b.hashed ∧ b.hashed ++ b'.content = out' ∧ b'.dict = dict ∧ b'.window = window ∧
      CounterOk b' ∧ Retained b' :=
  Zstd.Proofs.Blk.decompressBlock_refines_raw_rle hb hc hd hw hout hco hre hs hty

/-- the block statement for every literals type -/
def decompressBlock_refines_full : Prop := Zstd.Proofs.Blk.decompressBlock_refines_full

theorem decompressBlock_refines_full_of_literals (h : decodeLiterals_refines_full) :
    decompressBlock_refines_full :=
  Zstd.Proofs.Blk.decompressBlock_refines_full_of_literals h

open Zstd.Proofs.Blk Zstd.Proofs.BitIO in
/-- **Huffman-coded literals** (Compressed and Treeless sections, one stream or four streams with the
jump table, tree description in direct or FSE-compressed form): `decode_literals` delivers the Spec's
literals and byte count and leaves a table coupled with the Spec's table in force -/
theorem decodeLiterals_refines_huffman {bytes : List Nat} (hb : Bytes bytes)
    {prev huf' : Option Spec.Huffman.Table} {lits : List Nat} {used : Nat} {t : Huf.DecTable}
    (hc : HufCoupled prev t) (hs : Spec.decodeLiterals bytes prev = some (lits, used, huf'))
    (hty : ∀ H, Spec.parseLitHeader bytes = some H → ¬ H.ltype < 2) :
    LitStage bytes t lits used huf' :=
  Zstd.Proofs.Blk.decodeLiterals_refines_huffman hb hc hs hty

/-- **`decodeLiterals_refines_full` holds**: the literals stage for all four section types -/
theorem blk_decodeLiterals_refines : decodeLiterals_refines_full :=
  Zstd.Proofs.Blk.decodeLiterals_refines_full_holds

/-- **`decompressBlock_refines_full` holds**: for every block the RFC semantics decodes — Raw, RLE,
Compressed or Treeless literals in one or four streams and every size format, Predefined / RLE /
FSE_Compressed / Repeat sequence tables, repeat offsets, overlapping matches, dictionary reach-back —
`decompress_block` returns `Ok`, has appended the same bytes to the decode buffer, and leaves the
same offset history and an entropy state coupled with the Spec's for the next block -/
theorem blk_decompressBlock_refines : decompressBlock_refines_full :=
  Zstd.Proofs.Blk.decompressBlock_refines_full_holds

/-- non-vacuity: the Spec accepts a compressed block with Raw literals `abcd` and one sequence in RLE
modes (literal length 4, match length 3, offset 1) on the initial state, which is coupled with a
fresh scratch; its literals header is of type Raw -/
example : (Spec.decodeCompressedBlock 1024 #[] [0x20, 0x61, 0x62, 0x63, 0x64, 0x01, 0x54, 0x04, 0x02, 0x00, 0x04]
      {} #[]).isSome = true ∧ Zstd.Proofs.Blk.Coupled {} {} ∧
    (∀ H, Spec.parseLitHeader [0x20, 0x61, 0x62, 0x63, 0x64, 0x01, 0x54, 0x04, 0x02, 0x00, 0x04] = some H → H.ltype < 2) := by
  refine ⟨by decide +kernel, Zstd.Proofs.Blk.coupled_fresh, fun H h => ?_⟩
  rw [show Spec.parseLitHeader [0x20, 0x61, 0x62, 0x63, 0x64, 0x01, 0x54, 0x04, 0x02, 0x00, 0x04] = some ⟨0, 4, 0, 0, 1⟩ by
    decide +kernel] at h
  cases h; decide

/-- non-vacuity of `blk_decompressBlock_refines` for Huffman-coded literals: the only block of a real
libzstd frame (zstd level 19 on 180 bytes of English text; Compressed literals, single stream, tree
description in the FSE-compressed form, FSE_Compressed sequence tables) is accepted by the Spec on the
initial entropy state, which is coupled with a fresh scratch -/
example : (Spec.decodeCompressedBlock 1024 #[]
      [34, 134, 18, 18, 144, 207, 1, 96, 131, 13, 54, 216, 34, 139, 12, 250, 255, 255, 224, 250, 131, 28, 135, 145, 225, 151, 132, 156, 76, 211, 51, 191, 120, 4, 216, 71, 98, 151, 236, 1, 238, 120, 200, 16, 180, 224, 142, 95, 220, 241, 99, 129, 23, 54, 110, 47, 72, 231, 142, 127, 60, 217, 97, 83, 242, 188, 50, 242, 69, 217, 11, 71, 194, 72, 119, 238, 24, 5, 0, 210, 131, 156, 58, 91, 48, 10, 243, 86, 13, 33, 9, 19, 10]
      {} #[]).isSome = true ∧ Zstd.Proofs.Blk.Coupled {} {} :=
  ⟨by decide +kernel, Zstd.Proofs.Blk.coupled_fresh⟩

/-! ### instance B: the decoder the drivers run

For `DecB` — the frame-level model over the FAITHFUL block decoder, which engine `dec` compares with
the real code line by line on valid and malformed frames — the frame-level refinement follows from the
block-level one (`blk_decompressBlock_refines` above) through `RefinesObligation` /
`instRefinesSpecFaithful` (Proofs/FrameFaithful.lean).  The model in these theorems is the model the engine
runs. -/

/-- **C01 for the faithful model, with dictionaries**: `decodeFrame_refines_partial` at `DecB` -/
theorem decodeFrame_refines_faithful_dicts (d : DecB) (sdicts : List Spec.Dict) (hdc : DictsCoupled d.dicts sdicts)
    (f : List Nat) (hb : ∀ x ∈ f, x < 256) (r : Spec.FrameResult)
    (hs : Spec.decodeFrame f sdicts = some r) (hlim : r.header.window ≤ d.maxWindow) :
    ∃ d0 d1 rest st1, d.reset f = (d0, .ok rest) ∧
      d0.decodeBlocks rest .all = (d1, .ok (f.drop r.consumed, true)) ∧ d1.state = some st1 ∧
      st1.buf.content.toList = r.content ∧ d1.isFinished = true ∧ st1.bytesRead = r.consumed ∧
      st1.checksum = r.checksum ∧ st1.buf.hashed = #[] ∧ r.consumed ≤ f.length :=
  decodeFrame_refines_partial d sdicts hdc f hb r hs hlim

/-- **C01 for the faithful model**, decoder without dictionaries -/
theorem decodeFrame_refines_faithful (d : DecB) (hnd : d.dicts = [])
    (f : List Nat) (hb : ∀ x ∈ f, x < 256) (r : Spec.FrameResult)
    (hs : Spec.decodeFrame f [] = some r) (hlim : r.header.window ≤ d.maxWindow) :
    ∃ d0 d1 rest st1, d.reset f = (d0, .ok rest) ∧
      d0.decodeBlocks rest .all = (d1, .ok (f.drop r.consumed, true)) ∧ d1.state = some st1 ∧
      st1.buf.content.toList = r.content ∧ d1.isFinished = true ∧ st1.bytesRead = r.consumed ∧
      st1.checksum = r.checksum ∧ st1.buf.hashed = #[] ∧ r.consumed ≤ f.length :=
  decodeFrame_refines_partial d [] (by rw [hnd]; exact .nil) f hb r hs hlim

/-- the two conclusions of `C01_full` for EVERY block decoder satisfying the contracts (both instances do), with
dictionaries coupled to the decoder's -/
theorem decoder_reproduces_content_of_contract {σ : Type} [BlockDec σ] [BlockContract σ] [RefinesSpec σ]
    (d : Decoder σ) (sdicts : List Spec.Dict) (hdc : DictsCoupled d.dicts sdicts)
    (f : List Nat) (hb : ∀ x ∈ f, x < 256) (r : Spec.FrameResult)
    (hs : Spec.decodeFrame f sdicts = some r) (hcons : r.consumed = f.length) (hlim : r.header.window ≤ d.maxWindow) :
    (∀ room, r.content.length ≤ room → ∃ d', d.decodeAll f room = (d', .ok r.content.toArray)) ∧
    (∃ d0 rest d1, d.reset f = (d0, .ok rest) ∧ d0.decodeBlocks rest .all = (d1, .ok ([], true)) ∧
      d1.isFinished = true ∧ (d1.collect).2 = some r.content.toArray ∧ (d1.collect).1.canCollect = 0) := by
  refine ⟨fun room hroom => Decoder.decodeAll_valid_frame d sdicts hdc f hb r hs hlim hcons room hroom, ?_⟩
  obtain ⟨d0, rest, d1, h1, h2, h3, h4, h5⟩ := Decoder.reset_blocks_collect_valid_frame d sdicts hdc f hb r hs hlim
  refine ⟨d0, rest, d1, h1, ?_, h3, h4, h5⟩
  rw [h2, hcons]; simp

/-- **`C01_full` holds**: `decoder_reproduces_content_of_contract` at the executable instance `DecB`, no dictionaries -/
theorem decoder_reproduces_content : C01_full :=
  fun f r hb hs hcons hlim => decoder_reproduces_content_of_contract ({} : DecB) [] .nil f hb r hs hcons hlim

/-- **`C01_full_dicts` holds**: dictionaries registered from parsed bytes need no coupling hypothesis
(`C09.parsed_dicts_fresh`, from `decodeDict_refines`: the code parses every dictionary the Spec parses, to
coupled tables, the same content, offsets and id) -/
theorem decoder_reproduces_content_dicts : C01_full_dicts := by
  intro raws f r hraws hb hs hcons hlim
  obtain ⟨hdc, hmw⟩ := C09.parsed_dicts_fresh raws hraws
  exact decoder_reproduces_content_of_contract _ _ hdc f hb r hs hcons (by rw [hmw]; exact hlim)

/-- the `decode_all` half at the Spec stand-in (instance A) -/
theorem decoder_reproduces_content_standIn (f : List Nat) (r : Spec.FrameResult) (hb : ∀ x ∈ f, x < 256)
    (hs : Spec.decodeFrame f [] = some r) (hcons : r.consumed = f.length)
    (hlim : r.header.window ≤ ({} : DecA).maxWindow) :
    ∃ d' out, (({} : DecA).decodeAll f r.content.length) = (d', .ok out) ∧ out.toList = r.content := by
  obtain ⟨d', h⟩ := (decoder_reproduces_content_of_contract ({} : DecA) [] .nil f hb r hs hcons hlim).1 _ (Nat.le_refl _)
  exact ⟨d', _, h, by simp⟩

/-- non-vacuity of `C01_full`: the frame of the first example is exactly one frame, within the limit -/
example : ∃ r, Spec.decodeFrame [0x28, 0xB5, 0x2F, 0xFD, 0x20, 3, 0x19, 0, 0, 97, 98, 99] [] = some r ∧
    r.consumed = 12 ∧ r.header.window ≤ ({} : DecB).maxWindow ∧ r.content = [97, 98, 99] := by
  refine ⟨_, rfl, ?_⟩
  decide +kernel

end Zstd.Props.C01
