import Zstd.Proofs.FrameDecoderStandIn
import Zstd.Proofs.DictParse
import Zstd.Proofs.FrameFaithful
import Zstd.Proofs.FrameDecoderToVec
import Zstd.Props.C09
/-
C10 — exact frame boundaries: consumption, multi-frame decoding, truncation detection.

The source is the list of bytes not yet read (`impl Read for &[u8]`); `s.take k` is the source truncated after `k`
bytes.  All statements hold for ALL states, sources, strategies, cut points (no bound).
-/
set_option linter.unusedSectionVars false
namespace Zstd.Props.C10
open Zstd Zstd.Model

variable {σ : Type} [BlockDec σ] [BlockContract σ]

theorem readExact_exact (n : Nat) (s : Src) (t r : List Nat) :
    readExact n s = some (t, r) ↔ n ≤ s.length ∧ t = s.take n ∧ r = s.drop n :=
  readExact_eq_some

/-- `prefix_reader_lemma` of DESIGN.md §8 C10, for one read: on a truncated source a read behaves as on the full one when
it fits in front of the cut (the rest
is cut at the same absolute position) and fails with `UnexpectedEof` as soon as it crosses the cut -/
theorem readExact_take (n k : Nat) (s : Src) :
    readExact n (s.take k) =
      if n ≤ k then (readExact n s).map (fun p => (p.1, p.2.take (k - n))) else none :=
  Model.readExact_take n k s

/-- a successful block consumed exactly `3 + content_size` bytes from the front; the rest is untouched;
`bytes_read_counter` and `block_counter` say so -/
theorem block_consumed_exact (st st' : FState σ) (s s1 : Src) (bh : BHeader)
    (h : decodeOneBlock st s = (st', .ok (bh, s1))) :
    3 + bh.contentSize ≤ s.length ∧ s1 = s.drop (3 + bh.contentSize) ∧
    st'.bytesRead = st.bytesRead + (3 + bh.contentSize) ∧ st'.blockCounter = st.blockCounter + 1 := by
  have := decodeOneBlock_ok st st' s s1 bh h
  exact ⟨this.fits, this.rest, this.bytesRead, this.blockCounter⟩

/-- on `s.take k`, a block that fits entirely in the first `k` bytes is decoded
exactly as on `s`, the rest of the source being truncated; a block cut anywhere fails with
`UnexpectedEof` at the header (nothing counted) or at the body (3 bytes counted), with nothing decoded -/
theorem decodeOneBlock_prefix (st st' : FState σ) (s s1 : Src) (bh : BHeader) (k : Nat)
    (h : decodeOneBlock st s = (st', .ok (bh, s1))) :
    decodeOneBlock st (s.take k) =
      if 3 + bh.contentSize ≤ k then (st', .ok (bh, s1.take (k - (3 + bh.contentSize))))
      else if k < 3 then (st, .err .blockHeaderRead)
      else ({ st with bytesRead := st.bytesRead + 3 }, .err .blockBodyRead) := by
  split
  · exact decodeOneBlock_take_fits st st' s s1 bh k h ‹_›
  · exact decodeOneBlock_take_cut st st' s s1 bh k h (by omega)

/-- `decode_blocks` hands back the source minus exactly the bytes it counted — a
suffix of what it was given; following data is untouched -/
theorem consumed_exact (d d' : Decoder σ) (s rest : Src) (strat : Strategy) (fin : Bool)
    (h : d.decodeBlocks s strat = (d', .ok (rest, fin))) :
    ∃ n, rest = s.drop n ∧ n ≤ s.length ∧ d'.bytesRead = d.bytesRead + n ∧ n = s.length - rest.length := by
  obtain ⟨h3, n, hl, hn, hb⟩ := Decoder.decodeBlocks_ok_consumes d d' s rest strat fin h
  exact ⟨n, hn, hl, hb, by rw [hn, List.length_drop, Nat.sub_sub_self hl]⟩

theorem reset_ok_source (d d0 : Decoder σ) (s s1 : Src) (hr : d.reset s = (d0, .ok s1)) :
    s1 = s.drop d0.bytesRead ∧ d0.bytesRead ≤ s.length := by
  obtain ⟨st, rfl, -, hf⟩ := Decoder.reset_ok d d0 s s1 hr
  exact ⟨hf.rest s1 rfl, hf.hdr_le⟩

/-- a whole frame, header included: after `reset` on `s` and `decode_blocks` to the end of the frame,
`bytes_read_from_source()` is the length of the frame (header through optional checksum) and the
source left over is `s` minus exactly that many bytes -/
theorem frame_consumed_exact (d d0 d' : Decoder σ) (s s1 rest : Src) (strat : Strategy) (fin : Bool)
    (hr : d.reset s = (d0, .ok s1)) (h : d0.decodeBlocks s1 strat = (d', .ok (rest, fin))) :
    rest = s.drop d'.bytesRead ∧ d'.bytesRead ≤ s.length := by
  obtain ⟨hs1, hlen⟩ := reset_ok_source d d0 s s1 hr
  obtain ⟨n, hn, hl, hb, -⟩ := consumed_exact _ _ _ _ _ _ h
  rw [hs1, List.length_drop] at hl
  exact ⟨by rw [hb, hn, hs1, List.drop_drop], by omega⟩

/-- `prefix_errors` for the block loop: every proper prefix ends in an error: if `decode_blocks` on `s` completes the frame (last block
and, when flagged, the checksum) leaving `rest`, then for EVERY cut `k` strictly inside the consumed
part the run on `s.take k` ends in an error of a reader site — block header, block body or checksum —
the decoder does NOT report the frame finished, at most `k` bytes are counted, and what is buffered at
that point is a prefix of what the full run buffers (so everything delivered before the error is a
prefix of the true content).  Precondition: the frame's last block was not in yet (the documented
loop only calls `decode_blocks` while `is_finished()` is false). -/
theorem decodeBlocks_prefix (d d' : Decoder σ) (st : FState σ) (s rest : Src) (strat : Strategy)
    (hst : d.state = some st) (hnf : st.finished = false) (hcs : st.checksum = none)
    (h : d.decodeBlocks s strat = (d', .ok (rest, true))) (k : Nat) (hk : k < s.length - rest.length) :
    ∃ d'' e, d.decodeBlocks (s.take k) strat = (d'', .err e) ∧
      (e = .blockHeaderRead ∨ e = .blockBodyRead ∨ e = .checksumRead) ∧
      d''.isFinished = false ∧ IsPrefix d''.content d'.content ∧
      d.bytesRead ≤ d''.bytesRead ∧ d''.bytesRead ≤ d.bytesRead + k := by
  obtain ⟨st0, st', hst0, hl, rfl, hfin⟩ := Decoder.decodeBlocks_ok_loop h
  rw [hst] at hst0; cases hst0
  rw [Decoder.decodeBlocks_some d st (s.take k) strat hst]
  have hklen : (s.take k).length = k := by rw [List.length_take]; omega
  obtain ⟨st'', e, h1, h2, h3, h4, h5, h6, h7⟩ :=
    decodeBlocksLoop_take strat _ _ (s.length + 1) ((s.take k).length + 1) st st' s rest k hl hfin.symm hnf hcs hk (by omega)
  have hbr : d.bytesRead = st.bytesRead := by simp only [Decoder.bytesRead, hst]
  rw [h1, hbr]
  exact ⟨_, e, rfl, h2, h5, h3, h6, h7⟩

/-- a fresh `reset` establishes the precondition of `decodeBlocks_prefix` -/
theorem reset_establishes_unfinished (d d0 : Decoder σ) (s s1 : Src) (hr : d.reset s = (d0, .ok s1)) :
    ∃ st, d0.state = some st ∧ st.finished = false ∧ st.checksum = none := by
  obtain ⟨st, rfl, -, hf⟩ := Decoder.reset_ok d d0 s s1 hr
  exact ⟨st, rfl, hf.finished, hf.checksum⟩

/-- for EVERY frame the Spec accepts (`Spec.decodeFrame f = some r`) and EVERY
cut point `k` behind the frame header and strictly inside the frame (`header ≤ k < r.consumed`): `reset`
on the truncated input succeeds exactly as on the full one, and `decode_blocks(All)` then ends in an
error at a reader site (block header, block body or checksum) — never `Ok`, never `is_finished()` —
with at most the bytes before the cut counted, and everything buffered at that point (hence everything
a caller can have been handed) a prefix of the frame's true content `r.content`.  (Cuts inside the
frame header make `reset` itself fail: `header_cut_errors`.) -/
theorem valid_frame_prefix_errors [RefinesSpec σ] (d : Decoder σ) (sdicts : List Spec.Dict)
    (hdc : DictsCoupled d.dicts sdicts) (f : List Nat) (hb : ∀ x ∈ f, x < 256) (r : Spec.FrameResult)
    (hs : Spec.decodeFrame f sdicts = some r) (hlim : r.header.window ≤ d.maxWindow)
    (k : Nat) (hk : k < r.consumed) :
    ∃ d0 rest, d.reset f = (d0, .ok rest) ∧
      (d0.bytesRead ≤ k →
        d.reset (f.take k) = (d0, .ok (rest.take (k - d0.bytesRead))) ∧
        ∃ d'' e, d0.decodeBlocks (rest.take (k - d0.bytesRead)) .all = (d'', .err e) ∧
          (e = .blockHeaderRead ∨ e = .blockBodyRead ∨ e = .checksumRead) ∧ d''.isFinished = false ∧
          d''.bytesRead ≤ k ∧ ∃ tail, r.content = (d''.content ++ tail).toList) := by
  obtain ⟨d0, d1, rest, st1, hres, hdb, hst1, hcont, -, -, -, -, hcl⟩ := decodeFrame_refines d sdicts hdc f hb r hs hlim
  refine ⟨d0, rest, hres, fun hk0 => ⟨Decoder.reset_take_fits d d0 f rest k hres hk0, ?_⟩⟩
  obtain ⟨st0, hst0, hnf, hcs⟩ := reset_establishes_unfinished d d0 f rest hres
  have hrest := reset_ok_source d d0 f rest hres
  have hcut : k - d0.bytesRead < rest.length - (f.drop r.consumed).length := by
    rw [hrest.1, List.length_drop, List.length_drop]; omega
  obtain ⟨d'', e, h1, h2, h3, h4, h5, h6⟩ :=
    decodeBlocks_prefix d0 d1 st0 rest (f.drop r.consumed) .all hst0 hnf hcs hdb (k - d0.bytesRead) hcut
  refine ⟨d'', e, h1, h2, h3, Nat.add_sub_cancel' hk0 ▸ h6, ?_⟩
  obtain ⟨tail, ht⟩ := h4
  refine ⟨tail, ?_⟩
  rw [← hcont]
  simp only [Decoder.content, hst1] at ht
  rw [ht]
  rfl


/-- a cut inside the frame header makes `reset` fail (never `Ok`) -/
theorem header_cut_errors (d d0 : Decoder σ) (f rest : Src) (k : Nat) (h : d.reset f = (d0, .ok rest))
    (hk : k < d0.bytesRead) : ∀ rest', (d.reset (f.take k)).2 ≠ .ok rest' := by
  intro rest' hok
  obtain ⟨st, rfl, hrc, -⟩ := Decoder.reset_ok d d0 f rest h
  obtain ⟨st', -, hrc', hf'⟩ := Decoder.reset_ok d _ (f.take k) rest' (Prod.ext rfl hok)
  -- the header that fits into the first `k` bytes is the header of `f`, so it has more than `k` bytes
  have happ := resetCore_append d.dicts d.maxWindow (f.take k) (f.drop k) st' rest' hrc'
  rw [List.take_append_drop, hrc] at happ
  simp only [ResetResult.replace.injEq] at happ
  have hlen := hf'.hdr_le
  rw [List.length_take] at hlen
  simp only [Decoder.bytesRead, happ.1] at hk
  omega

theorem decode_all_within_target (d d' : Decoder σ) (s : Src) (room : Nat) (out : Array Nat)
    (h : d.decodeAll s room = (d', .ok out)) : out.size ≤ room := by
  obtain ⟨x, hx, hs⟩ := decodeAllLoop_ok _ _ _ _ _ _ _ h
  rw [hx]; simpa using hs

/-- when the target cannot take everything a frame produced, the call fails — a
frame is only ever reported done when it is finished AND drained completely into the target -/
theorem target_too_small (fuel : Nat) (d d1 : Decoder σ) (s s1 : Src) (room : Nat) (out : Array Nat) (fin : Bool)
    (hb : d.decodeBlocks s (.uptoBytes (1024 * 1024)) = (d1, .ok (s1, fin)))
    (hc : (d1.read room).1.canCollect ≠ 0) :
    decodeAllFrame (fuel + 1) d s room out = ((d1.read room).1, .err .targetTooSmall) := by
  rw [decodeAllFrame, hb]
  simp only [hc, ne_eq, not_false_eq_true, if_true]

theorem no_silent_truncation (d d' : Decoder σ) (s s' : Src) (room room' : Nat) (out out' : Array Nat)
    (h : decodeAllFrame (s.length + 2) d s room out = (d', .ok (s', room', out'))) :
    d'.isFinished = true ∧ d'.canCollect = 0 ∧ ∃ x, out' = out ++ x ∧ x.size ≤ room ∧ room' = room - x.size := by
  obtain ⟨h1, h2, -, x, h3, h4, h5, -⟩ := decodeAllFrame_ok _ _ _ _ _ _ _ _ _ (by omega) h
  exact ⟨h1, h2, x, h3, h4, h5⟩

/-- a skippable frame that claims more bytes than are left is an error
(`FailedToSkipFrame`), never a silent stop -/
theorem truncated_skippable (d : Decoder σ) (s : Src) (room : Nat)
    (h8 : 8 ≤ s.length) (hm : Gen.skipMagicLo ≤ leNat (s.take 4) ∧ leNat (s.take 4) ≤ Gen.skipMagicHi)
    (hlen : s.length - 8 < leNat ((s.drop 4).take 4)) :
    d.decodeAll s room = (d, .err .failedToSkipFrame) :=
  decodeAllLoop_truncated_skippable s.length d s room #[] h8 hm hlen

/-- a complete skippable frame is skipped exactly (8 + length bytes), writes nothing, leaves the
decoder as it was -/
theorem skippable_skipped_exactly (fuel : Nat) (d : Decoder σ) (s : Src) (room : Nat) (out : Array Nat)
    (h8 : 8 ≤ s.length) (hm : Gen.skipMagicLo ≤ leNat (s.take 4) ∧ leNat (s.take 4) ≤ Gen.skipMagicHi)
    (hlen : leNat ((s.drop 4).take 4) ≤ s.length - 8) :
    decodeAllLoop (fuel + 1) d s room out = decodeAllLoop fuel d (s.drop (8 + leNat ((s.drop 4).take 4))) room out :=
  decodeAllLoop_skip fuel d s room out h8 hm hlen

/-- bytes after the last frame that are shorter than a magic number, or start with
neither magic number, make `decode_all` fail (at whatever point of the input they are reached) -/
theorem trailing_garbage (fuel : Nat) (d : Decoder σ) (s : Src) (room : Nat) (out : Array Nat) (hne : s ≠ [])
    (h : s.length < 4 ∨ (leNat (s.take 4) ≠ Gen.magicNum ∧
          ¬ (Gen.skipMagicLo ≤ leNat (s.take 4) ∧ leNat (s.take 4) ≤ Gen.skipMagicHi))) :
    decodeAllLoop (fuel + 1) d s room out =
      (d, .err (if s.length < 4 then .magicRead else .badMagic (leNat (s.take 4)))) := by
  apply decodeAllLoop_garbage fuel d d s room out _ hne (Decoder.reset_garbage d s h)
  intro m l; split <;> simp

/-- frame boundaries are exact: a frame header / a block / a whole `decode_blocks` run read from
`s ++ x` behaves exactly as on `s` alone and leaves `x` untouched behind the rest -/
theorem following_data_untouched (d d' : Decoder σ) (s rest x : Src) (strat : Strategy) (fin : Bool)
    (h : d.decodeBlocks s strat = (d', .ok (rest, fin))) :
    d.decodeBlocks (s ++ x) strat = (d', .ok (rest ++ x, fin)) :=
  Decoder.decodeBlocks_append d d' s rest x strat fin h

theorem header_following_data_untouched (s x : Src) (h : FHeader) (n : Nat) (rest : Src)
    (hr : readFrameHeader s = .ok (h, n, rest)) : readFrameHeader (s ++ x) = .ok (h, n, rest ++ x) :=
  readFrameHeader_append s x h n rest hr

/-- leading skippable frames (any number) are transparent to `decode_all` -/
theorem decodeAll_skips (segs : List (List Nat)) (hs : ∀ seg ∈ segs, IsSkippable seg) (d : Decoder σ)
    (rest : Src) (room : Nat) : d.decodeAll (segs.flatten ++ rest) room = d.decodeAll rest room :=
  Decoder.decodeAll_skips segs hs d rest room

/-- for ANY list of segments — frames and skippable frames in any number and
order — each frame being valid in the sense that the per-frame loop of `decode_all`, run on that
frame ALONE after `init`, consumes all of it and delivers its content (`Segment.Valid`; for skippable
frames: magic in range and declared length = actual length), `decode_all` on the concatenation returns
exactly the concatenation of the contents (hence the exact total), for every target at least that
large, with the whole input consumed.
(Tying `Segment.Valid` of a frame to `Spec.decodeFrame` is C01's composition.) -/
theorem decodeAll_concat (segs : List Segment) (d : Decoder σ)
    (hv : ∀ sg ∈ segs, sg.Valid d.dicts d.maxWindow) (room : Nat) (hroom : (totalContent segs).size ≤ room) :
    ∃ d', d.decodeAll (totalBytes segs) room = (d', .ok (totalContent segs)) :=
  Decoder.decodeAll_concat segs d hv room hroom

/-! ### `decode_all_to_vec`

Model: `Decoder.decodeAllToVec` (resize to capacity, `decode_all` into the spare capacity, truncate back
on BOTH paths); engine `dec` compares it with the real function (`dec allvec` lines: outcome, bytes
appended, vector length, the bytes in front). -/

/-- the call IS `decode_all` with the spare capacity as target: same decoder afterwards, same outcome -/
theorem decode_all_to_vec_is_decode_all (d : Decoder σ) (s : Src) (vec : Array Nat) (room : Nat) :
    (d.decodeAllToVec s vec room).1 = (d.decodeAll s room).1 ∧
    (∀ e, (d.decodeAllToVec s vec room).2.2 = .err e ↔ (d.decodeAll s room).2 = .err e) ∧
    ((d.decodeAllToVec s vec room).2.2 = .ok () ↔ ∃ out, (d.decodeAll s room).2 = .ok out) := by
  rw [Decoder.decodeAllToVec_eq]
  cases h : d.decodeAll s room with
  | mk d' o => cases o <;> simp

/-- "The length is not changed if an error occurs" — more: the vector is UNCHANGED on every failure
(error or panic path), whatever was written into the spare capacity before the failure -/
theorem decode_all_to_vec_unchanged_on_failure (d : Decoder σ) (s : Src) (vec : Array Nat) (room : Nat)
    (h : (d.decodeAllToVec s vec room).2.2 ≠ .ok ()) : (d.decodeAllToVec s vec room).2.1 = vec := by
  rw [Decoder.decodeAllToVec_eq] at h ⊢
  cases hd : d.decodeAll s room with
  | mk d' o => cases o <;> simp_all

/-- the bytes already in the vector are never touched, on any path -/
theorem decode_all_to_vec_prefix_untouched (d : Decoder σ) (s : Src) (vec : Array Nat) (room : Nat) :
    (d.decodeAllToVec s vec room).2.1.extract 0 vec.size = vec := by
  rw [Decoder.decodeAllToVec_eq]
  cases hd : d.decodeAll s room with
  | mk d' o => cases o <;> simp [Array.extract_append]

/-- on success exactly the bytes `decode_all` reports are appended — never more than the spare
capacity, so the vector is not reallocated and `min(len + n, cap)` never cuts anything off -/
theorem decode_all_to_vec_appends_exactly (d : Decoder σ) (s : Src) (vec : Array Nat) (room : Nat)
    (h : (d.decodeAllToVec s vec room).2.2 = .ok ()) :
    ∃ d' out, d.decodeAll s room = (d', .ok out) ∧ out.size ≤ room ∧
      d.decodeAllToVec s vec room = (d', vec ++ out, .ok ()) := by
  rw [Decoder.decodeAllToVec_eq] at h ⊢
  cases hd : d.decodeAll s room with
  | mk d' o =>
    rw [hd] at h
    cases o with
    | ok out => exact ⟨d', out, rfl, decode_all_within_target d d' s room out hd, rfl⟩
    | err e => cases h
    | fault f => cases h

/-- `decodeAll_concat` through the vector front end: any list of valid frames and skippable frames,
spare capacity at least the total content ⇒ `Ok`, and the vector is its old content followed by exactly
the concatenated contents -/
theorem decode_all_to_vec_concat (segs : List Segment) (d : Decoder σ) (vec : Array Nat)
    (hv : ∀ sg ∈ segs, sg.Valid d.dicts d.maxWindow) (room : Nat) (hroom : (totalContent segs).size ≤ room) :
    ∃ d', d.decodeAllToVec (totalBytes segs) vec room = (d', vec ++ totalContent segs, .ok ()) := by
  obtain ⟨d', hd⟩ := Decoder.decodeAll_concat segs d hv room hroom
  exact ⟨d', by rw [Decoder.decodeAllToVec_eq, hd]⟩

/-- an undersized spare capacity fails (`decode_all` does: `target_too_small`) and leaves the vector as
it was: no silent truncation through this front end either -/
theorem decode_all_to_vec_no_silent_truncation (d : Decoder σ) (s : Src) (vec : Array Nat) (room : Nat) (e : DErr)
    (h : (d.decodeAll s room).2 = .err e) :
    (d.decodeAllToVec s vec room).2 = (vec, .err e) := by
  rw [Decoder.decodeAllToVec_eq]
  cases hd : d.decodeAll s room with
  | mk d' o => rw [hd] at h; simp only at h; subst h; rfl

/-- the fuel of `decode_blocks` suffices: each iteration consumes ≥ 3 source bytes or returns, so any fuel
above `|s|` gives the same result — the fuel `|s| + 1` in `Decoder.decodeBlocks` is never exhausted -/
theorem fuel_suffices_decodeBlocks (strat : Strategy) (a c f : Nat) (st : FState σ) (s : Src) (h : s.length < f) :
    decodeBlocksLoop strat a c f st s = decodeBlocksLoop strat a c (s.length + 1) st s :=
  decodeBlocksLoop_fuel strat a c f (s.length + 1) st s h (Nat.lt_succ_self _)

theorem fuel_suffices_decodeFromTo (f : Nat) (st : FState σ) (s : Src) (h : s.length < f) :
    decodeFromToLoop f st s = decodeFromToLoop (s.length + 1) st s :=
  decodeFromToLoop_fuel f (s.length + 1) st s h (Nat.lt_succ_self _)

theorem fuel_suffices_streamingRead (f : Nat) (d : Decoder σ) (s : Src) (n : Nat) (h : s.length < f) :
    streamingFill f d s n = streamingFill (s.length + 2) d s n :=
  streamingFill_fuel f (s.length + 2) d s n h (by omega)

theorem fuel_suffices_decodeAllFrame (f : Nat) (d : Decoder σ) (s : Src) (room : Nat) (out : Array Nat)
    (h : s.length < f) : decodeAllFrame f d s room out = decodeAllFrame (s.length + 2) d s room out :=
  decodeAllFrame_fuel f (s.length + 2) d s room out h (by omega)

theorem fuel_suffices_decodeAll (f : Nat) (d : Decoder σ) (s : Src) (room : Nat) (out : Array Nat)
    (h : s.length < f) : decodeAllLoop f d s room out = decodeAllLoop (s.length + 1) d s room out :=
  decodeAllLoop_fuel f (s.length + 1) d s room out h (Nat.lt_succ_self _)

/-- `write_all_bytes`: at most `len − written` iterations make progress, plus one -/
theorem fuel_suffices_writeAllBytes (f extra : Nat) (sc : List SinkResp) (len w : Nat) (h : len - w < f) :
    writeAllBytes (f + extra) sc len w = writeAllBytes f sc len w :=
  writeAllBytes_fuel f extra sc len w h

def demoFrame : List Nat := [0x28, 0xB5, 0x2F, 0xFD, 0x24, 3, 0x19, 0, 0, 97, 98, 99, 1, 2, 3, 4]
def demoSkip : List Nat := [0x50, 0x2A, 0x4D, 0x18, 2, 0, 0, 0, 7, 7]

/-- the hypotheses of `decodeBlocks_prefix` are satisfiable: the demo frame decodes to the end -/
example : ((({} : DecA).reset demoFrame).1.decodeBlocks (demoFrame.drop 6) .all).2.isOk = true := by decide +kernel
/-- cut after 11 of its 16 bytes the body read fails, cut after 14 the checksum read fails -/
example : (((({} : DecA).reset demoFrame).1.decodeBlocks ((demoFrame.drop 6).take 5) .all).2.isOk) = false := by
  decide +kernel
example : (((({} : DecA).reset demoFrame).1.decodeBlocks ((demoFrame.drop 6).take 8) .all).1.isFinished) = false := by
  decide +kernel
/-- frame, skippable frame, frame: concatenated contents -/
example : ((({} : DecA).decodeAll (demoFrame ++ demoSkip ++ demoFrame) 6).2.delivered id) = #[97, 98, 99, 97, 98, 99] := by
  decide +kernel
/-- `Segment.Valid` is satisfiable for both kinds of segment -/
example : (Segment.skip demoSkip).Valid ([] : List (Dict Spec.Entropy)) Gen.defaultMaxWindowSize :=
  Segment.valid_of_validB _ _ _ (by decide +kernel)
example : (Segment.frame demoFrame #[97, 98, 99]).Valid ([] : List (Dict Spec.Entropy)) Gen.defaultMaxWindowSize :=
  Segment.valid_of_validB _ _ _ (by decide +kernel)
/-- target one byte too small / truncated skippable frame / trailing garbage: errors -/
example : ((({} : DecA).decodeAll (demoFrame ++ demoSkip ++ demoFrame) 5).2.isOk) = false := by decide +kernel
example : ((({} : DecA).decodeAll (demoFrame ++ demoSkip.take 9) 6).2.isOk) = false := by decide +kernel
example : ((({} : DecA).decodeAll (demoFrame ++ [0]) 6).2.isOk) = false := by decide +kernel


/-! ### instance B: the decoder the drivers run (faithful block decoder, Model/FrameFaithful.lean) -/

theorem frame_consumed_exact_faithful (d d0 d' : DecB) (s s1 rest : Src) (strat : Strategy) (fin : Bool)
    (hr : d.reset s = (d0, .ok s1)) (h : d0.decodeBlocks s1 strat = (d', .ok (rest, fin))) :
    rest = s.drop d'.bytesRead ∧ d'.bytesRead ≤ s.length :=
  frame_consumed_exact d d0 d' s s1 rest strat fin hr h

theorem no_silent_truncation_faithful (d d' : DecB) (s s' : Src) (room room' : Nat) (out out' : Array Nat)
    (h : decodeAllFrame (s.length + 2) d s room out = (d', .ok (s', room', out'))) :
    d'.isFinished = true ∧ d'.canCollect = 0 ∧ ∃ x, out' = out ++ x ∧ x.size ≤ room ∧ room' = room - x.size :=
  no_silent_truncation d d' s s' room room' out out' h

/-- `valid_frame_prefix_errors` for the faithful decoder (no hypotheses: `instRefinesSpecFaithful`) -/
theorem valid_frame_prefix_errors_faithful (d : DecB) (sdicts : List Spec.Dict)
    (hdc : DictsCoupled d.dicts sdicts) (f : List Nat) (hb : ∀ x ∈ f, x < 256) (r : Spec.FrameResult)
    (hs : Spec.decodeFrame f sdicts = some r) (hlim : r.header.window ≤ d.maxWindow)
    (k : Nat) (hk : k < r.consumed) :
    ∃ d0 rest, d.reset f = (d0, .ok rest) ∧
      (d0.bytesRead ≤ k →
        d.reset (f.take k) = (d0, .ok (rest.take (k - d0.bytesRead))) ∧
        ∃ d'' e, d0.decodeBlocks (rest.take (k - d0.bytesRead)) .all = (d'', .err e) ∧
          (e = .blockHeaderRead ∨ e = .blockBodyRead ∨ e = .checksumRead) ∧ d''.isFinished = false ∧
          d''.bytesRead ≤ k ∧ ∃ tail, r.content = (d''.content ++ tail).toList) :=
  valid_frame_prefix_errors d sdicts hdc f hb r hs hlim k hk

/-- non-vacuity of the `decode_all_to_vec` theorems on the executable instance: enough spare capacity —
the content is appended behind `[1, 2]`; one byte short — `TargetTooSmall` and the vector as it was -/
example : (({} : DecB).decodeAllToVec demoFrame #[1, 2] 3).2.1 = #[1, 2, 97, 98, 99] := by decide +kernel
example : (({} : DecB).decodeAllToVec demoFrame #[1, 2] 2).2.1 = #[1, 2] ∧
    (match (({} : DecB).decodeAllToVec demoFrame #[1, 2] 2).2.2 with | .err .targetTooSmall => true | _ => false) = true := by
  decide +kernel


/-- `valid_frame_prefix_errors` for decoders whose dictionaries were registered through `add_dict` of
parsed bytes: no coupling hypothesis (`C09.parsed_dicts_fresh`) -/
theorem valid_frame_prefix_errors_parsed_dicts (raws : List (List Nat))
    (hraws : ∀ raw ∈ raws, (∀ x ∈ raw, x < 256) ∧ (Spec.parseDict raw).isSome = true)
    (f : List Nat) (hb : ∀ x ∈ f, x < 256) (r : Spec.FrameResult)
    (hs : Spec.decodeFrame f (specRegisterDicts [] raws) = some r) (hlim : r.header.window ≤ ({} : DecB).maxWindow)
    (k : Nat) (hk : k < r.consumed) :
    ∃ d0 rest, (registerDicts {} raws).reset f = (d0, .ok rest) ∧
      (d0.bytesRead ≤ k →
        (registerDicts {} raws).reset (f.take k) = (d0, .ok (rest.take (k - d0.bytesRead))) ∧
        ∃ d'' e, d0.decodeBlocks (rest.take (k - d0.bytesRead)) .all = (d'', .err e) ∧
          (e = .blockHeaderRead ∨ e = .blockBodyRead ∨ e = .checksumRead) ∧ d''.isFinished = false ∧
          d''.bytesRead ≤ k ∧ ∃ tail, r.content = (d''.content ++ tail).toList) := by
  obtain ⟨hdc, hmw⟩ := C09.parsed_dicts_fresh raws hraws
  exact valid_frame_prefix_errors _ _ hdc f hb r hs (by rw [hmw]; exact hlim) k hk

end Zstd.Props.C10
