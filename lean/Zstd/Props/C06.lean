import Zstd.Proofs.FrameDecoderStandIn
import Zstd.Proofs.FrameFaithful
import Zstd.Proofs.FrameDecoderFull
import Zstd.Proofs.DictParse
import Zstd.Props.C09
/-
C06 — the decoded stream is independent of how the caller drives the decoder.

No bound on states, sources, budgets, sink scripts or ring splits; the theorems about frames the Spec accepts and
about documented programs (`DocOk`, `FullDocOk`, `SchedOk`) name that hypothesis.
-/
set_option linter.unusedSectionVars false
namespace Zstd.Props.C06
open Zstd Zstd.Model

variable {σ : Type} [BlockDec σ] [BlockContract σ]

theorem take_exact (b : DBuf) (n : Nat) :
    (b.take n).1 = b.content.extract 0 n ∧ (b.take n).2.content = b.content.extract n b.content.size ∧
    (b.take n).1 ++ (b.take n).2.content = b.content :=
  ⟨rfl, rfl, DBuf.take_partition b n⟩

/-- `drain_to` with its `DrainGuard`: for EVERY sink script (partial writes,
`Ok(0)`, errors at any call) and EVERY split of the ring into two segments: the sink accepted
`written ≤ amount` bytes; they are the first `written` bytes of the buffer; exactly those were hashed
and dropped — also when the sink failed (`ok = false`); the rest is still buffered; no byte lost or
duplicated. -/
theorem drainToSink_exact (b : DBuf) (amount seg1 : Nat) (sc : List SinkResp) :
    let r := b.drainToSink amount seg1 sc
    let written := r.2.1
    written ≤ amount ∧ written ≤ b.content.size ∧
    r.1.content = b.content.extract written b.content.size ∧
    r.1.hashed = b.hashed ++ b.content.extract 0 written ∧
    b.content.extract 0 written ++ r.1.content = b.content ∧
    r.1.window = b.window ∧ r.1.dict = b.dict ∧ r.1.totalOut = b.totalOut := by
  have h := DBuf.drainToSink_take b amount seg1 sc
  simp only
  rw [h.1]
  exact ⟨h.2.1, h.2.2, rfl, rfl, DBuf.take_partition b _, rfl, rfl, rfl⟩

/-- the second ring segment is only offered to the sink when the first was accepted completely:
after a partial first write the outcome (bytes, status, position in the sink's script) is the first
call's outcome -/
theorem second_segment_only_after_full_first (b : DBuf) (amount seg1 : Nat) (sc : List SinkResp)
    (h0 : amount ≠ 0) (h1 : min (min seg1 b.content.size) amount ≠ 0)
    (hp : (writeAllBytes (min (min seg1 b.content.size) amount + 1) sc (min (min seg1 b.content.size) amount) 0).1
            < min (min seg1 b.content.size) amount) :
    b.drainToSink amount seg1 sc =
      let r := writeAllBytes (min (min seg1 b.content.size) amount + 1) sc (min (min seg1 b.content.size) amount) 0
      ((b.take r.1).2, r.1, r.2.1, r.2.2) :=
  DBuf.drainToSink_first_partial b amount seg1 sc h0 h1 hp

/-- for a sink that accepts a total of `B` more bytes and then
answers `Ok(0)` or fails, the outcome `(written, ok)` is a function of `B`, the mode and
`min(amount, len)` only — it does not depend on how the ring splits the data (`seg1`).  (`hseg`: a
ring's first segment is empty only if the ring is empty — C04.) -/
theorem cumulativeSink_independent_of_segments (b : DBuf) (amount seg1 B : Nat) (failAfter : Bool)
    (hseg : 0 < seg1 ∨ b.content.size = 0) :
    ((b.drainToSink amount seg1 (budgetScript B failAfter)).2.1,
     (b.drainToSink amount seg1 (budgetScript B failAfter)).2.2.1)
      = budgetOutcome B failAfter (min amount b.content.size) :=
  DBuf.drainToSink_budget b amount seg1 B failAfter hseg

/-- the script the `dec` engine's model side uses (one `accept B`, whole content as first segment) yields
the outcome of `cumulativeSink_independent_of_segments`, so comparing it with the real sink over the real
ring is sound -/
theorem driver_sink_script_sound (b : DBuf) (amount B : Nat) (failAfter : Bool) :
    ((b.drainToSink amount b.content.size
        ((if B > 0 then [SinkResp.accept B] else []) ++ [if failAfter then SinkResp.fail else .accept 0])).2.1,
     (b.drainToSink amount b.content.size
        ((if B > 0 then [SinkResp.accept B] else []) ++ [if failAfter then SinkResp.fail else .accept 0])).2.2.1)
      = budgetOutcome B failAfter (min amount b.content.size) :=
  DBuf.drainToSink_driverScript b amount B failAfter

theorem drain_delivers_front (d : Decoder σ) (op : DrainOp) :
    (applyDrain d op).2 ++ (applyDrain d op).1.content = d.content := by
  rcases applyDrain_take d op with ⟨hn, he⟩ | ⟨st, k, hs, hk, -, he⟩
  · rw [he]; simp
  · rw [he]; simp only [Decoder.content, hs]; exact DBuf.take_partition st.buf k

/-- while the last block is not in, every drain operation leaves at least
`window_size` bytes (or everything there was) in the buffer — window retention is never off by one -/
theorem retained_window (d : Decoder σ) (op : DrainOp) (h : d.blocksDone = false) :
    min d.window d.content.size ≤ (applyDrain d op).1.content.size ∧
    (applyDrain d op).1.window = d.window ∧ (applyDrain d op).1.blocksDone = false :=
  applyDrain_retains d op h

/-- `window_suffices`, for one match: bytes in front of the retained part `k` do not influence what an
overlapping copy with `offset ≤ |k|` appends -/
theorem copyWithin_drop (n off : Nat) (d k : Array Nat) (h : off ≤ k.size) :
    copyWithin n off (d ++ k) = d ++ copyWithin n off k :=
  Model.copyWithin_drop n off d k h

/-- `DecodeBuffer::repeat` with an offset inside the retained part behaves the same with
or without the drained bytes `d` in front, never consults the dictionary or `total_output_counter`,
and cannot fail -/
theorem repeat_drop (b : DBuf) (d k : Array Nat) (off ml : Nat) (h : off ≤ k.size) :
    ({ b with content := d ++ k } : DBuf).repeat off ml
      = .ok { b with content := d ++ copyWithin ml off k, totalOut := b.totalOut + ml } ∧
    ({ b with content := k } : DBuf).repeat off ml
      = .ok { b with content := copyWithin ml off k, totalOut := b.totalOut + ml } :=
  ⟨DBuf.repeat_drop b d k off ml h, DBuf.repeat_within _ off ml h⟩

/-- `block_effect_local` of DESIGN.md §8 C06, for sequence execution: if every offset the block resolves to is ≤ `W` and
at least `W` bytes are retained, then the bytes a block appends, the offset history, the counter and
the outcome (errors included) do not depend on what was drained earlier (`d`).  How `totalOut` /
dictionary reach-back enters: not at all under these hypotheses — the dictionary path is only taken
for offsets beyond the buffer, which `offset ≤ W ≤ retained` excludes; when nothing has been drained
(`d = #[]`, the only situation with fewer than `W` bytes retained, by `retained_window`) the two
buffers are identical, dictionary reach-back included. -/
theorem executeSequences_drop (W : Nat) (d : Array Nat) (seqs : List Spec.Seq) (lits : List Nat)
    (h : Nat × Nat × Nat) (q : Nat) (b : DBuf)
    (hW : W ≤ b.content.size) (hoff : ∀ o ∈ resolvedOffsets seqs h, o ≤ W) :
    executeSequences seqs lits h q (b.prepend d) =
      ((((executeSequences seqs lits h q b).1.1).prepend d, (executeSequences seqs lits h q b).1.2),
        (executeSequences seqs lits h q b).2) :=
  Model.executeSequences_drop W d seqs lits h q b hW hoff

theorem executeSequences_nothing_drained (seqs : List Spec.Seq) (lits : List Nat) (h : Nat × Nat × Nat)
    (q : Nat) (b : DBuf) : executeSequences seqs lits h q (b.prepend #[]) = executeSequences seqs lits h q b := by
  simp [DBuf.prepend]

/-- `block_effect_local` for a whole block: the block at the front of `s` is decoded identically, errors included, on the drained
state `st` and on its never-drained twin (`d` = the bytes already handed out, still in front; hasher field
arbitrary) — provided its offsets are ≤ `W ≤` retained bytes -/
theorem decodeOneBlock_twin (W : Nat) (d x : Array Nat) (st : FState σ) (s : Src)
    (hW : W ≤ st.buf.content.size) (hoff : ∀ o ∈ nextBlockOffsets st s, o ≤ W) :
    decodeOneBlock (st.twin d x) s = ((decodeOneBlock st s).1.twin d x, (decodeOneBlock st s).2) :=
  Model.decodeOneBlock_twin W d x st s hW hoff

theorem drain_keeps_twin (dD dF : Decoder σ) (h : IsTwin dD dF) (op : DrainOp) : IsTwin (applyDrain dD op).1 dF :=
  h.drain op

theorem drain_keeps_retention (d : Decoder σ) (h : Retains d) (op : DrainOp) (hnd : d.blocksDone = false) :
    Retains (applyDrain d op).1 :=
  h.drain op hnd

/-- `decode_blocks` with ANY strategy on a drained decoder and on its twin: same result value / error,
same source left; the resulting decoders are twins again and retention still holds -/
theorem decodeBlocks_twin (dD dF : Decoder σ) (h : IsTwin dD dF) (hr : Retains dD) (s : Src) (strat : Strategy)
    (hoff : ∀ st, dD.state = some st →
      LoopOffsetsOk st.buf.window strat st.buf.content.size st.blockCounter (s.length + 1) st s) :
    (dF.decodeBlocks s strat).2 = (dD.decodeBlocks s strat).2 ∧
    IsTwin (dD.decodeBlocks s strat).1 (dF.decodeBlocks s strat).1 ∧ Retains (dD.decodeBlocks s strat).1 :=
  h.decodeBlocks hr s strat hoff

/-- `driver_prefix` + `driver_complete` of DESIGN.md §8 C06: what is delivered is a prefix of the content, and all of it
in the end, for EVERY frame the Spec
accepts (`Spec.decodeFrame f = some r` IS "f is a conforming encoding of r.content"; dictionaries
registered with the decoder; window within its limit; bytes < 256) and EVERY documented program of drain calls (collect | read n | collect_to_writer
with any sink script and ring split) and `decode_blocks` calls (any strategies and budgets), after
`reset` — `DocOk`: `decode_blocks` only while the last block is not in:
* no call fails;
* the bytes handed out, in order, are exactly the hasher's input and — followed by what is still
  buffered — a prefix of the frame's content: nothing lost, duplicated or reordered, whatever the schedule;
* once the last block is in, delivered ++ buffered IS the content, `is_finished()` holds, the source
  left over is the input minus exactly the frame (`r.consumed` bytes), `bytes_read_from_source()` is the
  frame's length and the stored checksum is the frame's.
`StreamingDecoder::read` is such a program (`streamingRead_is_program`).  For EVERY block decoder that
satisfies `BlockContract` and `RefinesSpec` (the stand-in does: `valid_frame_any_schedule_standIn`). -/
theorem valid_frame_any_schedule [RefinesSpec σ] (d : Decoder σ) (sdicts : List Spec.Dict)
    (hdc : DictsCoupled d.dicts sdicts) (f : List Nat) (hb : ∀ x ∈ f, x < 256) (r : Spec.FrameResult)
    (hs : Spec.decodeFrame f sdicts = some r) (hlim : r.header.window ≤ d.maxWindow)
    (ops : List SOp) :
    ∃ d0 rest, d.reset f = (d0, .ok rest) ∧ (DocOk d0 rest ops →
      (runSched d0 rest ops).2.2.2 = none ∧
      ∃ st tail, (runSched d0 rest ops).1.state = some st ∧
        st.buf.hashed = (runSched d0 rest ops).2.2.1 ∧
        r.content = (st.buf.hashed ++ st.buf.content ++ tail).toList ∧
        (st.finished = true → tail = #[] ∧ (runSched d0 rest ops).1.isFinished = true ∧
          (runSched d0 rest ops).2.1 = f.drop r.consumed ∧ st.bytesRead = r.consumed ∧ st.checksum = r.checksum)) :=
  Model.valid_frame_any_schedule d sdicts hdc f hb r hs hlim ops

/-- `valid_frame_any_schedule` for the stand-in decoder with its own dictionaries -/
theorem valid_frame_any_schedule_standIn (d : DecA) (f : List Nat) (hb : ∀ x ∈ f, x < 256) (r : Spec.FrameResult)
    (hs : Spec.decodeFrame f (d.dicts.map Dict.toSpec) = some r) (hlim : r.header.window ≤ d.maxWindow)
    (ops : List SOp) :
    ∃ d0 rest, d.reset f = (d0, .ok rest) ∧ (DocOk d0 rest ops →
      (runSched d0 rest ops).2.2.2 = none ∧
      ∃ st tail, (runSched d0 rest ops).1.state = some st ∧
        st.buf.hashed = (runSched d0 rest ops).2.2.1 ∧
        r.content = (st.buf.hashed ++ st.buf.content ++ tail).toList ∧
        (st.finished = true → tail = #[] ∧ (runSched d0 rest ops).1.isFinished = true ∧
          (runSched d0 rest ops).2.1 = f.drop r.consumed ∧ st.bytesRead = r.consumed ∧ st.checksum = r.checksum)) :=
  Model.valid_frame_any_schedule d _ (dictsCoupled_standIn d.dicts) f hb r hs hlim ops

/-- one block on a decoder drained in ANY way that follows a Spec run keeps following it -/
theorem decodeOneBlock_follows [RefinesSpec σ] (bytes : List Nat) (hb : ∀ x ∈ bytes, x < 256) (e : Spec.Entropy) (st : FState σ)
    (out out1 : Array Nat) (e1 : Spec.Entropy) (n : Nat) (last : Bool) (hf : Follows st e out)
    (hs : specBlockStep st.buf.window st.buf.dict bytes e out = some (out1, e1, n, last)) :
    ∃ st1 bh, decodeOneBlock st bytes = (st1, .ok (bh, bytes.drop n)) ∧ bh.last = last ∧ 3 ≤ n ∧ n ≤ bytes.length ∧
      Follows st1 e1 out1 ∧ FollowStep st st1 n :=
  Model.decodeOneBlock_follows bytes hb e st out out1 e1 n last hf hs

/-- **`driver_prefix` / `driver_complete` in full: what is delivered is a prefix of the content, and all of it in the
end, over EVERY operation of the
API, on the EXECUTABLE model** (`DecB`, the faithful block decoder): for every frame the Spec accepts — with any
dictionaries coupled to the decoder's (`DictsCoupled`: none, or registered from parsed bytes,
`registerDicts_coupled`) —, the input being exactly the frame, and EVERY documented program (`FullDocOk`)
over the whole driver grammar `FOp` — the three drains with any sink, `decode_blocks` with any strategy,
`StreamingDecoder::read(buf)`, `decode_from_to(&src[..chunk], target[..n])` with ANY chunking, the caller
advancing by the reported count — after `reset`:
no call fails; the bytes handed out, in order, are exactly what the hasher has seen and, followed by
what is still buffered, a prefix of the frame's content (nothing lost, duplicated, reordered); once
`is_finished()`: delivered ++ buffered IS the content, the source is used up, `bytes_read_from_source()`
is the frame's length.
"Documented" excludes exactly one thing (necessarily: `checksum_taken_for_a_block` below): calling
`decode_blocks` — directly or through `StreamingDecoder::read` — after the frame's last block is in; in
particular in the state "all blocks in, checksum still in the source", which only a `decode_from_to`
call given a chunk that ends right before the checksum leaves behind and only `decode_from_to` continues
from correctly.  Proved: `schedule_independent_full_holds`. -/
def schedule_independent_full : Prop :=
  ∀ (d : DecB) (sdicts : List Spec.Dict), DictsCoupled d.dicts sdicts →
    ∀ (f : List Nat) (r : Spec.FrameResult), (∀ x ∈ f, x < 256) →
    Spec.decodeFrame f sdicts = some r → r.header.window ≤ d.maxWindow → r.consumed = f.length →
    ∀ (ops : List FOp), ∃ d0 rest, d.reset f = (d0, .ok rest) ∧ (FullDocOk d0 rest ops →
      (runFull d0 rest ops).2.2.2 = none ∧
      (runFull d0 rest ops).1.hashed = (runFull d0 rest ops).2.2.1 ∧
      ∃ tail, r.content = ((runFull d0 rest ops).2.2.1 ++ (runFull d0 rest ops).1.content ++ tail).toList ∧
        ((runFull d0 rest ops).1.isFinished = true → tail = #[] ∧ (runFull d0 rest ops).2.1 = [] ∧
          (runFull d0 rest ops).1.bytesRead = r.consumed))

/-- `driver_prefix` as schedule independence: for every program of drain calls (collect | read n
| collect_to_writer with any sink script and ring split) and `decode_blocks` calls (any strategies,
source threaded) that is a documented use (`SchedOk`: `decode_blocks` only while the last block is not
in; every decoded block keeps its offsets within the frame's window — true of every valid frame), the
run with drains and the run of the same `decode_blocks` calls with NO drain at all end in the same
error or none, leave the same source, and are twins: delivered ++ still buffered = what the drain-free
run has buffered.  Nothing lost, duplicated or reordered, whatever the schedule.
`StreamingDecoder::read` is such a program (`streamingRead_is_program`); `decode_from_to` is covered
call by call by `decodeFromTo_twin`.  (This is the statement for ARBITRARY sources, under the explicit
offset condition `SchedOk`; for frames the Spec accepts nothing is left open: `schedule_independent_full`.) -/
theorem schedule_independent_partial (dD dF : Decoder σ) (s : Src) (ops : List SOp)
    (htw : IsTwin dD dF) (hret : Retains dD ∨ dD.blocksDone = true) (hok : SchedOk dD s ops) :
    IsTwin (runSched dD s ops).1 (runSched dF s (blocksOnly ops)).1 ∧
    (runSched dD s ops).2.1 = (runSched dF s (blocksOnly ops)).2.1 ∧
    (runSched dD s ops).2.2.2 = (runSched dF s (blocksOnly ops)).2.2.2 ∧
    (runSched dF s (blocksOnly ops)).2.2.1 = #[] :=
  runSched_twin dD dF s ops htw hret hok

/-- `StreamingDecoder::read(buf)` IS a driver program of `decode_blocks(UptoBytes(k))` calls followed by
one `read(buf)` (or the empty program when it returns 0 at once): same decoder, same source left, same
bytes, same error — so `schedule_independent_partial` covers the streaming front end -/
theorem streamingRead_is_program (d : Decoder σ) (s : Src) (n : Nat) :
    ∃ prog sE, runSched d s prog =
      match streamingRead d s n with
      | (d1, .ok (s1, out)) => (d1, s1, out, none)
      | (d1, .err e) => (d1, sE, #[], some e)
      | (d1, .fault _) => (d1, sE, #[], none) :=
  Model.streamingRead_is_program d s n

/-- slice-to-slice decoding with ANY chunking: `decode_from_to(chunk, target)` on a decoder drained in
any way and `decode_from_to(chunk, &mut [])` on its never-drained twin report the same consumed count
(or the same error) and leave twins again — chunk by chunk, so the bytes written to the targets,
followed by what is still buffered, are what the never-draining run has buffered -/
theorem decodeFromTo_twin (dD dF : Decoder σ) (h : IsTwin dD dF) (hr : Retains dD) (s : Src) (n : Nat)
    (st : FState σ) (hst : dD.state = some st) (hoff : FromToOffsetsOk st.buf.window (s.length + 1) st s) :
    IsTwin (dD.decodeFromTo s n).1 (dF.decodeFromTo s 0).1 ∧
    (dD.decodeFromTo s n).2.mapOk (·.1) = (dF.decodeFromTo s 0).2.mapOk (·.1) :=
  h.decodeFromTo hr s n st hst hoff

/-- retention survives a `decode_from_to` call (or the last block is in, after which it is not needed) -/
theorem decodeFromTo_retains (d : Decoder σ) (h : Retains d) (s : Src) (n : Nat) (st : FState σ) (hst : d.state = some st) :
    Retains (d.decodeFromTo s n).1 ∨ (d.decodeFromTo s n).1.blocksDone = true :=
  h.decodeFromTo s n st hst

/-- starting from a freshly reset frame, after any documented
program the bytes handed out so far (= the hasher input, C08) followed by the bytes still buffered are
exactly the buffer of the drain-free run of the same decode calls — so the delivered bytes are a
prefix of what `decode_blocks(All); collect()` delivers -/
theorem delivered_is_prefix_of_decoded_partial (d0 : Decoder σ) (s : Src) (ops : List SOp)
    (hfresh : d0.hashed = #[]) (hok : SchedOk d0 s ops) (st stF : FState σ)
    (hD : (runSched d0 s ops).1.state = some st) (hF : (runSched d0 s (blocksOnly ops)).1.state = some stF) :
    st.buf.hashed ++ st.buf.content = stF.buf.content :=
  delivered_prefix_of_undrained d0 s ops hfresh hok st stF hD hF

/-- `decode_from_to_accounting` (where F2 lived): the reported source count is ≤ the bytes given,
equals the advance of `bytes_read_from_source()` exactly, and the bytes written fit the target — for
every state, in particular for the call that finds only the checksum outstanding and is given 0–3
bytes (reports 0), 4 or more (reports 4), and for the call that has to `init` first -/
theorem decode_from_to_accounting (d d' : Decoder σ) (s : Src) (n r : Nat) (out : Array Nat)
    (h : d.decodeFromTo s n = (d', .ok (r, out))) :
    r ≤ s.length ∧ out.size ≤ n ∧ d'.bytesRead = d.bytesRead + r :=
  Decoder.decodeFromTo_accounting d d' s n r out h

/-- `decode_blocks` accounting: the source handed back is the source given minus exactly the bytes
counted (`bytes_read_from_source` advance) -/
theorem decode_blocks_accounting (d d' : Decoder σ) (s rest : Src) (strat : Strategy) (fin : Bool)
    (h : d.decodeBlocks s strat = (d', .ok (rest, fin))) :
    ∃ n, n ≤ s.length ∧ rest = s.drop n ∧ d'.bytesRead = d.bytesRead + n :=
  (Decoder.decodeBlocks_ok_consumes d d' s rest strat fin h).2

def demoFrame : List Nat := [0x28, 0xB5, 0x2F, 0xFD, 0x24, 3, 0x19, 0, 0, 97, 98, 99, 1, 2, 3, 4]

/-- F2's scenario on the repaired code: everything but the checksum first, then 3 bytes (0 reported),
then all 4 (4 reported) -/
example : ((({} : DecA).decodeFromTo (demoFrame.take 12) 10).2.delivered (·.2)) = #[97, 98, 99] := by decide +kernel
example : (((({} : DecA).decodeFromTo (demoFrame.take 12) 10).1.decodeFromTo [1, 2, 3] 10).2.delivered
    (fun p => #[p.1])) = #[0] := by decide +kernel
example : (((({} : DecA).decodeFromTo (demoFrame.take 12) 10).1.decodeFromTo [1, 2, 3, 4] 10).2.delivered
    (fun p => #[p.1])) = #[4] := by decide +kernel

/-- a sink taking 2 of 3 bytes over a ring split after the first byte -/
example : (({ content := #[1, 2, 3] } : DBuf).drainToSink 3 1 [.accept 1, .accept 1, .fail]).2.1 = 2 := by decide +kernel

/-- `DocOk` is satisfiable (drain-only programs trivially; and see the evaluated programs below) -/
example (d : DecA) (s : Src) : DocOk d s [.drain .collect, .drain (.read 3)] := by simp [DocOk]

/-- a two-block frame (window 1 KiB is irrelevant: single segment, 6 bytes): raw "abc", raw last "def";
block / read 1 / block / collect is a documented program (`SchedOk` is satisfiable) -/
def twoBlocks : List Nat := [0x28, 0xB5, 0x2F, 0xFD, 0x20, 6, 0x18, 0, 0, 97, 98, 99, 0x19, 0, 0, 100, 101, 102]
example : ((runSched (({} : DecA).reset twoBlocks).1 (twoBlocks.drop 6)
    [.blocks (.uptoBlocks 1), .drain (.read 1), .blocks .all, .drain .collect]).2.2.1) = #[97, 98, 99, 100, 101, 102] := by
  decide +kernel
/-- the same program without its drains buffers what was delivered -/
example : ((runSched (({} : DecA).reset twoBlocks).1 (twoBlocks.drop 6)
    (blocksOnly [.blocks (.uptoBlocks 1), .drain (.read 1), .blocks .all, .drain .collect])).1.content)
      = #[97, 98, 99, 100, 101, 102] := by
  decide +kernel

/-- an overlapping match with offset 2 over a buffer with 3 drained bytes in front -/
example : Model.copyWithin 5 2 (#[9, 9, 9] ++ #[1, 2]) = #[9, 9, 9] ++ #[1, 2, 1, 2, 1, 2, 1] := by decide +kernel


/-! ### instance B (`DecB`, the model engine `dec` compares with the real code)

Its `BlockContract` holds without hypotheses, so the schedule-independence theorems above hold for it as
they stand.  The theorems about frames THE SPEC ACCEPTS additionally use the block-level refinement
(`instRefinesSpecFaithful`, Proofs/FrameFaithful.lean, from `decompressBlock_refines_full_holds` of
Proofs/BlkLitFull.lean): they too hold for `DecB` without hypotheses. -/

theorem schedule_independent_partial_faithful (dD dF : DecB) (s : Src) (ops : List SOp)
    (htw : IsTwin dD dF) (hret : Retains dD ∨ dD.blocksDone = true) (hok : SchedOk dD s ops) :
    IsTwin (runSched dD s ops).1 (runSched dF s (blocksOnly ops)).1 ∧
    (runSched dD s ops).2.1 = (runSched dF s (blocksOnly ops)).2.1 ∧
    (runSched dD s ops).2.2.2 = (runSched dF s (blocksOnly ops)).2.2.2 ∧
    (runSched dF s (blocksOnly ops)).2.2.1 = #[] :=
  schedule_independent_partial dD dF s ops htw hret hok

theorem delivered_is_prefix_of_decoded_partial_faithful (d0 : DecB) (s : Src) (ops : List SOp)
    (hfresh : d0.hashed = #[]) (hok : SchedOk d0 s ops) (st stF : FState Blk.Scratch)
    (hD : (runSched d0 s ops).1.state = some st) (hF : (runSched d0 s (blocksOnly ops)).1.state = some stF) :
    st.buf.hashed ++ st.buf.content = stF.buf.content :=
  delivered_is_prefix_of_decoded_partial d0 s ops hfresh hok st stF hD hF

/-- `valid_frame_any_schedule` for the faithful decoder (dictionaries: any list the Spec's are coupled
with, in particular none) -/
theorem valid_frame_any_schedule_faithful (d : DecB) (sdicts : List Spec.Dict)
    (hdc : DictsCoupled d.dicts sdicts) (f : List Nat) (hb : ∀ x ∈ f, x < 256) (r : Spec.FrameResult)
    (hs : Spec.decodeFrame f sdicts = some r) (hlim : r.header.window ≤ d.maxWindow)
    (ops : List SOp) :
    ∃ d0 rest, d.reset f = (d0, .ok rest) ∧ (DocOk d0 rest ops →
      (runSched d0 rest ops).2.2.2 = none ∧
      ∃ st tail, (runSched d0 rest ops).1.state = some st ∧
        st.buf.hashed = (runSched d0 rest ops).2.2.1 ∧
        r.content = (st.buf.hashed ++ st.buf.content ++ tail).toList ∧
        (st.finished = true → tail = #[] ∧ (runSched d0 rest ops).1.isFinished = true ∧
          (runSched d0 rest ops).2.1 = f.drop r.consumed ∧ st.bytesRead = r.consumed ∧ st.checksum = r.checksum)) :=
  Model.valid_frame_any_schedule d sdicts hdc f hb r hs hlim ops

/-- `schedule_independent_full` for EVERY block decoder satisfying the contracts -/
theorem valid_frame_full_schedule [RefinesSpec σ] (d : Decoder σ) (sdicts : List Spec.Dict)
    (hdc : DictsCoupled d.dicts sdicts) (f : List Nat) (hb : ∀ x ∈ f, x < 256) (r : Spec.FrameResult)
    (hs : Spec.decodeFrame f sdicts = some r) (hlim : r.header.window ≤ d.maxWindow) (hcons : r.consumed = f.length)
    (ops : List FOp) :
    ∃ d0 rest, d.reset f = (d0, .ok rest) ∧ (FullDocOk d0 rest ops →
      (runFull d0 rest ops).2.2.2 = none ∧
      (runFull d0 rest ops).1.hashed = (runFull d0 rest ops).2.2.1 ∧
      ∃ tail, r.content = ((runFull d0 rest ops).2.2.1 ++ (runFull d0 rest ops).1.content ++ tail).toList ∧
        ((runFull d0 rest ops).1.isFinished = true → tail = #[] ∧ (runFull d0 rest ops).2.1 = [] ∧
          (runFull d0 rest ops).1.bytesRead = r.consumed)) :=
  Model.valid_frame_full_schedule d sdicts hdc f hb r hs hlim hcons ops

theorem schedule_independent_full_holds : schedule_independent_full :=
  fun d sdicts hdc f r hb hs hlim hcons ops => Model.valid_frame_full_schedule d sdicts hdc f hb r hs hlim hcons ops

/-- `schedule_independent_full` for decoders whose dictionaries were registered through `add_dict` of
parsed bytes: no coupling hypothesis -/
theorem schedule_independent_full_parsed_dicts (raws : List (List Nat))
    (hraws : ∀ raw ∈ raws, (∀ x ∈ raw, x < 256) ∧ (Spec.parseDict raw).isSome = true)
    (f : List Nat) (r : Spec.FrameResult) (hb : ∀ x ∈ f, x < 256)
    (hs : Spec.decodeFrame f (specRegisterDicts [] raws) = some r)
    (hlim : r.header.window ≤ ({} : DecB).maxWindow) (hcons : r.consumed = f.length) (ops : List FOp) :
    ∃ d0 rest, (registerDicts {} raws).reset f = (d0, .ok rest) ∧ (FullDocOk d0 rest ops →
      (runFull d0 rest ops).2.2.2 = none ∧
      (runFull d0 rest ops).1.hashed = (runFull d0 rest ops).2.2.1 ∧
      ∃ tail, r.content = ((runFull d0 rest ops).2.2.1 ++ (runFull d0 rest ops).1.content ++ tail).toList ∧
        ((runFull d0 rest ops).1.isFinished = true → tail = #[] ∧ (runFull d0 rest ops).2.1 = [] ∧
          (runFull d0 rest ops).1.bytesRead = r.consumed)) := by
  obtain ⟨hdc, hmw⟩ := C09.parsed_dicts_fresh raws hraws
  exact Model.valid_frame_full_schedule _ _ hdc f hb r hs (by rw [hmw]; exact hlim) hcons ops

/-- the prefix part over the Spec stand-in (instance A) with its own dictionaries -/
theorem schedule_independent_full_standIn (d : DecA) (f : List Nat) (r : Spec.FrameResult) (hb : ∀ x ∈ f, x < 256)
    (hs : Spec.decodeFrame f (d.dicts.map Dict.toSpec) = some r) (hlim : r.header.window ≤ d.maxWindow)
    (hcons : r.consumed = f.length) (ops : List FOp) :
    ∃ d0 rest, d.reset f = (d0, .ok rest) ∧ (FullDocOk d0 rest ops →
      ∃ tail, r.content = ((runFull d0 rest ops).2.2.1 ++ tail).toList) := by
  obtain ⟨d0, rest, h1, h2⟩ := Model.valid_frame_full_schedule d _ (dictsCoupled_standIn d.dicts) f hb r hs hlim hcons ops
  refine ⟨d0, rest, h1, fun hdoc => ?_⟩
  obtain ⟨-, -, tail, ht, -⟩ := h2 hdoc
  exact ⟨(runFull d0 rest ops).1.content ++ tail, by rw [ht, Array.append_assoc]⟩

/-- why `FullDocOk` excludes `decode_blocks` in the state "all blocks in, checksum still in the source":
a VALID frame — one raw block `[0x8B, 0x29]`, checksum `low32(XXH64) = 0x4B0000AB`, stored as
`AB 00 00 4B` —, fed to `decode_from_to` without its last four bytes (which decodes the block and
delivers `8B 29`), then `decode_blocks` on the four checksum bytes: they parse as a last RLE block
header of 21 × `0x4B`, which is what gets buffered (and `collect()` would hand out) before the call
fails with `FailedToReadChecksum`.  The real decoder does the same (replayed through
`bin/check C06 --replay`; also with the 1-byte content `A2`, whose checksum reads as 10936 × `0x3E`):
the checksum must be taken by `decode_from_to` itself, as its documentation says of the whole frame. -/
def pendingFrame : List Nat := [0x28, 0xB5, 0x2F, 0xFD, 0x24, 0x02, 0x11, 0x00, 0x00, 0x8B, 0x29, 0xAB, 0x00, 0x00, 0x4B]

theorem checksum_taken_for_a_block :
    (Spec.decodeFrame pendingFrame []).map (·.content) = some [0x8B, 0x29] ∧
    ((({} : DecB).decodeFromTo (pendingFrame.take 11) 100).2.delivered (·.2)) = #[0x8B, 0x29] ∧
    (((({} : DecB).decodeFromTo (pendingFrame.take 11) 100).1.decodeBlocks (pendingFrame.drop 11) .all).1.content) =
      Array.replicate 21 0x4B ∧
    (match ((({} : DecB).decodeFromTo (pendingFrame.take 11) 100).1.decodeBlocks (pendingFrame.drop 11) .all).2 with
      | .err .checksumRead => true | _ => false) = true := by
  decide +kernel

end Zstd.Props.C06
