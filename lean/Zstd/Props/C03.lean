import Zstd.Proofs.FrameDecoderStandIn
import Zstd.Proofs.FrameFaithful
import Zstd.Proofs.FrameLegal
import Zstd.Proofs.BlockNoFault
/-
C03 — no input can make decoding panic, corrupt memory or hang.

Every Rust panic site the frame-level model can reach is a `Fault`; the theorems say no `Fault` is
ever returned and that the fuel given to each loop suffices (= the Rust loop terminates).  Memory
safety of the raw-pointer window is C04; the entropy coders have their own no-fault theorems in
C12/C13.  This file: sequence execution and the frame level (for every block decoder with a
`NoFaultContract`, and for the Spec stand-in); the block level on the faithful model (`Blk.decompressBlock`,
with the two witnesses that show why decoding on after an error is excluded); instance B, the decoder the
drivers run.  `C03_full` is the composed statement.
-/
namespace Zstd.Props.C03
open Zstd Zstd.Model

/-- the statement over the Spec stand-in (instance A): whatever the source bytes and the decoder state,
`decode_blocks` returns a value or an error, never a fault (`decodeBlocks_no_fault`) -/
def C03_full_standIn : Prop :=
  ∀ (d : DecA) (s : Src) (strat : Strategy) (f : Fault), (d.decodeBlocks s strat).2 ≠ .fault f

/-- **the full statement, over the EXECUTABLE model** (`DecB`: the frame-level model with the faithful
block decoder, the one engines `dec` / `hostile` compare with the real code): from every decoder state
reachable by a legal call sequence of the public API (`Legal`, Proofs/FrameLegal.lean: `new`,
`set_max_window_size`, `add_dict` of ANY bytes `decode_dict` accepts, `force_dict`, `reset` / `init`,
every drain, `decode_blocks`, `decode_from_to`, `StreamingDecoder::read`, `decode_all`,
`decode_all_to_vec`, on ANY byte arguments) no entry point ever panics:
* the dictionary parser, `reset`, `decode_all` and `decode_all_to_vec` from EVERY reachable state,
* `decode_blocks`, `decode_from_to` and `StreamingDecoder::read` from every reachable state in which
  decoding on is allowed — i.e. unless the current frame's last decode call ended in `err literals` /
  `err sequences` (after which the caller may drain, query, `reset`, `decode_all`, but the documentation
  does not allow decoding on; `continue_after_error_faults_*` below show that restriction is necessary).
Proved: `no_fault_from_legal_states`. -/
def C03_full : Prop :=
  ∀ (d : DecB) (ok : Bool), Legal d ok → ∀ (s : Src), (∀ x ∈ s, x < 256) → ∀ (f : Fault),
    Blk.decodeDict s ≠ .error f ∧
    (∀ room vec, (d.reset s).2 ≠ .fault f ∧ (d.decodeAll s room).2 ≠ .fault f ∧
      (d.decodeAllToVec s vec room).2.2 ≠ .fault f) ∧
    (ok = true → ∀ strat n, (d.decodeBlocks s strat).2 ≠ .fault f ∧ (d.decodeFromTo s n).2 ≠ .fault f ∧
      (streamingRead d s n).2 ≠ .fault f)

/-- `execute_sequences` cannot panic: its only panic site (the `offset_value - 3` underflow) needs
an offset value of 0, which no sequence carries -/
theorem executeSequences_no_fault (seqs : List Spec.Seq) (hov : ∀ s ∈ seqs, s.ov ≥ 1) :
    ∀ (lits : List Nat) (h : Nat × Nat × Nat) (seqSum : Nat) (b : DBuf) (f : Fault),
      (executeSequences seqs lits h seqSum b).2 ≠ .fault f :=
  executeSequences_noFault seqs hov

theorem decodeSeqLoop_ov_pos (llT ofT mlT : Spec.Fse.Table) :
    ∀ (n sLL sOF sML : Nat) (bits : List Bool) (acc : List Spec.Seq) (seqs : List Spec.Seq) (rest : List Bool),
      (∀ s ∈ acc, s.ov ≥ 1) →
      Spec.decodeSeqLoop llT ofT mlT n sLL sOF sML bits acc = some (seqs, rest) →
      ∀ s ∈ seqs, s.ov ≥ 1 :=
  fun n sLL sOF sML bits acc seqs rest => Spec.decodeSeqLoop_ov llT ofT mlT n sLL sOF sML bits acc seqs rest

/-! ### the frame level: no operation of the public API ever returns a `Fault`

The general statements, for EVERY block decoder with a `NoFaultContract`, are in Proofs/FrameDecoderNoFault.lean and
Proofs/FrameDecoderSched.lean (their conclusion is the structure `Safe` of Proofs/FrameDecoderContract.lean).  Their
hypotheses:
the source satisfies the contract's input predicate ("is a list of bytes" for the faithful decoder) and
the invariant `Decoder.entWF` (frame state and dictionaries well formed).  It is established by
`new` and by every `reset` that returns `Ok`, kept by draining, and kept by every decode operation
whose result is `Out.clean`: anything but `err literals` / `err sequences`, the two errors after
which the real scratch can hold a half-built table.  After those two the caller may still drain,
query and `reset` (or call `decode_all`, which resets) — `Decoder.dictsWF` is kept by everything
and is all `reset` needs — but must not decode on in the failed frame.  The theorems without a
suffix are the instances for the Spec stand-in, whose contract has no preconditions. -/

section generic
variable {σ : Type} [BlockDec σ] [BlockContract σ] [NoFaultContract σ]

theorem new_entWF (dicts : List (Dict σ)) (mw : Nat) (h : ∀ dict ∈ dicts, NoFaultContract.wf dict.entropy) :
    ({ state := none, dicts := dicts, maxWindow := mw } : Decoder σ).entWF :=
  ⟨fun _ hst => (nomatch hst), h⟩

theorem decodeOneBlock_no_fault_of_contract (st : FState σ) (s : Src) (hw : st.entWF) (hi : NoFaultContract.inp σ s) :
    ((decodeOneBlock st s).2.clean → (decodeOneBlock st s).1.entWF) ∧ ∀ f, (decodeOneBlock st s).2 ≠ .fault f :=
  have h := decodeOneBlock_noFault st s hw hi
  ⟨h.clean, h.noFault⟩

theorem drain_keeps_entWF (d : Decoder σ) (op : DrainOp) (hw : d.entWF) : (applyDrain d op).1.entWF :=
  applyDrain_entWF d op hw

theorem drain_keeps_dictsWF (d : Decoder σ) (op : DrainOp) (hw : d.dictsWF) : (applyDrain d op).1.dictsWF :=
  applyDrain_dictsWF d op hw

end generic

/-- one block never faults, whatever the state and the source: the sequences handed to
`execute_sequences` come from the sequence decoder, whose offset values are `2^code + extra ≥ 1`
(stand-in instance) -/
theorem decodeOneBlock_no_fault (st : FState Spec.Entropy) (s : Src) (f : Fault) : (decodeOneBlock st s).2 ≠ .fault f :=
  (decodeOneBlock_noFault st s trivial trivial).noFault f

/-- `C03_full_standIn` holds (also from states left behind by earlier errors) -/
theorem decodeBlocks_no_fault : C03_full_standIn :=
  fun d s strat f => (Decoder.decodeBlocks_noFault d s strat (entWF_standIn d) trivial).1.noFault f

theorem reset_no_fault (d : DecA) (s : Src) (f : Fault) : (d.reset s).2 ≠ .fault f :=
  (Decoder.reset_noFault d s (entWF_standIn d).2).noFault f

/-- `decode_from_to` never faults: no block fault, and its two `panic!("Bug in library")` arms are
unreachable (after a successful `init` the state is `Some`) -/
theorem decodeFromTo_no_fault (d : DecA) (s : Src) (n : Nat) (f : Fault) : (d.decodeFromTo s n).2 ≠ .fault f :=
  (Decoder.decodeFromTo_noFault d s n (entWF_standIn d) trivial).noFault f

theorem decodeAll_no_fault (d : DecA) (s : Src) (room : Nat) (f : Fault) : (d.decodeAll s room).2 ≠ .fault f :=
  (decodeAllLoop_noFault _ d s room #[] (entWF_standIn d).2 trivial).noFault f

theorem streamingRead_no_fault (d : DecA) (s : Src) (n : Nat) (f : Fault) : (streamingRead d s n).2 ≠ .fault f :=
  (streamingRead_noFault d s n (entWF_standIn d) trivial).noFault f

/-- the `assert!(seq_sum as usize == diff)` at the end of `execute_sequences` (not a `Fault` site of
the model) cannot fire: on `Ok` the buffer grew by exactly the final `seq_sum`, and `seq_sum` never
exceeds 131072, so the `u32` additions cannot overflow either -/
theorem seq_sum_assert_never_fires (seqs : List Spec.Seq) (lits : List Nat) (h : Nat × Nat × Nat) (b : DBuf)
    (hok : (executeSequences seqs lits h 0 b).2 = .ok ()) :
    (executeSequences seqs lits h 0 b).1.1.content.size = b.content.size + finalSeqSum seqs lits 0 ∧
    finalSeqSum seqs lits 0 ≤ 131072 := by
  obtain ⟨x, hx, hs, hf⟩ := executeSequences_extends seqs lits h 0 b
  have := hf hok
  have := hs (Nat.zero_le _)
  have e : Gen.maxBlockSize = 131072 := by decide
  rw [hx.size]; omega

/-- `copyWithin` (the model of `repeat`'s copy loop) reads inside the buffer whenever
`0 < offset ≤ len`: the `getD` default in its definition is never used on the paths the decoder
takes (offset 0 is rejected as `ZeroOffset` before, larger offsets go to the dictionary path) -/
theorem copyWithin_reads_in_bounds (n off : Nat) (c : Array Nat) (h0 : 0 < off) (h : off ≤ c.size) :
    c.size - off < c.size ∧ (copyWithin n off c).size = c.size + n :=
  ⟨by omega, copyWithin_size n off c⟩

/-- every loop of the frame level terminates: more fuel than the source is long never changes a
result (each iteration consumes ≥ 3 source bytes or returns) -/
theorem frame_loops_terminate {σ : Type} [BlockDec σ] [BlockContract σ] (strat : Strategy) (a c f : Nat) (st : FState σ) (d : Decoder σ) (s : Src)
    (room n : Nat) (out : Array Nat) (h : s.length < f) :
    decodeBlocksLoop strat a c f st s = decodeBlocksLoop strat a c (s.length + 1) st s ∧
    decodeFromToLoop f st s = decodeFromToLoop (s.length + 1) st s ∧
    streamingFill f d s n = streamingFill (s.length + 2) d s n ∧
    decodeAllFrame f d s room out = decodeAllFrame (s.length + 2) d s room out ∧
    decodeAllLoop f d s room out = decodeAllLoop (s.length + 1) d s room out :=
  ⟨decodeBlocksLoop_fuel strat a c f _ st s h (Nat.lt_succ_self _),
   decodeFromToLoop_fuel f _ st s h (Nat.lt_succ_self _),
   streamingFill_fuel f _ d s n h (by omega),
   decodeAllFrame_fuel f _ d s room out h (by omega),
   decodeAllLoop_fuel f _ d s room out h (Nat.lt_succ_self _)⟩

/-- non-vacuity: a sequence with offset value 4 on a buffer holding one byte executes without fault -/
example : (executeSequences [⟨0, 3, 4⟩] [] (1, 4, 8) 0 { content := #[7] }).2.isOk = true := by decide


/-! ## block level: `BlockDecoder::decompress_block` on the faithful model (`Zstd.Model.Blk`)

`Blk.decompressBlock` mirrors `decompress_block`, `decode_literals`, `decode_sequences`,
`maybe_update_fse_tables` and both sequence loops statement by statement (engine `blk`: compared with
the real code block by block, also on blocks broken on purpose); every Rust panic site it can reach is a
`Fault`, every `loop`/`while` takes fuel and running out of fuel is a `Fault` too.  The invariant is
`Blk.WF` (`Proofs/BlockNoFault.lean`). -/

open Zstd.Model.Blk Zstd.Proofs.BitIO in
/-- **`decompress_block` never panics and never hangs**: for EVERY block content (any byte string),
every well-formed entropy state and every decode buffer, the outcome is a value or an error, never a
`Fault` (no index out of range, no `unwrap`/`assert!`/`unreachable!`/arithmetic overflow, no loop that
runs out of fuel).  (`Bytes content`: the elements of the list are bytes.) -/
theorem decompressBlock_no_fault {s : Blk.Scratch} (hwf : Blk.WF s) (content : List Nat) (hb : Bytes content)
    (b : DBuf) (f : Fault) : (Blk.decompressBlock content s b).2 ≠ .fault f :=
  (decompressBlock_ok hb hwf b).1 f

open Zstd.Model.Blk Zstd.Proofs.BitIO in
/-- a successful `decompress_block` leaves the entropy state well formed (so the next block of the
frame can be decoded: Repeat modes, Treeless literals) -/
theorem decompressBlock_keeps_WF {s : Blk.Scratch} (hwf : Blk.WF s) (content : List Nat) (hb : Bytes content)
    (b : DBuf) : (Blk.decompressBlock content s b).2 = .ok → Blk.WF (Blk.decompressBlock content s b).1.1 :=
  (decompressBlock_ok hb hwf b).2.1

open Zstd.Model.Blk Zstd.Proofs.BitIO Zstd.Proofs.Blk in
/-- what still holds after an ERROR: only a failed literals section can leave the Huffman table in a
stale state, only a failed sequence section can leave an FSE table in a stale state; every other error
(`literalsHeader`, `literalsTooLarge`, `malformedSection`, `seqHeader`, `exec _`) leaves the whole
state well formed -/
theorem decompressBlock_err_state {s : Blk.Scratch} (hwf : Blk.WF s) (content : List Nat) (hb : Bytes content)
    (b : DBuf) (e : Blk.BlkErr) (he : (Blk.decompressBlock content s b).2 = .err e) :
    (e ≠ .literals → HufWF (Blk.decompressBlock content s b).1.1.huf) ∧
    (e ≠ .sequences → FseScratchWF (Blk.decompressBlock content s b).1.1.fse) :=
  (decompressBlock_ok hb hwf b).2.2 e he

theorem scratch_new_WF : Blk.WF {} := Blk.WF_new

/-- whatever happened before — success, decode error, even a stale table — the three alphabets
(`max_symbol`, written only by `FSETable::new`) are intact -/
theorem decompressBlock_keeps_alphabets (content : List Nat) (s : Blk.Scratch) (b : DBuf)
    (h : Blk.Alphabets s) : Blk.Alphabets (Blk.decompressBlock content s b).1.1 :=
  Blk.decompressBlock_alphabets content s b h

/-- **`reset` re-establishes `WF` from any state reachable from a fresh scratch**, since the alphabets are intact
("after an error the same decoder can be reset and used again") -/
theorem reset_reestablishes_WF {s : Blk.Scratch} (h : Blk.Alphabets s) : Blk.WF s.reset := Blk.WF_reset h

open Zstd.Proofs.BitIO in
/-- **a frame's blocks, decoded in order up to the first error, never fault** (termination of the
chain is structural) -/
theorem blockChain_no_fault (blocks : List (List Nat)) (hb : ∀ c ∈ blocks, Bytes c) {s : Blk.Scratch}
    (hwf : Blk.WF s) (b : DBuf) (f : Fault) : (Blk.decodeBlocks blocks s b).2 ≠ .fault f :=
  (Blk.decodeBlocks_ok blocks s b hb hwf).1 f

open Zstd.Proofs.BitIO in
/-- **every legal history on one scratch is fault free**: any number of frames, each started with
`reset` and decoded block by block up to its first error (any byte strings as block contents, any
window sizes), starting from a fresh scratch -/
theorem legal_history_no_fault (frames : List (Nat × List (List Nat)))
    (hb : ∀ fr ∈ frames, ∀ c ∈ fr.2, Bytes c) (b : DBuf) :
    ∀ o ∈ Blk.runFrames frames {} b, ∀ f, o ≠ .fault f :=
  Blk.runFrames_no_fault frames {} b hb Blk.WF_new.alphabets

/-! ### the statement without the "stop at the first error" clause is FALSE

`FSETable::build_decoder` stores the new `accuracy_log` before it has validated (or even read) the
table description and returns early on an error, keeping the old `decode` vector
(fse_decoder.rs:116-122, 228); `HuffmanTable::build_decoder` clears `decode`, and
`build_table_from_weights` stores `max_num_bits` before rejecting it (huff0_decoder.rs:117-122,
322-325).  `FrameDecoder::decode_blocks` does not poison the decoder after an `Err`, so a caller who
ignores the error and calls `decode_blocks` again continues with the next block on the stale table:
a Repeat-mode sequence section / a Treeless literals section then indexes the table out of range.
Both witnesses were run through the real `FrameDecoder` (public API, frames
`28b52ffd0000 240000 00018000 250000 0001c0ff` and `28b52ffd0000 2c0000 12800081bb 250000 134000ff`):
first call `Err(..)`, second call panics at `fse_decoder.rs:37:39` ("index out of bounds: the len is 0
but the index is 31") resp. `huff0_decoder.rs:26:26` ("the len is 0 but the index is 4064"); after
`reset` the same decoder decodes a valid frame correctly.  Not a violation of C03 as worded (the
continuation is not a legal call sequence), reported as an observation. -/

/-- the unrestricted statement: any two blocks in a row on a fresh scratch, whatever the outcome of
the first -/
def decompressBlock_no_fault_any_history : Prop :=
  ∀ (c1 c2 : List Nat), Zstd.Proofs.BitIO.Bytes c1 → Zstd.Proofs.BitIO.Bytes c2 → ∀ f,
    (Blk.decompressBlock c2 (Blk.decompressBlock c1 {} {}).1.1 (Blk.decompressBlock c1 {} {}).1.2.1).2 ≠ .fault f

def isIndexFault (o : Blk.BOut) (site : String) : Bool :=
  match o with
  | .fault (.index s) => s == site
  | _ => false

def isErr (o : Blk.BOut) : Bool :=
  match o with
  | .err _ => true
  | _ => false

/-- witness 1 (FSE): block 1 = no literals, 1 sequence, literal-length table FSE-compressed with a
truncated description → `Err`, `accuracy_log = 5` with an empty table; block 2 = literal-length mode
Repeat → `decode[new_state]` out of range in `init_state` -/
theorem continue_after_error_faults_fse :
    isErr (Blk.decompressBlock [0x00, 0x01, 0x80, 0x00] {} {}).2 = true ∧
    isIndexFault (Blk.decompressBlock [0x00, 0x01, 0xC0, 0xFF]
        (Blk.decompressBlock [0x00, 0x01, 0x80, 0x00] {} {}).1.1
        (Blk.decompressBlock [0x00, 0x01, 0x80, 0x00] {} {}).1.2.1).2 "fse_decoder.rs:37:init_state" = true := by
  decide +kernel

/-- witness 2 (Huffman): block 1 = Compressed literals with direct weights `[11, 11]`
(`max_num_bits = 12 > 11` → `Err` after `max_num_bits` was stored and `decode` cleared); block 2 =
Treeless literals → `decode[state]` out of range -/
theorem continue_after_error_faults_huf :
    isErr (Blk.decompressBlock [0x12, 0x80, 0x00, 0x81, 0xBB] {} {}).2 = true ∧
    isIndexFault (Blk.decompressBlock [0x13, 0x40, 0x00, 0xFF]
        (Blk.decompressBlock [0x12, 0x80, 0x00, 0x81, 0xBB] {} {}).1.1
        (Blk.decompressBlock [0x12, 0x80, 0x00, 0x81, 0xBB] {} {}).1.2.1).2 "huff0_decoder.rs:decode[state]" = true := by
  decide +kernel

theorem isIndexFault_fault {o : Blk.BOut} {site : String} (h : isIndexFault o site = true) : ∃ f, o = .fault f := by
  cases o with
  | fault f => exact ⟨f, rfl⟩
  | ok => cases h
  | err e => cases h

theorem decompressBlock_no_fault_any_history_false : ¬ decompressBlock_no_fault_any_history := fun h =>
  have ⟨f, hf⟩ := isIndexFault_fault continue_after_error_faults_fse.2
  h [0x00, 0x01, 0x80, 0x00] [0x00, 0x01, 0xC0, 0xFF] (show ∀ b ∈ [0x00, 0x01, 0x80, 0x00], b < 256 by decide)
    (show ∀ b ∈ [0x00, 0x01, 0xC0, 0xFF], b < 256 by decide) f hf

def isOk (o : Blk.BOut) : Bool :=
  match o with
  | .ok => true
  | _ => false

/-- non-vacuity of the positive theorems: a fresh scratch is well formed, and a compressed block
(4 raw literals `abcd`, one sequence in RLE modes: literal length 4, match length 3, offset 1) decodes
successfully on it -/
example : Blk.WF {} ∧ Zstd.Proofs.BitIO.Bytes [0x20, 0x61, 0x62, 0x63, 0x64, 0x01, 0x54, 0x04, 0x02, 0x00, 0x04] ∧
    isOk (Blk.decompressBlock [0x20, 0x61, 0x62, 0x63, 0x64, 0x01, 0x54, 0x04, 0x02, 0x00, 0x04] {} {}).2 = true :=
  ⟨Blk.WF_new, show ∀ b ∈ _, b < 256 by decide, by decide +kernel⟩

/-! ### instance B: the decoder the drivers run

For `DecB` — the frame-level model over the FAITHFUL block decoder, the one engine `dec` compares with
the real code on valid and malformed frames — no-fault at the frame level follows from the block-level
theorem (`Blk.decompressBlock_ok`, Proofs/BlockNoFault.lean) through `NoFaultObligation` /
`instNoFaultFaithful` (Proofs/FrameFaithful.lean).  Unlike the stand-in, the real
scratch CAN be left ill-formed by a failed table build, so the hypothesis `entWF` of the frame-level section is not
empty here: decoding on in a frame that failed with `err literals` / `err sequences` is the one thing not covered (and
can indeed panic: `continue_after_error_faults_*`). -/

section faithful

theorem new_entWF_faithful (mw : Nat) : ({ state := none, dicts := [], maxWindow := mw } : DecB).entWF :=
  new_entWF [] mw (fun _ h => nomatch h)

/-- **`decode_blocks` on the faithful model never faults**: every byte source, every strategy, every
decoder state satisfying the invariant -/
theorem decodeBlocks_no_fault_faithful (d : DecB) (s : Src) (strat : Strategy) (hw : d.entWF)
    (hi : ∀ x ∈ s, x < 256) :
    ((d.decodeBlocks s strat).2.clean → (d.decodeBlocks s strat).1.entWF) ∧
      (d.decodeBlocks s strat).1.dictsWF ∧ ∀ f, (d.decodeBlocks s strat).2 ≠ .fault f :=
  have h := (Decoder.decodeBlocks_noFault d s strat hw hi).1
  ⟨h.clean, h.always, h.noFault⟩

/-- **`reset` never faults, from any state**, and a successful `reset` re-establishes the invariant -/
theorem reset_no_fault_faithful (d : DecB) (s : Src) (hd : d.dictsWF) :
    (d.reset s).1.dictsWF ∧ (∀ f, (d.reset s).2 ≠ .fault f) ∧
      (∀ rest, (d.reset s).2 = .ok rest → (d.reset s).1.entWF) :=
  have h := Decoder.reset_noFault d s hd
  ⟨h.dictsWF, h.noFault, h.fresh⟩

/-- **`decode_all` never faults, from any state** (it resets before every frame) -/
theorem decodeAll_no_fault_faithful (d : DecB) (s : Src) (room : Nat) (hd : d.dictsWF) (hi : ∀ x ∈ s, x < 256) :
    (d.decodeAll s room).1.dictsWF ∧ ∀ f, (d.decodeAll s room).2 ≠ .fault f :=
  have h := decodeAllLoop_noFault _ d s room #[] hd hi
  ⟨h.always, h.noFault⟩

theorem decodeFromTo_no_fault_faithful (d : DecB) (s : Src) (n : Nat) (hw : d.entWF) (hi : ∀ x ∈ s, x < 256) :
    ((d.decodeFromTo s n).2.clean → (d.decodeFromTo s n).1.entWF) ∧ ∀ f, (d.decodeFromTo s n).2 ≠ .fault f :=
  have h := Decoder.decodeFromTo_noFault d s n hw hi
  ⟨h.clean, h.noFault⟩

theorem streamingRead_no_fault_faithful (d : DecB) (s : Src) (n : Nat) (hw : d.entWF) (hi : ∀ x ∈ s, x < 256) :
    ((streamingRead d s n).2.clean → (streamingRead d s n).1.entWF) ∧ ∀ f, (streamingRead d s n).2 ≠ .fault f :=
  have h := streamingRead_noFault d s n hw hi
  ⟨h.clean, h.noFault⟩

/-- a decoder without dictionaries: `decode_all` on ANY bytes, from ANY state, never faults -/
theorem decodeAll_no_fault_faithful_nodict (d : DecB) (hnd : d.dicts = []) (s : Src) (room : Nat)
    (hi : ∀ x ∈ s, x < 256) (f : Fault) : (d.decodeAll s room).2 ≠ .fault f :=
  (decodeAll_no_fault_faithful d s room (by intro dict h; rw [hnd] at h; cases h) hi).2 f

/-- non-vacuity, and the error CLASS of the faithful model on malformed block content: a compressed
block whose sequences section is a lone count byte is `SequencesHeaderParseError` (`err seqHeader`), a
zero count followed by a stray byte is `DecodeSequenceError` (`err sequences`) — as the code reports
them (engine `dec` compares these lines with the real decoder) -/
def loneCountByte : List Nat := [0x28, 0xB5, 0x2F, 0xFD, 0x20, 0x00, 0x15, 0x00, 0x00, 0x00, 0x01]
def strayByteAfterZeroCount : List Nat := [0x28, 0xB5, 0x2F, 0xFD, 0x20, 0x00, 0x1D, 0x00, 0x00, 0x00, 0x00, 0xAA]

example : (match ((({} : DecB).reset loneCountByte).1.decodeBlocks (loneCountByte.drop 6) .all).2 with
  | .err .seqHeader => true | _ => false) = true := by decide +kernel

example : (match ((({} : DecB).reset strayByteAfterZeroCount).1.decodeBlocks (strayByteAfterZeroCount.drop 6) .all).2 with
  | .err .sequences => true | _ => false) = true := by decide +kernel

theorem no_fault_from_legal_states : C03_full := by
  intro d ok hl s hs f
  obtain ⟨hd, hw⟩ := hl.inv
  refine ⟨decodeDict_no_fault hs f, fun room vec => ?_, fun hok strat n => ?_⟩
  · have hall : ∀ f, (d.decodeAll s room).2 ≠ .fault f := (decodeAllLoop_noFault _ d s room #[] hd hs).noFault
    refine ⟨(Decoder.reset_noFault d s hd).noFault f, hall f, ?_⟩
    rw [Decoder.decodeAllToVec_eq]
    generalize d.decodeAll s room = r at hall
    obtain ⟨d', _ | _ | f'⟩ := r
    · simp
    · simp
    · exact absurd rfl (hall f')
  · exact ⟨(Decoder.decodeBlocks_noFault d s strat (hw hok) hs).1.noFault f,
      (Decoder.decodeFromTo_noFault d s n (hw hok) hs).noFault f, (streamingRead_noFault d s n (hw hok) hs).noFault f⟩

/-- the offset history a hostile dictionary installs may contain 0 (`decode_dict` copies the three
values unchecked): `do_offset_history` never faults on ANY history for offset values ≥ 1 (the
`rep[0] − 1` arm saturates), and a resulting offset 0 is rejected by `execute_sequences` as `ZeroOffset`
before any copy — so `Legal` needs no condition on the dictionary's offsets -/
theorem zero_history_is_harmless (ov ll : Nat) (h : Nat × Nat × Nat) (hov : ov ≥ 1) :
    ∃ r, doOffsetHistory ov ll h = .ok r :=
  doOffsetHistory_ok ov ll h hov

example : (match (executeSequences [⟨0, 3, 3⟩] [] (0, 0, 0) 0 {}).2, (executeSequences [⟨1, 3, 1⟩] [7] (0, 0, 0) 0 {}).2 with
    | .err .execZeroOffset, .err .execZeroOffset => true | _, _ => false) = true := by decide

end faithful

/-- the zero-offset guard of `execute_sequences` in the SOURCE (operator extracted on every run, anchored to the whole
condition) is the one the model uses (`if actual = 0 then err ZeroOffset`): without it `repeat(0, n)` never ends -/
theorem zero_offset_guard_is_the_models (a : Nat) : Gen.execZeroOffset a 0 = decide (a = 0) := rfl

end Zstd.Props.C03
