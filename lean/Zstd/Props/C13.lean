import Zstd.Proofs.HufShape
import Zstd.Proofs.HufCanon
import Zstd.Proofs.HufDesc
import Zstd.Proofs.HufCounts
import Zstd.Proofs.HufRoundtripFse
import Zstd.Proofs.HufLt128Lift
/-
C13 — Huffman tables are valid and literal coding round-trips for every distribution.

The property theorems; the lemmas are in `Zstd/Proofs/Huf*.lean`, for the stream and the FSE-compressed description also
in `Proofs/LitCoderStream.lean`, `Proofs/LitCoderFse.lean` (the strict Spec reads them back) and
`Proofs/BlkHuf*Refines.lean` (the code follows the Spec).  What is evaluated by the kernel: the finite table
`HufLt128.tableOk n` (`Proofs/HufLt128Def.lean`: the shape check and the size bound of the compressed weights) for
`n = 2 … 256`, in `Zstd/Proofs/HufTable/N*.lean`.
-/
namespace Zstd.Props.C13
open Zstd Zstd.Model.Huf Zstd.Proofs.Huf Zstd.Proofs.HufShape

/-- For every number `n` of distinct literal values from 2 to 256 the weight shape
`redistribute_weights(distribute_weights(n), ⌊log₂ n⌋ + 2)` is computed without a panic, has `n`
weights, all at least 1, ascending (the rarest symbol gets the smallest weight), `Σ 2^(w−1)` is a
power of two `2^m`, and `m ≤ 11`, so every code length `m + 1 − w` is between 1 and 11. -/
theorem shape_valid (n : Nat) (h1 : 2 ≤ n) (h2 : n ≤ 256) :
    ∃ ws, shape n = .ok ws ∧ ws.length = n ∧ (∀ w ∈ ws, 1 ≤ w) ∧ isSortedAsc ws = true ∧ ws.head? = some 1 ∧
      isPow2 (weightSum ws) = true ∧ Nat.log2 (weightSum ws) ≤ 11 := by
  have h := shapeOk_all n h1 h2
  unfold shapeOk at h
  cases hs : shape n with
  | error f => rw [hs] at h; cases h
  | ok ws =>
    simp only [hs, Bool.and_eq_true, beq_iff_eq, decide_eq_true_eq, allGe1_iff] at h
    obtain ⟨⟨⟨⟨⟨a, b⟩, c⟩, c'⟩, d⟩, e⟩ := h
    exact ⟨ws, rfl, a, b, c, c', d, e⟩

/-- The code shape depends only on the number of symbols and on the rank order of the counts:
`build_from_counts` is a function of `counts.len()` and of the list of symbol indices in stable
ascending count order, each with the flag "does not occur". -/
theorem shape_depends_on_rank (c1 c2 : List Nat) (hlen : c1.length = c2.length)
    (hrank : rankOrder c1 = rankOrder c2) : buildFromCounts c1 = buildFromCounts c2 := by
  unfold buildFromCounts
  rw [hlen, hrank]

/-- … as a function of these two: the number of symbols that occur selects the shape, the rank order says where its
weights go, and the table is `build_from_weights` of the result. -/
theorem shape_depends_on_n (len : Nat) (order : List (Nat × Bool)) (ws wd : List Nat)
    (hlen : len ≤ 256) (hs : shape (len - (order.filter (·.2)).length) = .ok ws)
    (hsc : scatter order ws (List.replicate len 0) = .ok wd) :
    buildFromRank len order = buildFromWeights wd := by
  rw [buildFromRank_eq len order hlen, hs]
  simp only [hsc]

/-- the weights the Spec accepts are the weights the model's checks accept -/
theorem spec_complete_iff (ws : List Nat) (m : Nat) (all : List Nat) :
    Spec.Huffman.completeWeights ws = some (m, all) ↔
      GoodWeights ws ∧ m = maxBitsOf ws ∧ all = ws ++ [lastWeightOf ws] :=
  Zstd.Proofs.Huf.spec_complete_iff ws m all

theorem spec_tableOfWeights_some {ws : List Nat} {T : Spec.Huffman.Table}
    (h : Spec.Huffman.tableOfWeights ws = some T) :
    GoodWeights ws ∧ ws.length ≤ 255 ∧ T = Spec.Huffman.buildTable (maxBitsOf ws) (ws ++ [lastWeightOf ws]) :=
  Zstd.Proofs.Huf.spec_tableOfWeights_some h

/-- **The rank-index construction of `build_table_from_weights` yields the canonical table of the
RFC** (shared with C01).  Whenever the specification assigns a table `T` to the transmitted
weights, the model of the decoder builds — without error or panic, whatever the previous state of
the table object — a table with the same `Max_Number_of_Bits` whose cells are, one by one, the
cells of `T`; its `bits` are the code lengths `maxBits + 1 − w` including the inferred last one. -/
theorem huf_table_eq_canonical (t : DecTable) (T : Spec.Huffman.Table)
    (hspec : Spec.Huffman.tableOfWeights t.weights = some T) :
    ∃ t', buildTableFromWeights t = (t', .ok ()) ∧ t'.maxNumBits = T.maxBits ∧ t'.weights = t.weights ∧
      t'.bits = allBitsOf t.weights ∧
      t'.decode.toList.map (fun e => (e.symbol, e.numBits)) = T.entries.toList.map (fun e => (e.symbol, e.nbBits)) :=
  Zstd.Proofs.Huf.huf_table_eq_canonical t T hspec

/-- **Weights that cannot form a complete code are rejected, never with a panic**: a weight above
11, no weight at all, a leftover that is not a power of two, or more than 11 bits each make
`build_table_from_weights` return the corresponding error variant. -/
theorem bad_weights_rejected (t : DecTable) (hlen : t.weights.length ≤ 257)
    (hbad : (∃ w ∈ t.weights, w > 11) ∨ weightSum t.weights = 0 ∨
      isPow2 (2 ^ maxBitsOf t.weights - weightSum t.weights) = false ∨ maxBitsOf t.weights > 11) :
    ∃ e, (buildTableFromWeights t).2 = .error (.err e) := by
  have : ¬ GoodWeights t.weights := by
    intro g
    rcases hbad with ⟨w, hw, h⟩ | h | h | h
    · have := g.le11 w hw
      have e : Gen.hufMaxNumBits = 11 := rfl
      omega
    · exact g.pos h
    · have := g.pow; simp only [maxBitsOf] at h; rw [h] at this; cases this
    · have := g.maxBits
      have e : Gen.hufMaxNumBits = 11 := rfl
      simp only [maxBitsOf] at h; omega
  obtain ⟨e, he, _⟩ := buildTable_bad t hlen this
  exact ⟨e, he⟩

/-- in Spec terms: what the specification rejects, the decoder rejects -/
theorem spec_rejected_is_rejected (t : DecTable) (hlen : t.weights.length ≤ 257)
    (hspec : Spec.Huffman.completeWeights t.weights = none) :
    ∃ e, (buildTableFromWeights t).2 = .error (.err e) := by
  have : ¬ GoodWeights t.weights := by
    intro g
    have := (spec_complete_iff t.weights (maxBitsOf t.weights) (t.weights ++ [lastWeightOf t.weights])).mpr ⟨g, rfl, rfl⟩
    rw [hspec] at this; cases this
  obtain ⟨e, he, _⟩ := buildTable_bad t hlen this
  exact ⟨e, he⟩

/-- `build_table_from_weights` never panics (≤ 257 weights is what `read_weights` can deliver):
the `assert!(rank_indexes[0] == decode.len())`, the index expressions and the `u32` sum are safe
for every weight list. -/
theorem build_table_never_panics (t : DecTable) (hlen : t.weights.length ≤ 257) (f : Fault) :
    (buildTableFromWeights t).2 ≠ .error (.fault f) :=
  Zstd.Proofs.Huf.buildTable_no_fault t hlen f

/-- **Kraft-complete weights give a complete prefix-free code** (general, no bound on the alphabet
other than `u8` symbols): if `Σ 2^(w−1) = 2^m` over at most 256 weights, each at most `m ≤ 32`
(so that codes fit the `u32` the table stores), then `build_from_weights` does not panic, symbols
of weight 0 get no code, a symbol of weight `w` gets a code of `m + 1 − w` bits that fits its
length, and no code is a prefix of another one (`code2 >> (len2 − len1) ≠ code1`, the test of the
unit test `weights`).  Completeness is the hypothesis itself: `Σ 2^(m − len) = Σ 2^(w−1) = 2^m`. -/
theorem codes_prefix_free (ws : List Nat) (m : Nat) (hlen : ws.length ≤ 256) (hm : m ≤ 32)
    (hle : ∀ w ∈ ws, w ≤ m) (hk : weightSum ws = 2 ^ m) :
    ∃ t, buildFromWeights ws = .ok t ∧ CodesOk ws m t.codes :=
  buildFromWeights_ok ws m hlen hm hle hk

/-- non-vacuity of `codes_prefix_free`: the weights of the unit test `huffman` -/
example : ∃ t, buildFromWeights [4, 3, 2, 0, 1, 1] = .ok t ∧ CodesOk [4, 3, 2, 0, 1, 1] 4 t.codes :=
  codes_prefix_free _ 4 (by decide) (by decide) (by decide) (by decide)

/-- **Every table the compressor builds is a complete prefix-free code of depth at most 11.**
For every histogram with at most 256 entries of which 2 to 256 are non-zero (the number of zero
entries is what `build_from_counts` counts: the "does not occur" flags of the rank order),
`build_from_counts` does not panic and returns the code of a weight vector `wd` (the shape weights
scattered over the symbols) with `Σ 2^(w−1) = 2^m`, `m ≤ 11`: every code length `m + 1 − w` is at
most 11, the codes are prefix-free and complete. -/
theorem compressor_table_valid (counts : List Nat) (hlen : counts.length ≤ 256)
    (hn : 2 ≤ counts.length - ((rankOrder counts).filter (·.2)).length) :
    ∃ t wd m, buildFromCounts counts = .ok t ∧ m ≤ 11 ∧ wd.length = counts.length ∧
      weightSum wd = 2 ^ m ∧ (∀ w ∈ wd, w ≤ m) ∧ CodesOk wd m t.codes := by
  obtain ⟨ws, hs, _⟩ := shape_valid (counts.length - ((rankOrder counts).filter (·.2)).length) hn (by omega)
  obtain ⟨wd, t, f⟩ := countsTable_of_shape counts hlen hs
  exact ⟨t, wd, _, f.table, f.m11, f.len, f.sum, f.le, f.codes⟩

/-- **The table `build_from_counts` returns is canonical** (`CanonTable`): for a histogram with at
most 256 entries, 2 … 256 of them non-zero, the last one non-zero (as in `build_from_data`:
`counts[..=max]`), it is `build_from_weights` of a weight vector `wd` with Kraft sum `2^m`, `m ≤ 11`,
containing the weight 1, whose last weight is not zero.  Everything below (descriptions, streams) is
proved for canonical tables. -/
theorem compressor_table_canon (counts : List Nat) (hlen : counts.length ≤ 256)
    (hn : 2 ≤ counts.length - ((rankOrder counts).filter (·.2)).length)
    (hlast : ∀ c, counts.getLast? = some c → c ≠ 0) :
    ∃ t wd m, buildFromCounts counts = .ok t ∧ CanonTable t wd m ∧ wd.length = counts.length ∧
      (∀ s (h : s < counts.length), counts[s] ≠ 0 → ∃ h' : s < wd.length, wd[s] > 0) :=
  buildFromCounts_canon counts hlen hn hlast

/-- … in particular a complete code in the sense of the description round trips (`KraftTable`) -/
theorem compressor_table_kraft (counts : List Nat) (hlen : counts.length ≤ 256)
    (hn : 2 ≤ counts.length - ((rankOrder counts).filter (·.2)).length)
    (hlast : ∀ c, counts.getLast? = some c → c ≠ 0) :
    ∃ t M, buildFromCounts counts = .ok t ∧ KraftTable t M := by
  obtain ⟨t, wd, m, h1, c, _, _⟩ := compressor_table_canon counts hlen hn hlast
  exact ⟨t, m, h1, c.kraft⟩

/-- **Direct weight description round trip** (at most 16 transmitted weights): for a complete
encoder table of depth `M ≤ 11` (`KraftTable`) `write_table` does not panic; the decoder, whatever
state its table object was in, reads the description back, consumes exactly its bytes and ends up
with the encoder's code lengths — the dropped last weight is re-inferred correctly — and with
`max_num_bits = M`.  (Nibble order, the odd remainder and the header byte are the source's, through
`Zstd.Gen.Huf`.) -/
theorem weights_roundtrip_direct (fseEnc : List Nat → Except Fault (List Nat)) (t : EncTable) (M : Nat)
    (k : KraftTable t M) (hdirect : t.codes.length - 1 ≤ 16) (st : DecTable) (tail : List Nat) :
    ∃ desc, writeTable fseEnc t = .ok desc ∧
      ∃ st', buildDecoder st (desc ++ tail) = (st', .ok desc.length) ∧
        st'.bits = t.codes.map (·.2) ∧ st'.maxNumBits = M := by
  obtain ⟨_, _, _, hlt16⟩ := kraft_weights_good k
  have hdl := encWeights_dropLast_length t M
  have hw : weights t = .ok (encWeights t M) := weights_eq_encWeights k.le k.has
  obtain ⟨bs, hb1, hb2, hb3⟩ := nibbles_directBytes (encWeights t M).dropLast hlt16
  obtain ⟨st', hbuild, hbits, hmb⟩ := build_after_read k
    { decode := #[], weights := (encWeights t M).dropLast, maxNumBits := st.maxNumBits, bits := st.bits } rfl
  refine ⟨_, writeTable_direct fseEnc hw (by omega) hb1, st', buildDecoder_ok ?_ hbuild, hbits, hmb⟩
  rw [List.cons_append, List.length_cons, Nat.add_comm bs.length]
  exact readWeights_direct { st with decode := #[] } _ bs tail (by have := k.two; omega) (by omega) hb2 (hb3 tail)

/-- **FSE-compressed weight description round trip** (more than 16 transmitted weights),
with no hypothesis about the FSE coder: for the real one with the production parameters (`Model.Enc.fseWeights`: normaliser
with max log 6 and zero-bit avoidance, `write_table`, `encode_interleaved` — `Proofs/HufRoundtripFse.lean`: the strict
Spec reads the description back, and the code follows the Spec): for every canonical table the FSE coder does not panic on
the transmitted weights; if it returns fewer than 128 bytes, `write_table` writes size byte + payload
and the decoder — from any table state, with any bytes after the description — ends up with the
encoder's code lengths, the dropped last weight re-inferred, the description exactly consumed, and a
table that decodes the encoder's code; if it returns 128 bytes or more `write_table` panics at its
`assert!` (that this never happens is `fse_weights_lt_128_full`). -/
theorem weights_roundtrip_fse {t : EncTable} {wd : List Nat} {m : Nat} (c : CanonTable t wd m)
    (hfseform : wd.length - 1 > 16) :
    ∃ bytes, Model.Enc.fseWeights wd.dropLast = .ok bytes ∧
      (bytes.length < 128 →
        writeTable Model.Enc.fseWeights t = .ok (bytes.length :: bytes) ∧
        ∀ (st : DecTable) (tail : List Nat), (∀ b ∈ tail, b < 256) →
          ∃ st', buildDecoder st ((bytes.length :: bytes) ++ tail) = (st', .ok (bytes.length :: bytes).length) ∧
            st'.bits = t.codes.map (·.2) ∧ st'.maxNumBits = m ∧ DecodesCode st' t m) ∧
      (128 ≤ bytes.length →
        writeTable Model.Enc.fseWeights t = .error (.assert "huff0_encoder.rs:write_table:encoded_len<128")) := by
  obtain ⟨bytes, h1, h2, h3⟩ := descReads_fse c hfseform
  refine ⟨bytes, h1, ?_, h3⟩
  intro hsmall
  obtain ⟨hw, hr⟩ := h2 hsmall
  refine ⟨hw, ?_⟩
  intro st tail htail
  obtain ⟨st', q1, q2, q3⟩ := buildDecoder_of_reads c _ hr st tail htail
  exact ⟨st', q1, q3, q2.mb, q2⟩

/-- in the words of `FseWeightsContract` (Proofs/HufDesc): the production coder satisfies its conclusion on every weight vector
`write_table` can pass to it (`FseWeightsContract` itself asks it of every `ws`) -/
theorem fse_contract_production (ws bytes : List Nat) (h4 : 4 ≤ ws.length) (h257 : ws.length ≤ 257)
    (hle : ∀ w ∈ ws, w ≤ 11) (hpos : ∃ w ∈ ws, 1 ≤ w)
    (henc : Model.Enc.fseWeights ws = .ok bytes) (hsmall : bytes.length < 128) :
    ∀ (st : DecTable) (tail : List Nat), (∀ b ∈ tail, b < 256) →
      readWeights st (bytes.length :: (bytes ++ tail)) = ({ st with weights := ws }, .ok (1 + bytes.length)) := by
  obtain ⟨bytes', h1, _, h3⟩ := fseWeights_roundtrip ws h4 h257 hle
  rw [henc] at h1
  cases h1
  exact h3 hsmall

/-- `fse_weights_lt_128`, the part that is a theorem about the model: the
`assert!(encoded_len < 128)` of `write_table` fires exactly when the FSE encoder returns 128 bytes
or more.  That it never does for the compressor's tables is `fse_weights_lt_128_full` below, a theorem too
(`fse_weights_lt_128_full_holds`). -/
theorem fse_weights_lt_128_partial (fseEnc : List Nat → Except Fault (List Nat)) (t : EncTable) (M : Nat)
    (k : KraftTable t M) (hfseform : t.codes.length - 1 > 16)
    (bytes : List Nat) (henc : fseEnc (encWeights t M).dropLast = .ok bytes) :
    writeTable fseEnc t = .error (.assert "huff0_encoder.rs:write_table:encoded_len<128") ↔ 128 ≤ bytes.length := by
  have hdl := encWeights_dropLast_length t M
  have hw : weights t = .ok (encWeights t M) := weights_eq_encWeights k.le k.has
  simp only [writeTable_fse fseEnc hw (by omega), henc]
  by_cases h : bytes.length < 128
  · rw [if_pos h]
    exact ⟨fun h' => (nomatch h'), fun h' => by omega⟩
  · rw [if_neg h]
    exact ⟨fun _ => by omega, fun _ => rfl⟩

/-- Full strength of `fse_weights_lt_128`: every table `build_from_counts` returns has a weight
description that `write_table`, with the real FSE coder (`Enc.fseWeights`: normaliser with max log 6
and zero-bit avoidance, `write_table`, `encode_interleaved`), writes without hitting
`assert!(encoded_len < 128)` or any other panic site.  It holds: `fse_weights_lt_128_full_holds`. -/
def fse_weights_lt_128_full : Prop :=
  ∀ counts t, counts.length ≤ 256 → buildFromCounts counts = .ok t →
    ∃ desc, writeTable Model.Enc.fseWeights t = .ok desc

/-- the part of it that needs no evaluation of the finite table: for canonical tables `write_table` succeeds
unless the FSE coder returns 128 bytes or more — no other panic site of `write_table`, the normaliser, the
FSE table builder or the interleaved coder is reachable -/
theorem fse_weights_lt_128_canon_partial {t : EncTable} {wd : List Nat} {m : Nat} (c : CanonTable t wd m) :
    (∃ desc, writeTable Model.Enc.fseWeights t = .ok desc) ∨
      (∃ bytes, Model.Enc.fseWeights wd.dropLast = .ok bytes ∧ 128 ≤ bytes.length ∧
        writeTable Model.Enc.fseWeights t = .error (.assert "huff0_encoder.rs:write_table:encoded_len<128")) :=
  (writeTable_canon_or_assert c).imp (fun ⟨desc, h, _⟩ => ⟨desc, h⟩) id

/-- **`write_table` is TOTAL on the compressor's tables** (`fse_weights_lt_128`, full): for every
histogram with at most 256 entries for which `build_from_counts` returns a table, `write_table` with
the real FSE coder returns a description.  Proof (`Proofs/HufLt128*.lean`): a symbol `x` costs `encode_interleaved` at
most `AL − ⌊log₂ p_x⌋` bits (the closed form of the table, C12 `fse_dec_table_char`), the final states `2·AL`, the end mark
at most 8, the table description at most `4 + (AL+3)·#symbols + 7`; so `8·|fseWeights ws| ≤ boundOf (histogram ws)`, a
function of the NORMALISED DISTRIBUTION only (`fseWeights_size`).  The weights of a compressor table are `shape n` spread
over the used symbols plus `z` zeros, one of them dropped (`Proofs/HufLt128Lift.lean`).  The bound is at most 1023 bits
for every `n = 2..256`, `z = 0..256−n` and dropped weight: for at most 147 weights by `boundOf_le` (6 bits per weight),
without evaluation; for the longer vectors by the finite table `HufLt128.tableOk n`, evaluated by the kernel in
`Proofs/HufTable/N*.lean` (runs of the normaliser on at most 12 symbols, no encoder run). -/
theorem write_table_total_on_compressor_tables (counts : List Nat) (t : EncTable) (hlen : counts.length ≤ 256)
    (hb : buildFromCounts counts = .ok t) : ∃ desc, writeTable Model.Enc.fseWeights t = .ok desc :=
  writeTable_total counts t hlen hb

/-- `fse_weights_lt_128_full` holds (`write_table_total_on_compressor_tables` under the property's name) -/
theorem fse_weights_lt_128_full_holds : fse_weights_lt_128_full :=
  fun counts t hlen hb => writeTable_total counts t hlen hb

/-- … and what it writes is read back: for a histogram as `build_from_data` makes it (last entry not
zero, 2 … 256 non-zero entries) the table is canonical, every symbol that occurs has a code, and
`write_table` returns a description from which the decoder — any table state, any following bytes —
recovers exactly the transmitted weights, consuming exactly the description (direct or
FSE-compressed form) -/
theorem write_table_total_and_read_back (counts : List Nat) (hlen : counts.length ≤ 256)
    (hn : 2 ≤ counts.length - ((rankOrder counts).filter (·.2)).length)
    (hlast : ∀ c, counts.getLast? = some c → c ≠ 0) :
    ∃ t wd m desc, buildFromCounts counts = .ok t ∧ CanonTable t wd m ∧
      writeTable Model.Enc.fseWeights t = .ok desc ∧ DescReads desc wd.dropLast ∧
      (∀ s (h : s < counts.length), counts[s] ≠ 0 → ∃ h' : s < wd.length, wd[s] > 0) := by
  obtain ⟨t, wd, m, hb, c, _, hused⟩ := compressor_table_canon counts hlen hn hlast
  obtain ⟨desc, hdesc⟩ := writeTable_total counts t hlen hb
  exact ⟨t, wd, m, desc, hb, c, hdesc, descReads_of_written c hdesc, hused⟩

/-- **One stream** (`HuffmanEncoder::encode` with the table, then `decode_literals` on a Compressed
section with one stream).  For every canonical table (in particular every table the compressor builds,
`compressor_table_canon`), every literal string over symbols that have a code, and the description
`write_table` wrote — provided the decoder reads that description back (`DescReads`: proved for the
direct form, and for the FSE form by `weights_roundtrip_fse`): `encode` does not panic, and
`decode_literals`, from any table state, with any bytes after the section and any literals already in
the target, appends exactly the literals, reports exactly the section's bytes as read, and leaves a
table that decodes the code (so a following Treeless section works).
What the one-stream path checks: only the total number of regenerated literals; it does NOT verify
`bits_remaining == -max_num_bits` (the four-stream path does) — `one_stream_exact` states that the
stream is nevertheless exactly consumed. -/
theorem encode_decode_1stream (fseEnc : List Nat → Except Fault (List Nat)) {t : EncTable} {wd : List Nat} {m : Nat}
    (c : CanonTable t wd m) (data : List Nat) (hdata : Encodable wd data)
    (desc : List Nat) (hdesc : writeTable fseEnc t = .ok desc) (hr : DescReads desc wd.dropLast) :
    ∃ bytes, encode fseEnc t data true = .ok bytes ∧
      ∀ (st : DecTable) (tail target : List Nat), ∃ st',
        decodeLiterals (litSection .compressed (target.length + data.length) bytes.length 1) st (bytes ++ tail) target
          = (st', .ok (target ++ data, bytes.length)) ∧ DecodesCode st' t m := by
  obtain ⟨stream, hs⟩ := encodeStream_ok c data hdata
  refine ⟨desc ++ stream, by simp [encode, hdesc, hs], fun st tail target => ?_⟩
  obtain ⟨st', hb, dc, _⟩ := buildDecoder_of_reads c desc hr st stream (encodeStream_bytes hs)
  refine ⟨st', ?_, dc⟩
  rw [decodeLiterals_compressed hb, List.drop_left' rfl, decodeStreams_one dc hs, List.length_append]

/-- every stream is exactly consumed: after the symbols have been regenerated the reader stands at
`bits_remaining = -max_num_bits`, whether or not the caller checks it (`check` = the four-stream
variant that does: `decodeOneStream` with `check = true` returns only if the reader stands there, and the statement
holds for both values of `check`, which differ in nothing else) -/
theorem one_stream_exact (tbl : DecTable) (t : EncTable) (m : Nat) (dc : DecodesCode tbl t m)
    (data stream : List Nat) (henc : encodeStream t data = .ok stream) (check : Bool) (outRev : List Nat) :
    decodeOneStream tbl stream check outRev = .ok (data.reverse ++ outRev) :=
  decodeOneStream_encodeStream tbl t m dc data stream henc check outRev

/-- one stream, Treeless (`with_table = false`): against any decoder table that decodes the code -/
theorem encode_decode_1stream_treeless (fseEnc : List Nat → Except Fault (List Nat)) {t : EncTable} {wd : List Nat}
    {m : Nat} (c : CanonTable t wd m) (data : List Nat) (hdata : Encodable wd data) :
    ∃ bytes, encode fseEnc t data false = .ok bytes ∧
      ∀ (st : DecTable) (tail target : List Nat), DecodesCode st t m →
        decodeLiterals (litSection .treeless (target.length + data.length) bytes.length 1) st (bytes ++ tail) target
          = (st, .ok (target ++ data, bytes.length)) := by
  obtain ⟨stream, hs⟩ := encodeStream_ok c data hdata
  refine ⟨stream, by simp [encode, hs], fun st tail target dc => ?_⟩
  rw [decodeLiterals_treeless (by rw [dc.mb]; have := dc.m1; omega), decodeStreams_one dc hs, Nat.zero_add]

/-- **Four streams** (`encode4x`: split `⌈len/4⌉`, jump table; then `decode_literals` with four
streams, each of which must end at `bits_remaining == -max_num_bits`): for every canonical table and
every literal string over coded symbols of any length the compressor uses — at least 4 and not 5
(`encode4x_split_faults`; `compress_literals` switches to four streams at 6), at most 128 KiB (so that
the three jump-table entries fit `u16`, which `encode4x` asserts). -/
theorem encode_decode_4streams (fseEnc : List Nat → Except Fault (List Nat)) {t : EncTable} {wd : List Nat} {m : Nat}
    (c : CanonTable t wd m) (data : List Nat) (hdata : Encodable wd data)
    (hlen : 4 ≤ data.length) (h5 : data.length ≠ 5) (hmax : data.length ≤ 131072)
    (desc : List Nat) (hdesc : writeTable fseEnc t = .ok desc) (hr : DescReads desc wd.dropLast) :
    ∃ bytes, encode4x fseEnc t data true = .ok bytes ∧
      ∀ (st : DecTable) (tail target : List Nat), ∃ st',
        decodeLiterals (litSection .compressed (target.length + data.length) bytes.length 4) st (bytes ++ tail) target
          = (st', .ok (target ++ data, bytes.length)) ∧ DecodesCode st' t m := by
  obtain ⟨d1, d2, d3, d4, s1, s2, s3, s4, hsplit, h1, h2, h3, h4, l1, l2, l3, henc⟩ :=
    encode4x_streams fseEnc c data hdata hlen h5 hmax
  subst hsplit
  refine ⟨desc ++ body4 s1 s2 s3 s4, henc true desc hdesc, fun st tail target => ?_⟩
  obtain ⟨st', hb, dc, _⟩ := buildDecoder_of_reads c desc hr st _ (body4_bytes h1 h2 h3 h4)
  refine ⟨st', ?_, dc⟩
  rw [decodeLiterals_compressed hb, List.drop_left' rfl, decodeStreams_four dc h1 h2 h3 h4 l1 l2 l3,
    List.length_append]

theorem encode_decode_4streams_treeless (fseEnc : List Nat → Except Fault (List Nat)) {t : EncTable} {wd : List Nat}
    {m : Nat} (c : CanonTable t wd m) (data : List Nat) (hdata : Encodable wd data)
    (hlen : 4 ≤ data.length) (h5 : data.length ≠ 5) (hmax : data.length ≤ 131072) :
    ∃ bytes, encode4x fseEnc t data false = .ok bytes ∧
      ∀ (st : DecTable) (tail target : List Nat), DecodesCode st t m →
        decodeLiterals (litSection .treeless (target.length + data.length) bytes.length 4) st (bytes ++ tail) target
          = (st, .ok (target ++ data, bytes.length)) := by
  obtain ⟨d1, d2, d3, d4, s1, s2, s3, s4, hsplit, h1, h2, h3, h4, l1, l2, l3, henc⟩ :=
    encode4x_streams fseEnc c data hdata hlen h5 hmax
  subst hsplit
  refine ⟨body4 s1 s2 s3 s4, henc false [] rfl, fun st tail target dc => ?_⟩
  rw [decodeLiterals_treeless (by rw [dc.mb]; have := dc.m1; omega),
    decodeStreams_four dc h1 h2 h3 h4 l1 l2 l3, Nat.zero_add]

/-- **The compressor's path, end to end, with the real FSE coder**: histogram → table → description
(direct or FSE-compressed) → four streams → `decode_literals`.  For every literal string of 6 … 128 KiB
bytes with at least two distinct values nothing panics — in particular not the
`assert!(encoded_len < 128)` of `write_table` (`write_table_total_on_compressor_tables`) — and the
literals come back. -/
theorem literals_roundtrip_compressor (counts : List Nat) (hlen : counts.length ≤ 256)
    (hn : 2 ≤ counts.length - ((rankOrder counts).filter (·.2)).length)
    (hlast : ∀ c, counts.getLast? = some c → c ≠ 0)
    (data : List Nat) (hd : ∀ s ∈ data, ∃ h : s < counts.length, counts[s] ≠ 0)
    (h6 : 6 ≤ data.length) (hmax : data.length ≤ 131072) :
    ∃ t bytes, buildFromCounts counts = .ok t ∧ encode4x Model.Enc.fseWeights t data true = .ok bytes ∧
      ∀ (st : DecTable) (tail target : List Nat), ∃ st',
        decodeLiterals (litSection .compressed (target.length + data.length) bytes.length 4) st (bytes ++ tail) target
          = (st', .ok (target ++ data, bytes.length)) := by
  obtain ⟨t, wd, m, desc, hb, c, hdesc, hr, hused⟩ := write_table_total_and_read_back counts hlen hn hlast
  obtain ⟨bytes, q1, q2⟩ := encode_decode_4streams Model.Enc.fseWeights c data
    (fun s hsd => let ⟨hsc, hne⟩ := hd s hsd; hused s hsc hne) (by omega) (by omega) hmax desc hdesc hr
  exact ⟨t, bytes, hb, q1, fun st tail target => let ⟨st', q, _⟩ := q2 st tail target; ⟨st', q⟩⟩

/-- The 4-stream splitter: `encode4x` panics for fewer than 4 literals (the `assert!`) and for
exactly 5 (`&data[split*2..split*3]` with `split = 2`), and for no other length because of the
split — `compress_literals` uses it from 6 literals on. -/
theorem encode4x_split_faults (fseEnc : List Nat → Except Fault (List Nat)) (t : EncTable) (data : List Nat)
    (h : data.length < 4 ∨ data.length = 5) : ∃ f, encode4x fseEnc t data false = .error f := by
  cases henc : encode4x fseEnc t data false with
  | error f => exact ⟨f, rfl⟩
  | ok enc =>
    obtain ⟨h4, h3, _⟩ := (encode4x_ok_iff fseEnc t data false enc).mp henc
    omega

/-! ## F10 (filed under C16; outside C13's quantifier 2..256) -/

/-- A single distinct literal value makes `build_from_data` panic: `distribute_weights(1)` fails
`assert!(amount >= 2)`.  Reachable through `compress_literals` only with a custom matcher that
yields more than 1024 literals of one value in a block that is not constant (`fixes/F10.diff`). -/
theorem single_value_faults (counts : List Nat)
    (h : counts.length - ((rankOrder counts).filter (·.2)).length = 1) :
    ∃ f, buildFromCounts counts = .error f := by
  unfold buildFromCounts buildFromRank
  by_cases hl : Gen.hufCountsLenOk counts.length Gen.hufMaxCounts = true
  · simp only [hl, Bool.not_true, Bool.false_eq_true, if_false, h]
    exact ⟨_, rfl⟩
  · have : Gen.hufCountsLenOk counts.length Gen.hufMaxCounts = false := by simpa using hl
    simp only [this, Bool.not_false, if_true]
    exact ⟨_, rfl⟩

/-- the witness: the histogram of 2000 literals of value 7 (`counts[..=7]`) -/
example : buildFromCounts [0, 0, 0, 0, 0, 0, 0, 2000]
    = .error (.assert "huff0_encoder.rs:distribute_weights:amount>=2") := by decide

/-- non-vacuity of `huf_table_eq_canonical`: the Spec assigns a table to the weights 2,1,0,3 -/
example : (Spec.Huffman.tableOfWeights [2, 1, 0, 3]).isSome = true := by decide

/-- non-vacuity of the whole chain (`compressor_table_canon`, `CanonTable`, `Encodable`, `DescReads`,
the stream theorems, totality of `write_table`): the histogram and the literals of the unit test
`from_data` -/
example : ∃ t bytes, buildFromCounts [3, 0, 4, 1, 5] = .ok t ∧
    encode4x Model.Enc.fseWeights t [0, 2, 4, 4, 0, 3, 2, 2, 0, 2] true = .ok bytes ∧
      ∀ (st : DecTable) (tail target : List Nat), ∃ st',
        decodeLiterals (litSection .compressed (target.length + 10) bytes.length 4) st (bytes ++ tail) target
          = (st', .ok (target ++ [0, 2, 4, 4, 0, 3, 2, 2, 0, 2], bytes.length)) :=
  literals_roundtrip_compressor [3, 0, 4, 1, 5] (by decide) (by decide) (by decide)
    [0, 2, 4, 4, 0, 3, 2, 2, 0, 2] (by decide) (by decide) (by decide)

/-- non-vacuity of `compressor_table_valid` / `compressor_table_kraft` and of the `KraftTable`
hypothesis of the description round trips: the histogram of the unit test `counts` -/
example : ∃ t M, buildFromCounts [3, 0, 4, 1, 5] = .ok t ∧ KraftTable t M :=
  compressor_table_kraft _ (by decide) (by decide) (by decide)

/-- the conclusion of `FseWeightsContract` on a description the real encoder produced (14 symbols
of weight 1 alternating with unused ones; payload `10 3f 22 aa aa 82 14` from the engine `huf`):
the model's FSE branch of `read_weights` returns exactly these weights -/
example : readWeights DecTable.empty (7 :: [0x10, 0x3f, 0x22, 0xaa, 0xaa, 0x82, 0x14, 0xAB])
    = ({ DecTable.empty with weights := [1,0,1,0,1,0,1,0,1,0,1,0,1,0,1,0,1,0,1,0,1,0,1,0,1,0,1,0] }, .ok 8) := by
  decide +kernel

/-- non-vacuity: the description `83 21 03` of the RFC-style example (weights 2,1,0,3 → last 1) -/
example : (buildDecoder DecTable.empty [131, 0x21, 0x03]).2 = .ok 3 := by decide +kernel

end Zstd.Props.C13
