import Zstd.Proofs.FrameDecoderStandIn
import Zstd.Proofs.FrameFaithful
/-
C05 — Decoder memory is bounded by the window limit plus what the caller asked for plus one block.

"Memory" is the number of decoded bytes the decoder holds
(`DBuf.content.size` = `DecodeBuffer::len()`; C04 turns it into allocation size).  Every bound is
stated with the literal 131072 and proved through `Gen.maxBlockSize` and the guard operator
`Gen.blockSizeTooLarge`, both regenerated from the source text on every run: weakening the guard or
raising the constant in the Rust code breaks these theorems.
-/
namespace Zstd.Props.C05
open Zstd Zstd.Model

variable {σ : Type} [BlockDec σ] [BlockContract σ]

/-- the four guards that cap a block — block header size, literals `Regenerated_Size`, running
`seq_sum` before each sequence, trailing literals — as extracted from the source text: their operator
is `>`, the one the model (`parseBlockHeader` via `Gen.blockSizeTooLarge`; `decodeLiteralsM` and
`executeSequences` literally) uses.  A changed operator in the Rust code regenerates `Gen.Guards` and
breaks this theorem; an altered condition (extra factor, `false &&`, …) no longer matches the
extractor's anchor (anchored from `if` to `{`) and breaks the extraction obligation. -/
theorem source_guards_are_the_models (a b : Nat) :
    Gen.blockSizeTooLarge a b = decide (a > b) ∧ Gen.literalsTooLarge a b = decide (a > b) ∧
    Gen.execSeqTooLarge a b = decide (a > b) ∧ Gen.execRestTooLarge a b = decide (a > b) :=
  ⟨rfl, rfl, rfl, rfl⟩

/-- where the literal of the statements below meets the constant extracted from the source -/
theorem maxBlockSize_eq : Gen.maxBlockSize = 131072 := rfl

theorem source_guards_cap (a : Nat) :
    (Gen.blockSizeTooLarge a Gen.maxBlockSize = false → a ≤ 131072) ∧
    (Gen.literalsTooLarge a Gen.maxBlockSize = false → a ≤ 131072) ∧
    (Gen.execSeqTooLarge a Gen.maxBlockSize = false → a ≤ 131072) ∧
    (Gen.execRestTooLarge a Gen.maxBlockSize = false → a ≤ 131072) := by
  have e := maxBlockSize_eq
  simp only [Gen.blockSizeTooLarge, Gen.literalsTooLarge, Gen.execSeqTooLarge, Gen.execRestTooLarge,
    decide_eq_false_iff_not, e]
  omega

/-- the block-size guard of `read_block_header` rejects everything above 128 KiB (operator and
constant from the source) -/
theorem header_guard_rejects (b0 b1 b2 : Nat) (bh : BHeader) (h : parseBlockHeader b0 b1 b2 = .ok bh) :
    bh.decompressedSize ≤ 131072 ∧ bh.contentSize ≤ 131072 := by
  have := parseBlockHeader_ok b0 b1 b2 bh h
  have e := maxBlockSize_eq
  omega

theorem block_appends (st : FState σ) (s : Src) :
    ∃ x, (decodeOneBlock st s).1.buf.content = st.buf.content ++ x ∧ x.size ≤ 131072 := by
  obtain ⟨x, hx, hs⟩ := (decodeOneBlock_step st s).appends
  have e := maxBlockSize_eq
  exact ⟨x, hx.content, by omega⟩

/-- one block adds at most 128 KiB to the buffer — on the `Ok` path AND on every
error path (the buffer is left as the Rust scratch is left); raw/RLE through the header guard,
compressed blocks through the running `seq_sum` checks of `execute_sequences` and the literals guard -/
theorem block_growth (st : FState σ) (s : Src) :
    (decodeOneBlock st s).1.buf.content.size ≤ st.buf.content.size + 131072 := by
  obtain ⟨x, hx, hs⟩ := block_appends st s
  rw [hx, Array.size_append]; omega

/-- "a block whose contents would regenerate more than 128 KiB is rejected as corrupt instead of being
expanded": `execute_sequences` returns `Ok` only if literals + matches of the whole block are ≤ 128 KiB,
and whatever it returns it has appended at most that much -/
theorem oversized_block_rejected (seqs : List Spec.Seq) (lits : List Nat) (h : Nat × Nat × Nat) (b : DBuf) :
    ((executeSequences seqs lits h 0 b).2 = .ok () → finalSeqSum seqs lits 0 ≤ 131072) ∧
    (executeSequences seqs lits h 0 b).1.1.content.size ≤ b.content.size + 131072 := by
  obtain ⟨x, hx, hs, hok⟩ := executeSequences_extends seqs lits h 0 b
  have := hs (Nat.zero_le _)
  have e := maxBlockSize_eq
  refine ⟨fun h => by have := hok h; omega, by rw [hx.size]; omega⟩

/-- on `Ok` the buffer grew by exactly the final `seq_sum`: the `assert!(seq_sum == diff)` at the end
of `execute_sequences` cannot fail (F1's release-build symptom) -/
theorem seq_sum_assert_holds (seqs : List Spec.Seq) (lits : List Nat) (h : Nat × Nat × Nat) (b : DBuf)
    (hok : (executeSequences seqs lits h 0 b).2 = .ok ()) :
    (executeSequences seqs lits h 0 b).1.1.content.size - b.content.size = finalSeqSum seqs lits 0 := by
  obtain ⟨x, hx, hs, hf⟩ := executeSequences_extends seqs lits h 0 b
  have := hf hok
  rw [hx.size]; omega

/-- the literals scratch (`literals_buffer`) holds at most 128 KiB (`LiteralsSizeTooLarge` guard) -/
theorem literals_scratch_bound (raw : List Nat) (prev : Option Spec.Huffman.Table) (lits : List Nat)
    (used : Nat) (huf : Option Spec.Huffman.Table) (hd : Spec.LitHeader)
    (h : decodeLiteralsM raw prev = .ok (lits, used, huf, hd)) : lits.length ≤ 131072 := by
  have := decodeLiteralsM_length raw prev lits used huf hd h
  have e := maxBlockSize_eq
  omega

/-- `decode_blocks(UptoBytes(n))` leaves at most `n` + one block more than before, whatever the input -/
theorem decodeBlocks_bound_bytes (d : Decoder σ) (s : Src) (n : Nat) :
    (d.decodeBlocks s (.uptoBytes n)).1.content.size ≤ d.content.size + n + 131072 :=
  Decoder.decodeBlocks_bound_bytes d s n

/-- `decode_blocks(UptoBlocks(k))` adds at most `max k 1` blocks (the loop tests the budget after a
block, so `UptoBlocks(0)` decodes one block) -/
theorem decodeBlocks_bound_blocks (d : Decoder σ) (s : Src) (k : Nat) :
    (d.decodeBlocks s (.uptoBlocks k)).1.content.size ≤ d.content.size + max k 1 * 131072 :=
  Decoder.decodeBlocks_bound_blocks d s k

/-- after `collect()` at most `window_size` bytes stay buffered (in every state) -/
theorem drain_bound_collect (d : Decoder σ) : (d.collect).1.content.size ≤ d.window :=
  Decoder.collect_bound d

/-- `read(buf)` drains down to the window (to nothing once the last block is in) or by
`buf.len()` bytes, whichever leaves more -/
theorem drain_bound_read (d : Decoder σ) (n : Nat) :
    (d.read n).1.content.size ≤ max (d.content.size - n) (if d.blocksDone then 0 else d.window) :=
  Decoder.read_bound d n

/-- one iteration of the documented loop `decode_blocks(UptoBytes(n)); collect()` -/
def steadyIter (d : Decoder σ) (s : Src) (n : Nat) : Decoder σ := ((d.decodeBlocks s (.uptoBytes n)).1.collect).1

/-- the documented loop: starting at or below the window, the peak inside an
iteration is ≤ window + n + 128 KiB and the iteration ends at or below the window again — so the
bound holds forever, for every input (`s` is arbitrary in every iteration) -/
theorem steady_bound (d : Decoder σ) (s : Src) (n : Nat) (h : d.content.size ≤ d.window) :
    (d.decodeBlocks s (.uptoBytes n)).1.content.size ≤ d.window + n + 131072 ∧
    (steadyIter d s n).content.size ≤ (steadyIter d s n).window ∧ (steadyIter d s n).window = d.window := by
  have h1 := decodeBlocks_bound_bytes d s n
  have hw := Decoder.decodeBlocks_window d s (.uptoBytes n)
  have h2 := Decoder.collect_bound (d.decodeBlocks s (.uptoBytes n)).1
  have hw2 := (applyDrain_dstep (d.decodeBlocks s (.uptoBytes n)).1 .collect).window
  simp only [applyDrain] at hw2
  refine ⟨by omega, ?_, ?_⟩
  · simp only [steadyIter]; omega
  · simp only [steadyIter]; omega

/-- the documented loop iterated: every state reached by any number of iterations (each with its own source and
budget ≤ `n`) holds at most `window + n + 128 KiB` bytes at its peak -/
theorem steady_bound_forever (d : Decoder σ) (iters : List (Src × Nat)) (n : Nat)
    (hn : ∀ p ∈ iters, p.2 ≤ n) (h : d.content.size ≤ d.window) :
    let dEnd := iters.foldl (fun d p => steadyIter d p.1 p.2) d
    dEnd.content.size ≤ dEnd.window ∧ dEnd.window = d.window ∧
    ∀ s' n', n' ≤ n → (dEnd.decodeBlocks s' (.uptoBytes n')).1.content.size ≤ d.window + n + 131072 := by
  induction iters generalizing d with
  | nil =>
    refine ⟨h, rfl, fun s' n' hn' => ?_⟩
    have := (steady_bound d s' n' h).1
    simp only [List.foldl_nil]; omega
  | cons p ps ih =>
    have hs := steady_bound d p.1 p.2 h
    have := ih (steadyIter d p.1 p.2) (fun q hq => hn q (List.mem_cons_of_mem _ hq)) hs.2.1
    simp only [List.foldl_cons]
    rw [hs.2.2] at this
    exact this

/-- `StreamingDecoder::read(buf)` with `n = buf.len()`: the call never holds more
than `max(before, window + n + 128 KiB)` — so a reader that always passes buffers of ≤ `n` bytes stays
below `window + n + 128 KiB` for ever -/
theorem steady_bound_streaming (d : Decoder σ) (s : Src) (n : Nat) :
    (streamingRead d s n).1.content.size ≤ max d.content.size (d.window + n + 131072) ∧
    (streamingFill (s.length + 2) d s n).1.content.size ≤ max d.content.size (d.window + n + 131072) := by
  have e := maxBlockSize_eq
  have h1 := streamingRead_bound d s n
  have h2 := (streamingFill_bound (s.length + 2) d s n).1
  omega

/-- three sequences of maximal match length: rejected after the second (the first would be executed) -/
example : (executeSequences [⟨0, 65539 + 65535, 4⟩, ⟨0, 65539 + 65535, 1⟩, ⟨0, 65539 + 65535, 1⟩] [] (1, 4, 8) 0
    { content := #[1, 2, 3, 4], window := 1024 }).2.isOk = false := by decide +kernel

/-- a hostile RLE block header claiming 2 MiB − 1 is rejected by the header guard -/
example : parseBlockHeader 0xFB 0xFF 0xFF = .error (.blockSizeTooLarge 2097151) := by decide +kernel

/-- an RLE block of exactly 128 KiB is accepted: the bound is attained, not vacuous -/
example : (parseBlockHeader 0x02 0x00 0x10).toOption.map (·.decompressedSize) = some 131072 := by decide +kernel


/-! ### instance B (`DecB`, the model engine `dec` compares with the real code)

Its `BlockContract` is proved without hypotheses (`instBlockContractFaithful`, Proofs/FrameFaithful.lean), so
every theorem above holds for it. -/

theorem block_growth_faithful (st : FState Blk.Scratch) (s : Src) :
    (decodeOneBlock st s).1.buf.content.size ≤ st.buf.content.size + 131072 :=
  block_growth st s

theorem decodeBlocks_bound_bytes_faithful (d : DecB) (s : Src) (n : Nat) :
    (d.decodeBlocks s (.uptoBytes n)).1.content.size ≤ d.content.size + n + 131072 :=
  decodeBlocks_bound_bytes d s n

theorem steady_bound_forever_faithful (d : DecB) (iters : List (Src × Nat)) (n : Nat)
    (hn : ∀ p ∈ iters, p.2 ≤ n) (h : d.content.size ≤ d.window) :
    let dEnd := iters.foldl (fun d p => steadyIter d p.1 p.2) d
    dEnd.content.size ≤ dEnd.window ∧ dEnd.window = d.window ∧
    ∀ s' n', n' ≤ n → (dEnd.decodeBlocks s' (.uptoBytes n')).1.content.size ≤ d.window + n + 131072 :=
  steady_bound_forever d iters n hn h

theorem steady_bound_streaming_faithful (d : DecB) (s : Src) (n : Nat) :
    (streamingRead d s n).1.content.size ≤ max d.content.size (d.window + n + 131072) :=
  (steady_bound_streaming d s n).1

/-- for the faithful decoder itself: whatever the block content and
the scratch, `decompress_block` only appends, at most 128 KiB, on every outcome -/
theorem decompressBlock_faithful_appends (content : List Nat) (s : Blk.Scratch) (b : DBuf) :
    ∃ x, (Blk.decompressBlock content s b).1.2.1.content = b.content ++ x ∧ x.size ≤ 131072 := by
  obtain ⟨x, hx, hs⟩ := Blk.run_extends content s b
  have e := maxBlockSize_eq
  exact ⟨x, hx.content, by omega⟩

end Zstd.Props.C05
