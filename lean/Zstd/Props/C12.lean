import Zstd.Model.BitIO
import Zstd.Model.Fse
import Zstd.Spec.Bits
import Zstd.Spec.Fse
import Zstd.Spec.Tables
import Zstd.Proofs.BitIO
import Zstd.Proofs.FseFin
import Zstd.Proofs.FseNormalize
import Zstd.Proofs.FseStream
import Zstd.Proofs.FseDecTable
import Zstd.Proofs.FseStreamInter
import Zstd.Proofs.FseReadDesc
import Zstd.Proofs.FseEncTable
import Zstd.Proofs.FseTableDesc
import Zstd.Proofs.FseCoupled
import Zstd.Proofs.FseEndToEnd
import Zstd.Proofs.SeqSection
import Zstd.Proofs.SeqSectionBlk
/-
C12 — FSE tables equal the specification's; FSE encoder and decoder are exact inverses.
(+ the bit-level I/O models everything else builds on.)

Model side: `Zstd/Model/{BitIO,FseCore,Fse}.lean` (hand-written mirrors of the Rust code, tied to it by
the correspondence engines `bits` and `fse`); every constant/distribution/step parameter is taken
from `Zstd.Gen.{Consts,Dists,Fse}`, regenerated from the source text on every run.
-/
namespace Zstd.Props.C12
open Zstd Zstd.Spec Zstd.Model.BitIO Zstd.Model.Fse Zstd.Proofs.BitIO

/-- **forward reader = `Spec.readLE` on `Spec.bitsLE`.**  For every byte string, every position, every
`n ≤ 64`: `get_bits(n)` returns the little-endian `n`-bit field at the current bit position and
advances by `n`, or `NotEnoughRemainingBits` exactly when fewer than `n` bits remain.
(Side condition: `get_bits(0)` exactly at the end of the source indexes out of bounds in the Rust
code — `bitReader_getBits_zero_at_end_faults`; no caller requests 0 bits.) -/
theorem bitReader_refines (r : BitReader) (n : Nat) (hb : Bytes r.src.toList)
    (hidx : r.idx ≤ 8 * r.src.size) (hn : n ≤ 64) (h0 : 0 < n ∨ r.idx < 8 * r.src.size) :
    r.getBits n =
      (match readLE n ((bitsLE r.src.toList).drop r.idx) with
       | some (v, _) => .ok (v, { r with idx := r.idx + n })
       | none => .error (.notEnoughRemainingBits n (8 * r.src.size - r.idx))) :=
  Proofs.BitIO.bitReader_refines r n hb hidx hn h0

theorem bitReader_getBits_zero_at_end_faults (r : BitReader) (h : r.idx = 8 * r.src.size) :
    r.getBits 0 = .error (.fault (.index "bit_reader.rs:48:get_bits")) :=
  Proofs.BitIO.bitReader_getBits_zero_at_end_faults r h

/-- whole request sequences (`get n` / `return n`) of the forward reader against the abstract position -/
theorem bitReader_refines_seq (src : Array Nat) (hb : Bytes src.toList) (ops : List FwdOp)
    (idx : Nat) (hidx : idx ≤ 8 * src.size) :
    runFwd { src := src, idx := idx } ops =
      (match runFwdSpec (bitsLE src.toList) idx ops with
       | .error e => .error e
       | .ok (vs, pos) => .ok (vs, { src := src, idx := pos })) :=
  Proofs.BitIO.runFwd_refines src hb ops idx hidx

/-- **reversed reader = `Spec.readBEPad` on the reversed bit string.**  `RevInv src r pos` = "`r` is a
reachable state over `src` that has consumed `pos` bits"; it holds initially (`bitReaderRev_init`), is
preserved by every read, and determines `bits_remaining` (`bitReaderRev_bitsRemaining`).  For every
source, every reachable state and every `n ≤ 56` (what the code supports in every state; `57..63`
work only when the container happens to be aligned, `n ≥ 64` always panics: see
`Proofs.BitIO.bitReaderRev_getBits_wide_faults`, `_ge64_faults`): no fault, the value is the
big-endian field at `pos` with zero fill past the beginning of the source. -/
theorem bitReaderRev_refines {src : Array Nat} {r : BitReaderRev} {pos n : Nat}
    (h : RevInv src r pos) (hn : n ≤ 56) :
    ∃ r', r.getBits n = .ok ((readBEPad n ((stream src).drop pos)).1, r') ∧ RevInv src r' (pos + n) :=
  Proofs.BitIO.bitReaderRev_refines h hn

theorem bitReaderRev_init {src : Array Nat} (hb : Bytes src.toList) : RevInv src (BitReaderRev.new src) 0 :=
  RevInv_new hb

/-- `bits_remaining = 8·len − consumed`, as an `Int` that goes negative past the start -/
theorem bitReaderRev_bitsRemaining {src : Array Nat} {r : BitReaderRev} {pos : Nat} (h : RevInv src r pos) :
    r.bitsRemaining = 8 * (src.size : Int) - pos :=
  RevInv_bitsRemaining h

/-- every request sequence with all `n ≤ 56` on a fresh reader -/
theorem bitReaderRev_refines_seq {src : Array Nat} (hb : Bytes src.toList) {ns : List Nat}
    (hn : ∀ n ∈ ns, n ≤ 56) :
    ∃ r', runRev (BitReaderRev.new src) ns = .ok (runRevSpec (stream src) 0 ns, r') ∧
      r'.bitsRemaining = 8 * (src.size : Int) - ns.sum :=
  runRev_new hb hn

/-- **`get_bits_triple` = three `get_bits`** (fast path: one refill, one consume; slow path: three reads),
same values, same abstract position afterwards -/
theorem getBitsTriple_eq_three_gets {src : Array Nat} {r : BitReaderRev} {pos n1 n2 n3 : Nat}
    (h : RevInv src r pos) (h1 : n1 ≤ 56) (h2 : n2 ≤ 56) (h3 : n3 ≤ 56) :
    ∃ r', r.getBitsTriple n1 n2 n3
        = .ok (((readBEPad n1 ((stream src).drop pos)).1,
                (readBEPad n2 ((stream src).drop (pos + n1))).1,
                (readBEPad n3 ((stream src).drop (pos + n1 + n2))).1), r') ∧
      RevInv src r' (pos + n1 + n2 + n3) :=
  Proofs.BitIO.getBitsTriple_eq_three_gets h h1 h2 h3

/-- skipping the padding of a backward stream with single-bit reads leaves `Spec.backwardStream`
(`Proofs.BitIO.skipPadding` is that loop written out in Proofs/BitIO/Backward.lean; it is no function of the model) -/
theorem bitReaderRev_backwardStream {src : Array Nat} (hb : Bytes src.toList) {last : Nat}
    (hl : src.toList.getLast? = some last) (h0 : last ≠ 0) :
    ∃ r' k, k ≤ 8 ∧ Proofs.BitIO.skipPadding 8 (BitReaderRev.new src) = .ok (some r') ∧ RevInv src r' k ∧
      backwardStream src.toList = some ((stream src).drop k) :=
  skipPadding_backwardStream hb hl h0

/-- **writer = appending little-endian bit fields.**  `WInv w L` = "the writer holds exactly the bit
string `L`" (output bytes followed by the partial buffer).  `write_bits(v, n)` with `v < 2^n`, `n ≤ 63`
appends the `n` little-endian bits of `v` (`n = 64` panics iff the partial buffer is empty:
`bitWriter_write64_empty_faults`). -/
theorem bitWriter_refines {w : BitWriter} {L : List Bool} {v n : Nat} (h : WInv w L) (hv : v < 2 ^ n)
    (hn : n ≤ 63) : ∃ w', w.writeBits v n = .ok w' ∧ WInv w' (L ++ bitsOfLE n v) :=
  Proofs.BitIO.bitWriter_refines h hv hn

theorem bitWriter_init : WInv BitWriter.new [] := WInv_new

/-- `dump` = the bytes of that bit string -/
theorem bitWriter_dump {w : BitWriter} {L : List Bool} (h : WInv w L) (hal : L.length % 8 = 0) :
    ∃ out, w.dump = .ok out ∧ bitsLE out.toList = L ∧ Bytes out.toList :=
  Proofs.BitIO.bitWriter_dump h hal

theorem bitWriter_index {w : BitWriter} {L : List Bool} (h : WInv w L) :
    w.index = L.length ∧ w.misaligned = (8 - L.length % 8) % 8 :=
  ⟨WInv_index h, WInv_misaligned h⟩

theorem bitWriter_appendBytes {w : BitWriter} {L : List Bool} {data : List Nat} (h : WInv w L)
    (hal : L.length % 8 = 0) (hd : Bytes data) :
    ∃ w', w.appendBytes data = .ok w' ∧ WInv w' (L ++ bitsLE data) :=
  Proofs.BitIO.bitWriter_appendBytes h hal hd

theorem bitWriter_resetTo {w : BitWriter} {L : List Bool} {index : Nat} (h : WInv w L)
    (hi : index % 8 = 0) (hle : index ≤ 8 * w.output.size) :
    ∃ w', w.resetTo index = .ok w' ∧ WInv w' (L.take index) :=
  Proofs.BitIO.bitWriter_resetTo h hi hle

/-- `change_bits(idx, v, n)` overwrites bits `[idx, idx+n)` (byte-aligned writer, asserted preconditions) -/
theorem bitWriter_changeBits {w : BitWriter} {L : List Bool} {idx v n : Nat} (h : WInv w L)
    (hal : L.length % 8 = 0) (hv : v < 2 ^ n) (hlt : idx + n < L.length)
    (hfirst : idx % 8 = 0 ∨ 8 - idx % 8 ≤ n) :
    ∃ w', w.changeBits idx v n = .ok w' ∧ WInv w' (L.take idx ++ bitsOfLE n v ++ L.drop (idx + n)) :=
  Proofs.BitIO.bitWriter_changeBits h hal hv hlt hfirst

/-- **the forward reader inverts the writer** -/
theorem reader_inverts_writer_fwd {fs : List (Nat × Nat)} {w' : BitWriter} {out : Array Nat}
    (hf : ∀ f ∈ fs, f.1 < 2 ^ f.2 ∧ 0 < f.2 ∧ f.2 ≤ 63)
    (hw : writeAll BitWriter.new fs = .ok w') (hd : w'.dump = .ok out) :
    runFwd (BitReader.new out) (fs.map (fun f => FwdOp.get f.2))
      = .ok (fs.map (·.1), { src := out, idx := 8 * out.size }) :=
  Proofs.BitIO.reader_inverts_writer_fwd hf hw hd

/-- **the reversed reader inverts the writer**: the fields come back in reverse order and exactly all
bits are consumed -/
theorem reader_inverts_writer_rev {fs : List (Nat × Nat)} {w' : BitWriter} {out : Array Nat}
    (hf : ∀ f ∈ fs, f.1 < 2 ^ f.2 ∧ f.2 ≤ 56)
    (hw : writeAll BitWriter.new fs = .ok w') (hd : w'.dump = .ok out) :
    ∃ r', runRev (BitReaderRev.new out) (fs.reverse.map (·.2)) = .ok (fs.reverse.map (·.1), r') ∧
      r'.bitsRemaining = 0 :=
  Proofs.BitIO.reader_inverts_writer_rev hf hw hd

open Zstd.Proofs.FseFin in
/-- **`calc_baseline_and_numbits` = the RFC procedure** (`next = p + k`, `nbBits = AL − ⌊log₂ next⌋`,
`baseline = (next << nbBits) − 2^AL`, i.e. what `Spec.Fse.buildTable` computes from its `next`
counter) for every accuracy log `AL ≤ 9`, every probability `1 ≤ p ≤ 2^AL`, every state number `k < p`.
By arithmetic: `calc_eq_rfcEntry` in `Zstd/Proofs/FseFin.lean` holds for every accuracy log below 32; `AL ≤ 9`
is what the format allows. -/
theorem fse_closedForm_eq_rfc {al p k : Nat} (hal : al ≤ 9) (hp1 : 1 ≤ p) (hp : p ≤ 2 ^ al) (hk : k < p) :
    calcBaselineAndNumbits (2 ^ al) p k
      = .ok ((p + k) * 2 ^ (al - Spec.Fse.log2 (p + k)) - 2 ^ al, al - Spec.Fse.log2 (p + k)) :=
  calc_eq_rfcEntry (by omega) hp1 hp hk

open Zstd.Proofs.FseFin in
/-- the spreading walk of the model (the Rust `next_position` + `while position >= negative_idx`)
visits each of the `neg` free cells exactly once, stays below `neg`, never runs out of fuel
(= the Rust loop terminates) and is back at position 0 at the end, for `5 ≤ AL ≤ 9`, every `neg ≤ 2^AL` -/
theorem fse_walk_permutation {al neg : Nat} (h5 : 5 ≤ al) (h9 : al ≤ 9) (hneg : neg ≤ 2 ^ al) :
    ∃ l, walk (2 ^ al) neg neg 0 = .ok (l, 0) ∧ l.length = neg ∧ l.Nodup ∧ ∀ p ∈ l, p < neg :=
  walk_perm_of_ge4 (by omega) hneg

open Zstd.Proofs.FseFin in
/-- **ranges partition, per symbol (function level)**: the `p` states of a symbol with probability `p`
have pairwise disjoint intervals `[baseline, baseline + 2^bits)` that lie inside and cover `[0, 2^AL)` -/
theorem fse_ranges_partition_fn {al p : Nat} (hal : al ≤ 9) (hp1 : 1 ≤ p) (hp : p ≤ 2 ^ al) :
    (∀ x, x < 2 ^ al → ∃ k, k < p ∧ (interval al p k).1 ≤ x ∧ x < (interval al p k).1 + (interval al p k).2) ∧
    (∀ k k', k < p → k' < p → k ≠ k' →
      (interval al p k).1 + (interval al p k).2 ≤ (interval al p k').1 ∨
      (interval al p k').1 + (interval al p k').2 ≤ (interval al p k).1) ∧
    (∀ k, k < p → (interval al p k).1 + (interval al p k).2 ≤ 2 ^ al) :=
  ⟨fun _ hx => cover hp1 hp hx,
   fun _ _ hk hk' hne => disjoint hp1 hp hk hk' hne,
   fun _ hk => (within hp1 hp hk).1⟩

export Zstd.Proofs.FseDecTable (toSpecEntry ValidDist mass nStates rank)

/-- the decoder table the model builds, as a Spec table (`none` on any error/fault) -/
def decTableOf (al : Nat) (probs : List Int) (maxSym : Nat) : Option Spec.Fse.Table :=
  match buildDecodingTableCore al probs.toArray maxSym with
  | .ok (dec, _) => some { accLog := al, entries := dec.map toSpecEntry }
  | .error _ => none

/-- `check_tables` of `fse/mod.rs` as a decidable predicate: every decoder entry has an encoder state
of its symbol with that index, the same baseline and bit count; beyond what the test compares, a consistent
`last_index` -/
def tablesAgree (et : ETable) (dec : Array DEntry) : Bool :=
  dec.toList.zipIdx.all fun (e, i) =>
    match et.states[e.symbol]? with
    | none => false
    | some ss => ss.states.toList.any fun st =>
        st.index == i && st.baseline == e.baseLine && st.numBits == e.numBits &&
        st.lastIndex == st.baseline + 2 ^ st.numBits - 1

def encAgreesDec (e : Except Fault ETable) (al : Nat) (probs : List Int) (maxSym : Nat) : Bool :=
  match e, buildDecodingTableCore al probs.toArray maxSym with
  | .ok et, .ok (dec, _) => et.tableSize == 2 ^ al && tablesAgree et dec
  | _, _ => false

/-- **predefined distributions**: decoder-side arrays = encoder-side arrays = RFC 8878 (§3.1.1.3.2.2),
accuracy logs included -/
theorem predefined_dists_eq_rfc :
    Gen.llDistDec = Gen.llDistEnc ∧ Gen.llDistDec = Spec.llDefaultDist ∧
    Gen.mlDistDec = Gen.mlDistEnc ∧ Gen.mlDistDec = Spec.mlDefaultDist ∧
    Gen.ofDistDec = Gen.ofDistEnc ∧ Gen.ofDistDec = Spec.ofDefaultDist ∧
    Gen.llDefaultAccLog = Spec.llDefaultLog ∧ Gen.llDefaultLogEnc = Spec.llDefaultLog ∧
    Gen.mlDefaultAccLog = Spec.mlDefaultLog ∧ Gen.mlDefaultLogEnc = Spec.mlDefaultLog ∧
    Gen.ofDefaultAccLog = Spec.ofDefaultLog ∧ Gen.ofDefaultLogEnc = Spec.ofDefaultLog := by
  decide

theorem decTableOf_eq_buildTable {al : Nat} {probs : List Int} {maxSym : Nat}
    (hv : ValidDist al probs) (hms : probs.length ≤ maxSym + 1) :
    decTableOf al probs maxSym = Spec.Fse.buildTable al probs ∧ (Spec.Fse.buildTable al probs).isSome := by
  obtain ⟨dec, ctr, hb, hs⟩ := Proofs.FseDecTable.fse_build_refines al probs maxSym hv hms
  simp only [decTableOf, hb, hs, Option.isSome_some, and_self]

/-- `check_tables` succeeds on the two tables built from any encoder-buildable distribution
(`enc_table_eq_dec_table`, first half) -/
theorem encAgreesDec_of_buildable {al : Nat} {probs : List Int} {maxSym : Nat}
    (hb : Proofs.FseEncTable.EncBuildable al probs) (hms : probs.length ≤ maxSym + 1) :
    encAgreesDec (buildTableFromProbabilities probs al) al probs maxSym = true := by
  obtain ⟨et, dec, ctr, het, hdec, hts, -, hsz, hfwd, -⟩ := Proofs.FseEncTable.enc_table_eq_dec_table hb hms
  simp only [encAgreesDec, het, hdec, hts, beq_self_eq_true, Bool.true_and, tablesAgree, List.all_eq_true]
  rintro ⟨e, i⟩ hmem
  have hget : dec[i]? = some e := by simpa using List.mem_zipIdx_iff_getElem?.1 hmem
  obtain ⟨st, hst, h1, h2, h3, h4⟩ := hfwd i (hsz ▸ (Array.getElem?_eq_some_iff.1 hget).1)
  simp only [Array.getD_eq_getD_getElem?, hget, Option.getD_some] at hst h2 h3
  -- a symbol outside the encoder's array would have no states at all
  cases hss : et.states[e.symbol]? with
  | none => rw [hss] at hst; simp at hst
  | some ss =>
    rw [hss] at hst
    exact List.any_eq_true.2 ⟨st, hst, by simp [h1, h2, h3, h4]⟩

/-- **predefined tables**: the three decoder tables the code builds (with the decoder's max symbols)
are the tables the Spec builds from the RFC's distributions, entry for entry -/
theorem predefined_eq_rfc :
    decTableOf Gen.llDefaultAccLog Gen.llDistDec Gen.maxLiteralLengthCode
      = Spec.Fse.buildTable Spec.llDefaultLog Spec.llDefaultDist ∧
    decTableOf Gen.mlDefaultAccLog Gen.mlDistDec Gen.maxMatchLengthCode
      = Spec.Fse.buildTable Spec.mlDefaultLog Spec.mlDefaultDist ∧
    decTableOf Gen.ofDefaultAccLog Gen.ofDistDec Gen.maxOffsetCode
      = Spec.Fse.buildTable Spec.ofDefaultLog Spec.ofDefaultDist ∧
    (Spec.Fse.buildTable Spec.llDefaultLog Spec.llDefaultDist).isSome ∧
    (Spec.Fse.buildTable Spec.mlDefaultLog Spec.mlDefaultDist).isSome ∧
    (Spec.Fse.buildTable Spec.ofDefaultLog Spec.ofDefaultDist).isSome := by
  obtain ⟨dl, sl, dm, sm, do', so, l1, l2, l3, l4, l5, l6⟩ := predefined_dists_eq_rfc
  -- everything in terms of the encoder-side constants, whose validity `predefined_buildable` knows
  rw [← sl, ← sm, ← so, dl, dm, do', l1, l3, l5, ← l2, ← l4, ← l6]
  have hl := decTableOf_eq_buildTable (maxSym := Gen.maxLiteralLengthCode)
    Proofs.FseEncTable.ll_default_buildable.valid (by decide)
  have hm := decTableOf_eq_buildTable (maxSym := Gen.maxMatchLengthCode)
    Proofs.FseEncTable.ml_default_buildable.valid (by decide)
  have ho := decTableOf_eq_buildTable (maxSym := Gen.maxOffsetCode)
    Proofs.FseEncTable.of_default_buildable.valid (by decide)
  exact ⟨hl.1, hm.1, ho.1, hl.2, hm.2, ho.2⟩

/-- the encoder's three default tables agree with the decoder's (`check_tables` on the real defaults) -/
theorem predefined_enc_eq_dec :
    encAgreesDec defaultLlTable Gen.llDefaultAccLog Gen.llDistDec Gen.maxLiteralLengthCode = true ∧
    encAgreesDec defaultMlTable Gen.mlDefaultAccLog Gen.mlDistDec Gen.maxMatchLengthCode = true ∧
    encAgreesDec defaultOfTable Gen.ofDefaultAccLog Gen.ofDistDec Gen.maxOffsetCode = true := by
  obtain ⟨dl, -, dm, -, do', -, l1, l2, l3, l4, l5, l6⟩ := predefined_dists_eq_rfc
  rw [dl, dm, do', l1, l3, l5, ← l2, ← l4, ← l6]
  exact ⟨encAgreesDec_of_buildable Proofs.FseEncTable.ll_default_buildable (by decide),
    encAgreesDec_of_buildable Proofs.FseEncTable.ml_default_buildable (by decide),
    encAgreesDec_of_buildable Proofs.FseEncTable.of_default_buildable (by decide)⟩

/-- both builders use the same spreading step (a change of one side's constants breaks this) -/
theorem enc_dec_same_step : ∀ p size, nextPositionEnc p size = nextPosition p size := by
  intro p size; rfl

/-- the decoder's table is the Spec's table, entry for entry (symbol, bit count,
baseline of every state), for every valid normalised distribution (`ValidDist`: `5 ≤ AL ≤ 9`, at most
256 symbols, every probability `≥ −1`, mass `2^AL` — including "less than one" probabilities and zero
runs) and every `max_symbol` that admits it; in particular the model reaches no panic site and the Spec
accepts the distribution (its walk ends at position 0). -/
theorem fse_build_refines (al : Nat) (probs : List Int) (maxSymbol : Nat)
    (hv : ValidDist al probs) (hms : probs.length ≤ maxSymbol + 1) :
    ∃ dec ctr, buildDecodingTableCore al probs.toArray maxSymbol = .ok (dec, ctr) ∧
      Spec.Fse.buildTable al probs = some { accLog := al, entries := dec.map toSpecEntry } :=
  Proofs.FseDecTable.fse_build_refines al probs maxSymbol hv hms

/-- in the table built from any valid distribution, for every symbol with a
non-zero probability the intervals `[baseline, baseline + 2^bits)` of its states are pairwise disjoint
and cover `[0, 2^AL)` -/
theorem fse_ranges_partition (al : Nat) (probs : List Int) (maxSymbol : Nat)
    (hv : ValidDist al probs) (hms : probs.length ≤ maxSymbol + 1)
    (dec : Array DEntry) (ctr : Array Nat)
    (hb : buildDecodingTableCore al probs.toArray maxSymbol = .ok (dec, ctr)) :
    ∀ s, s < probs.length → probs.getD s 0 ≠ 0 →
      (∀ x, x < 2 ^ al → ∃ i, i < 2 ^ al ∧ (dec.getD i {}).symbol = s ∧
        (dec.getD i {}).baseLine ≤ x ∧ x < (dec.getD i {}).baseLine + 2 ^ (dec.getD i {}).numBits) ∧
      (∀ i j, i < 2 ^ al → j < 2 ^ al → i ≠ j → (dec.getD i {}).symbol = s → (dec.getD j {}).symbol = s →
        (dec.getD i {}).baseLine + 2 ^ (dec.getD i {}).numBits ≤ (dec.getD j {}).baseLine ∨
        (dec.getD j {}).baseLine + 2 ^ (dec.getD j {}).numBits ≤ (dec.getD i {}).baseLine) :=
  Proofs.FseDecTable.fse_ranges_partition al probs maxSymbol hv hms dec ctr hb

/-- the built table in closed form: size, every cell's symbol has a non-zero probability, symbol `s` owns
exactly `nStates s` cells, and the `k`-th cell of a symbol (in table order) carries the RFC entry
`next = nStates + k` -/
theorem fse_dec_table_char (al : Nat) (probs : List Int) (maxSymbol : Nat)
    (hv : ValidDist al probs) (hms : probs.length ≤ maxSymbol + 1)
    (dec : Array DEntry) (ctr : Array Nat)
    (hb : buildDecodingTableCore al probs.toArray maxSymbol = .ok (dec, ctr)) :
    dec.size = 2 ^ al ∧
    (∀ i, i < 2 ^ al → (dec.getD i {}).symbol < probs.length ∧ probs.getD (dec.getD i {}).symbol 0 ≠ 0) ∧
    (∀ s, s < probs.length → (dec.toList.filter (·.symbol = s)).length = nStates probs s) ∧
    (∀ i, i < 2 ^ al → ((dec.getD i {}).baseLine, (dec.getD i {}).numBits)
        = Proofs.FseFin.rfcEntry al (nStates probs (dec.getD i {}).symbol) (rank dec i)) ∧
    (∀ i, i < 2 ^ al → rank dec i < nStates probs (dec.getD i {}).symbol) :=
  Proofs.FseDecTable.dec_table_char al probs maxSymbol hv hms dec ctr hb

/-- `read_probabilities` = `Spec.Fse.readDescription` (RFC 8878 §4.1.1)
in the direction Spec ok ⇒ Model ok with the same accuracy log, probabilities and byte count.  The
leniencies of the code relative to the Spec are all differences of form (list at the top of
`Zstd/Proofs/FseReadDesc.lean`): the converse `fse_readProbabilities_complete` holds without extra
hypotheses, so the real reader accepts exactly the descriptions the Spec accepts. -/
theorem fse_readProbabilities_refines (src : Array Nat) (hb : Bytes src.toList) (t : DTable)
    (maxLog maxSymbol : Nat) (hms : t.maxSymbol = maxSymbol)
    {al : Nat} {probs : List Int} {used : Nat}
    (hs : Spec.Fse.readDescription src.toList maxLog maxSymbol = some (al, probs, used)) :
    t.readProbabilities src maxLog = ({ t with probs := probs.toArray, accuracyLog := al }, .ok used) :=
  Proofs.FseReadDesc.fse_readProbabilities_refines src hb t maxLog maxSymbol hms hs

theorem fse_readProbabilities_complete (src : Array Nat) (hb : Bytes src.toList) (t : DTable)
    (maxLog : Nat) {t' : DTable} {used : Nat}
    (hm : t.readProbabilities src maxLog = (t', .ok used)) :
    Spec.Fse.readDescription src.toList maxLog t.maxSymbol = some (t'.accuracyLog, t'.probs.toList, used) :=
  Proofs.FseReadDesc.fse_readProbabilities_complete src hb t maxLog hm

/-- the encoder-side builder additionally needs one cell that is not a "less than one" cell: with `2^AL`
entries equal to −1 (a valid distribution that the decoder accepts) `build_table_from_probabilities`
underflows `negative_idx -= 1` (debug-build panic; `Proofs.FseEncTable` has the `example`).  The encoder
only ever builds tables from the normaliser (no −1 at all) and from the three predefined distributions. -/
def EncBuildable (al : Nat) (probs : List Int) : Prop :=
  ValidDist al probs ∧ (probs.filter (· = -1)).length < 2 ^ al

/-- **`enc_table_eq_dec_table`** (the unit test `check_tables`, for EVERY valid distribution): both builders
succeed, and for every index the encoder has a state of the decoder entry's symbol with that index, the
same baseline and bit count (and `last_index = baseline + 2^bits − 1`); conversely every encoder state
is such a decoder entry; the encoder records the distribution itself (`probability`) and has exactly
`|p|` states per symbol. -/
theorem enc_table_eq_dec_table {al : Nat} {probs : List Int} {maxSymbol : Nat}
    (hb : EncBuildable al probs) (hms : probs.length ≤ maxSymbol + 1) :
    ∃ et dec ctr, buildTableFromProbabilities probs al = .ok et ∧
      buildDecodingTableCore al probs.toArray maxSymbol = .ok (dec, ctr) ∧
      et.tableSize = 2 ^ al ∧ et.states.size = 256 ∧ dec.size = 2 ^ al ∧
      (∀ i, i < 2 ^ al → ∃ st ∈ (et.states.getD (dec.getD i {}).symbol {}).states.toList,
          st.index = i ∧ st.baseline = (dec.getD i {}).baseLine ∧ st.numBits = (dec.getD i {}).numBits ∧
          st.lastIndex = st.baseline + 2 ^ st.numBits - 1) ∧
      (∀ s, ∀ st ∈ (et.states.getD s {}).states.toList,
          st.index < 2 ^ al ∧ (dec.getD st.index {}).symbol = s ∧
          st.baseline = (dec.getD st.index {}).baseLine ∧ st.numBits = (dec.getD st.index {}).numBits ∧
          st.lastIndex = st.baseline + 2 ^ st.numBits - 1) ∧
      (∀ s, (et.states.getD s {}).probability = probs.getD s 0) ∧
      (∀ s, (et.states.getD s {}).states.size = if probs.getD s 0 = -1 then 1 else (probs.getD s 0).toNat) :=
  Proofs.FseEncTable.enc_table_eq_dec_table hb hms

/-- the `.unwrap()` in `SymbolStates::get` cannot fail — for every symbol with a
non-zero probability and every table index the search (which starts at `idx·len/size`) finds a state
that contains the index; the search start never skips it -/
theorem enc_next_state_total {al : Nat} {probs : List Int} (hb : EncBuildable al probs) {et : ETable}
    (het : buildTableFromProbabilities probs al = .ok et) {s idx : Nat}
    (hs : probs.getD s 0 ≠ 0) (hidx : idx < 2 ^ al) :
    ∃ st, et.nextState s idx = .ok st ∧ st.contains idx = true ∧ st ∈ (et.states.getD s {}).states.toList :=
  Proofs.FseEncTable.enc_next_state_total hb het hs hidx

/-- `start_state` never indexes out of bounds for an occurring symbol; it is the state with baseline 0 -/
theorem enc_start_state_total {al : Nat} {probs : List Int} (hb : EncBuildable al probs) {et : ETable}
    (het : buildTableFromProbabilities probs al = .ok et) {s : Nat} (hs : probs.getD s 0 ≠ 0) :
    ∃ st, et.startState s = .ok st ∧ st.baseline = 0 :=
  let ⟨st, h1, _, h3, _⟩ := Proofs.FseEncTable.enc_start_state hb het hs
  ⟨st, h1, h3⟩

theorem predefined_buildable :
    EncBuildable Gen.llDefaultLogEnc Gen.llDistEnc ∧ EncBuildable Gen.mlDefaultLogEnc Gen.mlDistEnc ∧
    EncBuildable Gen.ofDefaultLogEnc Gen.ofDistEnc :=
  ⟨Proofs.FseEncTable.ll_default_buildable, Proofs.FseEncTable.ml_default_buildable,
   Proofs.FseEncTable.of_default_buildable⟩

open Zstd.Proofs.FseTableDesc in
/-- **`write_read_table`**: `read_probabilities (write_table d) = Ok(d)` with the exact byte count, for every
valid distribution whose last symbol has a non-zero probability, whatever follows the description
(`rest`) — with ONE side condition: if the last probability is −1, something must follow the description.
`Carries et al probs` is what `enc_table_eq_dec_table` establishes for the built encoder table. -/
theorem write_read_table_partial (et : ETable) (al : Nat) (probs : List Int)
    (hal5 : 5 ≤ al) (hal : al ≤ 20)
    (hlen : probs.length ≤ 256) (hge : ∀ p ∈ probs, -1 ≤ p) (hmass : mass probs = 2 ^ al)
    (hlast : probs.getLast? ≠ some 0) (hc : Carries et al probs)
    {w : BitWriter} {L : List Bool} (hw : WInv w L) (hL : L.length % 8 = 0) :
    ∃ w' D, et.writeTable w = .ok w' ∧ WInv w' (L ++ D) ∧ D.length % 8 = 0 ∧
      ∀ (src : Array Nat) (rest : List Bool) (t : DTable) (maxLog : Nat),
        Bytes src.toList → bitsLE src.toList = D ++ rest → al ≤ maxLog → probs.length ≤ t.maxSymbol + 1 →
        (probs.getLast? = some (-1) → rest ≠ []) →
        t.readProbabilities src maxLog
          = ({ t with probs := probs.toArray, accuracyLog := al }, .ok (D.length / 8)) :=
  Proofs.FseTableDesc.write_read_table et al probs hal5 hal hlen hge hmass hlast hc hw hL

/-- the statement without the side condition is FALSE for the code as it is: the valid distribution
`[1, 30, −1]` (AL 5) is described in exactly two bytes `20 3e`; `read_probabilities` on those two bytes
alone answers `NotEnoughRemainingBits{requested 2, remaining 1}` (the reader always fetches the long form
of a value and gives one bit back), with any following byte it succeeds.  Not a violation of the
property: inside a frame a description is always followed by at least one byte, and the compressor's
normaliser never emits −1 (`write_read_table_normalised`). -/
theorem write_read_table_full_false : ¬ Proofs.FseTableDesc.write_read_table_full :=
  Proofs.FseTableDesc.write_read_table_full_false

open Zstd.Proofs.FseTableDesc in
/-- for what the compressor writes (normaliser output: no −1 anywhere) there is no side condition -/
theorem write_read_table_normalised (et : ETable) (al : Nat) (probs : List Int)
    (hal5 : 5 ≤ al) (hal : al ≤ 20)
    (hlen : probs.length ≤ 256) (hge : ∀ p ∈ probs, 0 ≤ p) (hmass : mass probs = 2 ^ al)
    (hlast : probs.getLast? ≠ some 0) (hc : Carries et al probs)
    {w : BitWriter} {L : List Bool} (hw : WInv w L) (hL : L.length % 8 = 0) :
    ∃ w' D, et.writeTable w = .ok w' ∧ WInv w' (L ++ D) ∧ D.length % 8 = 0 ∧
      ∀ (src : Array Nat) (rest : List Bool) (t : DTable) (maxLog : Nat),
        Bytes src.toList → bitsLE src.toList = D ++ rest → al ≤ maxLog → probs.length ≤ t.maxSymbol + 1 →
        t.readProbabilities src maxLog
          = ({ t with probs := probs.toArray, accuracyLog := al }, .ok (D.length / 8)) := by
  obtain ⟨w', D, h1, h2, h3, h4⟩ := Proofs.FseTableDesc.write_read_table et al probs hal5 hal hlen
    (fun p hp => by have := hge p hp; omega) hmass hlast hc hw hL
  refine ⟨w', D, h1, h2, h3, ?_⟩
  intro src rest t maxLog hb hbits hml hms
  refine h4 src rest t maxLog hb hbits hml hms ?_
  intro hl
  have := hge (-1) (List.mem_of_getLast? hl)
  omega

example : ValidDist 5 Gen.ofDistDec := by
  refine ⟨by decide, by decide, by decide, by decide, by decide⟩

open Zstd.Proofs.FseNormalize in
/-- **`normalize_valid`** for histograms with at least two entries (the one-entry histogram is
`normalise_panics_on_single_zero` below).  Every histogram with at least two
entries (`build_table_from_data` passes `counts[..=max_symbol.max(1)]`, which always has two), at least one
occurring symbol and not more entries than `2^maxLog`: the normaliser reaches no
panic site and returns `(probs, AL)` with `5 ≤ AL ≤ maxLog`, `Σ probs = 2^AL`, all `probs ≥ 0`, every
occurring symbol `≥ 1`, and with zero-bit avoidance on every `probs ≤ 2^(AL−1)`.
Production: `maxLog` 9/9/8 for LL/ML/OF (36/53/32 symbols) and 6 for Huffman weights (≤ 13 symbols: weights
`0 … 12`, the bound `Huf.fseWeights_setup` uses; the format's limit for a weight is 11), see
`normalize_valid_production`. -/
theorem normalize_valid_partial (counts : List Nat) (maxLog : Nat) (avoid0 : Bool)
    (hlog : Gen.normLogMin ≤ maxLog)
    (hlen2 : 2 ≤ counts.length) (hlen : counts.length ≤ 256) (hlen' : counts.length ≤ 2 ^ maxLog)
    (hpos : ∃ c ∈ counts, c > 0) :
    ∃ probs al, normalize counts maxLog avoid0 = .ok (probs, al) ∧ NormOk counts maxLog avoid0 probs al :=
  Proofs.FseNormalize.normalize_valid_partial counts maxLog avoid0 hlog hlen2 hlen hlen' hpos

/-- the statement for histograms of ONE entry as well — false for `normalize` taken alone:
`normalize_valid_full_false` -/
def normalize_valid_full : Prop :=
  ∀ (counts : List Nat) (maxLog : Nat) (avoid0 : Bool), Gen.normLogMin ≤ maxLog →
    1 ≤ counts.length → counts.length ≤ 256 → counts.length ≤ 2 ^ maxLog → (∃ c ∈ counts, c > 0) →
    ∃ probs al, normalize counts maxLog avoid0 = .ok (probs, al) ∧
      Proofs.FseNormalize.NormOk counts maxLog avoid0 probs al

/-- the normaliser on a histogram of ONE entry (only symbol 0 occurs) with zero-bit avoidance on reaches the
`unwrap` of `fse_encoder.rs:306` (the site string of the model says 304).  The caller cannot hand it such a
histogram: `build_table_from_data` passes `counts[..=max_symbol.max(1)]`, at least two entries (the repair of
finding F4, `fixes/F4.diff`; `Model/Fse.lean` mirrors it), which is the case `normalize_valid_partial` covers. -/
theorem normalise_panics_on_single_zero (n maxLog : Nat) (hn : 0 < n) (hlog : Gen.normLogMin ≤ maxLog) :
    normalize [n] maxLog true = .error (.unwrap "fse_encoder.rs:304:build_table_from_counts") :=
  Proofs.FseNormalize.normalize_single_zero_faults n maxLog hn hlog

theorem normalize_valid_full_false : ¬ normalize_valid_full := by
  intro h
  obtain ⟨probs, al, hok, _⟩ := h [1] 9 true (by decide) (by decide) (by decide) (by decide) ⟨1, by simp, by decide⟩
  rw [normalise_panics_on_single_zero 1 9 (by decide) (by decide)] at hok
  cases hok

open Zstd.Proofs.FseNormalize in
theorem normalize_valid_production (counts : List Nat) (maxLog : Nat)
    (hprod : (maxLog = Gen.llEncMaxLog ∧ counts.length ≤ Gen.maxLiteralLengthCode + 1) ∨
             (maxLog = Gen.mlEncMaxLog ∧ counts.length ≤ Gen.maxMatchLengthCode + 1) ∨
             (maxLog = Gen.ofEncMaxLog ∧ counts.length ≤ Gen.maxOffsetCode + 1) ∨
             (maxLog = Gen.hufWeightsEncMaxLog ∧ counts.length ≤ 13))
    (hlen2 : 2 ≤ counts.length) (hpos : ∃ c ∈ counts, c > 0) :
    ∃ probs al, normalize counts maxLog Gen.seqEncAvoidZeroBits = .ok (probs, al) ∧
      NormOk counts maxLog Gen.seqEncAvoidZeroBits probs al := by
  have h : Gen.normLogMin ≤ maxLog ∧ counts.length ≤ 256 ∧ counts.length ≤ 2 ^ maxLog := by
    simp only [Gen.llEncMaxLog, Gen.mlEncMaxLog, Gen.ofEncMaxLog, Gen.hufWeightsEncMaxLog,
      Gen.maxLiteralLengthCode, Gen.maxMatchLengthCode, Gen.maxOffsetCode, Gen.normLogMin] at hprod ⊢
    rcases hprod with ⟨rfl, h⟩ | ⟨rfl, h⟩ | ⟨rfl, h⟩ | ⟨rfl, h⟩ <;> omega
  exact Proofs.FseNormalize.normalize_valid_partial counts maxLog _ h.1 hlen2 h.2.1 h.2.2 hpos

/-- **the compressor never asks for an accuracy log the decoder would reject**: the `max_log` arguments of the three
`choose_table` calls in `compress_block` and of the Huffman-weight coder (extracted from the source on every run) are
within the maxima the decoder enforces (`LL_MAX_LOG`/`ML_MAX_LOG`/`OF_MAX_LOG`, 6 for the weights) — a table description
with a larger `Accuracy_Log` is written without complaint and rejected by every decoder (`AccLogTooBig`) -/
theorem enc_max_logs_within_dec :
    Gen.llEncMaxLog ≤ Gen.llMaxLog ∧ Gen.mlEncMaxLog ≤ Gen.mlMaxLog ∧ Gen.ofEncMaxLog ≤ Gen.ofMaxLog ∧
      Gen.hufWeightsEncMaxLog ≤ Gen.hufWeightsDecMaxLog := by decide

/-- the Huffman-weight coder uses the same avoidance flag -/
theorem huf_weights_same_avoidance : Gen.hufWeightsEncAvoidZeroBits = Gen.seqEncAvoidZeroBits := by decide

open Zstd.Proofs.FseStream in
/-- **`encode_decode_single`, stream part** (for any encoder/decoder table pair that is `Coupled`, which
`enc_table_eq_dec_table`/`enc_next_state_total` establish for the tables built from one valid
distribution): `FSEEncoder::encode`'s stream, written after any byte-aligned prefix, is decoded by the
single-state loop to exactly the input, and `bits_remaining = 0` at the end. -/
theorem encode_decode_single_stream {et : ETable} {dt : DTable} {al : Nat} {usable : Nat → Prop}
    (hc : Coupled et dt al usable) (data : List Nat) (hne : data ≠ [])
    (hu : ∀ x ∈ data, usable x) {w : BitWriter} {L : List Bool} (hw : WInv w L) :
    ∃ w' S, encodeStream et w data = .ok w' ∧ WInv w' (L ++ S) ∧ (L.length + S.length) % 8 = 0 ∧
      ∀ (src : Array Nat), Bytes src.toList → bitsLE src.toList = S →
        ∃ br br', skipEndMark (BitReaderRev.new src) = .ok (some br) ∧
          decodeStream dt data.length br = .ok (data, br') ∧ br'.bitsRemaining = 0 :=
  encode_decode_stream hc data hne hu hw


open Zstd.Proofs.FseStream Zstd.Proofs.FseStreamInter in
/-- **`encode_decode_interleaved`, stream part** (`Coupled2` = `Coupled` + the decoder table has `2^AL`
entries + zero-bit avoidance for start states, which the production flag guarantees): the two-state
encoder's stream for every symbol string of length 4 … 257 is decoded by the two-state loop of the
Huffman weight reader to exactly that string; the loop stops by over-reading (`bits_remaining ≤ −1`,
precisely `−numBits` of the start state of the last-but-one symbol), i.e. all bits of the stream had been
consumed.  (258 or more symbols: the encoder still accepts, the reader answers `TooManyWeights` —
`Proofs.FseStreamInter.encode_decode_interleaved_stream_tooMany`; without zero-bit avoidance the loop
silently appends garbage symbols: evidence of engine `fse`, stat `dec2_mismatch_without_avoid0`.) -/
theorem encode_decode_interleaved_stream {et : ETable} {dt : DTable} {al : Nat} {usable : Nat → Prop}
    (hc : Coupled2 et dt al usable) (data : List Nat)
    (h4 : 4 ≤ data.length) (hlen : data.length ≤ 257) (hu : ∀ x ∈ data, usable x)
    {w : BitWriter} {L : List Bool} (hw : WInv w L) :
    ∃ w' S, encodeInterleavedStream et w data = .ok w' ∧ WInv w' (L ++ S) ∧ (L.length + S.length) % 8 = 0 ∧
      ∀ (src : Array Nat), Bytes src.toList → bitsLE src.toList = S →
        ∃ br br', skipEndMark (BitReaderRev.new src) = .ok (some br) ∧
          decodeInterleavedStream dt br = .ok (some data, br') ∧ br'.bitsRemaining ≤ -1 :=
  Proofs.FseStreamInter.encode_decode_interleaved_stream hc data h4 hlen hu hw


open Zstd.Proofs.FseStream Zstd.Proofs.FseCoupled in
/-- for EVERY encoder-buildable valid distribution, the tables the two builders
produce from it, every non-empty symbol string over symbols with a non-zero probability: the stream
`FSEEncoder::encode` writes (after any byte-aligned prefix such as the table description) decodes to
exactly that string and `bits_remaining = 0` at the end.  (`dt` is any decoder table object that holds
the built entries and accuracy log — `fse_build_refines`/`write_read_table_partial` say that this is what
`build_decoder` produces from the description.) -/
theorem encode_decode_single {al : Nat} {probs : List Int} {maxSymbol : Nat} {et : ETable}
    {dec : Array DEntry} {ctr : Array Nat} {dt : DTable}
    (hb : EncBuildable al probs) (hms : probs.length ≤ maxSymbol + 1)
    (het : buildTableFromProbabilities probs al = .ok et)
    (hdec : buildDecodingTableCore al probs.toArray maxSymbol = .ok (dec, ctr))
    (hdt : dt.decode = dec) (hal : dt.accuracyLog = al)
    (data : List Nat) (hne : data ≠ []) (hu : ∀ x ∈ data, probs.getD x 0 ≠ 0)
    {w : BitWriter} {L : List Bool} (hw : WInv w L) :
    ∃ w' S, encodeStream et w data = .ok w' ∧ WInv w' (L ++ S) ∧ (L.length + S.length) % 8 = 0 ∧
      ∀ (src : Array Nat), Bytes src.toList → bitsLE src.toList = S →
        ∃ br br', skipEndMark (BitReaderRev.new src) = .ok (some br) ∧
          decodeStream dt data.length br = .ok (data, br') ∧ br'.bitsRemaining = 0 :=
  encode_decode_stream (coupled_of_buildable hb hms het hdec hdt hal) data hne hu hw

open Zstd.Proofs.FseStream Zstd.Proofs.FseStreamInter Zstd.Proofs.FseCoupled in
/-- the same for the two-state coder, for distributions with zero-bit
avoidance (every probability `≤ 2^(AL−1)`, what `normalize_valid_partial` guarantees with the production
flag) and strings of 4 … 257 symbols: decoded exactly, and the loop ends by over-reading
(`bits_remaining ≤ −1`) right after all bits were consumed. -/
theorem encode_decode_interleaved {al : Nat} {probs : List Int} {maxSymbol : Nat} {et : ETable}
    {dec : Array DEntry} {ctr : Array Nat} {dt : DTable}
    (hb : EncBuildable al probs) (hms : probs.length ≤ maxSymbol + 1)
    (hav : ∀ p ∈ probs, p ≤ ((2 ^ (al - 1) : Nat) : Int))
    (het : buildTableFromProbabilities probs al = .ok et)
    (hdec : buildDecodingTableCore al probs.toArray maxSymbol = .ok (dec, ctr))
    (hdt : dt.decode = dec) (hal : dt.accuracyLog = al)
    (data : List Nat) (h4 : 4 ≤ data.length) (hlen : data.length ≤ 257) (hu : ∀ x ∈ data, probs.getD x 0 ≠ 0)
    {w : BitWriter} {L : List Bool} (hw : WInv w L) :
    ∃ w' S, encodeInterleavedStream et w data = .ok w' ∧ WInv w' (L ++ S) ∧ (L.length + S.length) % 8 = 0 ∧
      ∀ (src : Array Nat), Bytes src.toList → bitsLE src.toList = S →
        ∃ br br', skipEndMark (BitReaderRev.new src) = .ok (some br) ∧
          decodeInterleavedStream dt br = .ok (some data, br') ∧ br'.bitsRemaining ≤ -1 :=
  Proofs.FseStreamInter.encode_decode_interleaved_stream
    (coupled2_of_buildable hb hms hav het hdec hdt hal) data h4 hlen hu hw

/-- **`encode_decode_single`, end to end** (proved: `encode_decode_single_full_holds`).  For every
encoder-buildable distribution (`EncBuildable`: `5 ≤ al ≤ 9`, at most 256 symbols, every probability `≥ -1`,
mass `2^al`, fewer than `2^al` "less than one" symbols) whose last probability is not `0` (a description
cannot express trailing zeros), every `maxLog ≥ al`, and every non-empty symbol string over symbols with a
non-zero probability: `FSEEncoder::encode` into a fresh writer succeeds and `dump` yields bytes `out`;
`FSETable::build_decoder(out, maxLog)` on a fresh table (`max_symbol = 255`) succeeds and returns the byte
count of the description; the reversed reader over the remaining bytes finds the end mark, the single-state
decode loop returns exactly the input, and `bits_remaining = 0` at the end.  The side condition of
`write_read_table_partial` (something follows a final `-1`) holds because the stream is never empty: it contains
the end mark. -/
def encode_decode_single_full : Prop :=
  ∀ (al : Nat) (probs : List Int) (maxLog : Nat) (et : ETable), EncBuildable al probs → al ≤ maxLog →
    probs.getLast? ≠ some 0 → buildTableFromProbabilities probs al = .ok et →
    ∀ (data : List Nat), data ≠ [] → (∀ x ∈ data, probs.getD x 0 ≠ 0) →
    ∃ w out, encode et BitWriter.new data = .ok w ∧ w.dump = .ok out ∧
      ∃ t used br br', (DTable.new 255).buildDecoder out maxLog = (t, .ok used) ∧
        skipEndMark (BitReaderRev.new (out.extract used out.size)) = .ok (some br) ∧
        decodeStream t data.length br = .ok (data, br') ∧ br'.bitsRemaining = 0

theorem encode_decode_single_full_holds : encode_decode_single_full :=
  fun _ _ _ _ hb hml hlast het data hne hu =>
    Proofs.FseEndToEnd.encode_decode_single_full hb hml hlast het data hne hu


open Zstd.Model Zstd.Model.Enc Zstd.Proofs.SeqSection in
/-- **`encode_decode_sequences`.**  For every non-empty list of sequences with in-range values (literal
length ≤ 131071, 3 ≤ match length ≤ 131074, 1 ≤ offset value < 2^32; at most 98 047 of them): the three
code mappings succeed, `build_table_from_data(codes, 9/9/8, true)` builds the three tables, and the
bytes the compressor writes for the section — `encode_seqnum`, the modes byte, the LL / OF / ML table
descriptions (`write_table`) and the three-state bitstream of `encode_sequences` (extra bits in LL, ML,
OF order, state transitions OF, ML, LL, final states ML, OF, LL, end mark) — are decoded by the STRICT
`Spec.decodeSequences` (RFC 8878 §3.1.1.3.2: `readDescription`/`buildTable` per table, states
initialised LL, OF, ML, extra bits read OF, ML, LL, updates LL, ML, OF, stream exactly consumed) to
exactly those sequences, with the three tables as the tables now in force.  No fault on the way. -/
theorem encode_decode_sequences (rseqs : List RSeq) (hne : rseqs ≠ []) (hn : rseqs.length ≤ 0xFFFF + 0x7F00)
    (hr : ∀ r ∈ rseqs, InRange r) (e : Spec.Entropy) :
    ∃ lls mls ofs cnt body LL OF ML,
      mapMExcept (fun s : RSeq => encodeLL s.ll) rseqs = .ok lls ∧
      mapMExcept (fun s : RSeq => encodeML s.ml) rseqs = .ok mls ∧
      mapMExcept (fun s : RSeq => encodeOffset s.of) rseqs = .ok ofs ∧
      encodeSeqnum rseqs.length = .ok cnt ∧
      encodeSeqSectionReal ((lls.zip (mls.zip ofs)).map (fun (a, b, c) => CodedSeq.mk a b c)) = .ok body ∧
      Bytes (cnt ++ body) ∧
      Spec.decodeSequences (cnt ++ body) e
        = some (rseqs.map specSeq, { e with ll := some LL, of := some OF, ml := some ML }) :=
  Proofs.SeqSection.encode_decode_sequences rseqs hne hn hr e

open Zstd.Model Zstd.Model.Enc Zstd.Proofs.SeqSection in
/-- **the same against the FAITHFUL mirror of the real decoder** (`Blk.decodeSequences`,
Model/BlockDecode.lean: `maybe_update_fse_tables` with `build_decoder` on the real `FSETable` objects,
`BitReaderReversed`, the padding loop, `init_state` ×3, `get_bits_triple`, `update_state`s, the
`bits_remaining` checks): whatever the three table objects of the scratch held before (only their
`max_symbol`s matter), the section is decoded to exactly the sequences, `bits_remaining = 0` at the end,
no error or panic site of the decoder is reached, and the scratch afterwards holds the three new tables
with all RLE options cleared (so the theorem applies block after block). -/
theorem encode_decode_sequences_blk (rseqs : List RSeq) (hne : rseqs ≠ []) (hr : ∀ r ∈ rseqs, InRange r)
    (s : Blk.FseScratch)
    (hs : s.literalLengths.maxSymbol = Gen.maxLiteralLengthCode ∧ s.offsets.maxSymbol = Gen.maxOffsetCode ∧
          s.matchLengths.maxSymbol = Gen.maxMatchLengthCode) :
    ∃ lls mls ofs rest dtL dtO dtM,
      mapMExcept (fun s : RSeq => encodeLL s.ll) rseqs = .ok lls ∧
      mapMExcept (fun s : RSeq => encodeML s.ml) rseqs = .ok mls ∧
      mapMExcept (fun s : RSeq => encodeOffset s.of) rseqs = .ok ofs ∧
      encodeSeqSectionReal ((lls.zip (mls.zip ofs)).map (fun (a, b, c) => CodedSeq.mk a b c)) = .ok (168 :: rest) ∧
      Bytes rest ∧
      (dtL.maxSymbol = Gen.maxLiteralLengthCode ∧ dtO.maxSymbol = Gen.maxOffsetCode ∧
        dtM.maxSymbol = Gen.maxMatchLengthCode) ∧
      Blk.decodeSequences rseqs.length (some 168) rest s
        = (Proofs.SeqSectionBlk.installed dtL dtO dtM, .ok (rseqs.map specSeq)) :=
  Proofs.SeqSectionBlk.encode_decode_sequences_blk_rust rseqs hne hr s hs

open Zstd.Model Zstd.Model.Enc in
/-- non-vacuity: `encode_decode_sequences` on two sequences, with the three code mappings evaluated -/
example :
    (match encodeSeqnum 2, encodeSeqSectionReal [⟨(3, 0, 0), (9, 0, 0), (4, 3, 4)⟩, ⟨(16, 1, 1), (0, 0, 0), (10, 77, 10)⟩] with
     | .ok cnt, .ok body => (Spec.decodeSequences (cnt ++ body) {}).map (·.1)
     | _, _ => none) = some [⟨3, 12, 19⟩, ⟨17, 3, 1101⟩] := by
  obtain ⟨lls, mls, ofs, cnt, body, LL, OF, ML, hl, hm, ho, hc, hb, -, hd⟩ :=
    encode_decode_sequences [⟨3, 12, 19⟩, ⟨17, 3, 1101⟩] (by simp) (by decide)
      (by simp [Proofs.SeqSection.InRange]) {}
  cases hl.symm.trans (by decide : _ = Except.ok [(3, 0, 0), (16, 1, 1)])
  cases hm.symm.trans (by decide : _ = Except.ok [(9, 0, 0), (0, 0, 0)])
  cases ho.symm.trans (by decide : _ = Except.ok [(4, 3, 4), (10, 77, 10)])
  have hb' : encodeSeqSectionReal [⟨(3, 0, 0), (9, 0, 0), (4, 3, 4)⟩, ⟨(16, 1, 1), (0, 0, 0), (10, 77, 10)⟩]
      = .ok body := hb
  have hc' : encodeSeqnum 2 = .ok cnt := hc
  simp only [hb', hc', hd]
  rfl

example : normalize [0, 5] 9 true = .ok ([16, 16], 5) := by decide
example : normalize [3, 1000, 2] 9 true = .ok ([15, 16, 1], 5) := by decide
example : ∃ l, Zstd.Proofs.FseFin.walk 32 27 27 0 = .ok (l, 0) ∧ l.length = 27 :=
  let ⟨l, h, hl, _⟩ := fse_walk_permutation (al := 5) (neg := 27) (by decide) (by decide) (by decide)
  ⟨l, h, hl⟩
example : calcBaselineAndNumbits 64 3 1 = .ok (0, 4) := by decide

end Zstd.Props.C12
