import Zstd.Proofs.EncStructure
/-
C15 — compressor output is structurally valid and never larger than raw framing.

The block encoder `enc` is an ARBITRARY function in every theorem of this file: nothing here depends
on what `compress_block` writes, only on what `compress_fastest` / `compress` do with it.  The guard
operators and the presence of the raw fallback come from `Zstd.Gen.Guards` / `Zstd.Gen.Enc`
(source text): without the fallback `block_overhead` does not hold; with `>=` weakened to `>` it does.

Section self-consistency and "every offset within the window and the data produced so far" are
Spec-strict validity of the frame, i.e. C02 (`compress_*_roundtrip*`): `Spec.decodeFrame` rejects
anything else.
-/
namespace Zstd.Props.C15
open Zstd Zstd.Model.Enc Zstd.Proofs.Enc

/-- **three bytes per block, at most**: whatever the block encoder returns, an emitted block is never
more than its 3-byte header larger than the block it encodes (RLE: 4 ≤ 3 + |blk| since |blk| ≥ 1;
compressed only when not larger than the block; raw otherwise) -/
theorem block_overhead {H : Type} (lvl : Level) (enc : BlockEnc H) (last : Bool) (blk : List Byte) (p : Parse)
    (st st' : EncState H) (bytes : List Byte) (hne : blk ≠ [])
    (hem : emitBlock lvl enc last blk p st = .ok (bytes, st')) : bytes.length ≤ 3 + blk.length :=
  emitBlock_overhead lvl enc last blk p st st' bytes hne hem

/-- every emitted block is a well-formed raw / RLE / compressed block with Block_Size ≤ 128 KiB and
exactly the announced number of bytes behind the header (blocks of at most 128 KiB in) -/
theorem emit_shaped {H : Type} (lvl : Level) (enc : BlockEnc H) : EmitShaped (emitBlock lvl enc) 131072 :=
  emitBlock_shaped lvl enc

/-- what the matcher must respect for the structural properties: non-empty spaces of at most 128 KiB
and a window the one-byte descriptor can express -/
def SaneMatcher (w : Nat) (script : Nat → MBlock) : Prop :=
  w ≤ 2 ^ 41 ∧ ∀ i, 0 < (script i).space ∧ (script i).space ≤ 131072

/-- **Structure of every emitted frame** (any level that returns, any block encoder, any compressor
state, any fragmentation): the 6-byte header; then a walk over block headers finds one block per
`get_next_space` call, exactly the last of them flagged last; what follows is exactly the checksum of
the input (or nothing without the `hash` feature); and the size accounting. -/
theorem frame_structure {H : Type} (hash : Bool) (enc : BlockEnc H) (c : Compressor H) (w : Nat)
    (script : Nat → MBlock) (data : List Byte) (frags : List Nat) (hm : SaneMatcher w script)
    (frame : List Byte) (c' : Compressor H)
    (hrun : compressFrame hash enc c w script data frags = .ok (frame, c')) :
    Spec.parseFrameHeader frame = some (specHeader hash w) ∧
    ∃ recs trailer, walkBlocks frame.length (frame.drop 6) = some (recs, trailer) ∧
      OneLast recs ∧ recs.length = c'.matcherIdx ∧
      (∀ rec ∈ recs, rec.btype < 3 ∧ rec.size ≤ 131072 ∧ rec.stored ≤ 131072) ∧
      trailer = (if hash then leBytes 4 (Spec.Xxh64.checksum32 data) else []) ∧
      frame.length ≤ data.length + 6 + 3 * recs.length + trailer.length := by
  obtain ⟨hw, hsp⟩ := hm
  have hspace : ∀ i, 0 < (script i).space := fun i => (hsp i).1
  obtain ⟨wd, r, hloop, hframe, hparse, hidx⟩ := compressFrame_parts hash enc c w script data frags hw frame c' hrun
  have hfuel : data.length - blockStart script 0 < data.length + 1 := Nat.lt_succ_of_le (Nat.sub_le _ _)
  have hh : r.hashed = data := compressLoop_hashed _ script hspace data _ 0 _ [] frags r hfuel hloop
  obtain ⟨recs, hcount, hlen, hall, hwalk⟩ := compressLoop_structure (emitBlock c.level enc) script 131072 hspace
    (fun i => (hsp i).2) (emit_shaped c.level enc) data (data.length + 1) 0 _ [] frags r hfuel hloop
  rw [hh] at hframe
  obtain ⟨trailer, htr⟩ : ∃ t, t = if hash then leBytes 4 (Spec.Xxh64.checksum32 data) else [] := ⟨_, rfl⟩
  rw [← htr] at hframe
  have hdrop : frame.drop 6 = r.bytes ++ trailer := by rw [hframe]; rfl
  have hrecs := hwalk trailer frame.length (by rw [hframe]; simp; omega)
  refine ⟨hparse, recs, trailer, by rw [hdrop]; exact hrecs, walkBlocks_oneLast _ _ _ _ hrecs,
    by rw [hidx, ← hcount, Nat.zero_add], hall, htr, ?_⟩
  -- 6 header bytes, the loop's bytes (`hlen`: the input plus 3 per `get_next_space` call), the trailer
  rw [hframe]
  simp only [List.length_append, List.length_cons, List.length_nil, blockStart] at hlen ⊢
  omega

/-- exactly one block is flagged last, and it is the final one -/
theorem one_last_block {H : Type} (hash : Bool) (enc : BlockEnc H) (c : Compressor H) (w : Nat)
    (script : Nat → MBlock) (data : List Byte) (frags : List Nat) (hm : SaneMatcher w script)
    (frame : List Byte) (c' : Compressor H)
    (hrun : compressFrame hash enc c w script data frags = .ok (frame, c')) :
    ∃ recs trailer, walkBlocks frame.length (frame.drop 6) = some (recs, trailer) ∧ OneLast recs := by
  obtain ⟨_, recs, trailer, h1, h2, _⟩ := frame_structure hash enc c w script data frags hm frame c' hrun
  exact ⟨recs, trailer, h1, h2⟩

/-- every block's Block_Size field and stored size are at most 128 KiB, and so is every input block
`blockAt script data i`.  The statement does not speak of regenerated sizes: by the format a raw/RLE block
regenerates Block_Size bytes, and by C02 a compressed block regenerates the input block it was made from. -/
theorem stored_and_regenerated_le_128k {H : Type} (hash : Bool) (enc : BlockEnc H) (c : Compressor H) (w : Nat)
    (script : Nat → MBlock) (data : List Byte) (frags : List Nat) (hm : SaneMatcher w script)
    (frame : List Byte) (c' : Compressor H)
    (hrun : compressFrame hash enc c w script data frags = .ok (frame, c')) :
    (∃ recs trailer, walkBlocks frame.length (frame.drop 6) = some (recs, trailer) ∧
      ∀ rec ∈ recs, rec.btype < 3 ∧ rec.size ≤ 131072 ∧ rec.stored ≤ 131072) ∧
    ∀ i, (blockAt script data i).length ≤ 131072 := by
  obtain ⟨_, recs, trailer, h1, _, _, h3, _⟩ := frame_structure hash enc c w script data frags hm frame c' hrun
  exact ⟨⟨recs, trailer, h1, h3⟩, fun i => Nat.le_trans (List.length_take_le _ _) (hm.2 i).2⟩

/-- after the last block there is nothing but the checksum of the input -/
theorem nothing_after_last_but_checksum {H : Type} (hash : Bool) (enc : BlockEnc H) (c : Compressor H) (w : Nat)
    (script : Nat → MBlock) (data : List Byte) (frags : List Nat) (hm : SaneMatcher w script)
    (frame : List Byte) (c' : Compressor H)
    (hrun : compressFrame hash enc c w script data frags = .ok (frame, c')) :
    ∃ recs, walkBlocks frame.length (frame.drop 6) =
      some (recs, if hash then leBytes 4 (Spec.Xxh64.checksum32 data) else []) := by
  obtain ⟨_, recs, trailer, h1, _, _, _, h4, _⟩ := frame_structure hash enc c w script data frags hm frame c' hrun
  exact ⟨recs, by rw [← h4]; exact h1⟩

/-- magic number, descriptor (no dictionary id, no content size, not single-segment, reserved bits
zero, checksum flag = `hash` feature), window descriptor: the declared window covers the matcher's
window AND the largest possible block, 128 KiB (finding F13: a block may be as large as a space whatever the
matcher's window) -/
theorem header_consistent {H : Type} (hash : Bool) (enc : BlockEnc H) (c : Compressor H) (w : Nat)
    (script : Nat → MBlock) (data : List Byte) (frags : List Nat) (hw : w ≤ 2 ^ 41)
    (frame : List Byte) (c' : Compressor H)
    (hrun : compressFrame hash enc c w script data frags = .ok (frame, c')) :
    frame.take 4 = leBytes 4 Spec.magic ∧
    Spec.parseFrameHeader frame =
      some { desc := ⟨0, false, hash, 0⟩, window := declaredWindow w, dictId := none, contentSize := none, hdrLen := 6 } ∧
    w ≤ declaredWindow w ∧ Gen.maxBlockSize ≤ declaredWindow w := by
  obtain ⟨wd, r, _, hframe, hparse, _⟩ := compressFrame_parts hash enc c w script data frags hw frame c' hrun
  have hmagic : leBytes 4 Spec.magic = [40, 181, 47, 253] := by decide
  exact ⟨by rw [hframe, hmagic]; rfl, hparse, le_declaredWindow w hw, declaredWindow_ge_block w hw⟩

/-- **never larger than raw framing** (any matcher): input + 6 header bytes + 3 bytes per block + the
checksum, where the number of blocks is the number of spaces the matcher was asked for -/
theorem frame_size_bound_any_matcher {H : Type} (hash : Bool) (enc : BlockEnc H) (c : Compressor H) (w : Nat)
    (script : Nat → MBlock) (data : List Byte) (frags : List Nat) (hm : SaneMatcher w script)
    (frame : List Byte) (c' : Compressor H)
    (hrun : compressFrame hash enc c w script data frags = .ok (frame, c')) :
    frame.length ≤ data.length + 6 + 3 * c'.matcherIdx + 4 := by
  obtain ⟨_, recs, trailer, _, _, h2, _, h4, h5⟩ := frame_structure hash enc c w script data frags hm frame c' hrun
  rw [h2] at h5
  have : trailer.length ≤ 4 := by rw [h4]; cases hash <;> simp
  omega

/-- **C15 size bound, built-in matcher**: `|frame| ≤ |data| + 6 + 3·(⌈|data| / 128 KiB⌉ + 1) + 4`
(frame header, three bytes per 128 KiB block, an optional empty final block, the checksum) -/
theorem frame_size_bound {H : Type} (hash : Bool) (enc : BlockEnc H) (parse : Nat → Parse) (c : Compressor H)
    (data : List Byte) (frags : List Nat) (frame : List Byte) (c' : Compressor H)
    (hrun : compressFrame hash enc c builtinWindow (builtinScript parse) data frags = .ok (frame, c')) :
    frame.length ≤ data.length + 6 + 3 * ((data.length + 131071) / 131072 + 1) + 4 := by
  have hm : SaneMatcher builtinWindow (builtinScript parse) :=
    ⟨by decide, fun i => ⟨by show 0 < Gen.prodSliceSize; decide, by show Gen.prodSliceSize ≤ 131072; decide⟩⟩
  have hb := frame_size_bound_any_matcher hash enc c _ _ data frags hm frame c' hrun
  obtain ⟨wd, r, hloop, _, _, hidx⟩ := compressFrame_parts hash enc c _ _ data frags hm.1 frame c' hrun
  have hcount := compressLoop_block_count (emitBlock c.level enc) (builtinScript parse) 131072 (by omega)
    (fun i => rfl) data (data.length + 1) 0 _ [] frags r (Nat.lt_succ_of_le (Nat.sub_le _ _)) hloop
  rw [hidx, hcount] at hb
  simp only [blockStart, Nat.sub_zero] at hb
  have : data.length / 131072 ≤ (data.length + 131071) / 131072 := Nat.div_le_div_right (by omega)
  omega

/-- non-vacuity / sensitivity witness: a block encoder that always returns one byte more than the
block makes `compress_fastest` store the block raw — the frame is input + 6 + 3·2 + 4 -/
example :
    ((compress (H := Unit) true (fun p st => .ok (List.replicate (p.tail.length + 1) 0, st)) .fastest 4096
        (fun _ => ⟨4, ⟨[], [1, 2, 3, 4]⟩⟩) [1, 2, 3, 4] []).toOption.map List.length) = some (4 + 6 + 3 * 2 + 4) := by
  decide +kernel

end Zstd.Props.C15
