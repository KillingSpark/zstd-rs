import Zstd.Proofs.EncReal
import Zstd.Proofs.SeqBlock
import Zstd.Proofs.LitCoderFrame
import Zstd.Props.C13
/-
C16 — compression is correct for every well-behaved user-supplied matcher.

`ValidMatcher w script data` (Model/FrameCompressor.lean) is the meaning of "well-behaved": per
`get_next_space` call a non-empty space of at most 128 KiB (the trait's documented maximum); for every
non-constant block a parse that regenerates exactly the block on top of everything before it, with
`3 ≤ match_len` and `1 ≤ offset ≤ min w (bytes before the match position in the frame)`; a window
the one-byte descriptor can express.  Its conditions on spaces and parses are executable (`validMatcherB`, which does
not test `window_le`), and the correspondence run evaluates them on every script the harness generates.

Cases the statements INCLUDE (findings F4, F10, F13 of DESIGN.md §9, repaired in the code the model mirrors):
  F4   all literal lengths 0 / all match lengths 3 in a block: the FSE normaliser gets at least two entries
  F10  > 1024 literals of one value in a non-constant block: written as RLE literals, no Huffman table built
  F13  spaces larger than the matcher's window: the header declares max(window_size(), 128 KiB), so
       `space_le` is just "≤ 128 KiB"
The one explicit side condition, `hw32 : window_size() + 3 < 2^32`:
  (u32) offsets ≥ 2^32 − 3 are truncated by `(offset + 3) as u32`, and an offset is at most the window (it also
        excludes a matcher that advertises such a window and never uses it; offsets that large need > 4 GiB of input)
A theorem with a parameter `cd : Coders H` or `enc : BlockEnc H` holds for every entropy coder; `compress_with_matcher_correct`,
about the REAL coders and with no hypothesis about them, is the property at full strength (for byte strings).
-/
namespace Zstd.Props.C16
open Zstd Zstd.Model Zstd.Model.Enc Zstd.Proofs.Enc

/-- non-vacuity of `ValidMatcher`: for any data, the matcher that hands out spaces of `S` bytes and
reports every block as literals only is well-behaved -/
theorem valid_matcher_exists (w S : Nat) (hw : w ≤ 2 ^ 41) (hS : 0 < S) (hS' : S ≤ Gen.maxBlockSize)
    (data : List Byte) :
    ValidMatcher w (fun i => ⟨S, ⟨[], (data.drop (i * S)).take S⟩⟩) data := by
  have hstart : ∀ i, blockStart (fun i => (⟨S, ⟨[], (data.drop (i * S)).take S⟩⟩ : MBlock)) i = i * S := by
    intro i
    induction i with
    | zero => simp [blockStart]
    | succ i ih => simp only [blockStart, ih]; rw [Nat.succ_mul]
  refine ⟨hw, fun _ => hS, fun _ => hS', ?_⟩
  intro i
  simp only [hstart]
  intro _
  simp [validParse, execParse]

/-- **Frame level, partial**: for every well-behaved matcher, every block encoder that satisfies the
contract `BlockEncCorrect` and does not panic on this matcher's parses:
compression completes and the strict Spec decodes the frame to the input.  What the proof
(`Proofs.Enc.compressFrame_fastest_sim`, with no fault allowed) consists of: everything
around the block encoder (spaces of any sizes, block split, RLE detection, raw fallback,
`last_huff_table` reset on fallback, headers, window descriptor from `window_size()`, checksum). -/
theorem compress_with_matcher_correct_partial {H : Type} (R : H → Spec.Huffman.Table → Prop) (hash : Bool)
    (enc : BlockEnc H) (c : Compressor H) (hc : c.level = .fastest) (w : Nat) (script : Nat → MBlock)
    (data : List Byte) (frags : List Nat) (hm : ValidMatcher w script data)
    (henc : BlockEncCorrect R w (declaredWindow w) enc)
    (htotal : ∀ i st, ∃ r, enc (script i).parse st = .ok r) :
    ∃ frame c', compressFrame hash enc c w script data frags = .ok (frame, c') ∧
      Spec.decodeFrame frame = some (specResult hash w data frame) :=
  let ⟨⟨frame, c'⟩, hrun, _, hdec⟩ := (compressFrame_fastest_sim R hash enc c hc w script data frags hm henc
    (fun _ => True) (fun _ => False) (fun _ => trivial) fun i st _ _ => .of_returns (htotal i st)).returns
  ⟨frame, c', hrun, hdec⟩

/-- the same at the Uncompressed level needs nothing of the parses -/
theorem compress_with_matcher_uncompressed {H : Type} (hash : Bool) (enc : BlockEnc H) (c : Compressor H)
    (hc : c.level = .uncompressed) (w : Nat) (script : Nat → MBlock) (data : List Byte) (frags : List Nat)
    (hw : w ≤ 2 ^ 41) (hsp : ∀ i, 0 < (script i).space ∧ (script i).space ≤ Gen.maxBlockSize) :
    ∃ frame c', compressFrame hash enc c w script data frags = .ok (frame, c') ∧
      Spec.decodeFrame frame = some (specResult hash w data frame) :=
  -- all that is known, and needed, of a block is that it fits Block_Maximum_Size of the declared window
  let ⟨⟨frame, c'⟩, hrun, _, hdec⟩ := (compressFrame_sim hash enc c w script data frags (fun _ _ => True) _ _ hw
    (fun i => (hsp i).1) (by rw [hc]; exact emit_uncompressed_sim _ _ enc) (fun _ => trivial) fun i _ => by
      rw [min_declared_block w hw]
      exact Nat.le_trans (blockAt_length_le script data i) (hsp i).2).returns
  ⟨frame, c', hrun, hdec⟩

/-- C16 at full strength, a CLOSED statement: the real block encoder `compressBlockReal`
(`compressBlock` over `realCoders`, the FSE / Huffman models of C12 / C13; `Model/EncCoders.lean`), whose
executable model is compared byte for byte with the code on every run.  The only side condition is the `u32`
offset condition (the cases of F4, F10 and F13 are included).  AS WORDED IT IS FALSE (`compress_with_matcher_correct_full_false`):
`data : List Byte` ranges over all lists of `Nat`, and a "byte" `≥ 256` among more than 1024 literals has no
Huffman code.  The theorem for byte strings is `compress_with_matcher_correct` (with `w + 3 < 2^32`). -/
def compress_with_matcher_correct_full : Prop :=
  ∀ (hash : Bool) (c : Compressor Huf.EncTable), c.level = .fastest →
    ∀ (w : Nat) (script : Nat → MBlock) (data : List Byte) (frags : List Nat),
    ValidMatcher w script data → (w + 3 < 2 ^ 32 ∨ data.length + 3 < 2 ^ 32) →
    ∃ frame c', compressFrame hash compressBlockReal c w script data frags = .ok (frame, c') ∧
      Spec.decodeFrame frame = some (specResult hash w data frame)

/-- **Sequence-to-code mapping uses in-range values only**: for a valid parse of a block of at most
128 KiB whose offsets fit `u32` (`hu32`: an offset is at most the window and at most the bytes before it, and either
bound below `2^32 − 3` does), the casts in the `start_matching` closure lose nothing and
`encode_literal_length`, `encode_match_len`, `encode_offset` return codes ≤ 35 / 52 / 31 with extra
values that fit their bit counts; the block has at most 43 690 sequences. -/
theorem sequence_codes_in_range (w : Nat) (pre blk : List Byte) (p : Parse)
    (hv : validParse w pre blk p = true) (hblk : blk.length ≤ 131072)
    (hu32 : w + 3 < 2 ^ 32 ∨ (pre ++ blk).length + 3 < 2 ^ 32) :
    p.seqs.length ≤ 43690 ∧
    ∀ s ∈ p.seqs,
      toRSeq s = .ok ⟨s.lits.length, s.matchLen, s.offset + 3⟩ ∧
      (∃ c x b : Nat, encodeLL s.lits.length = .ok (c, x, b) ∧ c ≤ 35 ∧ x < 2 ^ b) ∧
      (∃ c x b : Nat, encodeML s.matchLen = .ok (c, x, b) ∧ c ≤ 52 ∧ x < 2 ^ b) ∧
      (∃ c x : Nat, encodeOffset (s.offset + 3) = .ok (c, x, c) ∧ c ≤ 31 ∧ x < 2 ^ c ∧ 2 ^ c + x = s.offset + 3) :=
  Proofs.SeqBlock.codes_in_range w pre blk p hv hblk hu32

/-- the sequence-count writer cannot reach its `unreachable!()` arm: 43 690 < 98 047 -/
theorem seqnum_in_range (n : Nat) (h1 : 1 ≤ n) (h : n ≤ 43690) : ∃ bs, encodeSeqnum n = .ok bs :=
  let ⟨bs, hb, _⟩ := encodeSeqnum_ok n h1 (by omega); ⟨bs, hb⟩

/-- **Literals-size thresholds**: every literal count a block can have (≤ 128 KiB) has a size-format
arm in `compress_literals` (the `unimplemented!("too many literals")` arm is unreachable) whose field
width holds the count, and the 20-bit field of `raw_literals` holds it as well -/
theorem literals_size_fields_fit (n : Nat) (h : n ≤ 131072) :
    (∃ f b : Nat, litSizeFormat n = .ok (f, b) ∧ n < 2 ^ b ∧ f ≤ 3) ∧ n < 2 ^ Gen.rawLitSizeBits := by
  obtain ⟨f, b, hf⟩ := Proofs.LitCoder.litSizeFormat_ok n h
  obtain ⟨harm, hlt, _⟩ := Proofs.LitCoder.litSizeFormat_arm hf
  exact ⟨⟨f, b, hf, hlt, Nat.le_of_lt_succ (Proofs.LitCoder.sizeArm_bounds harm).1⟩, by rw [rawLitSizeBits_eq]; omega⟩

theorem litHuffGuard_eq (a b : Nat) : Gen.litHuffGuard a b = decide (a > b) := rfl
theorem litHuffThreshold_eq : Gen.litHuffThreshold = 1024 := rfl

/-- **Raw-literals path (at most 1024 literals), fully**: whatever the sequences are, the block
`compress_block` returns starts with a literals section that the strict Spec decodes to exactly the
gathered literals (3-byte header + the bytes), leaves the decoder's Huffman table alone, and the
encoder's `last_huff_table` is untouched as well -/
theorem raw_literals_path_decodes {H : Type} (cd : Coders H) (p : Parse) (st st' : EncState H) (bytes : List Byte)
    (hle : (parseLiterals p).length ≤ 1024) (prev : Option Spec.Huffman.Table)
    (h : compressBlock cd p st = .ok (bytes, st')) :
    st' = st ∧
    Spec.decodeLiterals bytes prev = some (parseLiterals p, 3 + (parseLiterals p).length, prev) := by
  obtain ⟨litBytes, rest, hlit, hbytes, _⟩ := compressBlock_shape cd p st st' bytes h
  rw [Proofs.SeqBlock.litStep_eq, if_neg (by omega)] at hlit
  obtain ⟨hdr, hraw, _, hdec⟩ := rawLiterals_decodes (parseLiterals p) rest prev (by omega)
  rw [hraw] at hlit
  cases hlit
  exact ⟨rfl, by rw [hbytes]; exact hdec⟩

/-- **`last_huff_table` tracks the decoder** (the invariant F5 broke), block level, over an abstract
literal coder that satisfies `LitCoderCorrect`: if the encoder's remembered table is the decoder's
table before the block, then after the strict Spec has decoded the literals section of the block
`compress_block` returns, the decoder's table is again the one the encoder remembers.
(Frame level: `compress_fastest` forgets the table when the block is NOT emitted as compressed —
`raw_fallback_forgets_table` — which is what makes `Tracks` the loop invariant of
`compress_with_matcher_correct_partial`.) -/
theorem huff_state_tracks_decoder {H : Type} (R : H → Spec.Huffman.Table → Prop) (cd : Coders H)
    (hcd : LitCoderCorrect R cd) (p : Parse) (st st' : EncState H) (bytes : List Byte) (e : Spec.Entropy)
    (hlen : (parseLiterals p).length < 2 ^ 20) (htr : Tracks R st e)
    (h : compressBlock cd p st = .ok (bytes, st')) :
    ∃ used d', Spec.decodeLiterals bytes e.huf = some (parseLiterals p, used, d') ∧
      Tracks R st' { e with huf := d' } := by
  obtain ⟨litBytes, rest, hlit, rfl, _⟩ := compressBlock_shape cd p st st' bytes h
  obtain ⟨d', hdec, htr'⟩ := Proofs.SeqBlock.litStep_decodes R cd hcd _ st st' litBytes e hlen htr hlit rest
  exact ⟨litBytes.length, d', hdec, htr'⟩

/-- **finding F5**: whenever `compress_fastest` stores a non-constant block raw, the table
`compress_block` may just have remembered is forgotten -/
theorem raw_fallback_forgets_table {H : Type} (enc : BlockEnc H) (last : Bool) (blk : List Byte) (p : Parse)
    (st st' : EncState H) (bytes : List Byte) (hnc : isConstant blk = false)
    (hem : compressFastest enc last blk p st = .ok (bytes, st'))
    (hraw : bytes = blockHeader last Gen.blockTypeRaw (blk.length % 2 ^ 32) ++ blk) (hsz : blk.length < 2 ^ 21) :
    st'.lastHuff = none := by
  obtain ⟨hc, _⟩ | ⟨_, compressed, st1, _, ⟨_, rfl⟩ | ⟨hle, hmax, hb, _⟩⟩ := compressFastest_ok hem
  · rw [hnc] at hc; cases hc
  · rfl
  · -- emitted as a compressed block: the header type differs from raw
    exfalso
    have hm : blk.length % 2 ^ 32 = blk.length := Nat.mod_eq_of_lt (by omega)
    rw [hraw, hm, Nat.mod_eq_of_lt (by omega), blockTypeRaw_eq, blockHeader_eq last 2 _ (by omega) (by omega),
      blockHeader_eq last 0 _ (by omega) hsz] at hb
    simp only [List.cons_append, List.nil_append, List.cons.injEq] at hb
    have h0 := hb.1
    unfold headerVal at h0
    cases last <;> simp at h0 <;> omega

/-- without forgetting, the invariant is simply false after a raw fallback: the encoder remembers a
table, the decoder (which never saw the discarded block) holds none — the state of finding F5 -/
theorem f5_state_violates_invariant :
    ∃ (st : EncState Unit) (e : Spec.Entropy), ¬ Tracks (fun (_ : Unit) (_ : Spec.Huffman.Table) => True) st e ∧
      Tracks (fun (_ : Unit) (_ : Spec.Huffman.Table) => True) ({ st with lastHuff := none } : EncState Unit) e := by
  refine ⟨⟨some ()⟩, {}, ?_, tracks_none _ ⟨some ()⟩ _⟩
  intro h
  obtain ⟨d, hd, _⟩ := h () rfl
  cases hd

/-- a panic of the literals step is a panic of the literal coder: the raw path cannot fail -/
theorem litStep_fault {H : Type} (cd : Coders H) (lits : List Byte) (st : EncState H) (f : Fault)
    (hlen : lits.length < 2 ^ 20) (h : litStep cd lits st = .error f) :
    ∃ prev, cd.compressLiterals lits prev = .error f := by
  rw [Proofs.SeqBlock.litStep_eq] at h
  split at h
  · cases hc : cd.compressLiterals lits st.lastHuff with
    | error f' => rw [hc] at h; cases h; exact ⟨_, hc⟩
    | ok r => rw [hc] at h; cases h
  · obtain ⟨hdr, hraw, _⟩ := rawLiterals_decodes lits [] none hlen
    rw [hraw] at h
    cases h

/-- **Every panic of `compress_block` on a valid parse is a panic of an entropy coder**: none of the
`unreachable!()` arms (`encode_literal_length`, `encode_match_len`, `encode_seqnum`), the `ilog2(0)`
of `encode_offset`, the `offset + 3` overflow or the `raw_literals` size field can be the cause.
(Which panic sites of the real coders can be reached: `compress_with_matcher_correct_or_assert`.) -/
theorem faults_only_in_entropy_coders {H : Type} (cd : Coders H) (w : Nat) (pre blk : List Byte) (p : Parse)
    (st : EncState H) (f : Fault)
    (hv : validParse w pre blk p = true) (hblk : blk.length ≤ 131072)
    (hu32 : w + 3 < 2 ^ 32 ∨ (pre ++ blk).length + 3 < 2 ^ 32)
    (h : compressBlock cd p st = .error f) :
    (∃ lits prev, cd.compressLiterals lits prev = .error f) ∨ (∃ coded, cd.encodeSeqSection coded = .error f) := by
  obtain ⟨hcount, hall⟩ := sequence_codes_in_range w pre blk p hv hblk hu32
  have hlits : (parseLiterals p).length ≤ blk.length := by
    obtain ⟨seqs, tail⟩ := p
    exact (validParse_bounds w pre blk seqs tail hv).2.2.2
  -- the casts, the three code mappings and the count succeed on every sequence of a valid parse
  have hr := Proofs.SeqBlock.mapMExcept_eq_map toRSeq Proofs.SeqBlock.rOfM p.seqs (fun s hs => (hall s hs).1)
  have hcode : ∀ r ∈ p.seqs.map Proofs.SeqBlock.rOfM,
      (∃ b, encodeLL r.ll = .ok b) ∧ (∃ b, encodeML r.ml = .ok b) ∧ (∃ b, encodeOffset r.of = .ok b) := by
    intro r hr'
    obtain ⟨s, hs, rfl⟩ := List.mem_map.mp hr'
    obtain ⟨_, ⟨_, _, _, e1, _⟩, ⟨_, _, _, e2, _⟩, ⟨_, _, e3, _⟩⟩ := hall s hs
    exact ⟨⟨_, e1⟩, ⟨_, e2⟩, ⟨_, e3⟩⟩
  obtain ⟨lls, hl1, _⟩ := mapMExcept_ok (fun s : RSeq => encodeLL s.ll) _ (fun r h => (hcode r h).1)
  obtain ⟨mls, hl2, _⟩ := mapMExcept_ok (fun s : RSeq => encodeML s.ml) _ (fun r h => (hcode r h).2.1)
  obtain ⟨ofs, hl3, _⟩ := mapMExcept_ok (fun s : RSeq => encodeOffset s.of) _ (fun r h => (hcode r h).2.2)
  unfold compressBlock at h
  simp only [hr] at h
  -- what is left of `compress_block`: the literals step, then (if there are sequences) the section coder
  cases hls : litStep cd (parseLiterals p) st with
  | error f' =>
    rw [hls] at h; cases h
    obtain ⟨prev, hc⟩ := litStep_fault cd _ st f (by omega) hls
    exact Or.inl ⟨_, prev, hc⟩
  | ok r =>
    simp only [hls] at h
    split at h
    · cases h
    · rename_i hne
      obtain ⟨cnt, hcnt⟩ := seqnum_in_range (p.seqs.map Proofs.SeqBlock.rOfM).length
        (List.length_pos_iff.mpr (by intro h0; rw [h0] at hne; exact hne rfl)) (by rw [List.length_map]; omega)
      simp only [hcnt, hl1, hl2, hl3] at h
      split at h
      · rename_i f'' hc
        cases h
        exact Or.inr ⟨_, hc⟩
      · cases h

/-- **finding F10, at the level of the format**: more than 1024 literals of ONE value in a block
that is not constant.  The real `compress_literals` does not reach the Huffman table builder
(`assert!(amount >= 2)`): it writes an RLE literals section, remembers no table, and the strict Spec
decodes that section to exactly the literals, leaving the decoder's table alone — so the invariant
`Tracks` is preserved on this path without any appeal to the Huffman theorems. -/
theorem f10_repaired_single_value_literals (b : Byte) (t : List Byte) (prev : Option Huf.EncTable)
    (hall : (b :: t).all (fun x => x == b) = true) (hlen : (b :: t).length < 2 ^ 20)
    (rest : List Byte) (dprev : Option Spec.Huffman.Table) :
    ∃ bytes, realCoders.compressLiterals (b :: t) prev = .ok (bytes, none) ∧
      Spec.decodeLiterals (bytes ++ rest) dprev = some (b :: t, bytes.length, dprev) :=
  compressLiterals_single_value b t prev hall hlen rest dprev

/-- the closed full statement follows from exactly two obligations about the real coders.  (Its conclusion is refuted,
`compress_with_matcher_correct_full_false`: `htotal` cannot be met for lists with an element `≥ 256`.) -/
theorem compress_with_matcher_correct_full_of (R : Huf.EncTable → Spec.Huffman.Table → Prop)
    (henc : ∀ w, BlockEncCorrect R w (declaredWindow w) compressBlockReal)
    (htotal : ∀ (w : Nat) (script : Nat → MBlock) (data : List Byte), ValidMatcher w script data →
      (w + 3 < 2 ^ 32 ∨ data.length + 3 < 2 ^ 32) → ∀ i st, ∃ r, compressBlockReal (script i).parse st = .ok r) :
    compress_with_matcher_correct_full := by
  intro hash c hc w script data frags hm hu
  exact compress_with_matcher_correct_partial R hash compressBlockReal c hc w script data frags hm (henc w)
    (htotal w script data hm hu)

/-- **the block-encoder contract with its sequences half discharged** (C12: the count, the modes
byte, three FSE table descriptions and the interleaved bitstream are decoded by the strict Spec to the
sequences — `Props.C12.encode_decode_sequences`; the matcher's parse is `Spec.execSequences` of the
sequences sent — `Proofs.SeqExec.execParse_refines`): for EVERY literal coder that satisfies
`LitCoderCorrect`, `compress_block` over the real sequence coder satisfies `BlockEncCorrect`, for every
matcher window whose offsets survive `(offset + 3) as u32` and every declared window at least as large. -/
theorem block_encoder_contract_of_literal_coder {H : Type} (R : H → Spec.Huffman.Table → Prop) (cd : Coders H)
    (hcd : LitCoderCorrect R cd) (hseq : cd.encodeSeqSection = encodeSeqSectionReal)
    (w window : Nat) (hww : w ≤ window) (hw32 : w + 3 < 2 ^ 32) :
    BlockEncCorrect R w window (compressBlock cd) :=
  Proofs.SeqBlock.blockEncCorrect_of_litCoder R cd hcd hseq w window hww hw32

/-- **C16 reduced to the literal coder**, with totality asked of EVERY literal list and remembered table.
(That hypothesis `hlit` is unsatisfiable, `lit_coder_total_unrestricted_false`, so this statement is vacuous;
totality holds on byte literals from reachable encoder states, `lit_coder_total`, and
`compress_with_matcher_correct` is the theorem without hypotheses on the coders.)  For every well-behaved
matcher with `window_size() + 3 < 2^32` and the REAL block encoder: if the real literal coder (1) satisfies its contract and (2) does not panic
on more than 1024 and at most 128 Ki literals (both are C13 obligations), then compression at
`Fastest` completes and the strict Spec decodes the frame to exactly the input.  Unlike
`compress_with_matcher_correct_full_of`, totality is only required of the literal coder (the block
encoder is only ever run on the parses of the blocks of the data, which the matcher promised valid). -/
theorem compress_with_matcher_correct_of_literal_coder (R : Huf.EncTable → Spec.Huffman.Table → Prop)
    (hcd : LitCoderCorrect R realCoders)
    (hlit : ∀ lits prev, 1024 < lits.length → lits.length ≤ 131072 → ∃ r, compressLiteralsReal lits prev = .ok r)
    (hash : Bool) (c : Compressor Huf.EncTable) (hc : c.level = .fastest) (w : Nat) (script : Nat → MBlock)
    (data : List Byte) (frags : List Nat) (hm : ValidMatcher w script data) (hw32 : w + 3 < 2 ^ 32) :
    ∃ frame c', compressFrame hash compressBlockReal c w script data frags = .ok (frame, c') ∧
      Spec.decodeFrame frame = some (specResult hash w data frame) :=
  let ⟨⟨frame, c'⟩, hrun, _, hdec⟩ := (Proofs.LitCoder.compress_spec_of_litCoder R realCoders hcd rfl (fun _ => True)
    (fun _ => False) (fun _ => trivial) hash c hc w script data frags hm hw32 fun lits st _ h1 h2 _ =>
      .of_returns (hlit lits st.lastHuff h1 h2)).returns
  ⟨frame, c', hrun, hdec⟩

/-! ## the literal coder's obligations discharged (`Proofs/LitCoder*.lean`): C16 without coder hypotheses

Three side conditions of the statements (artefacts of the model's types, none a defect of the code; each is
necessary — the theorem named with it refutes the statement without it):
  (a) `LitCoderCorrect` carries `lits.length < 2^20` (`rle_literals` writes `len as u32` into a
      20-bit field) — `lit_coder_contract_unbounded_false`;
  (b) the totality hypothesis `hlit` of `compress_with_matcher_correct_of_literal_coder` (every
      literal list, every remembered table) is unsatisfiable: a literal `≥ 256` (`Byte` is `Nat`) has no
      code, and a remembered table that is not a prefix code faults in the bit writer —
      `lit_coder_total_unrestricted_false`; totality holds for byte strings from a REACHABLE encoder
      state (remembered table canonical), and is proved along the block loop with that invariant;
  (c) hence the frame-level statements need `∀ b ∈ data, b < 256` — `compress_with_matcher_correct_full_false`.
That `write_table` does not hit `assert!(encoded_len < 128)` is C13's `fse_weights_lt_128` (a kernel evaluation over the
finite set of compressor weight vectors); `compress_with_matcher_correct_or_assert` does not depend on it. -/

open Zstd.Proofs.LitCoder

/-- the relation `Tracks` is instantiated with: the Spec's table in force decodes the code of the table the
encoder remembers (every cell whose index starts with the code of `s` holds `s` and the code length) -/
abbrev TableRel := Zstd.Proofs.LitCoder.TableRel

/-- **the contract of the real literal coder (`compress_literals`), all branches, against the strict Spec** -/
theorem lit_coder_correct : LitCoderCorrect TableRel realCoders := lit_coder_contract

/-- the block-encoder contract of the real `compress_block` -/
theorem block_encoder_contract_real (w window : Nat) (hww : w ≤ window) (hw32 : w + 3 < 2 ^ 32) :
    BlockEncCorrect TableRel w window compressBlockReal :=
  block_encoder_contract_of_literal_coder TableRel realCoders lit_coder_correct rfl w window hww hw32

/-! ### the Huffman layer against the strict Spec (what C13 proves against the model's decoder, restated
for `Spec.Huffman.*`; these are the three facts `lit_coder_correct` is assembled from) -/

/-- **one Huffman stream**: what `encode_stream` writes for `data` with the encoder table `t` is accepted by the
strict `Spec.Huffman.decodeStream` (non-zero last byte, every code inside the stream, stream consumed
exactly) and regenerates `data`, for every Spec table that decodes the code of `t` -/
theorem huffman_stream_spec {T : Spec.Huffman.Table} {t : Huf.EncTable} (sd : SpecDecodes T t)
    (data stream : List Nat) (henc : Huf.encodeStream t data = .ok stream) :
    Spec.Huffman.decodeStream T stream data.length = some data :=
  decodeStream_encodeStream sd data stream henc

/-- **the tree description**: whatever `write_table` writes for a canonical table (every table
`build_from_data` returns for bytes: `buildFromData_canon`) — direct form or FSE-compressed — the strict
`Spec.Huffman.readTable` reads back, followed by anything, consuming exactly the description; the table it
builds (last weight inferred) has `Max_Number_of_Bits = m` and decodes the encoder's code -/
theorem huffman_description_spec {t : Huf.EncTable} {wd : List Nat} {m : Nat} (c : Zstd.Proofs.Huf.CanonTable t wd m)
    {desc : List Nat} (h : Huf.writeTable Enc.fseWeights t = .ok desc) (tail : List Nat) :
    ∃ T, Spec.Huffman.readTable (desc ++ tail) = some (T, desc.length) ∧ T.maxBits = m ∧ SpecDecodes T t :=
  spec_readTable_written c h tail

/-- **FSE-compressed weights** (RFC 8878 §4.2.1.2: two interleaved states, the stream ends by exhaustion): for
every weight vector with 4 … 257 entries `≤ 12`, whenever the production FSE coder needs fewer than 128 bytes,
`Spec.Huffman.readWeights` on size byte + payload (+ anything) returns exactly the weights -/
theorem fse_weights_spec (ws bytes : List Nat) (h4 : 4 ≤ ws.length) (h257 : ws.length ≤ 257)
    (hle : ∀ w ∈ ws, w ≤ 12) (henc : Enc.fseWeights ws = .ok bytes) (hsmall : bytes.length < 128) (tail : List Nat) :
    Spec.Huffman.readWeights (bytes.length :: (bytes ++ tail)) = some (ws, 1 + bytes.length) :=
  spec_readWeights_fse ws bytes h4 h257 hle henc hsmall tail

/-- the contract WITHOUT the length bound of `LitCoderCorrect` -/
def LitCoderCorrectUnbounded {H : Type} (R : H → Spec.Huffman.Table → Prop) (cd : Coders H) : Prop :=
  ∀ (lits : List Byte) (prev : Option H) (bytes : List Byte) (t : Option H)
    (dprev : Option Spec.Huffman.Table) (rest : List Byte),
    (∀ h, prev = some h → ∃ d, dprev = some d ∧ R h d) →
    cd.compressLiterals lits prev = .ok (bytes, t) →
    ∃ d', Spec.decodeLiterals (bytes ++ rest) dprev = some (lits, bytes.length, d') ∧
      (∀ h, (t <|> prev) = some h → ∃ d, d' = some d ∧ R h d)

/-- … is false for the real coder, whatever the relation: `2^32 + 1` equal literals are written as an RLE
section of ONE literal (`len as u32`).  (Not reachable: a block holds at most 128 Ki literals.) -/
theorem lit_coder_contract_unbounded_false (R : Huf.EncTable → Spec.Huffman.Table → Prop) :
    ¬ LitCoderCorrectUnbounded R realCoders := by
  intro h
  have hrle : rleLiterals 0 (2 ^ 32 + 1) = .ok [29, 0, 0, 0] := by decide
  have hc : realCoders.compressLiterals (List.replicate (2 ^ 32 + 1) 0) none = .ok ([29, 0, 0, 0], none) := by
    have hreal : realCoders.compressLiterals = compressLiteralsReal := rfl
    rw [hreal, rle_branch 0 (2 ^ 32) none, hrle]
  obtain ⟨d', hdec, _⟩ := h _ none _ none none [] (fun _ hh => by cases hh) hc
  have hspec : Spec.decodeLiterals ([29, 0, 0, 0] ++ []) none = some ([0], 4, none) := by decide
  rw [hspec] at hdec
  simp only [Option.some.injEq, Prod.mk.injEq] at hdec
  have := congrArg List.length hdec.1
  rw [List.length_replicate] at this
  simp at this

/-- 1025 literals: zeros, then one value that is not a byte (last, so that the running maximum in `countsOf`
stays a numeral while the kernel evaluates it) -/
def nonByteLits : List Byte := List.replicate 1024 0 ++ [256]
def twoValueLits : List Byte := (List.range 1026).map (· % 2)

set_option maxRecDepth 2000 in
/-- one block of the all-literals matcher holding `nonByteLits`: the literal coder is reached (1025 literals)
and `build_from_data` sees a single non-zero count, so `distribute_weights` fails its `assert!` -/
theorem nonByteLits_frame_faults (r : List Byte × Compressor Huf.EncTable) :
    compressFrame false compressBlockReal (Compressor.fresh .fastest) 4096
      (fun i => ⟨2048, ⟨[], (nonByteLits.drop (i * 2048)).take 2048⟩⟩) nonByteLits [] ≠ .ok r := by
  intro hrun
  have : (compressFrame false compressBlockReal (Compressor.fresh .fastest) 4096
      (fun i => ⟨2048, ⟨[], (nonByteLits.drop (i * 2048)).take 2048⟩⟩) nonByteLits []).toOption.isSome = false := by
    decide +kernel
  rw [hrun] at this
  cases this

/-- **the totality hypothesis `hlit` of `compress_with_matcher_correct_of_literal_coder` is unsatisfiable**
(so that theorem is vacuous).  Witness 1: a literal `≥ 256` — only `0` occurs in
the histogram `counts[..256]`, `distribute_weights(1)` fails its `assert!`.  With `hlit` that theorem would
make the frame of `nonByteLits` complete, which it does not. -/
theorem lit_coder_total_unrestricted_false :
    ¬ (∀ lits prev, 1024 < lits.length → lits.length ≤ 131072 → ∃ r, compressLiteralsReal lits prev = .ok r) := by
  intro h
  obtain ⟨frame, c', hrun, _⟩ := compress_with_matcher_correct_of_literal_coder TableRel lit_coder_correct h false
    (Compressor.fresh .fastest) rfl 4096 _ nonByteLits []
    (valid_matcher_exists 4096 2048 (by decide) (by decide) (by decide) nonByteLits) (by decide)
  exact nonByteLits_frame_faults _ hrun

set_option maxRecDepth 100000 in
/-- Witness 2, byte literals: a remembered "table" that is not a prefix code (code `2` in 1 bit).  `can_encode`
accepts it, the Treeless path is taken, and the bit writer's `debug_assert!` fires.  (The real assert is
weaker — `bits.ilog2() <= num_bits` — and would let this code through, writing garbage; no reachable
state holds such a table: `compressLiterals_total`.) -/
example : compressLiteralsReal twoValueLits (some ⟨[(2, 1), (3, 1)]⟩)
    = .error (.assert "bit_writer.rs:write_bits_64:dirty-upper-bits") := by decide +kernel

/-- **`compress_with_matcher_correct_full` as worded is false**: its `data : List Byte` ranges over lists of
`Nat`; for the well-behaved all-literals matcher and the 1025 "bytes" `0, …, 0, 256` compression panics. -/
theorem compress_with_matcher_correct_full_false : ¬ compress_with_matcher_correct_full := by
  intro h
  obtain ⟨frame, c', hrun, _⟩ := h false (Compressor.fresh .fastest) rfl 4096 _ nonByteLits []
    (valid_matcher_exists 4096 2048 (by decide) (by decide) (by decide) nonByteLits) (Or.inl (by decide))
  exact nonByteLits_frame_faults _ hrun

/-- **C13 `fse_weights_lt_128`, for everything the compressor can build**: for every byte string, `write_table`
(real FSE coder, production parameters) succeeds on the table `build_from_data` returns — the
`assert!(encoded_len < 128)` cannot fire.  C13's `fse_weights_lt_128_full_holds` at the histogram of a byte string
(both are `Huf.writeTable_total`). -/
theorem fse_weights_lt_128 : FseWeightsLt128 :=
  fseWeightsLt128_holds

theorem fse_weights_lt_128_spelled (lits : List Nat) (t : Huf.EncTable) (hb : ∀ b ∈ lits, b < 256)
    (h : Huf.buildFromData lits = .ok t) : ∃ desc, Huf.writeTable Enc.fseWeights t = .ok desc :=
  fse_weights_lt_128 lits t hb h

/-- non-vacuity of `SpecDecodes` / `huffman_description_spec`: the histogram table of `0,2,4,4,0,3,2,2,0,2` -/
example : ∃ t desc T, Huf.buildFromData [0, 2, 4, 4, 0, 3, 2, 2, 0, 2] = .ok t ∧ Huf.writeTable Enc.fseWeights t = .ok desc ∧
    Spec.Huffman.readTable (desc ++ [1, 2, 3]) = some (T, desc.length) ∧ SpecDecodes T t := by
  have hb : ∀ b ∈ [0, 2, 4, 4, 0, 3, 2, 2, 0, 2], b < 256 := by decide
  obtain ⟨t, ht⟩ := buildFromData_total hb (a := 0) (b := 2) (by decide) (by decide) (by decide)
  obtain ⟨wd, m, c, _⟩ := buildFromData_canon hb ht
  obtain ⟨desc, hdesc⟩ := fse_weights_lt_128 _ t hb ht
  obtain ⟨T, hT, _, sd⟩ := spec_readTable_written c hdesc [1, 2, 3]
  exact ⟨t, desc, T, ht, hdesc, hT, sd⟩

/-- **totality of the real literal coder on what `compress_block` hands it from a reachable state**: byte
literals (1 … 128 Ki of them), remembered table canonical (`GoodTable`: it came out of `build_from_data`);
the returned table is canonical again -/
theorem lit_coder_total (lits : List Byte) (prev : Option Huf.EncTable)
    (hb : ∀ b ∈ lits, b < 256) (h1 : 1 ≤ lits.length) (hmax : lits.length ≤ 131072)
    (hprev : ∀ tp, prev = some tp → GoodTable tp) :
    ∃ bytes t, compressLiteralsReal lits prev = .ok (bytes, t) ∧ (∀ h, t = some h → GoodTable h) :=
  compressLiterals_total fse_weights_lt_128 lits prev hb h1 hmax hprev

/-- … and without the finite evaluation behind `fse_weights_lt_128`: it returns, or panics at
`assert!(encoded_len < 128)` of `write_table` -/
theorem lit_coder_total_or_assert (lits : List Byte) (prev : Option Huf.EncTable)
    (hb : ∀ b ∈ lits, b < 256) (h1 : 1 ≤ lits.length) (hmax : lits.length ≤ 131072)
    (hprev : ∀ tp, prev = some tp → GoodTable tp) :
    (∃ bytes t, compressLiteralsReal lits prev = .ok (bytes, t) ∧ (∀ h, t = some h → GoodTable h)) ∨
      (∃ f, compressLiteralsReal lits prev = .error f ∧ WriteTableAssert f) :=
  compressLiterals_total_or_assert lits prev hb h1 hmax hprev

/-- **C16, partial correctness, no hypothesis on the coders and none on the bytes**: for every well-behaved
matcher with `window_size() + 3 < 2^32`, every prior state of the compressor, every fragmentation:
WHENEVER `compress` at `Fastest` (real block encoder) returns, the strict Spec decodes the frame to
exactly the input (whole frame consumed, checksum verified). -/
theorem compress_with_matcher_decodes (hash : Bool) (c : Compressor Huf.EncTable) (hc : c.level = .fastest)
    (w : Nat) (script : Nat → MBlock) (data : List Byte) (frags : List Nat) (hm : ValidMatcher w script data)
    (hw32 : w + 3 < 2 ^ 32) (frame : List Byte) (c' : Compressor Huf.EncTable)
    (hrun : compressFrame hash compressBlockReal c w script data frags = .ok (frame, c')) :
    Spec.decodeFrame frame = some (specResult hash w data frame) :=
  compress_real_decodes hash c hc w script data frags hm hw32 frame c' hrun

/-- **C16 without the finite evaluation behind `fse_weights_lt_128`**: for every well-behaved matcher with
`window_size() + 3 < 2^32` and every byte string, `compress` at `Fastest` either completes with a frame the
strict Spec decodes to exactly the input, or panics at `assert!(encoded_len < 128)` in
`HuffmanEncoder::write_table` (with a witness: a byte string whose `build_from_data` table has an
FSE-compressed weight description of 128 bytes or more).  No other panic site of the compressor is reachable. -/
theorem compress_with_matcher_correct_or_assert (hash : Bool) (c : Compressor Huf.EncTable) (hc : c.level = .fastest)
    (w : Nat) (script : Nat → MBlock) (data : List Byte) (frags : List Nat) (hm : ValidMatcher w script data)
    (hw32 : w + 3 < 2 ^ 32) (hbytes : ∀ b ∈ data, b < 256) :
    (∃ frame c', compressFrame hash compressBlockReal c w script data frags = .ok (frame, c') ∧
        Spec.decodeFrame frame = some (specResult hash w data frame)) ∨
      (∃ f, compressFrame hash compressBlockReal c w script data frags = .error f ∧ WriteTableAssert f) :=
  compress_real_correct_or_assert hash c hc w script data frags hm hw32 hbytes

/-- **C16 at full strength, no hypothesis on the coders** (the input consists of bytes;
offsets fit `u32` through the window): for every well-behaved user-supplied matcher, every byte string, every
read fragmentation, every prior state of the compressor object and both settings of `hash`, compression at
`Fastest` with the real block encoder (real Huffman and FSE coders) completes — no panic — and the strict
Spec decodes the frame to exactly the input, consuming all of it and verifying the checksum. -/
theorem compress_with_matcher_correct (hash : Bool) (c : Compressor Huf.EncTable)
    (hc : c.level = .fastest) (w : Nat) (script : Nat → MBlock) (data : List Byte) (frags : List Nat)
    (hm : ValidMatcher w script data) (hw32 : w + 3 < 2 ^ 32) (hbytes : ∀ b ∈ data, b < 256) :
    ∃ frame c', compressFrame hash compressBlockReal c w script data frags = .ok (frame, c') ∧
      Spec.decodeFrame frame = some (specResult hash w data frame) :=
  compress_real_correct fse_weights_lt_128 hash c hc w script data frags hm hw32 hbytes

/-- non-vacuity of `compress_with_matcher_correct`: the all-literals matcher is well-behaved for every data -/
example (data : List Byte) (hbytes : ∀ b ∈ data, b < 256) :
    ∃ frame c', compressFrame true compressBlockReal (Compressor.fresh .fastest) 4096
        (fun i => ⟨2048, ⟨[], (data.drop (i * 2048)).take 2048⟩⟩) data [] = .ok (frame, c') ∧
      Spec.decodeFrame frame = some (specResult true 4096 data frame) :=
  compress_with_matcher_correct true _ rfl 4096 _ data []
    (valid_matcher_exists 4096 2048 (by decide) (by decide) (by decide) data) (by decide) hbytes

/-- skewed byte literals: the "ruler" sequence (trailing zeros of `i + 1`, capped at 4) -/
def ruler (n : Nat) : List Byte := (List.range n).map fun i =>
  let k := i + 1
  if k % 2 = 1 then 0 else if k % 4 = 2 then 1 else if k % 8 = 4 then 2 else if k % 16 = 8 then 3 else 4

def blkA : List Byte := ruler 1100
def blkB : List Byte := (ruler 1101).drop 1

/-- `compress_block` on the parse `p` from state `st`, then the strict Spec on the literals section of the
block under the table `h`: (block length, literals type, bytes the Spec consumed, encoder remembers a
table?, literals regenerated?, encoder state after, Spec table after) -/
def litRound (p : Parse) (st : EncState Huf.EncTable) (h : Option Spec.Huffman.Table) :
    Option (Nat × Nat × Nat × Bool × Bool × EncState Huf.EncTable × Option Spec.Huffman.Table) :=
  match compressBlockReal p st with
  | .error _ => none
  | .ok (bytes, st') =>
    match Spec.decodeLiterals bytes h with
    | none => none
    | some (l, used, h') =>
      some (bytes.length, bytes.headD 0 % 4, used, st'.lastHuff.isSome, l == parseLiterals p, st', h')

set_option maxRecDepth 4000 in
/-- the first block, evaluated once: the code the encoder remembers (lengths 1, 3, 3, 3, 3) and the table the Spec
has built from the description -/
theorem litRound_blkA : litRound ⟨[], blkA⟩ {} none =
    some (290, 2, 289, true, true, ⟨some ⟨[(1, 1), (0, 3), (1, 3), (2, 3), (3, 3)]⟩⟩,
      some ⟨3, #[⟨1, 3⟩, ⟨2, 3⟩, ⟨3, 3⟩, ⟨4, 3⟩, ⟨0, 1⟩, ⟨0, 1⟩, ⟨0, 1⟩, ⟨0, 1⟩]⟩) := by
  -- evaluated through projections: `EncState` has no `DecidableEq`
  have h : (litRound ⟨[], blkA⟩ {} none).map (fun r =>
        ((r.1, r.2.1, r.2.2.1, r.2.2.2.1, r.2.2.2.2.1), r.2.2.2.2.2.1.lastHuff, r.2.2.2.2.2.2)) =
      some ((290, 2, 289, true, true), some ⟨[(1, 1), (0, 3), (1, 3), (2, 3), (3, 3)]⟩,
        some ⟨3, #[⟨1, 3⟩, ⟨2, 3⟩, ⟨3, 3⟩, ⟨4, 3⟩, ⟨0, 1⟩, ⟨0, 1⟩, ⟨0, 1⟩, ⟨0, 1⟩]⟩) := by decide +kernel
  obtain ⟨⟨_, _, _, _, _, ⟨_⟩, _⟩, hr, hv⟩ := Option.map_eq_some_iff.mp h
  simp only [Prod.mk.injEq] at hv
  obtain ⟨⟨rfl, rfl, rfl, rfl, rfl⟩, rfl, rfl⟩ := hv
  exact hr

set_option maxRecDepth 100000 in
/-- a block with Huffman literals: 1100 literals, NEW table (type 2), four streams (size format 2), 290 bytes;
the strict Spec reads the 289-byte literals section back to the literals; the encoder remembers the table -/
example : (litRound ⟨[], blkA⟩ {} none).map (fun r => (r.1, r.2.1, r.2.2.1, r.2.2.2.1, r.2.2.2.2.1))
    = some (290, 2, 289, true, true) := by
  rw [litRound_blkA]; rfl

set_option maxRecDepth 100000 in
/-- … and the block after it: TREELESS (type 3, no description: 287 bytes), decoded by the Spec with the table
of the first block, which stays in force (`Tracks` over two blocks) -/
example : ((litRound ⟨[], blkA⟩ {} none).bind (fun r1 => (litRound ⟨[], blkB⟩ r1.2.2.2.2.2.1 r1.2.2.2.2.2.2).map
    (fun r => (r.1, r.2.1, r.2.2.1, r.2.2.2.1, r.2.2.2.2.1, r.2.2.2.2.2.2 == r1.2.2.2.2.2.2))))
    = some (287, 3, 286, true, true, true) := by
  rw [litRound_blkA]; decide +kernel

set_option maxRecDepth 100000 in
/-- an RLE-literals block (the F10 situation: 1100 literals of one value followed by a match, block not
constant): type 1, 4-byte literals section, no table remembered -/
example : (litRound ⟨[⟨List.replicate 1100 7, 3300, 8⟩], []⟩ {} none).map
    (fun r => (r.1, r.2.1, r.2.2.1, r.2.2.2.1, r.2.2.2.2.1)) = some (23, 1, 4, false, true) := by
  -- the three `build_table_from_data` calls of the sequences section, with the list form of the histogram
  rw [litRound, compressBlockReal, realCoders, encodeSeqSectionReal_eq]
  decide +kernel

/-- 40 distinct byte values (more than 16 transmitted weights → FSE-compressed description), 330 literals -/
def manyValueLits : List Byte := (List.range 330).map fun i => if i % 3 = 0 then i / 3 % 40 else 0

/-- the literal coder on `lits` from the remembered table `prev`, then the strict Spec (table `d`) on the
section followed by one more byte: (section length, literals type, fourth byte, literals regenerated and
section exactly consumed?, Spec table afterwards) -/
def litCheck (lits : List Byte) (prev : Option Huf.EncTable) (d : Option Spec.Huffman.Table) :
    Option (Nat × Nat × Nat × Bool × Option Spec.Huffman.Table) :=
  match compressLiteralsReal lits prev with
  | .error _ => none
  | .ok (bytes, _) =>
    match Spec.decodeLiterals (bytes ++ [0xAA]) d with
    | none => none
    | some (l, used, d') => some (bytes.length, bytes.headD 0 % 4, bytes.getD 3 0, l == lits && used == bytes.length, d')

set_option maxRecDepth 100000 in
/-- the literal coder alone on small inputs (it does not look at the 1024 threshold), each decoded by the
strict Spec: FSE-compressed weights (description header byte `10 < 128`) with four streams, 209 bytes for
330 literals; direct weights (header byte `129`) with four streams; raw fallback (5 literals: nothing saved) -/
example :
    (litCheck manyValueLits none none).map (fun r => (r.1, r.2.1, r.2.2.1, r.2.2.2.1)) = some (209, 2, 10, true) ∧
    (litCheck [1, 2, 1, 2, 1, 1, 1, 1, 1, 1, 1, 1, 1, 1, 1, 1, 1, 2, 2, 1, 1] none none).map
      (fun r => (r.1, r.2.1, r.2.2.1, r.2.2.2.1)) = some (15, 2, 129, true) ∧
    (litCheck [1, 2, 1, 2, 1] none none).map (fun r => (r.1, r.2.1, r.2.2.2.1)) = some (8, 0, true) := by
  rw [litCheck, compressLiteralsReal.eq_def, fseWeights_eq]
  decide +kernel

/-- ONE stream, Treeless (5 literals in 4 bytes), against the Spec table of the weights `0, 1 (, 1)`, which the
encoder's remembered table `sym 1 ↦ 0/1 bit, sym 2 ↦ 1/1 bit` is the code of; the table stays in force -/
example :
    (litCheck [1, 2, 1, 1, 1] (some ⟨[(0, 0), (0, 1), (1, 1)]⟩) (Spec.Huffman.tableOfWeights [0, 1])).map
      (fun r => (r.1, r.2.1, r.2.2.2.1, r.2.2.2.2 == Spec.Huffman.tableOfWeights [0, 1])) = some (4, 3, true, true) := by
  decide +kernel

def exData : List Byte := [97,98,99,100,101,102,103,104,105,106,107,108,97,98,99,100,101,102,103,104,105,106,107,108,
  97,98,99,100,101,102,103,104,105,106,107,108,120,121,122,97,98,99,100,101,102,103,104]
def exScript : Nat → MBlock := fun _ => ⟨64, ⟨[⟨exData.take 12, 12, 24⟩, ⟨[120, 121, 122], 39, 8⟩], []⟩⟩
def exFrame : Option (List Byte) := (compress true compressBlockReal .fastest 1024 exScript exData [3, 1]).toOption

/-- non-vacuity, end to end, by kernel evaluation: a 47-byte input, a scripted matcher with window
1024 that reports two matches (offsets 12 and 39), read in fragments of 3 and 1 bytes: the executable check
`validMatcherB` accepts the script, the REAL coders produce a block that is KEPT as a compressed block (Huffman-free
raw literals, three FSE tables, interleaved sequence bitstream), and the strict Spec decodes the frame
to the input, consuming all of it -/
example : validMatcherB 1024 exScript exData 3 0 = true ∧
    (exFrame.map (fun f => (f.drop 6).take 3)) = some [45, 1, 0] ∧        -- last, type 2 (compressed), 37 bytes
    (exFrame.bind (fun f => (Spec.decodeFrame f).map (fun r => (r.content, r.consumed == f.length)))) = some (exData, true) := by
  rw [exFrame, compressBlockReal, realCoders, encodeSeqSectionReal_eq]
  decide +kernel

end Zstd.Props.C16

namespace Zstd.Proofs.LitCoder

/-- `FseWeightsLt128` is the instance of C13's `fse_weights_lt_128_full` at the histogram of a byte string -/
theorem fseWeightsLt128_of_full (h : Zstd.Props.C13.fse_weights_lt_128_full) : FseWeightsLt128 :=
  fun lits t _ hb => h (Zstd.Model.Huf.countsOf lits) t (buildFromCounts_two hb).1 hb

end Zstd.Proofs.LitCoder
