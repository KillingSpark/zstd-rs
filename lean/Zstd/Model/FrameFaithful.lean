import Zstd.Model.BlockDecode
/-
Instance B of the frame-level model's block decoder: the FAITHFUL block decoder
`Blk.decompressBlock` (Model/BlockDecode.lean) with the real scratch state `Blk.Scratch`
(Huffman table, the three FSE tables with their RLE symbols, the offset history).

With this instance `Zstd.Model.Decoder Blk.Scratch` mirrors the Rust `FrameDecoder` also on
MALFORMED block content: every leniency and every error variant family of `decompress_block`
(`literalsHeader` / `literalsTooLarge` / `malformedSection` / `literals` / `seqHeader` /
`sequences` / the `exec…` errors) is the one the code reports, and the scratch is left as the
code leaves it.  This is the instance the drivers of engines `dec`, `hostile`, `reuse`, `dict`,
`mem` run (Driver/Dec.lean); the frame-level theorems (Props C01 C03 C05 C06 C07 C08 C09 C10) are
proved for every instance that satisfies `BlockContract` (Proofs/FrameDecoderContract.lean), and
`Proofs/FrameFaithful.lean` proves that contract for this instance.

Also here: the faithful mirror of `Dictionary::decode_dict` (decoding/dictionary.rs), producing a
`Dict Blk.Scratch` (= what `DecoderScratch::init_from_dict` copies into the scratch).
-/
namespace Zstd.Model.Blk
open Zstd Zstd.Model

/-- the frame-level error a block-level error family is reported as -/
def BlkErr.toDErr : BlkErr → DErr
  | .literalsHeader => .literalsHeader
  | .literalsTooLarge n => .literalsTooLarge n
  | .malformedSection => .malformedSection
  | .literals => .literals
  | .seqHeader => .seqHeader
  | .sequences => .sequences
  | .exec e => e

def BOut.toOut : BOut → Out Unit
  | .ok => .ok ()
  | .err e => .err e.toDErr
  | .fault f => .fault f

/-! ### `decompress_block` = (a part that does not look at the decode buffer) ; (one buffer operation)

Everything `decompress_block` does before sequence execution — literals header, literals, sequences
header, FSE tables, the sequence stream — reads the block content and the scratch only.  `stage`
is that part; it ends in one of three ways, and `Stage.apply` is the buffer operation that follows.
`Proofs/BlockNoFault.lean` proves `decompressBlock content s b = (stage content s).apply b`; the
ghost offsets of the instance and the whole `BlockContract` come from this factorisation. -/

inductive Stage where
  /-- return without touching the buffer (every error / fault before execution) -/
  | stop (s : Scratch) (lits : List Nat) (o : BOut)
  /-- no sequences: `buffer.push(literals)` -/
  | push (s : Scratch) (lits : List Nat)
  /-- `execute_sequences` -/
  | exec (s : Scratch) (lits : List Nat) (seqs : List Spec.Seq)

def Stage.apply : Stage → DBuf → (Scratch × DBuf × List Nat × List Spec.Seq) × BOut
  | .stop s lits o, b => ((s, b, lits, []), o)
  | .push s lits, b => ((s, b.push lits.toArray, lits, []), .ok)
  | .exec s lits seqs, b =>
    match executeSequences seqs lits s.hist 0 b with
    | ((b', h), .ok ()) => (({ s with hist := h }, b', lits, seqs), .ok)
    | ((b', h), .err e) => (({ s with hist := h }, b', lits, seqs), .err (.exec e))
    | ((b', h), .fault f) => (({ s with hist := h }, b', lits, seqs), .fault f)

/-- `decompressBody` without the buffer -/
def stageBody (s : Scratch) (sec : Hdr.LitSection) (raw : List Nat) (upper : Nat) : Stage :=
  if raw.length < upper then .stop s [] (.err .malformedSection) else
  let lsec : Huf.LitSection := { lsType := litTypeOf sec.ty, regeneratedSize := sec.regen,
                                 compressedSize := sec.comp, numStreams := sec.streams }
  match Huf.decodeLiterals lsec s.huf (raw.take upper) [] with
  | (huf, .error (.fault f)) => .stop { s with huf := huf } [] (.fault f)
  | (huf, .error (.err _)) => .stop { s with huf := huf } [] (.err .literals)
  | (huf, .ok (lits, used)) =>
    let s := { s with huf := huf }
    if sec.regen ≠ lits.length then .stop s lits (.fault (.assert "block_decoder.rs:decompress_block:Wrong number of literals"))
    else if used ≠ upper then .stop s lits (.fault (.assert "block_decoder.rs:decompress_block:bytes_used_in_literals_section"))
    else
      let raw2 := raw.drop upper
      match parseSeqHeader raw2 with
      | .error _ => .stop s lits (.err .seqHeader)
      | .ok (n, modes, shLen) =>
        let raw3 := raw2.drop shLen
        if n ≠ 0 then
          match decodeSequences n modes raw3 s.fse with
          | (fse, .error (.fault f)) => .stop { s with fse := fse } lits (.fault f)
          | (fse, .error _) => .stop { s with fse := fse } lits (.err .sequences)
          | (fse, .ok seqs) => .exec { s with fse := fse } lits seqs
        else
          if !raw3.isEmpty then .stop s lits (.err .sequences)
          else .push s lits

/-- `decompressBlock` without the buffer -/
def stage (content : List Nat) (s : Scratch) : Stage :=
  match Hdr.parseLitHeader Hdr.LitSection.new content with
  | .error (.fault f) => .stop s [] (.fault f)
  | .error _ => .stop s [] (.err .literalsHeader)
  | .ok (sec, hdrLen) =>
    let raw := content.drop hdrLen
    if sec.regen > Gen.maxBlockSize then .stop s [] (.err (.literalsTooLarge sec.regen)) else
    match upperLimit sec with
    | .error f => .stop s [] (.fault f)
    | .ok upper => stageBody s sec raw upper

/-- the block decoder of instance B, in the shape the frame-level model calls it -/
def run (content : List Nat) (s : Scratch) (b : DBuf) : (DBuf × Scratch) × Out Unit :=
  match decompressBlock content s b with
  | ((s', b', _, _), o) => ((b', s'), o.toOut)

/-- ghost: the offsets the block's sequences resolve to (in order, against the repeat-offset
history the block starts with) -/
def offsets (content : List Nat) (s : Scratch) : List Nat :=
  match stage content s with
  | .exec s' _ seqs => resolvedOffsets seqs s'.hist
  | _ => []

end Zstd.Model.Blk

namespace Zstd.Model

/-- **instance B**: the faithful block decoder.  `fresh` = the scratch of a new decoder; the code's
`DecoderScratch::reset` (`Blk.Scratch.reset`) gives the same value on every scratch whose FSE
tables have the standard alphabets, which is an invariant of the block decoder
(`Blk.decompressBlock_alphabets`, Proofs/BlockNoFault.lean). -/
instance instBlockDecFaithful : BlockDec Blk.Scratch where
  fresh := {}
  run := Blk.run
  offsets := Blk.offsets

/-- the decoder the drivers run -/
abbrev DecB := Decoder Blk.Scratch

end Zstd.Model

namespace Zstd.Model.Blk
open Zstd Zstd.Model

/-! ### `Dictionary::decode_dict` -/

def le32 (l : List Nat) : Nat :=
  l.headD 0 + 256 * ((l.drop 1).headD 0) + 65536 * ((l.drop 2).headD 0) + 16777216 * ((l.drop 3).headD 0)

/-- `Dictionary::decode_dict(raw)` (decoding/dictionary.rs:47-137): `none` = any
`DictionaryDecodeError`.  The tables are built by the same `build_decoder`s the block decoder uses,
with the same leniencies; the resulting entropy state is what `init_from_dict` (`reinit_from` on
the three FSE tables and the Huffman table, the RLE symbols, `offset_hist`) installs. -/
def decodeDict (raw : List Nat) : Except Fault (Option (Dict Scratch)) :=
  if raw.length < 8 then .ok none else
  if raw.take 4 ≠ [0x37, 0xA4, 0x30, 0xEC] then .ok none else
  let id := le32 (raw.drop 4)
  let t0 := raw.drop 8
  match Huf.buildDecoder Huf.DecTable.empty t0 with
  | (_, .error (.fault f)) => .error f
  | (_, .error (.err _)) => .ok none
  | (huf, .ok hufSize) =>
    if t0.length < hufSize then .ok none else
    let t1 := t0.drop hufSize
    match (Fse.DTable.new Gen.maxOffsetCode).buildDecoder t1.toArray Gen.ofMaxLog with
    | (_, .error (.fault f)) => .error f
    | (_, .error _) => .ok none
    | (ofT, .ok ofSize) =>
      if t1.length < ofSize then .ok none else
      let t2 := t1.drop ofSize
      match (Fse.DTable.new Gen.maxMatchLengthCode).buildDecoder t2.toArray Gen.mlMaxLog with
      | (_, .error (.fault f)) => .error f
      | (_, .error _) => .ok none
      | (mlT, .ok mlSize) =>
        if t2.length < mlSize then .ok none else
        let t3 := t2.drop mlSize
        match (Fse.DTable.new Gen.maxLiteralLengthCode).buildDecoder t3.toArray Gen.llMaxLog with
        | (_, .error (.fault f)) => .error f
        | (_, .error _) => .ok none
        | (llT, .ok llSize) =>
          if t3.length < llSize then .ok none else
          let t4 := t3.drop llSize
          if t4.length < 12 then .ok none else
          .ok (some { id := id,
                      entropy := { huf := huf,
                                   fse := { offsets := ofT, matchLengths := mlT, literalLengths := llT },
                                   hist := (le32 t4, le32 (t4.drop 4), le32 (t4.drop 8)) },
                      content := (t4.drop 12).toArray })

end Zstd.Model.Blk
