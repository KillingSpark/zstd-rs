import Zstd.Basic
import Zstd.Gen.Fse
/-
The small pure functions of the FSE table builders (both sides); the proofs about them are in
`Zstd/Proofs/FseFin.lean`.  Kept in their own file so that that module
is only re-checked when one of THESE definitions or `Gen.Fse` changes.
Mirrors `fse_decoder.rs:326-366` (`highest_bit_set`, `next_position`, `calc_baseline_and_numbits`),
the inner `while` of `build_decoding_table` (`fse_decoder.rs:192`), and the encoder's copies
(`fse_encoder.rs:356`, `:415-419`).
-/
namespace Zstd.Model.Fse
open Zstd

/-- `highest_bit_set(x)` = `32 - leading_zeros` for `x > 0` -/
def highestBitSet (x : Nat) : Except Fault Nat :=
  if x = 0 then .error (.assert "fse_decoder.rs:327:highest_bit_set") else .ok (Nat.log2 x + 1)

/-- decoder-side `next_position` -/
def nextPosition (p size : Nat) : Nat :=
  (p + (size >>> Gen.fseDecStepShrA) + (size >>> Gen.fseDecStepShrB) + Gen.fseDecStepAdd) &&& (size - 1)

/-- `calc_baseline_and_numbits(num_states_total, num_states_symbol, state_number)` over `u32` -/
def calcBaselineAndNumbits (total p k : Nat) : Except Fault (Nat × Nat) :=
  if p = 0 then .ok (0, 0)
  else
    let h := Nat.log2 p + 1
    if h ≥ 32 ∧ 1 <<< (h - 1) ≠ p then .error (.overflow "fse_decoder.rs:351:calc_baseline_and_numbits")
    else
      let slices := if 1 <<< (h - 1) = p then p else 1 <<< h
      let dbl := slices - p
      let sgl := p - dbl
      let width := total / slices
      if width = 0 then .error (.assert "fse_decoder.rs:327:highest_bit_set")
      else
        let nb := Nat.log2 width
        if k < dbl then
          let b := sgl * width + k * width * 2
          if b ≥ 2 ^ 32 then .error (.overflow "fse_decoder.rs:360:calc_baseline_and_numbits") else .ok (b, nb + 1)
        else
          let b := (k - dbl) * width
          if b ≥ 2 ^ 32 then .error (.overflow "fse_decoder.rs:364:calc_baseline_and_numbits") else .ok (b, nb)

/-- `while position >= negative_idx { position = next_position(..) }` -/
def skipHigh (size neg : Nat) : Nat → Nat → Except Fault Nat
  | 0, _ => .error (.unreachable "fse_decoder.rs:192:build_decoding_table:nontermination")
  | fuel + 1, pos => if pos ≥ neg then skipHigh size neg fuel (nextPosition pos size) else .ok pos

/-- encoder-side `next_position` -/
def nextPositionEnc (p size : Nat) : Nat :=
  (p + (size >>> Gen.fseEncStepShrA) + (size >>> Gen.fseEncStepShrB) + Gen.fseEncStepAdd) &&& (size - 1)

/-- `while idx > negative_idx { idx = next_position(..) }` -/
def encSkipHigh (size neg : Nat) : Nat → Nat → Except Fault Nat
  | 0, _ => .error (.unreachable "fse_encoder.rs:356:build_table_from_probabilities:nontermination")
  | fuel + 1, idx => if idx > neg then encSkipHigh size neg fuel (nextPositionEnc idx size) else .ok idx

end Zstd.Model.Fse
